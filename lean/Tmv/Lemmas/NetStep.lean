import Tmv.Lemmas.NetW
import Tmv.Lemmas.NetNI
import Tmv.Lemmas.ConsJust
import Tmv.Lemmas.ConsLock2
import Tmv.Lemmas.ConsGuard
/-! Per-node item specification for the network lift (C01): what a correct node adds to the vote log
when it handles one item (an external input or one of its own queued messages), position by position,
from the C02 invariants (G, A, T, J), the vote-set invariant (W) and the output bookkeeping (N). -/
namespace Tmv.Cons
open Tmv.VoteLog

def ownVote (me : Nat) : Output → Option VoteMsg
  | .signVote t r x => some ⟨me, t == VType.precommit, r, x⟩
  | _ => none

/-- the votes among a node's outputs, as vote-log entries -/
def ownVotes (me : Nat) (outs : List Output) : Log := outs.filterMap (ownVote me)

theorem ownVotes_append (me : Nat) (a b : List Output) : ownVotes me (a ++ b) = ownVotes me a ++ ownVotes me b := by
  unfold ownVotes; exact List.filterMap_append

theorem mem_ownVotes {me : Nat} {outs : List Output} {m : VoteMsg} :
    m ∈ ownVotes me outs ↔ ∃ t r x, Output.signVote t r x ∈ outs ∧ m = ⟨me, t == VType.precommit, r, x⟩ := by
  unfold ownVotes
  rw [List.mem_filterMap]
  constructor
  · rintro ⟨o, ho, hov⟩
    cases o <;> simp only [ownVote, Option.some.injEq, reduceCtorEq] at hov
    exact ⟨_, _, _, ho, hov.symm⟩
  · rintro ⟨t, r, x, ho, rfl⟩
    exact ⟨_, ho, rfl⟩

/-- "validator v's vote (t, r, k) is in the log L" as the predicate `E` of (W) -/
def EL (L : Log) : VType → Int → Bid → Nat → Bool :=
  fun t r k v => decide (0 ≤ r) && voted L (t == VType.precommit) r.toNat k v

theorem voted_mem {L : Log} {pc : Bool} {r : Nat} {x : Option Nat} {v : Nat} (h : voted L pc r x v = true) :
    (⟨v, pc, r, x⟩ : VoteMsg) ∈ L := by
  unfold voted at h; rw [List.any_eq_true] at h
  obtain ⟨m, hm, hc⟩ := h
  simp at hc
  obtain ⟨⟨⟨a, b⟩, c⟩, d⟩ := hc
  cases m; simp_all

theorem voted_ownVotes (me : Nat) (outs : List Output) (t : VType) (r : Nat) (x : Bid)
    (h : Output.signVote t r x ∈ outs) : voted (ownVotes me outs) (t == VType.precommit) r x me = true :=
  voted_of_mem _ ⟨me, t == VType.precommit, r, x⟩ (mem_ownVotes.2 ⟨t, r, x, h, rfl⟩)

theorem EL_mono (L L' : Log) (t : VType) (r : Int) (k : Bid) (v : Nat) (h : EL L t r k v = true) :
    EL (L ++ L') t r k v = true := by
  unfold EL at h ⊢
  simp only [Bool.and_eq_true] at h ⊢
  exact ⟨h.1, voted_append_left _ _ _ _ _ _ h.2⟩

theorem EL_nat (L : Log) (t : VType) (r : Nat) (k : Bid) :
    EL L t (r : Int) k = voted L (t == VType.precommit) r k := by
  funext v; unfold EL; simp

/-- what the network needs to know about a vote `(t, r, x)` a node signs, relative to the vote log
`pre` and the node's own outputs `outpre` before it. The clauses are those of `VoteLog.Behaved` for this one vote
(and of `Net.Good`, which reads the earlier votes off the log instead of `outpre`): `o` order, `u` onePrecommit,
`j` justified, `l` lockRule. -/
structure GoodOut (c : Cfg) (pre : Log) (outpre : List Output) (t : VType) (r : Nat) (x : Bid) : Prop where
  o : ∀ t' r' x', Output.signVote t' r' x' ∈ outpre → r' ≤ r
  u : t = .precommit → ∀ x', Output.signVote .precommit r x' ∈ outpre → x' = x
  j : t = .precommit → ∀ b, x = some b → 2 * c.total < 3 * wtUpTo c.power (voted pre false r (some b)) c.n
  l : t = .prevote → ∀ r₀ b, Output.signVote .precommit r₀ (some b) ∈ outpre → r₀ < r → x ≠ some b →
        ∃ (r'' : Nat) (y : Bid), r₀ < r'' ∧ r'' ≤ r ∧ y ≠ some b ∧
          2 * c.total < 3 * wtUpTo c.power (voted pre false r'' y) c.n

theorem GoodOut.mono {c pre pre' outpre t r x} (h : GoodOut c pre outpre t r x)
    (hp : ∀ pc r x v, voted pre pc r x v = true → voted pre' pc r x v = true) : GoodOut c pre' outpre t r x := by
  refine ⟨h.o, h.u, ?_, ?_⟩
  · intro ht b hb
    exact Nat.lt_of_lt_of_le (h.j ht b hb)
      (Nat.mul_le_mul_left 3 (wtUpTo_mono c.power _ _ c.n (hp false r (some b))))
  · intro ht r₀ b h1 h2 h3
    obtain ⟨r'', y, a1, a2, a3, a4⟩ := h.l ht r₀ b h1 h2 h3
    exact ⟨r'', y, a1, a2, a3,
      Nat.lt_of_lt_of_le a4 (Nat.mul_le_mul_left 3 (wtUpTo_mono c.power _ _ c.n (hp false r'' y)))⟩

/-- the invariants one node carries between the items it handles; a field is named after its family:
(G) ConsGuard, (A) ConsLock, (T) ConsLock2, (J) ConsJust, (W) NetW relative to the votes of the log `L`,
(N) NetNI with the current outputs as base; `own`: the node's signed votes are in `L` -/
structure MInv (c : Cfg) (me : Nat) (L : Log) (s : NodeState) : Prop where
  g : G s
  a : A s
  t : T s
  j : JI s.out s.votes
  w : W c (EL L) s
  n : N me s.out s
  own : ∀ t r x, Output.signVote t r x ∈ s.out → voted L (t == VType.precommit) r x me = true

/-- **item specification**: what a correct node adds to the log when it goes from `s` to `s'` by
handling one item against the log `L0`: the outputs grow by `new`, the node invariants hold relative to
the log with its new votes appended, and every new vote is good relative to the log and the outputs
before it -/
def ItemSpec (c : Cfg) (me : Nat) (L0 : Log) (s s' : NodeState) : Prop :=
  ∃ new, s'.out = s.out ++ new ∧ MInv c me (L0 ++ ownVotes me new) s' ∧
    ∀ k (hk : k < new.length) t r x, new[k] = Output.signVote t r x →
      GoodOut c (L0 ++ ownVotes me (new.take k)) (s.out ++ new.take k) t r x

/-- (G), (A), (T), (J), (W), (N) as one invariant of the moves, relative to what exists in the network (`E`) and to
the outputs the node had when the item arrived (`base`). `MInv` is this at `E := EL L`, `base := s.out` together
with `own` (`MInv.nodeInv`); `MInv` itself is not kept move by move. -/
structure NodeInv (c : Cfg) (me : Nat) (E : VType → Int → Bid → Nat → Bool) (base : List Output) (s : NodeState) : Prop where
  g : G s
  a : A s
  t : T s
  j : JI s.out s.votes
  w : W c E s
  n : N me base s

variable {c : Cfg} {me : Nat} {E : VType → Int → Bid → Nat → Bool} {base : List Output}

theorem MInv.nodeInv {L : Log} {s : NodeState} (h : MInv c me L s) : NodeInv c me (EL L) s.out s :=
  ⟨h.g, h.a, h.t, h.j, h.w, h.n⟩

theorem NodeInv.mInv {L : Log} {s : NodeState} (h : NodeInv c me (EL L) s.out s)
    (own : ∀ t r x, Output.signVote t r x ∈ s.out → voted L (t == VType.precommit) r x me = true) : MInv c me L s :=
  ⟨h.g, h.a, h.t, h.j, h.w, h.n, own⟩

theorem NodeInv.append {L : Log} (L' : Log) {s : NodeState} (h : NodeInv c me (EL L) base s) :
    NodeInv c me (EL (L ++ L')) base s :=
  { h with w := WI.mono (fun t r k v hv => EL_mono _ _ t r k v hv) h.w }

theorem MInv.mono {L : Log} (L' : Log) {s : NodeState} (h : MInv c me L s) : MInv c me (L ++ L') s :=
  (h.nodeInv.append L').mInv fun t r x hm => voted_append_left _ _ _ _ _ _ (h.own t r x hm)

theorem NodeInv.prim {cm : NodeState → Prop} (hc : c.self = some me) {s t : NodeState} (hp : Prim c True cm s t)
    (h : NodeInv c me E base s) : NodeInv c me E base t :=
  ⟨G_prim hp h.g, A_prim hp h.a, T_prim hp h.a h.t, J_prim hp h.j, W_prim hp h.w, N_prim hc hp h.n⟩

theorem NodeInv.enter {s : NodeState} (i : Input)
    (hv : ∀ v peer, i = .vote v peer → v.val < c.n → v.sigOK = true → E v.typ (v.round : Int) v.bid v.val = true)
    (h : NodeInv c me E base s) : NodeInv c me E base (enter c s i) :=
  ⟨enter_G i h.g, enter_A i h.a, enter_T i h.t, enter_J i h.j, enter_W i hv h.w, enter_N i h.n⟩

theorem NI.eraseIdx {me base r q out} (k : Nat) (h : NI me base r q out) : NI me base r (q.eraseIdx k) out :=
  ⟨h.ext, h.a4, h.sorted, h.sched, fun v hv => h.qi v (List.mem_of_mem_eraseIdx hv)⟩

/-- **the item specification is read off the invariants after the item**, whichever way `s'` was reached: (N) gives
the new outputs and orders each new vote after the earlier ones, (G) makes it the only one of its kind and round,
(J) and (T) give the recorded majorities, (W) turns a recorded majority into votes of `L`, the log the item was
handled against -/
theorem NodeInv.itemSpec {L : Log} {s s' : NodeState}
    (hown : ∀ t r x, Output.signVote t r x ∈ s.out → voted L (t == VType.precommit) r x me = true)
    (h : NodeInv c me (EL L) s.out s') : ItemSpec c me L s s' := by
  obtain ⟨new, hnew⟩ := h.n.ext
  refine ⟨new, hnew, NodeInv.mInv { h.append _ with n := h.n.rebase } ?_, ?_⟩
  · intro t r x hm
    rw [hnew] at hm
    rw [voted_append]
    rcases List.mem_append.1 hm with a | a
    · rw [hown t r x a]; rfl
    · rw [voted_ownVotes me new t r x a]; exact Bool.or_true _
  intro k hk t r x hx
  refine GoodOut.mono ?_ (fun pc r x v hv => voted_append_left _ _ _ _ _ _ hv)
  -- the outputs after the item: what precedes the vote, then the vote and what follows it
  have hsplit : s'.out = (s.out ++ new.take k) ++ new.drop k := by
    rw [hnew, List.append_assoc, List.take_append_drop]
  have hk' : Output.signVote t r x ∈ new.drop k := by
    rw [List.drop_eq_getElem_cons hk, hx]; exact List.mem_cons_self
  have hmem : Output.signVote t r x ∈ s'.out := by
    rw [hsplit]; exact List.mem_append_right _ hk'
  have hsub : ∀ o, o ∈ s.out ++ new.take k → o ∈ s'.out := by
    intro o ho; rw [hsplit]; exact List.mem_append_left _ ho
  refine ⟨?_, ?_, ?_, ?_⟩
  · intro t' r' x' hm
    have hs := h.n.sorted
    rw [hsplit, List.pairwise_append] at hs
    exact hs.2.2 _ hm _ hk' t' r' x' t r x rfl rfl
  · intro ht x' hm
    subst ht
    exact h.g.vote_uniq (hsub _ hm) hmem
  · intro ht b hb
    subst ht; subst hb
    have := maj23_weight h.w.q h.w.m (t := .prevote) (h.j r b hmem)
    rwa [EL_nat] at this
  · intro ht r₀ b h1 h2 h3
    subst ht
    obtain ⟨r'', y, a1, a2, a3, a4⟩ := h.t.p r₀ b r x (hsub _ h1) hmem h2 h3
    refine ⟨r'', y, by omega, a2, a3, ?_⟩
    have := maj23_weight h.w.q h.w.m (t := .prevote) a4
    rwa [EL_nat] at this

end Tmv.Cons

namespace Tmv.Net
open Tmv.Cons Tmv.VoteLog

/-- the items the network hands to a node in state `s` when the log is `L0`: a timeout is for a round reached and a
correctly signed vote comes from the log -/
def Item.fits (c : Cfg) (L0 : Log) (s : NodeState) : Item → Prop
  | .ext i => i.notFuture s ∧ ∀ v peer, i = .vote v peer → v.val < c.n → v.sigOK = true →
      voted L0 (v.typ == VType.precommit) v.round v.bid v.val = true
  | .own _ => True

/-- a queued vote is the node's own and was emitted (N), so it is in `L0` (`own`) -/
theorem _root_.Tmv.Cons.NodeInv.stepItem {c : Cfg} {me : Nat} {L0 : Log} {s : NodeState} (hc : c.self = some me) (it : Item)
    (hit : it.fits c L0 s) (h : MInv c me L0 s) : NodeInv c me (EL L0) s.out (stepItem c s it) := by
  refine stepItem_invariant (fun _ _ => NodeInv.prim hc) it (fun i e => ?_) (fun k m _ hq => ?_) h.nodeInv
  · subst e
    exact ⟨fun _ => hit.1, h.nodeInv.enter i fun v peer hv h1 h2 => by rw [EL_nat]; exact hit.2 v peer hv h1 h2⟩
  · have h' : NodeInv c me (EL L0) s.out { s with queue := s.queue.eraseIdx k } :=
      { h.nodeInv with n := NI.eraseIdx k h.n }
    refine h'.enter _ fun v peer hv _ _ => ?_
    cases m <;> cases hv
    obtain ⟨q1, _, q3⟩ := h.n.qi v (List.mem_of_getElem? hq)
    rw [EL_nat, q1]
    exact h.own v.typ v.round v.bid q3

theorem item_spec {c : Cfg} {me : Nat} (hc : c.self = some me) (L0 : Log) (s : NodeState) (it : Item)
    (h : MInv c me L0 s) (hit : it.fits c L0 s) : ItemSpec c me L0 s (stepItem c s it) :=
  (NodeInv.stepItem hc it hit h).itemSpec h.own

end Tmv.Net
