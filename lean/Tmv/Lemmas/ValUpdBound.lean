import Tmv.Lemmas.ValRotate
/-! Bounds on `tvpAfterUpdatesBeforeRemovals` and on the priorities after a successful update (`sortInt`, by
which the removals are ordered, is an `InsertionSort`: `sortInt_sorts`). -/
namespace Tmv.ValSet

/-- power of the validator with address `a` in `vals` (0 if absent) -/
def oldPower (vals : List Val) (a : Nat) : Int :=
  match findAddr vals a with
  | some v => v.power
  | none => 0

theorem oldPower_cons (v : Val) (r : List Val) (a : Nat) :
    oldPower (v :: r) a = if v.addr = a then v.power else oldPower r a := by
  unfold oldPower findAddr
  rw [List.find?_cons]
  by_cases h : v.addr = a
  · simp [h]
  · simp [h]

theorem oldPower_nonneg (vals : List Val) (hp : ∀ v ∈ vals, 0 ≤ v.power) (a : Nat) :
    0 ≤ oldPower vals a := by
  unfold oldPower
  cases h : findAddr vals a with
  | none => simp
  | some v => exact hp v (findAddr_some h).1

theorem delta_eq (vals : List Val) (u : Val) : delta vals u = u.power - oldPower vals u.addr := by
  unfold delta oldPower
  cases findAddr vals u.addr <;> simp

theorem sum_if_nodup (as : List Nat) (x : Nat) (c : Int) (f : Nat → Int) (hnd : as.Nodup) :
    (as.map (fun a => if x = a then c else f a)).sum =
      (as.map f).sum + (if x ∈ as then c - f x else 0) := by
  induction as with
  | nil => simp
  | cons a t ih =>
    rw [List.nodup_cons] at hnd
    simp only [List.map_cons, List.sum_cons, List.mem_cons]
    rw [ih hnd.2]
    by_cases hxa : x = a
    · subst hxa
      simp only [if_true, true_or, hnd.1, if_false]
      omega
    · simp only [hxa, if_false, false_or]
      omega

theorem sum_oldPower_le (vals : List Val) (as : List Nat) (hnd : as.Nodup)
    (hp : ∀ v ∈ vals, 0 ≤ v.power) : (as.map (oldPower vals)).sum ≤ sumPower vals := by
  induction vals with
  | nil =>
    have : as.map (oldPower []) = as.map (fun _ => (0 : Int)) := by
      apply List.map_congr_left; intro a _; rfl
    rw [this]
    have : ∀ l : List Nat, (l.map (fun _ => (0 : Int))).sum = 0 := by
      intro l; induction l with
      | nil => rfl
      | cons _ _ ih => simp [ih]
    rw [this]; simp [sumPower]
  | cons v r ih =>
    have hr : ∀ w ∈ r, 0 ≤ w.power := fun w hw => hp w (List.mem_cons_of_mem _ hw)
    have : as.map (oldPower (v :: r)) = as.map (fun a => if v.addr = a then v.power else oldPower r a) := by
      apply List.map_congr_left; intro a _; exact oldPower_cons v r a
    rw [this, sum_if_nodup as v.addr v.power (oldPower r) hnd]
    have h1 := ih hr
    have h2 := oldPower_nonneg r hr v.addr
    have h3 := hp v List.mem_cons_self
    simp only [sumPower, List.map_cons, List.sum_cons] at h1 ⊢
    split <;> omega

theorem verifyRemovals_eq (vals ds : List Val) (acc r : Int)
    (h : verifyRemovals vals ds acc = some r) :
    r = acc + ((ds.map (·.addr)).map (oldPower vals)).sum := by
  induction ds generalizing acc with
  | nil => simp only [verifyRemovals, Option.some.injEq] at h; simp [h]
  | cons d t ih =>
    unfold verifyRemovals at h
    split at h
    · cases h
    · rename_i v hv
      rw [ih _ h]
      simp only [List.map_cons, List.sum_cons]
      have : oldPower vals d.addr = v.power := by unfold oldPower; rw [hv]
      omega

theorem sortInt_sorts : InsertionSort (· ≤ ·) insertInt sortInt :=
  ⟨fun _ => rfl, fun _ _ _ => rfl, rfl, fun _ _ => rfl⟩

/-- an accepted running total is the plain sum, and within the limit unless there was no delta -/
theorem checkSums_eq (acc : Int) (ds : List Int) (r : Int) (h : checkSums acc ds = some r) :
    r = acc + ds.sum ∧ (r = acc ∨ r ≤ maxTotal) := by
  induction ds generalizing acc with
  | nil => simp only [checkSums, Option.some.injEq] at h; simp [h]
  | cons d t ih =>
    unfold checkSums at h
    split at h
    · cases h
    · obtain ⟨h1, h2⟩ := ih _ h
      rw [List.sum_cons]
      omega

theorem sum_map_sub (u : List Val) (f g : Val → Int) :
    (u.map (fun x => f x - g x)).sum = (u.map f).sum - (u.map g).sum := by
  induction u with
  | nil => simp
  | cons x t ih => simp only [List.map_cons, List.sum_cons, ih]; omega

/-- `0 ≤ tvpAfterUpdatesBeforeRemovals ≤ 2·MaxTotalVotingPower` -/
theorem verifyUpdates_bounds (vals u d : List Val) (removed tvp : Int)
    (hp : ∀ v ∈ vals, 0 ≤ v.power) (htot : totalPower vals = sumPower vals)
    (hle : sumPower vals ≤ maxTotal) (hu : SAddr u) (hd : SAddr d)
    (hup : ∀ v ∈ u, 0 < v.power)
    (hrem : verifyRemovals vals d 0 = some removed)
    (hver : verifyUpdates u vals removed = some tvp) :
    0 ≤ tvp ∧ tvp ≤ 2 * maxTotal := by
  unfold verifyUpdates at hver
  cases hcs : checkSums (totalPower vals - removed) (sortInt (u.map (delta vals))) with
  | none => rw [hcs] at hver; cases hver
  | some r =>
    rw [hcs] at hver
    simp only [Option.map_some, Option.some.injEq] at hver
    obtain ⟨h1, h2⟩ := checkSums_eq _ _ _ hcs
    have hdel : u.map (delta vals) = u.map (fun x => x.power - oldPower vals x.addr) :=
      List.map_congr_left fun x _ => delta_eq vals x
    rw [perm_sum_int (sortInt_sorts.perm _), hdel, sum_map_sub, htot] at h1
    have hrm := verifyRemovals_eq _ _ _ _ hrem
    have hrm_le := sum_oldPower_le vals (d.map (·.addr)) hd.nodup hp
    have hold : (u.map (fun x => oldPower vals x.addr)).sum ≤ sumPower vals := by
      have := sum_oldPower_le vals (u.map (·.addr)) hu.nodup hp
      rwa [List.map_map] at this
    have hupos : 0 ≤ (List.map Val.power u).sum :=
      sumPower_nonneg u (fun v hv => by have := hup v hv; omega)
    -- `tvp = total + Σ new − Σ old`; it is also `r + removed` with `removed ≤ total`, and `r` is
    -- within the limit or `tvp = total`
    rw [maxTotal_eq] at hle h2 ⊢
    omega

theorem perm_prioSum {l1 l2 : List Val} (hp : l1.Perm l2) : prioSum l1 = prioSum l2 := by
  induction hp with
  | nil => rfl
  | cons x _ ih => simp only [prioSum]; omega
  | swap x y l => simp only [prioSum]; omega
  | trans _ _ ih1 ih2 => omega

/-- priorities right after a successful update: within the window, centred, nothing clamped -/
theorem updateCore_reach (s s' : VSet) (u d : List Val) (allow : Bool)
    (hpre : PreWF s.vals) (htot : totalPower s.vals = sumPower s.vals)
    (hle : sumPower s.vals ≤ maxTotal) (hb : PBound prioCap s.vals)
    (hu : SAddr u) (hd : SAddr d)
    (hup : ∀ v ∈ u, 0 < v.power) (hdisj : ∀ y ∈ u, ∀ z ∈ d, y.addr ≠ z.addr)
    (h : updateCore s u d allow = (s', none)) :
    PBound (2 * sumPower s'.vals) s'.vals ∧ PBound prioCap s'.vals ∧
    0 ≤ prioSum s'.vals ∧ prioSum s'.vals < (s'.vals.length : Int) := by
  obtain ⟨removed, tvp, v2, hvals, hm⟩ := updateCore_find s s' u d allow hpre hu hd hup hdisj h
  have hp0 : ∀ v ∈ s.vals, 0 ≤ v.power := fun v hv => by have := hpre.pos v hv; omega
  obtain ⟨t1, t2⟩ := verifyUpdates_bounds s.vals u d removed tvp hp0 htot hle hu hd hup hm.removals hm.updates
  obtain ⟨hT2, hT2pos, hT2le⟩ := hm.total
  rw [maxTotal_eq] at t2 hT2le
  have hb2 : PBound prioCap v2 := by
    intro x hx
    rcases hm.mem x hx with h1 | h1
    · unfold computeNewPriorities at h1
      obtain ⟨y, hy, e⟩ := List.mem_map.mp h1
      cases hf : findAddr s.vals y.addr with
      | none => rw [hf] at e; rw [← e]; simp only [setPrio]; unfold prioCap; omega
      | some v =>
        rw [hf] at e; rw [← e]; simp only [setPrio]
        exact hb v (findAddr_some hf).1
    · exact hb x h1
  obtain ⟨_, _, s2, s3, s4⟩ := normalize_spec v2 hm.ne hT2pos hT2le hT2 hb2
  have hap4 := normalize_sameAP v2
  rw [hvals]
  generalize normalize v2 = v4 at *
  have hperm := sortBy_perm lePower v4
  have hsum : sumPower (sortBy lePower v4) = sumPower v2 := by
    rw [perm_sumPower hperm, hap4.sumPower]
  rw [hsum]
  refine ⟨?_, ?_, ?_, ?_⟩
  · intro x hx; exact s2 x (hperm.mem_iff.mp hx)
  · intro x hx; have := s2 x (hperm.mem_iff.mp hx); unfold prioCap; omega
  · rw [perm_prioSum hperm]; exact s3
  · rw [perm_prioSum hperm, hperm.length_eq]; exact s4

end Tmv.ValSet
