import Tmv.Lemmas.NetStep
/-! The lift (C01): in every reachable state of the network model `Tmv.Net` the verified votes of
the log satisfy `Tmv.VoteLog.Behaved` — from the per-node item specification `Tmv.Cons.ItemSpec`
(which rests on the C02 invariants of the node model). `Inv` is the network invariant: every correct
node satisfies the node invariants relative to the current log, the log's votes of a correct
validator are exactly votes that node emitted, and every log entry of a correct validator is `Good`
relative to the log before it. -/
namespace Tmv.Net
open Tmv.Cons Tmv.VoteLog

/-- what `Behaved` asks of one log entry of a correct validator, relative to the log before it:
`o` order, `u` onePrecommit, `j` justified, `l` lockRule (`AllGood.behaved`) -/
structure Good (P : Powers) (pre : Log) (m : VoteMsg) : Prop where
  o : ∀ m' ∈ pre, m'.sender = m.sender → m'.round ≤ m.round
  u : m.isPrecommit = true → ∀ m' ∈ pre, m'.sender = m.sender → m'.isPrecommit = true →
        m'.round = m.round → m'.value = m.value
  j : m.isPrecommit = true → ∀ b, m.value = some b → polka P pre m.round (some b)
  l : m.isPrecommit = false → ∀ m' ∈ pre, m'.sender = m.sender → m'.isPrecommit = true → ∀ b, m'.value = some b →
        m'.round < m.round → m.value ≠ some b →
        ∃ r'' y, m'.round < r'' ∧ r'' ≤ m.round ∧ y ≠ some b ∧ polka P pre r'' y

def AllGood (P : Powers) (faulty : Nat → Bool) (L : Log) : Prop :=
  ∀ i (hi : i < L.length), faulty L[i].sender = false → Good P (L.take i) L[i]

theorem AllGood.nil (P : Powers) (faulty : Nat → Bool) : AllGood P faulty [] := by
  intro i hi; simp at hi

theorem AllGood.snoc {P : Powers} {faulty : Nat → Bool} {L : Log} {m : VoteMsg} (h : AllGood P faulty L)
    (hm : faulty m.sender = false → Good P L m) : AllGood P faulty (L ++ [m]) := by
  intro i hi hf
  by_cases hlt : i < L.length
  · have e1 : (L ++ [m])[i] = L[i] := List.getElem_append_left hlt
    have e2 : (L ++ [m]).take i = L.take i := List.take_append_of_le_length (by omega)
    rw [e1] at hf ⊢; rw [e2]
    exact h i hlt hf
  · have hi' : i = L.length := by simp at hi; omega
    subst hi'
    have e1 : (L ++ [m])[L.length] = m := by simp
    have e2 : (L ++ [m]).take L.length = L := by simp
    rw [e1] at hf ⊢; rw [e2]
    exact hm hf

theorem mem_take_lt {α} {l : List α} {i j : Nat} (hj : j < l.length) (hji : j < i) : l[j] ∈ l.take i := by
  rw [List.mem_take_iff_getElem]
  exact ⟨j, by omega, rfl⟩

theorem AllGood.behaved {P : Powers} {faulty : Nat → Bool} {L : Log} (h : AllGood P faulty L) :
    Behaved P faulty L := by
  have order : ∀ i j (hi : i < L.length) (hj : j < L.length),
      faulty L[i].sender = false → L[i].sender = L[j].sender → L[i].round < L[j].round → i < j := by
    intro i j hi hj hf hs hr
    apply Classical.byContradiction
    intro hn
    have hne : i ≠ j := by intro e; subst e; omega
    have hlt : j < i := by omega
    have := (h i hi hf).o L[j] (mem_take_lt hj hlt) hs.symm
    omega
  refine ⟨?_, ?_, ?_, ?_⟩
  · intro i j hi hj hf hs _ hr
    exact order i j hi hj hf hs hr
  · intro i j hi hj hf hs hpi hpj hr
    rcases Nat.lt_trichotomy i j with hlt | heq | hgt
    · have hf' : faulty L[j].sender = false := by rw [← hs]; exact hf
      exact (h j hj hf').u hpj L[i] (mem_take_lt hi hlt) hs hpi hr
    · subst heq; rfl
    · exact ((h i hi hf).u hpi L[j] (mem_take_lt hj hgt) hs.symm hpj hr.symm).symm
  · intro i hi b hf hp hv
    exact (h i hi hf).j hp b hv
  · intro i j hi hj b hf hs hpi hvi hpj hr hne
    have hlt := order i j hi hj hf hs hr
    have hf' : faulty L[j].sender = false := by rw [← hs]; exact hf
    exact (h j hj hf').l hpj L[i] (mem_take_lt hi hlt) hs hpi b hvi hr hne

theorem voteLog_append (a b : List Msg) : voteLog (a ++ b) = voteLog a ++ voteLog b := by
  unfold voteLog; exact List.filterMap_append

theorem voteLog_outs (p : Nat) (outs : List Output) : voteLog (outs.filterMap (outMsg p)) = ownVotes p outs := by
  unfold voteLog ownVotes
  rw [List.filterMap_filterMap]
  congr 1
  funext o
  cases o <;> simp [outMsg, voteOf, ownVote, Option.bind]


/-- about the LOG: a vote under `p`'s id in `L` is among the outputs `outs` (`Inv.mine` spells this out for every
correct `p`). `Tmv.Cons.Mine` of Lemmas/SyncOwnNode is another notion: about the votes in a node's own vote sets. -/
def Mine (p : Nat) (L : Log) (outs : List Output) : Prop :=
  ∀ m ∈ L, m.sender = p →
    ∃ t, (t == VType.precommit) = m.isPrecommit ∧ Output.signVote t m.round m.value ∈ outs

theorem Mine.append_own {p : Nat} {L : Log} {outs : List Output} (h : Mine p L outs) (new : List Output) :
    Mine p (L ++ ownVotes p new) (outs ++ new) := by
  intro m hm hs
  rcases List.mem_append.1 hm with a | a
  · obtain ⟨t, e, hmem⟩ := h m a hs
    exact ⟨t, e, List.mem_append_left _ hmem⟩
  · obtain ⟨t, r, x, ho, rfl⟩ := mem_ownVotes.1 a
    exact ⟨t, rfl, List.mem_append_right _ ho⟩

structure Inv (nc : NetCfg) (s : Net) : Prop where
  node : ∀ p, nc.correct p → MInv (nc.node p) p (voteLog s.log) (s.nodes p)
  mine : ∀ p, nc.correct p → ∀ m ∈ voteLog s.log, m.sender = p →
    ∃ t, (t == VType.precommit) = m.isPrecommit ∧ Output.signVote t m.round m.value ∈ (s.nodes p).out
  good : AllGood nc.powers nc.faulty (voteLog s.log)

theorem quorum_wt_iff (nc : NetCfg) (p : Nat) (q : Nat → Bool) :
    2 * (nc.node p).total < 3 * wtUpTo (nc.node p).power q (nc.node p).n ↔
      3 * nc.powers.wt q > 2 * nc.powers.total := by
  unfold Powers.total Powers.wt
  rw [total_eq_wt]
  exact Iff.rfl

theorem beq_precommit_true {t : VType} : (t == VType.precommit) = true ↔ t = .precommit := by
  cases t <;> decide

theorem beq_precommit_false {t : VType} : (t == VType.precommit) = false ↔ t = .prevote := by
  cases t <;> decide

theorem good_of_goodOut (nc : NetCfg) (p : Nat) (L0 : Log) (outpre : List Output) (t : VType) (r : Nat) (x : Bid)
    (hmine : Mine p L0 outpre)
    (h : GoodOut (nc.node p) L0 outpre t r x) : Good nc.powers L0 ⟨p, t == VType.precommit, r, x⟩ := by
  refine ⟨?_, ?_, ?_, ?_⟩
  · intro m' hm hs
    obtain ⟨t', _, hmem⟩ := hmine m' hm hs
    exact h.o t' _ _ hmem
  · intro ht m' hm hs hp hr
    obtain ⟨t', e, hmem⟩ := hmine m' hm hs
    cases beq_precommit_true.1 (e.trans hp)
    have hr : m'.round = r := hr
    rw [hr] at hmem
    exact h.u (beq_precommit_true.1 ht) _ hmem
  · intro ht b hb
    exact (quorum_wt_iff nc p _).1 (h.j (beq_precommit_true.1 ht) b hb)
  · intro ht m' hm hs hp b hv hr hne
    obtain ⟨t', e, hmem⟩ := hmine m' hm hs
    cases beq_precommit_true.1 (e.trans hp)
    rw [hv] at hmem
    obtain ⟨r'', y, a1, a2, a3, a4⟩ := h.l (beq_precommit_false.1 ht) m'.round b hmem hr hne
    exact ⟨r'', y, a1, a2, a3, (quorum_wt_iff nc p _).1 a4⟩

theorem allGood_outs (nc : NetCfg) (p : Nat) :
    ∀ (new : List Output) (L0 : Log) (outpre : List Output),
      AllGood nc.powers nc.faulty L0 → Mine p L0 outpre →
      (∀ k (hk : k < new.length) t r x, new[k] = Output.signVote t r x →
        GoodOut (nc.node p) (L0 ++ ownVotes p (new.take k)) (outpre ++ new.take k) t r x) →
      AllGood nc.powers nc.faulty (L0 ++ ownVotes p new)
  | [], L0, _, h, _, _ => by simpa [ownVotes] using h
  | o :: rest, L0, outpre, h, hmine, hgo => by
    have e : L0 ++ ownVotes p (o :: rest) = (L0 ++ ownVotes p [o]) ++ ownVotes p rest := by
      rw [List.append_assoc, ← ownVotes_append]; rfl
    rw [e]
    refine allGood_outs nc p rest _ (outpre ++ [o]) ?_ (hmine.append_own [o]) ?_
    · cases o with
      | signVote t r x =>
        refine h.snoc fun _ => good_of_goodOut nc p L0 outpre t r x hmine ?_
        simpa [ownVotes] using hgo 0 (Nat.zero_lt_succ _) t r x rfl
      | _ => exact (List.append_nil L0).symm ▸ h
    · intro k hk t r x hx
      have := hgo (k + 1) (Nat.succ_lt_succ hk) t r x hx
      rwa [List.take_succ_cons, show o :: rest.take k = [o] ++ rest.take k from rfl, ownVotes_append,
        ← List.append_assoc, ← List.append_assoc] at this

theorem Inv.init (nc : NetCfg) : Inv nc Net.init := by
  refine ⟨?_, ?_, ?_⟩
  · intro p _
    show MInv (nc.node p) p (voteLog []) NodeState.init
    exact ⟨init_G, init_A, init_T, by intro r b h; simp [NodeState.init] at h, W.init _ _, N.init p,
      by intro t r x h; simp [NodeState.init] at h⟩
  · intro p _ m hm; simp [Net.init, voteLog] at hm
  · simpa [Net.init, voteLog] using AllGood.nil nc.powers nc.faulty

/-- a correct node moving to a state that satisfies the item specification keeps the invariant -/
theorem Inv.update {nc : NetCfg} {s : Net} (h : Inv nc s) (p : Nat) (hp : nc.correct p) (s' : NodeState)
    (hspec : ∃ new, s'.out = (s.nodes p).out ++ new ∧ MInv (nc.node p) p (voteLog s.log ++ ownVotes p new) s' ∧
      ∀ k (hk : k < new.length) t r x, new[k] = Output.signVote t r x →
        GoodOut (nc.node p) (voteLog s.log ++ ownVotes p (new.take k)) ((s.nodes p).out ++ new.take k) t r x) :
    Inv nc ⟨upd s.nodes p s', s.log ++ (s'.out.drop (s.nodes p).out.length).filterMap (outMsg p)⟩ := by
  obtain ⟨new, hnew, hmi, hgood⟩ := hspec
  have hlog : voteLog (s.log ++ (s'.out.drop (s.nodes p).out.length).filterMap (outMsg p)) =
      voteLog s.log ++ ownVotes p new := by
    rw [voteLog_append, voteLog_outs, hnew]
    simp
  refine ⟨?_, ?_, ?_⟩
  · intro q hq
    show MInv _ _ (voteLog (s.log ++ _)) (upd s.nodes p s' q)
    rw [hlog]
    unfold upd
    split
    · rename_i e; subst e; exact hmi
    · exact (h.node q hq).mono _
  · intro q hq
    show Mine q (voteLog (s.log ++ _)) (upd s.nodes p s' q).out
    rw [hlog]
    unfold upd
    split
    · rename_i e; subst e
      rw [hnew]
      exact Mine.append_own (h.mine q hq) new
    · rename_i e
      intro m hm hs
      rcases List.mem_append.1 hm with a | a
      · exact h.mine q hq m a hs
      · obtain ⟨t, r, x, _, rfl⟩ := mem_ownVotes.1 a
        exact absurd hs.symm e
  · rw [hlog]
    exact allGood_outs nc p new _ _ h.good (h.mine p hp) hgood

theorem Inv.feed {nc : NetCfg} {s : Net} (h : Inv nc s) (p : Nat) (it : Item) (hp : nc.correct p)
    (hit : it.fits (nc.node p) (voteLog s.log) (s.nodes p)) : Inv nc (s.feed nc p it) :=
  h.update p hp _ (item_spec (c := nc.node p) (me := p) rfl (voteLog s.log) (s.nodes p) it (h.node p hp) hit)

theorem Inv.append {nc : NetCfg} {s : Net} (h : Inv nc s) (m : Msg)
    (hm : nc.faulty m.sender = true ∨ m.ok = false) : Inv nc (s.append m) := by
  have hlog : voteLog (s.append m).log = voteLog s.log ++ (voteOf m).toList := by
    unfold Net.append voteLog
    simp only [List.filterMap_append]
    cases hv : voteOf m <;> simp [List.filterMap, hv]
  have hsender : ∀ vm ∈ (voteOf m).toList, nc.faulty vm.sender = true := by
    intro vm hv
    rw [Option.mem_toList] at hv
    unfold voteOf at hv
    split at hv
    · rename_i hb hok
      cases hv
      rcases hm with a | a
      · exact a
      · rw [a] at hok; cases hok
    · cases hv
  refine ⟨?_, ?_, ?_⟩
  · intro q hq
    rw [hlog]
    exact (h.node q hq).mono _
  · intro q hq m' hm' hs
    rw [hlog] at hm'
    rcases List.mem_append.1 hm' with a | a
    · exact h.mine q hq m' a hs
    · have := hsender m' a
      rw [hs, hq.2] at this
      cases this
  · rw [hlog]
    cases hv : voteOf m with
    | none => simpa using h.good
    | some vm =>
      refine h.good.snoc fun hf => ?_
      rw [hsender vm (by simp [hv])] at hf
      cases hf

theorem toInput_notFuture (nc : NetCfg) (m : Msg) (peer : Peer) (s : NodeState) :
    (toInput nc m peer).notFuture s := by
  unfold toInput; split <;> exact True.intro

theorem voteOf_of_toInput {nc : NetCfg} {m : Msg} {peer peer' : Peer} {v : Vote}
    (h : toInput nc m peer = .vote v peer') (hok : v.sigOK = true) :
    voteOf m = some ⟨v.val, v.typ == VType.precommit, v.round, v.bid⟩ := by
  unfold toInput at h
  split at h
  · cases h
  · rename_i t r bid hb
    cases h
    unfold voteOf
    rw [hb, show m.ok = true from hok]

theorem Inv.step {nc : NetCfg} {s s' : Net} (h : Inv nc s) (hs : NetStep nc s s') : Inv nc s' := by
  cases hs with
  | deliver p k peer hp hk =>
    refine h.feed p _ hp ⟨toInput_notFuture _ _ _ _, fun v peer' hv _ h2 =>
      voted_of_mem _ ⟨v.val, v.typ == VType.precommit, v.round, v.bid⟩ ?_⟩
    exact List.mem_filterMap.2 ⟨s.log[k], List.getElem_mem hk, voteOf_of_toInput hv h2⟩
  | block p b hp => exact h.feed p _ hp ⟨True.intro, fun _ _ e => nomatch e⟩
  | claim p r t peer bid hp => exact h.feed p _ hp ⟨True.intro, fun _ _ e => nomatch e⟩
  | fire p r st hp hsch =>
    refine h.feed p _ hp ⟨?_, fun _ _ e => nomatch e⟩
    show r ≤ (s.nodes p).round
    rcases hsch with ⟨rfl, _⟩ | hsch
    · exact Nat.zero_le _
    · exact (h.node p hp).n.sched r st hsch
  | txs p hp => exact h.feed p _ hp ⟨True.intro, fun _ _ e => nomatch e⟩
  | own p k hp => exact h.feed p _ hp True.intro
  | byz m hm => exact h.append m hm

theorem Inv.reachable {nc : NetCfg} {s : Net} (h : Reachable nc s) : Inv nc s := by
  induction h with
  | init => exact Inv.init nc
  | step _ hs ih => exact ih.step hs

end Tmv.Net
