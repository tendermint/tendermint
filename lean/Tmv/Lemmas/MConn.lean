import Tmv.Model.MConn
/-! Lemmas about the multiplexed-connection model: packetisation vs reassembly, the receive loop,
the sender invariant, fairness of the send routine's choice, frames in a byte stream. Core-only. -/
namespace Tmv.MConn

/-! ### specification-level functions -/

/-- reassembly of ONE channel's packet stream starting from buffer `buf`: delivered messages and
the remaining partial buffer -/
def reasm : Bytes → List (Bool × Bytes) → List Bytes × Bytes
  | buf, [] => ([], buf)
  | buf, (eof, d) :: ps =>
    if eof then ((buf ++ d) :: (reasm [] ps).1, (reasm [] ps).2) else reasm (buf ++ d) ps

/-- the running buffer of one channel never exceeds `cap` -/
def fits (cap : Nat) : Bytes → List (Bool × Bytes) → Prop
  | _, [] => True
  | buf, (eof, d) :: ps =>
    buf.length + d.length ≤ cap ∧ fits cap (if eof then [] else buf ++ d) ps

/-- the packets of channel `id` in a wire sequence, in wire order -/
def proj (id : Nat) (wire : List PacketMsg) : List (Bool × Bytes) :=
  (wire.filter fun p => p.chId = (id : Int)).map fun p => (p.eof, p.data)

/-- the messages delivered on channel `id` in an `onReceive` log, in order -/
def delivered (id : Nat) (log : List (Nat × Bytes)) : List Bytes :=
  (log.filter fun e => e.1 = id).map (·.2)

theorem proj_nil (id : Nat) : proj id [] = [] := rfl

theorem proj_cons (id : Nat) (p : PacketMsg) (ps : List PacketMsg) :
    proj id (p :: ps) = if p.chId = (id : Int) then (p.eof, p.data) :: proj id ps else proj id ps := by
  by_cases h : p.chId = (id : Int) <;> simp [proj, h]

theorem proj_append (id : Nat) (a b : List PacketMsg) : proj id (a ++ b) = proj id a ++ proj id b := by
  simp [proj]

theorem delivered_cons (id j : Nat) (m : Bytes) (log : List (Nat × Bytes)) :
    delivered id ((j, m) :: log) = if j = id then m :: delivered id log else delivered id log := by
  by_cases h : j = id <;> simp [delivered, h]

theorem delivered_append (id : Nat) (a b : List (Nat × Bytes)) :
    delivered id (a ++ b) = delivered id a ++ delivered id b := by
  simp [delivered]

theorem reasm_append : ∀ (xs ys : List (Bool × Bytes)) (buf : Bytes),
    reasm buf (xs ++ ys) =
      ((reasm buf xs).1 ++ (reasm (reasm buf xs).2 ys).1, (reasm (reasm buf xs).2 ys).2)
  | [], _, _ => rfl
  | (false, d) :: xs, ys, buf => by
    simp only [List.cons_append, reasm, Bool.false_eq_true, if_false]
    exact reasm_append xs ys (buf ++ d)
  | (true, d) :: xs, ys, buf => by
    simp only [List.cons_append, reasm, if_true]
    rw [reasm_append xs ys []]

theorem fits_append_left (cap : Nat) : ∀ (xs ys : List (Bool × Bytes)) (buf : Bytes),
    fits cap buf (xs ++ ys) → fits cap buf xs
  | [], _, _, _ => trivial
  | (_, _) :: xs, ys, _, h => ⟨h.1, fits_append_left cap xs ys _ h.2⟩

/-! ### packetize -/

theorem packetizeF_ind (mx : Nat) (hmx : 0 < mx) {P : Bytes → List (Bool × Bytes) → Prop}
    (last : ∀ b, b.length ≤ mx → P b [(true, b)])
    (more : ∀ b ps, mx < b.length → P (b.drop mx) ps → P b ((false, b.take mx) :: ps)) :
    ∀ (f : Nat) (b : Bytes), b.length ≤ f → P b (packetizeF mx f b)
  | 0, b, h => last b (by omega)
  | f + 1, b, h => by
    unfold packetizeF
    split
    · exact last b ‹_›
    · exact more b _ (by omega) (packetizeF_ind mx hmx last more f _ (by rw [List.length_drop]; omega))

theorem packetize_ind (mx : Nat) (hmx : 0 < mx) {P : Bytes → List (Bool × Bytes) → Prop}
    (last : ∀ b, b.length ≤ mx → P b [(true, b)])
    (more : ∀ b ps, mx < b.length → P (b.drop mx) ps → P b ((false, b.take mx) :: ps))
    (b : Bytes) : P b (packetize mx b) :=
  packetizeF_ind mx hmx last more _ b (Nat.le_refl _)

theorem packetizeF_eq (mx : Nat) (hmx : 0 < mx) (b : Bytes) :
    ∀ f, b.length ≤ f → packetizeF mx f b = packetize mx b := by
  refine packetize_ind mx hmx (P := fun b ps => ∀ f, b.length ≤ f → packetizeF mx f b = ps) ?_ ?_ b
  · intro b hb f _
    cases f <;> simp [packetizeF, hb]
  · intro b ps hb ih f hf
    obtain ⟨f, rfl⟩ : ∃ g, f = g + 1 := ⟨f - 1, by omega⟩
    rw [packetizeF, if_neg (by omega), ih f (by rw [List.length_drop]; omega)]

/-- one unfolding of `packetize` (what `nextPacketMsg` does) -/
theorem packetize_unfold (mx : Nat) (hmx : 0 < mx) (b : Bytes) :
    packetize mx b =
      if b.length ≤ mx then [(true, b)]
      else (false, b.take mx) :: packetize mx (b.drop mx) := by
  split
  · rename_i h
    unfold packetize
    cases hb : b.length with
    | zero => rfl
    | succ f => rw [packetizeF, if_pos h]
  · rename_i h
    obtain ⟨f, hf⟩ : ∃ f, b.length = f + 1 := ⟨b.length - 1, by omega⟩
    rw [packetize, hf, packetizeF, if_neg (by omega),
      packetizeF_eq mx hmx _ f (by rw [List.length_drop]; omega)]

theorem reasm_packetize (mx : Nat) (hmx : 0 < mx) (m buf : Bytes) (rest : List (Bool × Bytes)) :
    reasm buf (packetize mx m ++ rest) = ((buf ++ m) :: (reasm [] rest).1, (reasm [] rest).2) := by
  revert buf
  refine packetize_ind mx hmx (P := fun m ps => ∀ buf,
    reasm buf (ps ++ rest) = ((buf ++ m) :: (reasm [] rest).1, (reasm [] rest).2)) ?_ ?_ m
  · intro b _ buf
    simp [reasm]
  · intro b ps _ ih buf
    simp only [List.cons_append, reasm, Bool.false_eq_true, if_false]
    rw [ih, List.append_assoc, List.take_append_drop]

/-- reassembling the packetisation of a message list gives the list back, nothing left over -/
theorem reasm_flatMap_packetize (mx : Nat) (hmx : 0 < mx) (msgs : List Bytes) :
    reasm [] (msgs.flatMap (packetize mx)) = (msgs, []) := by
  induction msgs with
  | nil => simp [reasm]
  | cons m ms ih =>
    rw [List.flatMap_cons, reasm_packetize mx hmx, ih]
    simp

theorem fits_packetize (mx cap : Nat) (hmx : 0 < mx) (m buf : Bytes) (rest : List (Bool × Bytes))
    (hc : buf.length + m.length ≤ cap) (hr : fits cap [] rest) :
    fits cap buf (packetize mx m ++ rest) := by
  revert buf
  refine packetize_ind mx hmx
    (P := fun m ps => ∀ buf, buf.length + m.length ≤ cap → fits cap buf (ps ++ rest)) ?_ ?_ m
  · intro b _ buf hc
    exact ⟨hc, hr⟩
  · intro b ps hb ih buf hc
    refine ⟨by rw [List.length_take]; omega, ih _ ?_⟩
    show (buf ++ b.take mx).length + _ ≤ cap
    rw [List.length_append, List.length_take, List.length_drop]
    omega

theorem fits_flatMap_packetize (mx cap : Nat) (hmx : 0 < mx) (msgs : List Bytes)
    (h : ∀ m ∈ msgs, m.length ≤ cap) : fits cap [] (msgs.flatMap (packetize mx)) := by
  induction msgs with
  | nil => trivial
  | cons m ms ih =>
    rw [List.flatMap_cons]
    exact fits_packetize mx cap hmx m [] _ (by simpa using h m (by simp))
      (ih fun x hx => h x (by simp [hx]))

/-! ### receive loop -/

theorem rfind_upd (l : List RChan) (c' : RChan) (i j : Nat) (hi : c'.id = i) :
    (l.map fun x => if x.id = i then c' else x).find? (·.id = j) =
      if j = i then (l.find? (·.id = i)).map (fun _ => c') else l.find? (·.id = j) := by
  induction l with
  | nil => simp
  | cons x xs ih =>
    rw [List.map_cons, List.find?_cons, List.find?_cons, List.find?_cons, ih]
    by_cases hx : x.id = i
    · by_cases hj : j = i
      · subst hj; simp [hx, hi]
      · have h2 : ¬ i = j := fun h => hj h.symm
        have h3 : ¬ x.id = j := by omega
        simp [hx, hj, hi, h2]
    · by_cases hj : j = i
      · subst hj; simp [hx]
      · by_cases hxj : x.id = j <;> simp [hx, hj, hxj]

theorem recvFrame_msg (r : Receiver) (p : PacketMsg) (len : Nat) (c : RChan)
    (hs : r.stopped = none) (hl : len ≤ r.maxPacket) (h0 : 0 ≤ p.chId) (h1 : p.chId ≤ 255)
    (hf : r.chans.find? (·.id = p.chId.toNat) = some c)
    (hcap : c.recving.length + p.data.length ≤ c.cap) :
    ∃ r1, recvFrame r { len := len, pkt := .msg p } =
        (r1, if p.eof then .deliver c.id (c.recving ++ p.data) else .nothing) ∧
      r1.stopped = none ∧ r1.maxPacket = r.maxPacket ∧
      ∀ j, r1.chans.find? (·.id = j) =
        if j = c.id then some { c with recving := if p.eof then [] else c.recving ++ p.data }
        else r.chans.find? (·.id = j) := by
  have hid : c.id = p.chId.toNat := by simpa using List.find?_some hf
  refine ⟨{ r with chans := r.chans.map fun x =>
      if x.id = c.id then { c with recving := if p.eof then [] else c.recving ++ p.data } else x },
    ?_, hs, rfl, ?_⟩
  · have hl' : ¬ len > r.maxPacket := by omega
    have hr : ¬ (p.chId < 0 ∨ p.chId > 255) := by omega
    have hc : ¬ c.cap < c.recving.length + p.data.length := by omega
    simp only [recvFrame, hs, Option.isSome_none, Bool.false_eq_true, if_false, hl', hr, hf,
      recvPacketMsg, hc]
    cases p.eof <;> rfl
  · intro j
    have := rfind_upd r.chans { c with recving := if p.eof then [] else c.recving ++ p.data } c.id j rfl
    rw [hid, hf] at this
    rw [hid]
    exact this

theorem recvAll_cons (r : Receiver) (f : Frame) (fs : List Frame) :
    recvAll r (f :: fs) =
      ((recvAll (recvFrame r f).1 fs).1,
        match (recvFrame r f).2 with
        | .deliver ch m => (ch, m) :: (recvAll (recvFrame r f).1 fs).2
        | _ => (recvAll (recvFrame r f).1 fs).2) := by
  simp only [recvAll]
  split <;> simp_all

/-- frames carrying the packets of `wire`, with frame lengths given by `lens` -/
def msgFrames (lens : PacketMsg → Nat) (wire : List PacketMsg) : List Frame :=
  wire.map fun p => { len := lens p, pkt := .msg p }

/-- As long as every channel's stream `fits` its buffer the loop stays up and delivers, per channel,
what `reasm` makes of that channel's packets alone, however the channels are interleaved. -/
theorem recvAll_spec (lens : PacketMsg → Nat) :
    ∀ (wire : List PacketMsg) (r : Receiver),
      r.stopped = none →
      (∀ p ∈ wire, lens p ≤ r.maxPacket ∧ 0 ≤ p.chId ∧ p.chId ≤ 255 ∧
        (r.chans.find? (·.id = p.chId.toNat)).isSome) →
      (∀ id c, r.chans.find? (·.id = id) = some c → fits c.cap c.recving (proj id wire)) →
      (recvAll r (msgFrames lens wire)).1.stopped = none ∧
      ∀ id c, r.chans.find? (·.id = id) = some c →
        delivered id (recvAll r (msgFrames lens wire)).2 = (reasm c.recving (proj id wire)).1 ∧
        ∃ c', (recvAll r (msgFrames lens wire)).1.chans.find? (·.id = id) = some c' ∧
          c'.recving = (reasm c.recving (proj id wire)).2 ∧ c'.cap = c.cap := by
  intro wire
  induction wire with
  | nil =>
    intro r hs _ _
    exact ⟨hs, fun id c hc => ⟨rfl, c, hc, rfl, rfl⟩⟩
  | cons p ps ih =>
    intro r hs hw hfit
    obtain ⟨hl, h0, h1, hsome⟩ := hw p (by simp)
    obtain ⟨c0, hc0⟩ := Option.isSome_iff_exists.mp hsome
    have hid : c0.id = p.chId.toNat := by simpa using List.find?_some hc0
    have hpid : p.chId = (c0.id : Int) := by omega
    have hother : ∀ id, id ≠ c0.id → proj id (p :: ps) = proj id ps := fun id hne => by
      rw [proj_cons, if_neg (by omega)]
    have hfit0 := hfit c0.id c0 (hid ▸ hc0)
    rw [proj_cons, if_pos hpid] at hfit0
    obtain ⟨r1, hstep, hs1, hmp, hlook⟩ := recvFrame_msg r p (lens p) c0 hs hl h0 h1 hc0 hfit0.1
    obtain ⟨ihs, ihc⟩ := ih r1 hs1
      (fun q hq => by
        obtain ⟨a, b, c, d⟩ := hw q (by simp [hq])
        refine ⟨by omega, b, c, ?_⟩
        rw [hlook]
        split
        · rfl
        · exact d)
      (fun id c hc => by
        rw [hlook] at hc
        split at hc
        · rename_i hj
          subst hj
          cases hc
          exact hfit0.2
        · rename_i hj
          exact hother id hj ▸ hfit id c hc)
    rw [show msgFrames lens (p :: ps) = ⟨lens p, .msg p⟩ :: msgFrames lens ps from rfl,
      recvAll_cons, hstep]
    refine ⟨ihs, fun id c hc => ?_⟩
    by_cases hj : id = c0.id
    · subst hj
      obtain rfl : c0 = c := Option.some.inj ((hid ▸ hc0).symm.trans hc)
      obtain ⟨d1, hc'⟩ := ihc c0.id _ (by rw [hlook, if_pos rfl])
      rw [proj_cons, if_pos hpid]
      cases hpe : p.eof
      · simp only [hpe, Bool.false_eq_true, if_false, reasm] at d1 hc' ⊢
        exact ⟨d1, hc'⟩
      · simp only [hpe, if_true, reasm] at d1 hc' ⊢
        rw [delivered_cons, if_pos rfl, d1]
        exact ⟨rfl, hc'⟩
    · obtain ⟨d1, hc'⟩ := ihc id c (by rw [hlook, if_neg hj]; exact hc)
      rw [hother id hj]
      refine ⟨?_, hc'⟩
      cases hpe : p.eof
      · exact d1
      · simp only [if_true]
        rw [delivered_cons, if_neg (fun h => hj h.symm)]
        exact d1

/-- `recvAll_spec` for packetised streams that may be cut short: a beginning of `msgs id` is delivered,
and all of it (the buffer empty again) on a channel where nothing is missing. -/
theorem recv_streams (mx : Nat) (hmx : 0 < mx) (r : Receiver) (lens : PacketMsg → Nat)
    (msgs : Nat → List Bytes) (wire : List PacketMsg)
    (hup : r.stopped = none)
    (hknown : ∀ p ∈ wire, lens p ≤ r.maxPacket ∧ 0 ≤ p.chId ∧ p.chId ≤ 255 ∧
      (r.chans.find? (·.id = p.chId.toNat)).isSome)
    (hstreams : ∀ id c, r.chans.find? (·.id = id) = some c →
      c.recving = [] ∧ (∃ tail, proj id wire ++ tail = (msgs id).flatMap (packetize mx)) ∧
      ∀ m ∈ msgs id, m.length ≤ c.cap) :
    (recvAll r (msgFrames lens wire)).1.stopped = none ∧
    ∀ id c, r.chans.find? (·.id = id) = some c →
      (∃ more, msgs id = delivered id (recvAll r (msgFrames lens wire)).2 ++ more) ∧
      (proj id wire = (msgs id).flatMap (packetize mx) →
        delivered id (recvAll r (msgFrames lens wire)).2 = msgs id ∧
        ∃ c', (recvAll r (msgFrames lens wire)).1.chans.find? (·.id = id) = some c' ∧
          c'.recving = []) := by
  have hspec := recvAll_spec lens wire r hup hknown (by
    intro id c hc
    obtain ⟨h1, ⟨tail, h2⟩, h3⟩ := hstreams id c hc
    rw [h1]
    apply fits_append_left _ _ tail
    rw [h2]
    exact fits_flatMap_packetize mx _ hmx _ h3)
  refine ⟨hspec.1, fun id c hc => ?_⟩
  obtain ⟨h1, ⟨tail, h2⟩, _⟩ := hstreams id c hc
  obtain ⟨d, c', e1, e2, _⟩ := hspec.2 id c hc
  rw [h1] at d e2
  refine ⟨⟨(reasm (reasm [] (proj id wire)).2 tail).1, ?_⟩, fun hall => ?_⟩
  · have := reasm_flatMap_packetize mx hmx (msgs id)
    rw [← h2, reasm_append] at this
    rw [d]
    exact (congrArg Prod.fst this).symm
  · rw [hall, reasm_flatMap_packetize mx hmx] at d e2
    exact ⟨d, c', e1, e2⟩

/-- all receive buffers within their capacity -/
def bounded (r : Receiver) : Prop := ∀ c ∈ r.chans, c.recving.length ≤ c.cap

theorem recvPacketMsg_bounded (c c' : RChan) (eof : Bool) (d : Bytes) (del : Option Bytes)
    (h : recvPacketMsg c eof d = some (c', del)) : c'.recving.length ≤ c'.cap := by
  unfold recvPacketMsg at h
  split at h
  · cases h
  · cases eof
    · obtain ⟨rfl, _⟩ : _ ∧ _ := by simpa using h
      simp only [List.length_append]
      omega
    · obtain ⟨rfl, _⟩ : _ ∧ _ := by simpa using h
      exact Nat.zero_le _

theorem recvFrame_bounded (r : Receiver) (f : Frame) (h : bounded r) : bounded (recvFrame r f).1 := by
  unfold recvFrame
  split
  · exact h
  split
  · exact h
  split <;> try exact h
  rename_i p _
  split
  · exact h
  split
  · exact h
  · rename_i c hc
    cases hp : recvPacketMsg c p.eof p.data with
    | none => exact h
    | some res =>
      obtain ⟨c', del⟩ := res
      have : bounded { r with chans := r.chans.map fun x => if x.id = c.id then c' else x } := by
        intro x hx
        obtain ⟨y, hy, rfl⟩ := List.mem_map.mp hx
        split
        · exact recvPacketMsg_bounded _ _ _ _ _ hp
        · exact h y hy
      cases del <;> exact this

theorem recvAll_bounded (fs : List Frame) : ∀ (r : Receiver), bounded r → bounded (recvAll r fs).1 := by
  induction fs with
  | nil => exact fun r h => h
  | cons f fs ih =>
    intro r h
    rw [recvAll_cons]
    exact ih _ (recvFrame_bounded r f h)

theorem new_bounded (mx : Nat) (ds : List Desc) : bounded (Receiver.new mx ds) := by
  intro c hc
  obtain ⟨d, _, rfl⟩ := List.mem_map.mp hc
  exact Nat.zero_le _

/-- a stopped receive loop ignores everything -/
theorem recvAll_stopped (fs : List Frame) (r : Receiver) (h : r.stopped.isSome) :
    recvAll r fs = (r, []) := by
  induction fs with
  | nil => rfl
  | cons f fs ih =>
    have : recvFrame r f = (r, .closed) := by simp [recvFrame, h]
    rw [recvAll_cons, this]
    simp [ih]

/-! ### sender -/

/-- the packets channel `c` still owes the wire: the rest of the message in progress, then the
queued messages -/
def rest (mx : Nat) (c : SChan) : List (Bool × Bytes) :=
  (match c.sending with
    | none => []
    | some b => packetize mx b) ++ c.queue.flatMap (packetize mx)

/-- operations on the sending side: `TrySend` by any goroutine, one `sendPacketMsg` of the send
routine with an arbitrary pick -/
inductive SOp
  | send (ch : Nat) (m : Bytes)
  | step (pick : Nat)
deriving Repr

/-- what an observer records: packets put on the wire, messages accepted for sending -/
structure Trace where
  wire : List PacketMsg := []
  acc : List (Nat × Bytes) := []
deriving Repr

def runOp (s : Sender) (t : Trace) : SOp → Sender × Trace
  | .send ch m =>
    ((trySend s ch m).1, if (trySend s ch m).2 then { t with acc := t.acc ++ [(ch, m)] } else t)
  | .step pick =>
    ((sendPacketMsg s pick).1,
      match (sendPacketMsg s pick).2 with
      | some p => { t with wire := t.wire ++ [p] }
      | none => t)

def runOps : Sender → Trace → List SOp → Sender × Trace
  | s, t, [] => (s, t)
  | s, t, op :: ops => runOps (runOp s t op).1 (runOp s t op).2 ops

/-- occurs only as a hypothesis (C17 `picked_pending_channel_is_served`, which needs the distinct ids
alone); the invariant that is proved of runs is `Run` below, which gives it (`Run.sInv`) -/
def SInv (s : Sender) (t : Trace) : Prop :=
  (s.chans.map (·.id)).Nodup ∧
  ∀ c ∈ s.chans, proj c.id t.wire ++ rest s.maxSize c =
    (delivered c.id t.acc).flatMap (packetize s.maxSize)

/-- the sender owes the wire nothing -/
def idle (s : Sender) : Prop := ∀ c ∈ s.chans, rest s.maxSize c = []

theorem eq_of_id (l : List SChan) (hn : (l.map (·.id)).Nodup) :
    ∀ x ∈ l, ∀ y ∈ l, x.id = y.id → x = y := by
  induction l with
  | nil => intro x hx; cases hx
  | cons a as ih =>
    simp only [List.map_cons, List.nodup_cons, List.mem_map, not_exists, not_and] at hn
    intro x hx y hy hxy
    simp only [List.mem_cons] at hx hy
    rcases hx with rfl | hx <;> rcases hy with rfl | hy
    · rfl
    · exact absurd hxy.symm (hn.1 y hy)
    · exact absurd hxy (hn.1 x hx)
    · exact ih hn.2 x hx y hy hxy

theorem ids_map_eq (l : List SChan) (f : SChan → SChan) (hf : ∀ x ∈ l, (f x).id = x.id) :
    (l.map f).map (·.id) = l.map (·.id) := by
  rw [List.map_map]
  exact List.map_congr_left hf

theorem ids_upd (l : List SChan) (c' : SChan) (i : Nat) (hi : c'.id = i) :
    (l.map fun x => if x.id = i then c' else x).map (·.id) = l.map (·.id) :=
  ids_map_eq l _ fun x _ => by split <;> simp_all

theorem mem_upd (l : List SChan) (c' y : SChan) (i : Nat)
    (h : y ∈ l.map fun x => if x.id = i then c' else x) : y = c' ∨ (y ∈ l ∧ y.id ≠ i) := by
  obtain ⟨x, hx, rfl⟩ := List.mem_map.mp h
  split
  · exact Or.inl rfl
  · exact Or.inr ⟨hx, ‹_›⟩

theorem upd_self (l : List SChan) (hn : (l.map (·.id)).Nodup) (c : SChan) (hc : c ∈ l) :
    (l.map fun x => if x.id = c.id then c else x) = l := by
  rw [List.map_congr_left (g := id), List.map_id]
  intro x hx
  split
  · exact (eq_of_id l hn x hx c hc ‹_›).symm
  · rfl

theorem isSendPending_id (c : SChan) : (isSendPending c).1.id = c.id := by
  unfold isSendPending
  split
  · rfl
  · split <;> rfl

theorem isSendPending_rest (mx : Nat) (c : SChan) : rest mx (isSendPending c).1 = rest mx c := by
  unfold isSendPending
  cases hs : c.sending with
  | some b => simp
  | none =>
    cases hq : c.queue with
    | nil => simp
    | cons m q => simp [rest, hs, hq]

theorem isSendPending_none (mx : Nat) (c : SChan) (h : (isSendPending c).1.sending = none) :
    rest mx c = [] := by
  unfold isSendPending at h
  cases hs : c.sending with
  | some b => simp [hs] at h
  | none =>
    cases hq : c.queue with
    | nil => simp [rest, hs, hq]
    | cons m q => simp [hs, hq] at h

theorem nextPacketMsg_id (mx : Nat) (c : SChan) : (nextPacketMsg mx c).1.id = c.id := by
  unfold nextPacketMsg
  simp only
  split <;> rfl

theorem nextPacketMsg_chId (mx : Nat) (c : SChan) : (nextPacketMsg mx c).2.chId = (c.id : Int) := by
  unfold nextPacketMsg
  simp only
  split <;> rfl

theorem nextPacketMsg_len (mx : Nat) (c : SChan) : (nextPacketMsg mx c).2.data.length ≤ mx := by
  unfold nextPacketMsg
  simp only
  split <;> simp [List.length_take] <;> omega

theorem nextPacketMsg_rest (mx : Nat) (hmx : 0 < mx) (c : SChan) (b : Bytes) (hb : c.sending = some b) :
    rest mx c = ((nextPacketMsg mx c).2.eof, (nextPacketMsg mx c).2.data) :: rest mx (nextPacketMsg mx c).1 := by
  unfold nextPacketMsg
  simp only [hb, Option.getD_some]
  split
  · rename_i hle
    have : min mx b.length = b.length := by omega
    simp [rest, hb, this, packetize_unfold mx hmx b, hle]
  · rename_i hgt
    have : min mx b.length = mx := by omega
    simp [rest, hb, this, packetize_unfold mx hmx b, hgt]

theorem pending_nodup (s : Sender) (hn : (s.chans.map (·.id)).Nodup) :
    ((s.chans.map fun c => (isSendPending c).1).map (·.id)).Nodup :=
  (ids_map_eq _ _ fun x _ => isSendPending_id x).symm ▸ hn

theorem trySend_spec (s : Sender) (ch : Nat) (m : Bytes) (hn : (s.chans.map (·.id)).Nodup) :
    trySend s ch m = (s, false) ∨
    ∃ c ∈ s.chans, c.id = ch ∧ trySend s ch m =
      ({ s with chans := s.chans.map fun x =>
          if x.id = ch then { c with queue := c.queue ++ [m] } else x }, true) := by
  unfold trySend
  cases hf : s.chans.find? (·.id = ch) with
  | none => exact Or.inl rfl
  | some c =>
    have hcm : c ∈ s.chans := List.mem_of_find?_eq_some hf
    have hcid : c.id = ch := by simpa using List.find?_some hf
    by_cases hroom : c.queue.length < c.cap
    · exact Or.inr ⟨c, hcm, hcid, by simp only [trySendBytes, if_pos hroom]⟩
    · left
      subst hcid
      simp only [trySendBytes, if_neg hroom, upd_self s.chans hn c hcm]

/-- `sendPacketMsg` in terms of `cs`, the channels after its `isSendPending` pass -/
theorem sendPacketMsg_spec (s : Sender) (pick : Nat) (cs : List SChan)
    (hcs : cs = s.chans.map fun c => (isSendPending c).1) (hn : (cs.map (·.id)).Nodup) :
    (sendPacketMsg s pick = ({ s with chans := cs }, none) ∧ ∀ c ∈ cs, c.sending = none) ∨
    ∃ c ∈ cs, c.sending.isSome ∧ ((∃ y ∈ cs, y.sending.isSome ∧ y.id = pick) → c.id = pick) ∧
      sendPacketMsg s pick =
        ({ s with chans := cs.map fun x => if x.id = c.id then (nextPacketMsg s.maxSize c).1 else x },
          some (nextPacketMsg s.maxSize c).2) := by
  unfold sendPacketMsg
  simp only [← hcs]
  have hpend : ∀ y, y ∈ cs.filter (·.sending.isSome) ↔ y ∈ cs ∧ y.sending.isSome := fun y =>
    List.mem_filter
  cases hp : cs.filter (·.sending.isSome) with
  | nil =>
    refine Or.inl ⟨rfl, fun c hc => ?_⟩
    cases hh : c.sending with
    | none => rfl
    | some b => exact absurd ((hpend c).mpr ⟨hc, by rw [hh]; rfl⟩) (by rw [hp]; exact List.not_mem_nil)
  | cons c0 pend' =>
    simp only
    obtain ⟨y, hy, hyid, hypick⟩ : ∃ y ∈ c0 :: pend',
        y.id = (if (c0 :: pend').any (·.id = pick) then pick else c0.id) ∧
        ((c0 :: pend').any (·.id = pick) = true → y.id = pick) := by
      by_cases ha : (c0 :: pend').any (·.id = pick) = true
      · obtain ⟨y, hy, hyp⟩ := List.any_eq_true.mp ha
        exact ⟨y, hy, by rw [if_pos ha]; simpa using hyp, fun _ => by simpa using hyp⟩
      · exact ⟨c0, List.mem_cons_self, by rw [if_neg ha], fun h => absurd h ha⟩
    rw [← hyid]
    rw [← hp, hpend] at hy
    cases hf : cs.find? (·.id = y.id) with
    | none => exact absurd (List.find?_eq_none.mp hf y hy.1) (by simp)
    | some c =>
      have hcm : c ∈ cs := List.mem_of_find?_eq_some hf
      have hcid : c.id = y.id := by simpa using List.find?_some hf
      obtain rfl : c = y := eq_of_id cs hn c hcm y hy.1 hcid
      refine Or.inr ⟨c, hcm, hy.2, fun ⟨z, hz, hzs, hzid⟩ => hypick ?_, rfl⟩
      rw [← hp]
      exact List.any_eq_true.mpr ⟨z, (hpend z).mpr ⟨hz, hzs⟩, by simpa using hzid⟩

/-! ### runs of the sender -/

/-- the sender invariant: per channel, wire so far ++ what is still owed = packetisation of the
accepted messages (`streams`); `packets` is what a receiver's frame limit and channel lookup ask of
each packet on the wire -/
structure Run (mx : Nat) (ids : List Nat) (s : Sender) (t : Trace) : Prop where
  size : s.maxSize = mx
  chans : s.chans.map (·.id) = ids
  nodup : ids.Nodup
  streams : ∀ c ∈ s.chans, proj c.id t.wire ++ rest mx c =
    (delivered c.id t.acc).flatMap (packetize mx)
  packets : ∀ p ∈ t.wire, p.data.length ≤ mx ∧ ∃ i ∈ ids, p.chId = (i : Int)

theorem new_run (mx : Nat) (ds : List Desc) (hnd : (ds.map (·.id)).Nodup) :
    Run mx (ds.map (·.id)) (Sender.new mx ds) {} where
  size := rfl
  chans := by simp [Sender.new, SChan.new, Function.comp_def]
  nodup := hnd
  streams := by
    intro c hc
    obtain ⟨d, _, rfl⟩ := List.mem_map.mp hc
    rfl
  packets := fun _ hp => nomatch hp

variable {mx : Nat} {ids : List Nat} {s : Sender} {t : Trace}

/-- the `isSendPending` pass of `sendPacketMsg` -/
theorem Run.pending (h : Run mx ids s t) :
    Run mx ids { s with chans := s.chans.map fun c => (isSendPending c).1 } t where
  size := h.size
  chans := (ids_map_eq _ _ fun x _ => isSendPending_id x).trans h.chans
  nodup := h.nodup
  streams := by
    intro x hx
    obtain ⟨y, hy, rfl⟩ := List.mem_map.mp hx
    rw [isSendPending_id, isSendPending_rest]
    exact h.streams y hy
  packets := h.packets

/-- an accepted `TrySend` -/
theorem Run.accept (h : Run mx ids s t) (c : SChan) (hc : c ∈ s.chans) (m : Bytes) :
    Run mx ids
      { s with chans := s.chans.map fun x => if x.id = c.id then { c with queue := c.queue ++ [m] } else x }
      { t with acc := t.acc ++ [(c.id, m)] } where
  size := h.size
  chans := (ids_upd s.chans { c with queue := c.queue ++ [m] } c.id rfl).trans h.chans
  nodup := h.nodup
  streams := by
    intro x hx
    show _ = (delivered x.id (t.acc ++ [(c.id, m)])).flatMap (packetize mx)
    rw [delivered_append, delivered_cons, List.flatMap_append]
    rcases mem_upd _ _ _ _ hx with rfl | ⟨hx, hne⟩
    · rw [if_pos rfl, ← h.streams c hc]
      simp [rest, delivered]
    · rw [if_neg (Ne.symm hne), ← h.streams x hx]
      simp [delivered]
  packets := h.packets

/-- one packet of a pending channel goes to the wire -/
theorem Run.advance (h : Run mx ids s t) (hmx : 0 < mx) (c : SChan) (hc : c ∈ s.chans) (b : Bytes)
    (hb : c.sending = some b) :
    Run mx ids
      { s with chans := s.chans.map fun x => if x.id = c.id then (nextPacketMsg mx c).1 else x }
      { t with wire := t.wire ++ [(nextPacketMsg mx c).2] } where
  size := h.size
  chans := (ids_upd _ _ _ (nextPacketMsg_id mx c)).trans h.chans
  nodup := h.nodup
  streams := by
    intro x hx
    show proj x.id (t.wire ++ [(nextPacketMsg mx c).2]) ++ _ = _
    rw [proj_append, proj_cons, nextPacketMsg_chId]
    rcases mem_upd _ _ _ _ hx with rfl | ⟨hx, hne⟩
    · rw [nextPacketMsg_id, if_pos rfl, ← h.streams c hc, nextPacketMsg_rest mx hmx c b hb]
      simp [proj]
    · rw [if_neg (by omega), ← h.streams x hx]
      simp [proj]
  packets := by
    intro p hp
    rcases List.mem_append.mp hp with hp | hp
    · exact h.packets p hp
    · obtain rfl := List.mem_singleton.mp hp
      exact ⟨nextPacketMsg_len mx c, c.id, h.chans ▸ List.mem_map.mpr ⟨c, hc, rfl⟩, nextPacketMsg_chId mx c⟩

theorem Run.step (h : Run mx ids s t) (hmx : 0 < mx) (op : SOp) :
    Run mx ids (runOp s t op).1 (runOp s t op).2 := by
  cases op with
  | send ch m =>
    rcases trySend_spec s ch m (h.chans ▸ h.nodup) with h1 | ⟨c, hc, rfl, h1⟩
    · simp only [runOp, h1, Bool.false_eq_true, if_false]
      exact h
    · simp only [runOp, h1, if_true]
      exact h.accept c hc m
  | step pick =>
    have hp := h.pending
    rcases sendPacketMsg_spec s pick _ rfl (pending_nodup s (h.chans ▸ h.nodup)) with ⟨h1, _⟩ | ⟨c, hc, hs, _, h1⟩
    · simp only [runOp, h1]
      exact hp
    · obtain ⟨b, hb⟩ := Option.isSome_iff_exists.mp hs
      obtain rfl := h.size
      simp only [runOp, h1]
      exact hp.advance hmx c hc b hb

theorem Run.steps (hmx : 0 < mx) (ops : List SOp) :
    ∀ {s : Sender} {t : Trace}, Run mx ids s t → Run mx ids (runOps s t ops).1 (runOps s t ops).2 := by
  induction ops with
  | nil => exact fun h => h
  | cons op ops ih => exact fun h => ih (h.step hmx op)

theorem Run.stream (h : Run mx ids s t) (i : Nat) (hi : i ∈ ids) :
    ∃ c ∈ s.chans, c.id = i ∧
      proj i t.wire ++ rest mx c = (delivered i t.acc).flatMap (packetize mx) := by
  obtain ⟨c, hc, rfl⟩ := List.mem_map.mp (h.chans ▸ hi)
  exact ⟨c, hc, rfl, h.streams c hc⟩

theorem Run.sInv (h : Run mx ids s t) : SInv s t :=
  ⟨h.chans ▸ h.nodup, fun c hc => h.size ▸ h.streams c hc⟩

/-! ### packet sizes -/

theorem varintLenF_mono : ∀ (f a b : Nat), a ≤ b → varintLenF f a ≤ varintLenF f b := by
  intro f
  induction f with
  | zero => intro a b _; exact Nat.le_refl _
  | succ n ih =>
    intro a b hab
    simp only [varintLenF]
    by_cases ha : a < 128
    · simp only [ha, if_true]
      split <;> omega
    · have hb : ¬ b < 128 := by omega
      simp only [ha, hb, if_false]
      have := ih (a / 128) (b / 128) (Nat.div_le_div_right hab)
      omega

theorem varintLen_mono (a b : Nat) (h : a ≤ b) : varintLen a ≤ varintLen b :=
  varintLenF_mono 10 a b h

theorem packetSize_mono {ch ch' n n' : Nat} {eof eof' : Bool} (hch : ch ≤ ch')
    (heof : eof = true → eof' = true) (hn : n ≤ n') :
    packetSize ch eof n ≤ packetSize ch' eof' n' := by
  have h1 : (if ch = 0 then 0 else 1 + varintLen ch) ≤ (if ch' = 0 then 0 else 1 + varintLen ch') := by
    have := varintLen_mono ch ch' hch
    split <;> split <;> omega
  have h2 : (if eof = true then 2 else 0) ≤ (if eof' = true then 2 else 0) := by
    cases eof
    · exact Nat.zero_le _
    · rw [heof rfl]; exact Nat.le_refl _
  have h3 : (if n = 0 then 0 else 1 + varintLen n + n) ≤ (if n' = 0 then 0 else 1 + varintLen n' + n') := by
    have := varintLen_mono n n' hn
    split <;> split <;> omega
  have := varintLen_mono _ _ (Nat.add_le_add (Nat.add_le_add h1 h2) h3)
  show 1 + varintLen _ + _ ≤ 1 + varintLen _ + _
  omega

/-- every packet the sender can build (channel id a byte, at most `mx` data bytes) fits the
receiver's frame limit -/
theorem packetSize_le (ch : Nat) (eof : Bool) (n mx : Nat) (hch : ch ≤ 255) (hn : n ≤ mx) :
    packetSize ch eof n ≤ maxPacketMsgSize mx :=
  packetSize_mono hch (fun _ => rfl) hn

/-- the frame length the sending side declares for a packet (spelled out as a `fun` in the statements
of Props/C17) -/
def frameLen (p : PacketMsg) : Nat := packetSize p.chId.toNat p.eof p.data.length

theorem new_find (mx : Nat) (ds : List Desc) (id : Nat) (c : RChan)
    (h : (Receiver.new mx ds).chans.find? (·.id = id) = some c) :
    ∃ d ∈ ds, d.id = id ∧ c = RChan.new d := by
  obtain ⟨d, hd, rfl⟩ := List.mem_map.mp (List.mem_of_find?_eq_some h)
  have hid : (RChan.new d).id = id := by simpa using List.find?_some h
  exact ⟨d, hd, hid, rfl⟩

theorem new_find_isSome (mx : Nat) (ds : List Desc) (d : Desc) (hd : d ∈ ds) :
    ((Receiver.new mx ds).chans.find? (·.id = d.id)).isSome := by
  rw [List.find?_isSome]
  exact ⟨RChan.new d, List.mem_map.mpr ⟨d, hd, rfl⟩, by simp [RChan.new]⟩

/-- A fresh receiver fed with ANY BEGINNING `got` of what a sender run has put on the wire (the link
may have been cut anywhere) is still up and has delivered, per channel, a beginning of the accepted
messages — all of them once the sender owes nothing and nothing was cut off. -/
theorem Run.delivery {ds : List Desc} (h : Run mx (ds.map (·.id)) s t) (hmx : 0 < mx)
    (hbyte : ∀ d ∈ ds, d.id ≤ 255) (got cut : List PacketMsg) (hpre : t.wire = got ++ cut)
    (hcap : ∀ d ∈ ds, ∀ m ∈ delivered d.id t.acc, m.length ≤ d.fillDefaults.recvMessageCapacity) :
    (recvAll (Receiver.new mx ds) (msgFrames frameLen got)).1.stopped = none ∧
    ∀ d ∈ ds,
      (∃ more, delivered d.id t.acc =
        delivered d.id (recvAll (Receiver.new mx ds) (msgFrames frameLen got)).2 ++ more) ∧
      (idle s → cut = [] →
        delivered d.id (recvAll (Receiver.new mx ds) (msgFrames frameLen got)).2 = delivered d.id t.acc) := by
  have hrecv := recv_streams mx hmx (Receiver.new mx ds) frameLen (fun id => delivered id t.acc) got rfl
    (by
      intro p hp
      obtain ⟨hlen, i, hi, hpi⟩ := h.packets p (by rw [hpre]; exact List.mem_append_left _ hp)
      obtain ⟨d, hd, rfl⟩ := List.mem_map.mp hi
      have hb := hbyte d hd
      rw [frameLen, hpi]
      exact ⟨packetSize_le _ _ _ _ hb hlen, by omega, by omega, new_find_isSome mx ds d hd⟩)
    (by
      intro id c hc
      obtain ⟨d, hd, rfl, rfl⟩ := new_find mx ds id c hc
      obtain ⟨cs, _, _, hst⟩ := h.stream d.id (List.mem_map.mpr ⟨d, hd, rfl⟩)
      rw [hpre, proj_append, List.append_assoc] at hst
      exact ⟨rfl, ⟨_, hst⟩, hcap d hd⟩)
  refine ⟨hrecv.1, fun d hd => ?_⟩
  obtain ⟨c, hc⟩ := Option.isSome_iff_exists.mp (new_find_isSome mx ds d hd)
  refine ⟨(hrecv.2 d.id c hc).1, fun hidle hcut => ((hrecv.2 d.id c hc).2 ?_).1⟩
  obtain ⟨cs, hcs, _, hst⟩ := h.stream d.id (List.mem_map.mpr ⟨d, hd, rfl⟩)
  rw [hpre, hcut, List.append_nil, ← h.size, hidle cs hcs, List.append_nil] at hst
  rw [← h.size]
  exact hst

/-! ### fairness of the send routine -/

/-- a pending channel that is picked is served: `sendPacketMsg` with `pick = c.id` emits a packet
of channel `c` whenever `c` still owes the wire something -/
theorem step_pick_serves (s : Sender) (hn : (s.chans.map (·.id)).Nodup) (c : SChan) (hc : c ∈ s.chans)
    (hne : rest s.maxSize c ≠ []) :
    ∃ p, (sendPacketMsg s c.id).2 = some p ∧ p.chId = (c.id : Int) := by
  have hc' : (isSendPending c).1 ∈ s.chans.map fun c => (isSendPending c).1 :=
    List.mem_map.mpr ⟨c, hc, rfl⟩
  have hpend : (isSendPending c).1.sending.isSome := by
    cases hh : (isSendPending c).1.sending with
    | some b => rfl
    | none => exact absurd (isSendPending_none _ c hh) hne
  rcases sendPacketMsg_spec s c.id _ rfl (pending_nodup s hn) with
    ⟨_, hall⟩ | ⟨c1, _, _, hpick, h1⟩
  · rw [hall _ hc'] at hpend
    cases hpend
  · rw [h1]
    exact ⟨_, rfl, by rw [nextPacketMsg_chId, hpick ⟨_, hc', hpend, isSendPending_id c⟩]⟩

/-- how often the send routine's choice falls on channel `id` in an op sequence -/
def picksOf (id : Nat) : List SOp → Nat
  | [] => 0
  | .step p :: ops => (if p = id then 1 else 0) + picksOf id ops
  | .send _ _ :: ops => picksOf id ops

/-- one op only appends to the wire and to the accepted log -/
theorem runOp_grows (s : Sender) (t : Trace) (op : SOp) :
    ∃ w a, (runOp s t op).2 = { wire := t.wire ++ w, acc := t.acc ++ a } := by
  cases op with
  | send ch m =>
    simp only [runOp]
    split
    · exact ⟨[], [(ch, m)], by simp⟩
    · exact ⟨[], [], by simp⟩
  | step pick =>
    simp only [runOp]
    split
    · rename_i p _
      exact ⟨[p], [], by simp⟩
    · exact ⟨[], [], by simp⟩

theorem runOps_grows (ops : List SOp) : ∀ (s : Sender) (t : Trace),
    ∃ w a, (runOps s t ops).2 = { wire := t.wire ++ w, acc := t.acc ++ a } := by
  induction ops with
  | nil => exact fun s t => ⟨[], [], by simp [runOps]⟩
  | cons op ops ih =>
    intro s t
    obtain ⟨w1, a1, h1⟩ := runOp_grows s t op
    obtain ⟨w2, a2, h2⟩ := ih (runOp s t op).1 (runOp s t op).2
    exact ⟨w1 ++ w2, a1 ++ a2, by rw [runOps, h2, h1]; simp⟩

/-- Of the packets of the messages accepted so far on channel `id`, as many are on the wire after
`ops` as were there before plus the number of times the choice fell on `id` — or all `k` asked for. -/
theorem picked_packets_on_wire (hmx : 0 < mx) (id : Nat) (hid : id ∈ ids) (k : Nat) :
    ∀ (ops : List SOp) (s : Sender) (t : Trace), Run mx ids s t →
      k ≤ ((delivered id t.acc).flatMap (packetize mx)).length →
      k ≤ (proj id t.wire).length + picksOf id ops →
      k ≤ (proj id (runOps s t ops).2.wire).length := by
  intro ops
  induction ops with
  | nil => exact fun s t _ _ hlen => hlen
  | cons op ops ih =>
    intro s t h hacc hlen
    obtain ⟨w, a, hgrow⟩ := runOp_grows s t op
    have hw : (proj id t.wire).length ≤ (proj id (runOp s t op).2.wire).length := by
      rw [hgrow, proj_append, List.length_append]
      omega
    refine ih _ _ (h.step hmx op) ?_ ?_
    · rw [hgrow, delivered_append, List.flatMap_append, List.length_append]
      omega
    cases op with
    | send ch m => exact Nat.le_trans hlen (Nat.add_le_add_right hw _)
    | step pick =>
      simp only [picksOf] at hlen
      by_cases hdone : pick = id ∧ (proj id t.wire).length < k
      · -- the channel still owes one of the `k` packets: it is served
        obtain ⟨rfl, hlt⟩ := hdone
        obtain ⟨c, hc, rfl, hst⟩ := h.stream pick hid
        have hne : rest s.maxSize c ≠ [] := by
          intro hnil
          rw [h.size] at hnil
          rw [← hst, hnil, List.append_nil] at hacc
          omega
        obtain ⟨p, hp1, hp2⟩ := step_pick_serves s (h.chans ▸ h.nodup) c hc hne
        simp only [runOp, hp1, proj_append, proj_cons, if_pos hp2, proj_nil, List.length_append,
          List.length_cons, List.length_nil, if_true] at hlen ⊢
        omega
      · split at hlen <;> omega

/-! ### peer level -/

/-- what a switch's reactor sees: every arriving `(peer, bytes)` decoded by a function of THOSE
bytes (a fresh message object per delivery) -/
def hubDeliver {α : Type} (decode : Bytes → α) (arrivals : List (Nat × Bytes)) : List (Nat × α) :=
  arrivals.map fun a => (a.1, decode a.2)

/-! ### the least-ratio choice -/

/-- ratios `a/p ≥ b/q > c/r`, cross-multiplied -/
theorem frac_step (a p b q c r : Nat) (hp : 0 < p) (hq : 0 < q)
    (h1 : b * p ≤ a * q) (h2 : c * q < b * r) : c * p < a * r := by
  have e1 : c * q * p < b * r * p := (Nat.mul_lt_mul_right hp).mpr h2
  have e2 : b * p * r ≤ a * q * r := Nat.mul_le_mul_right r h1
  have e3 : c * p * q < a * r * q := by
    have : c * p * q = c * q * p := by rw [Nat.mul_right_comm]
    have : b * r * p = b * p * r := by rw [Nat.mul_right_comm]
    have : a * q * r = a * r * q := by rw [Nat.mul_right_comm]
    omega
  exact (Nat.mul_lt_mul_right hq).mp e3

/-- the fold started at `b` ends at a member `d` that is no worse than `b` (what does not beat `b` does
not beat `d`) and that nothing in `l` beats -/
theorem pickLeast_loop : ∀ (l : List PCh) (b : PCh), 0 < b.prio → (∀ x ∈ l, 0 < x.prio) →
    ∃ d, l.foldl (fun best ch =>
        match best with
        | none => some ch
        | some b => if better ch b then some ch else some b) (some b) = some d ∧
      d ∈ b :: l ∧ (∀ x, 0 < x.prio → ¬ better x b = true → ¬ better x d = true) ∧
      ∀ x ∈ l, ¬ better x d = true := by
  intro l
  induction l with
  | nil => exact fun b _ _ => ⟨b, rfl, List.mem_cons_self, fun _ _ h => h, nofun⟩
  | cons ch l ih =>
    intro b hb hl
    have hch := hl ch List.mem_cons_self
    simp only [List.foldl_cons]
    by_cases hbet : better ch b = true
    · rw [if_pos hbet]
      obtain ⟨d, hd, hm, hmono, hmin⟩ := ih ch hch fun x hx => hl x (List.mem_cons_of_mem _ hx)
      refine ⟨d, hd, List.mem_cons_of_mem _ hm, fun x hx hxb => hmono x hx ?_,
        List.forall_mem_cons.mpr ⟨hmono _ hch (by simp [better]), hmin⟩⟩
      simp only [better, decide_eq_true_eq, Nat.not_lt] at hxb hbet ⊢
      exact Nat.le_of_lt (frac_step _ _ _ _ _ _ hx hb hxb hbet)
    · rw [if_neg hbet]
      obtain ⟨d, hd, hm, hmono, hmin⟩ := ih b hb fun x hx => hl x (List.mem_cons_of_mem _ hx)
      refine ⟨d, hd, ?_, hmono, List.forall_mem_cons.mpr ⟨hmono _ hch hbet, hmin⟩⟩
      rcases List.mem_cons.mp hm with rfl | h
      · exact List.mem_cons_self
      · exact List.mem_cons_of_mem _ (List.mem_cons_of_mem _ h)

/-- `pickLeast` finds nothing only in an empty list; what it returns is a pending channel that no
pending channel beats strictly -/
theorem pickLeast_spec (l : List PCh) (hl : ∀ x ∈ l, 0 < x.prio) :
    (l = [] ∧ pickLeast l = none) ∨
    ∃ d, pickLeast l = some d ∧ d ∈ l ∧ ∀ x ∈ l, ¬ better x d = true := by
  cases l with
  | nil => exact Or.inl ⟨rfl, rfl⟩
  | cons a l =>
    obtain ⟨d, hd, hm, hmono, hmin⟩ := pickLeast_loop l a (hl a List.mem_cons_self)
      fun x hx => hl x (List.mem_cons_of_mem _ hx)
    exact Or.inr ⟨d, hd, hm, List.forall_mem_cons.mpr
      ⟨hmono a (hl a List.mem_cons_self) (by simp [better]), hmin⟩⟩

/-- how many more times channel `x` can be chosen before `c`: `x` is chosen ahead of `c` only while
`ratio_x ≤ ratio_c`, i.e. `x.recentlySent ≤ c.recentlySent * x.prio / c.prio`, and every choice
adds at least one byte to `x.recentlySent` -/
def owe (c x : PCh) : Nat :=
  if x.id = c.id then 0 else c.recentlySent * x.prio / c.prio + 1 - x.recentlySent

/-- bound on the number of send steps a pending channel `c` can be passed over -/
def waitBound (c : PCh) (chans : List PCh) : Nat := (chans.map (owe c)).sum

/-- the channels chosen by a run of send steps -/
def picks : List PCh → List ((Nat → Bool) × Nat) → List (Option Nat)
  | _, [] => []
  | chans, s :: rest => (schedStep chans s.1 s.2).2 :: picks (schedStep chans s.1 s.2).1 rest

theorem sum_map_le {α : Type} (f g : α → Nat) : ∀ (l : List α), (∀ x ∈ l, g x ≤ f x) →
    (l.map g).sum ≤ (l.map f).sum
  | [], _ => Nat.le_refl _
  | a :: as, h => by
    have := h a List.mem_cons_self
    have := sum_map_le f g as fun x hx => h x (List.mem_cons_of_mem _ hx)
    simp only [List.map_cons, List.sum_cons]
    omega

theorem sum_map_lt {α : Type} (f g : α → Nat) : ∀ (l : List α), (∀ x ∈ l, g x ≤ f x) →
    (∃ d ∈ l, g d + 1 ≤ f d) → (l.map g).sum + 1 ≤ (l.map f).sum
  | [], _, ⟨_, hd, _⟩ => nomatch hd
  | a :: as, hle, ⟨d, hd, hlt⟩ => by
    have ha := hle a List.mem_cons_self
    have hrest : ∀ x ∈ as, g x ≤ f x := fun x hx => hle x (List.mem_cons_of_mem _ hx)
    simp only [List.map_cons, List.sum_cons]
    rcases List.mem_cons.mp hd with rfl | h
    · have := sum_map_le f g as hrest
      omega
    · have := sum_map_lt f g as hrest ⟨d, h, hlt⟩
      omega

/-- one send step that passes over the pending channel `c` lowers `waitBound` -/
theorem step_lowers_bound (chans : List PCh) (c : PCh) (hc : c ∈ chans) (hprio : ∀ x ∈ chans, 0 < x.prio)
    (pending : Nat → Bool) (n : Nat) (hp : pending c.id = true) (hn : 1 ≤ n) :
    (schedStep chans pending n).2 = some c.id ∨
    (waitBound c (schedStep chans pending n).1 + 1 ≤ waitBound c chans ∧
      c ∈ (schedStep chans pending n).1 ∧ (∀ x ∈ (schedStep chans pending n).1, 0 < x.prio)) := by
  unfold schedStep
  have hcf : c ∈ chans.filter fun x => pending x.id := List.mem_filter.mpr ⟨hc, hp⟩
  rcases pickLeast_spec _ (fun x hx => hprio x (List.mem_filter.mp hx).1) with
    ⟨hnil, _⟩ | ⟨d, hpk, hdm, hmin⟩
  · rw [hnil] at hcf
    cases hcf
  rw [hpk]
  simp only
  by_cases hdc : d.id = c.id
  · left; rw [hdc]
  · right
    have hdchans : d ∈ chans := (List.mem_filter.mp hdm).1
    have hcd := hmin c hcf
    simp only [better, decide_eq_true_eq, Nat.not_lt] at hcd
    have hle : d.recentlySent ≤ c.recentlySent * d.prio / c.prio :=
      (Nat.le_div_iff_mul_le (hprio c hc)).mpr hcd
    unfold creditSent
    refine ⟨?_, ?_, ?_⟩
    · unfold waitBound
      rw [List.map_map]
      apply sum_map_lt
      · intro x _
        simp only [Function.comp]
        split
        · unfold owe; simp only; split <;> omega
        · exact Nat.le_refl _
      · refine ⟨d, hdchans, ?_⟩
        simp only [Function.comp, if_true, owe, hdc, if_false]
        omega
    · exact List.mem_map.mpr ⟨c, hc, if_neg fun h => hdc h.symm⟩
    · intro x hx
      obtain ⟨y, hy, rfl⟩ := List.mem_map.mp hx
      split <;> exact hprio y hy

/-- `sendPacketMsg`'s least-ratio rule is FAIR with a computable bound: a channel `c` that stays
pending is chosen within `waitBound c chans + 1` send steps, whatever the other channels have
pending and however large their packets are -/
theorem bounded_wait (c : PCh) : ∀ (steps : List ((Nat → Bool) × Nat)) (chans : List PCh),
    c ∈ chans → (∀ x ∈ chans, 0 < x.prio) → (∀ s ∈ steps, s.1 c.id = true ∧ 1 ≤ s.2) →
    some c.id ∉ picks chans steps → steps.length ≤ waitBound c chans := by
  intro steps
  induction steps with
  | nil => intro _ _ _ _ _; exact Nat.zero_le _
  | cons s rest ih =>
    intro chans hc hprio hst hno
    simp only [picks, List.mem_cons, not_or] at hno
    obtain ⟨hp, hn⟩ := hst s (by simp)
    rcases step_lowers_bound chans c hc hprio s.1 s.2 hp hn with h | ⟨h1, h2, h3⟩
    · exact absurd h.symm hno.1
    · have := ih _ h2 h3 (fun t ht => hst t (by simp [ht])) hno.2
      simp only [List.length_cons]
      omega

/-! ### frames in a byte stream -/

/-- what the composition needs of the frame codec (uvarint length prefix + protobuf in the code):
a frame followed by anything splits off exactly that frame; a strict prefix of a frame (the
stream was cut inside it) is not a frame yet -/
structure Framing (encF : PacketMsg → Bytes) (splitF : Bytes → Option (PacketMsg × Bytes)) : Prop where
  split_enc : ∀ p rest, splitF (encF p ++ rest) = some (p, rest)
  split_short : ∀ p b, b <+: encF p → b ≠ encF p → splitF b = none
  enc_nonempty : ∀ p, encF p ≠ []

/-- the frames `recvRoutine` gets out of the bytes it could read -/
def parseFrames (splitF : Bytes → Option (PacketMsg × Bytes)) : Nat → Bytes → List PacketMsg
  | 0, _ => []
  | f+1, b =>
    match splitF b with
    | none => []
    | some (p, rest) => p :: parseFrames splitF f rest

/-- a beginning of `x ++ y` stops inside `x`, or is `x` followed by a beginning of `y` -/
theorem prefix_append_cases {α : Type} {b x y : List α} (h : b <+: x ++ y) :
    (b <+: x ∧ b.length < x.length) ∨ ∃ r, x ++ r = b ∧ r <+: y := by
  by_cases hlen : b.length < x.length
  · exact Or.inl ⟨List.prefix_of_prefix_length_le h (List.prefix_append _ _) (Nat.le_of_lt hlen), hlen⟩
  · obtain ⟨r, rfl⟩ := List.prefix_of_prefix_length_le (List.prefix_append _ _) h (by omega)
    exact Or.inr ⟨r, rfl, (List.prefix_append_right_inj _).mp h⟩

theorem parse_prefix (encF : PacketMsg → Bytes) (splitF : Bytes → Option (PacketMsg × Bytes))
    (hf : Framing encF splitF) :
    ∀ (W : List PacketMsg) (b : Bytes) (fuel : Nat), b.length < fuel → b <+: W.flatMap encF →
      ∃ rest, W = parseFrames splitF fuel b ++ rest ∧ (b = W.flatMap encF → rest = []) := by
  -- `[]` is a strict prefix of any frame
  have hnil : splitF [] = none :=
    hf.split_short ⟨0, false, []⟩ [] List.nil_prefix fun h => hf.enc_nonempty _ h.symm
  intro W
  induction W with
  | nil =>
    intro b fuel hfuel hb
    obtain rfl := List.prefix_nil.mp hb
    obtain ⟨f, rfl⟩ : ∃ f, fuel = f + 1 := ⟨fuel - 1, by omega⟩
    exact ⟨[], by simp [parseFrames, hnil], fun _ => rfl⟩
  | cons p W ih =>
    intro b fuel hfuel hb
    obtain ⟨f, rfl⟩ : ∃ f, fuel = f + 1 := ⟨fuel - 1, by omega⟩
    rw [List.flatMap_cons] at hb ⊢
    rcases prefix_append_cases hb with ⟨hpre, hlen⟩ | ⟨b', rfl, hb'⟩
    · -- cut inside the first frame
      have hne : b ≠ encF p := fun h => by rw [h] at hlen; omega
      refine ⟨p :: W, by simp [parseFrames, hf.split_short p b hpre hne], fun h => ?_⟩
      rw [h, List.length_append] at hlen
      omega
    · -- the first frame is complete
      have hl : 0 < (encF p).length := List.length_pos_iff.mpr (hf.enc_nonempty p)
      obtain ⟨rest, hr, hall⟩ := ih b' f (by rw [List.length_append] at hfuel; omega) hb'
      refine ⟨rest, ?_, fun h => hall (List.append_cancel_left h)⟩
      simp only [parseFrames, hf.split_enc p b', List.cons_append]
      rw [← hr]

theorem parse_full (encF : PacketMsg → Bytes) (splitF : Bytes → Option (PacketMsg × Bytes))
    (hf : Framing encF splitF) (W : List PacketMsg) (fuel : Nat) (h : (W.flatMap encF).length < fuel) :
    parseFrames splitF fuel (W.flatMap encF) = W := by
  obtain ⟨rest, hr, hall⟩ := parse_prefix encF splitF hf W _ fuel h (List.prefix_refl _)
  rw [hall rfl, List.append_nil] at hr
  exact hr.symm

/-! a concrete frame codec satisfying `Framing` (unary length prefix; for non-vacuity only) -/

def natU (n : Nat) : Bytes := List.replicate n 1 ++ [0]

def readU : Bytes → Option (Nat × Bytes)
  | [] => none
  | b :: r => if b = 0 then some (0, r) else if b = 1 then (readU r).map fun x => (x.1 + 1, x.2) else none

theorem readU_natU (n : Nat) (r : Bytes) : readU (natU n ++ r) = some (n, r) := by
  induction n with
  | zero => simp [natU, readU]
  | succ k ih =>
    have : natU (k + 1) ++ r = 1 :: (natU k ++ r) := by simp [natU, List.replicate_succ]
    rw [this]
    simp [readU, ih]

theorem readU_cut : ∀ (n : Nat) (b : Bytes), b <+: natU n → b ≠ natU n → readU b = none
  | _, [], _, _ => rfl
  | 0, x :: xs, hb, hne => by
    obtain ⟨rfl, hxs⟩ := List.cons_prefix_cons.mp hb
    exact absurd (by rw [List.prefix_nil.mp hxs]; rfl) hne
  | k + 1, x :: xs, hb, hne => by
    obtain ⟨rfl, hxs⟩ := List.cons_prefix_cons.mp hb
    simp [readU, readU_cut k xs hxs fun h => hne (by rw [h]; rfl)]

def payloadOf (p : PacketMsg) : Bytes :=
  natU (if p.chId < 0 then 1 else 0) ++ natU p.chId.natAbs ++ natU (if p.eof then 1 else 0) ++ p.data

def decPayload (b : Bytes) : Option PacketMsg := do
  let (s, r1) ← readU b
  let (a, r2) ← readU r1
  let (e, r3) ← readU r2
  pure { chId := if s = 1 then -(a : Int) else (a : Int), eof := e = 1, data := r3 }

theorem decPayload_payloadOf (p : PacketMsg) : decPayload (payloadOf p) = some p := by
  obtain ⟨ch, eof, data⟩ := p
  unfold decPayload payloadOf
  simp only [List.append_assoc]
  by_cases h : ch < 0
  · cases eof <;> simp [h, readU_natU] <;> omega
  · cases eof <;> simp [h, readU_natU] <;> omega

def toyEncF (p : PacketMsg) : Bytes := natU (payloadOf p).length ++ payloadOf p

def toySplitF (b : Bytes) : Option (PacketMsg × Bytes) :=
  match readU b with
  | none => none
  | some (n, r) =>
    if r.length < n then none
    else (decPayload (r.take n)).map fun p => (p, r.drop n)

theorem toy_framing : Framing toyEncF toySplitF := by
  refine ⟨?_, ?_, ?_⟩
  · intro p rest
    unfold toySplitF toyEncF
    rw [List.append_assoc, readU_natU]
    simp [decPayload_payloadOf]
  · intro p b hb hne
    unfold toySplitF
    unfold toyEncF at hb hne
    rcases prefix_append_cases hb with ⟨hpre, hlen⟩ | ⟨r, rfl, hr⟩
    · -- cut inside the length prefix
      have : b ≠ natU (payloadOf p).length := fun h => by rw [h] at hlen; omega
      rw [readU_cut _ b hpre this]
    · -- cut inside the payload: fewer bytes follow than the prefix announces
      have hlt : r.length < (payloadOf p).length := by
        have := hr.length_le
        have : r.length ≠ (payloadOf p).length := fun h => hne (by rw [hr.eq_of_length h])
        omega
      rw [readU_natU]
      simp [hlt]
  · intro p h
    unfold toyEncF natU at h
    simp at h

end Tmv.MConn
