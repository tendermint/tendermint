import Tmv.Lemmas.Merkle
import Tmv.Model.TxProof
/-! Completeness of Merkle proofs: the aunts `trailsFromByteSlices` generates for position `i` recompute
the root (`fromAunts_auntsF`, for any sufficient fuel), so `proofOf` verifies and `Txs.Proof(i)` validates
against `Txs.Hash()`. Nothing is assumed about `H`. -/
namespace Tmv.Merkle
variable (H : Bytes → Bytes)

/-- Completeness at the level of `computeHashFromAunts`: generated aunts recompute the root. -/
theorem fromAunts_auntsF :
    ∀ (fuel : Nat) (items : List Bytes) (i : Nat) (hi : i < items.length),
      items.length ≤ fuel →
      fromAunts H fuel i items.length (leafHash H (items[i]?.getD [])) (auntsF H fuel items i)
        = some (rootF H fuel items) := by
  intro fuel
  induction fuel with
  | zero => intro items i hi hle; omega
  | succ f ih =>
    intro items i hi hle
    by_cases h2 : 2 ≤ items.length
    · obtain ⟨hk0, hk⟩ := splitPoint_lt h2
      have hnot : ¬ (i ≥ items.length ∨ items.length = 0) := by omega
      have hn1 : ¬ items.length = 1 := by omega
      rw [rootF_node H f h2, auntsF_node H f h2, fromAunts, if_neg hnot, if_neg hn1]
      by_cases hlt : i < splitPoint items.length
      · have htl : (items.take (splitPoint items.length)).length = splitPoint items.length := by
          simp; omega
        have := ih (items.take (splitPoint items.length)) i (by rw [htl]; exact hlt) (by rw [htl]; omega)
        rw [htl, List.getElem?_take_of_lt hlt] at this
        simp only [hlt, if_true, List.reverse_append, List.reverse_cons, List.reverse_nil,
          List.nil_append, List.singleton_append, List.reverse_reverse, this]
        rfl
      · have hdl : (items.drop (splitPoint items.length)).length = items.length - splitPoint items.length :=
          List.length_drop
        have := ih (items.drop (splitPoint items.length)) (i - splitPoint items.length)
          (by rw [hdl]; omega) (by rw [hdl]; omega)
        rw [hdl, List.getElem?_drop, show splitPoint items.length + (i - splitPoint items.length) = i by omega]
          at this
        simp only [hlt, if_false, List.reverse_append, List.reverse_cons, List.reverse_nil,
          List.nil_append, List.singleton_append, List.reverse_reverse, this]
        rfl
    · obtain ⟨x, rfl⟩ := List.length_eq_one_iff.mp (show items.length = 1 by omega)
      obtain rfl : i = 0 := by simpa using hi
      simp [fromAunts, auntsF, rootF]

/-- the proof built for position `i` recomputes the root -/
theorem computeRoot_proofOf (items : List Bytes) (i : Nat) (hi : i < items.length) :
    computeRoot H (proofOf H items i) = some (root H items) := by
  have hc := fromAunts_auntsF H items.length items i hi (Nat.le_refl _)
  rw [← List.getD_eq_getElem?_getD] at hc
  exact (computeRoot_eq_some H).mpr ⟨by simp [proofOf], by simp [proofOf]; omega, by simpa [proofOf, root] using hc⟩

end Tmv.Merkle

namespace Tmv.TxProof
open Tmv.Merkle
variable (H : Bytes → Bytes)

/-- `Txs.Proof(i)` validates against `Txs.Hash()`. -/
theorem proofFor_validates (txs : List Bytes) (i : Nat) (hi : i < txs.length) :
    validate H (txsHash H txs) (proofFor H txs i) = .ok () := by
  have hi' : i < (txs.map H).length := by simpa using hi
  have hv : verify H (root H (txs.map H)) (H (txs.getD i [])) (proofOf H (txs.map H) i) = .ok () :=
    (verify_ok H).mpr
      ⟨by simp [proofOf, List.getD_eq_getElem?_getD, hi], computeRoot_proofOf H _ i hi'⟩
  have h1 : ¬ ((proofOf H (txs.map H) i).index < 0) := by simp [proofOf]
  have h2 : ¬ ((proofOf H (txs.map H) i).total ≤ 0) := by
    simp only [proofOf, List.length_map]; omega
  unfold validate proofFor txsHash
  simp only [ne_eq, not_true_eq_false, if_false, h1, h2]
  rw [hv]

end Tmv.TxProof
