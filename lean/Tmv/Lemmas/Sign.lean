import Tmv.Model.Sign
/-! The signer machine (`Tmv.Sign.step`): `checkHRS` in terms of the order on (height, round, step);
`Move`: what one event (request, micro-step, crash) does to state file, memory copy and journal; the
invariant `Inv` (state file and journal are sorted, and what holds at each point of a call), `SInv`
(every signature is the key's) and "the state file never goes back", each one case analysis over `Move`;
and what one whole call on an idle signer answers. -/
namespace Tmv.Sign

variable {Sig : Type}

theorem hrsLt_irrefl (a : Int × Int × Int) : ¬ hrsLt a a := by
  unfold hrsLt; omega

theorem hrsLt_trans {a b c : Int × Int × Int} (h1 : hrsLt a b) (h2 : hrsLt b c) : hrsLt a c := by
  unfold hrsLt at *; omega

theorem hrsLe_refl (a : Int × Int × Int) : hrsLe a a := Or.inr rfl

theorem hrsLe_of_lt {a b : Int × Int × Int} (h : hrsLt a b) : hrsLe a b := Or.inl h

theorem hrsLe_lt_trans {a b c : Int × Int × Int} (h1 : hrsLe a b) (h2 : hrsLt b c) : hrsLt a c := by
  rcases h1 with h | h
  · exact hrsLt_trans h h2
  · subst h; exact h2

theorem hrsLe_trans {a b c : Int × Int × Int} (h1 : hrsLe a b) (h2 : hrsLe b c) : hrsLe a c := by
  rcases h2 with h | h
  · exact Or.inl (hrsLe_lt_trans h1 h)
  · subst h; exact h1

theorem hrsLt_ne {a b : Int × Int × Int} (h : hrsLt a b) : a ≠ b := by
  intro e; subst e; exact hrsLt_irrefl _ h

theorem hrs_trichotomy (a b : Int × Int × Int) : hrsLt a b ∨ a = b ∨ hrsLt b a := by
  obtain ⟨a1, a2, a3⟩ := a
  obtain ⟨b1, b2, b3⟩ := b
  unfold hrsLt
  simp only [Prod.mk.injEq]
  omega

theorem stepOfTyp_proposal : stepOfTyp proposalType = stepPropose := by decide

/-- the sign bytes of a request carry the request's height, round and step -/
theorem hrsOf_signBytes {q : Req} {st : Int} {sb : SB} (h1 : reqStep q = some st)
    (h2 : signBytes q = some sb) : hrsOf sb = (q.h, q.r, st) := by
  unfold signBytes at h2
  unfold reqStep at h1
  split at h2
  · cases hk : q.kind <;> simp only [hk] at h1 h2
    · -- vote
      injection h2 with h2; subst h2
      simp only [hrsOf, stepOfTyp]
      split at h1
      · injection h1 with h1; subst h1; simp [*]
      · rename_i hn
        split at h1
        · rename_i hp
          injection h1 with h1; subst h1
          have hne : ¬ precommitType = prevoteType := fun hh => hn (hp.trans hh)
          simp [hp, hne]
        · cases h1
    · injection h2 with h2; subst h2
      injection h1 with h1; subst h1
      simp only [hrsOf, stepOfTyp_proposal]
  · cases h2

theorem checkHRS_of_lt {l : LSS Sig} {h r st : Int} (hlt : hrsLt (lssHRS l) (h, r, st)) :
    checkHRS l h r st = .fresh := by
  unfold hrsLt lssHRS at hlt
  simp only at hlt
  unfold checkHRS
  rcases hlt with h1 | ⟨h1, h2 | ⟨h2, h3⟩⟩
  · rw [if_neg (by omega), if_neg (by omega)]
  · rw [if_neg (by omega), if_pos h1, if_neg (by omega), if_neg (by omega)]
  · rw [if_neg (by omega), if_pos h1, if_neg (by omega), if_pos h2, if_neg (by omega), if_neg (by omega)]

/-- regression: a request strictly below the last sign state is refused -/
theorem checkHRS_regression {l : LSS Sig} {h r st : Int} (hlt : hrsLt (h, r, st) (lssHRS l)) :
    ∃ e, checkHRS l h r st = .err e := by
  unfold hrsLt lssHRS at hlt
  simp only at hlt
  unfold checkHRS
  rcases hlt with h1 | ⟨h1, h2 | ⟨h2, h3⟩⟩
  · exact ⟨_, if_pos h1⟩
  · rw [if_neg (by omega), if_pos h1.symm]
    exact ⟨_, if_pos h2⟩
  · rw [if_neg (by omega), if_pos h1.symm, if_neg (by omega), if_pos h2.symm]
    exact ⟨_, if_pos h3⟩

theorem checkHRS_of_eq {l : LSS Sig} {h r st : Int} (he : lssHRS l = (h, r, st)) :
    checkHRS l h r st = match l.sb with
      | some _ => (match l.sig with | none => .panic | some _ => .same)
      | none => .err .noSignBytes := by
  unfold lssHRS at he
  simp only [Prod.mk.injEq] at he
  obtain ⟨h1, h2, h3⟩ := he
  unfold checkHRS
  rw [if_neg (by omega), if_pos h1, if_neg (by omega), if_pos h2, if_neg (by omega), if_pos h3]
  cases l.sb with
  | none => rfl
  | some s => cases l.sig <;> rfl

theorem checkHRS_fresh {l : LSS Sig} {h r st : Int} (hc : checkHRS l h r st = .fresh) :
    hrsLt (lssHRS l) (h, r, st) := by
  rcases hrs_trichotomy (lssHRS l) (h, r, st) with h1 | h1 | h1
  · exact h1
  · rw [checkHRS_of_eq h1] at hc
    split at hc
    · split at hc <;> cases hc
    · cases hc
  · obtain ⟨e, he⟩ := checkHRS_regression h1
    rw [he] at hc; cases hc

theorem checkHRS_same {l : LSS Sig} {h r st : Int} (hc : checkHRS l h r st = .same) :
    lssHRS l = (h, r, st) ∧ ∃ s g, l.sb = some s ∧ l.sig = some g := by
  rcases hrs_trichotomy (lssHRS l) (h, r, st) with h1 | h1 | h1
  · rw [checkHRS_of_lt h1] at hc; cases hc
  · refine ⟨h1, ?_⟩
    rw [checkHRS_of_eq h1] at hc
    split at hc
    · split at hc
      · cases hc
      · exact ⟨_, _, ‹_›, ‹_›⟩
    · cases hc
  · obtain ⟨e, he⟩ := checkHRS_regression h1
    rw [he] at hc; cases hc

theorem checkHRS_eq_same {l : LSS Sig} {h r st : Int} {s : SB} {g : Sig}
    (hh : lssHRS l = (h, r, st)) (hs : l.sb = some s) (hg : l.sig = some g) :
    checkHRS l h r st = .same := by
  rw [checkHRS_of_eq hh, hs, hg]

theorem eqModTs_refl (a : SB) : eqModTs a a = true := by simp [eqModTs]

theorem eqModTs_symm {a b : SB} (h : eqModTs a b = true) : eqModTs b a = true := by
  simp only [eqModTs, decide_eq_true_eq] at *
  exact h.symm

theorem eqModTs_trans {a b c : SB} (h1 : eqModTs a b = true) (h2 : eqModTs b c = true) :
    eqModTs a c = true := by
  simp only [eqModTs, decide_eq_true_eq] at *
  exact h1.trans h2

/-- equal modulo timestamp: all other fields equal (in particular the block id) -/
theorem eqModTs_fields {a b : SB} (h : eqModTs a b = true) :
    a.typ = b.typ ∧ a.h = b.h ∧ a.r = b.r ∧ a.pol = b.pol ∧ a.bid = b.bid ∧ a.chain = b.chain := by
  simp only [eqModTs, decide_eq_true_eq] at h
  injection h with h1 h2 h3 h4 h5 _ h7
  exact ⟨h1, h2, h3, h4, h5, h7⟩

theorem eqModTs_hrs {a b : SB} (h : eqModTs a b = true) : hrsOf a = hrsOf b := by
  obtain ⟨h1, h2, h3, _⟩ := eqModTs_fields h
  simp [hrsOf, h1, h2, h3]

/-- the stored sign bytes belong to the stored height/round/step -/
def WF (l : LSS Sig) : Prop := ∀ s, l.sb = some s → hrsOf s = lssHRS l

def PcInv (disk mem : LSS Sig) : Pc Sig → Prop
  | .idle => mem = disk
  | .checked q h r st sb =>
    mem = disk ∧ hrsLt (lssHRS disk) (h, r, st) ∧ hrsOf sb = (h, r, st) ∧ q = sb
  | .inflight .sigDone q h r st sb _ =>
    mem = disk ∧ hrsLt (lssHRS disk) (h, r, st) ∧ hrsOf sb = (h, r, st) ∧ q = sb
  | .inflight .memSet q h r st sb sig =>
    mem = ⟨h, r, st, some sig, some sb⟩ ∧ hrsLt (lssHRS disk) (h, r, st) ∧ hrsOf sb = (h, r, st) ∧ q = sb
  | .inflight .tmpWritten q h r st sb sig =>
    mem = ⟨h, r, st, some sig, some sb⟩ ∧ hrsLt (lssHRS disk) (h, r, st) ∧ hrsOf sb = (h, r, st) ∧ q = sb
  | .inflight .renamed q h r st sb sig =>
    mem = disk ∧ disk = ⟨h, r, st, some sig, some sb⟩ ∧ hrsOf sb = (h, r, st) ∧ q = sb
  | .reusing q sb sig =>
    mem = disk ∧ disk.sb = some sb ∧ disk.sig = some sig ∧ eqModTs sb q = true

def Under (e : Rel Sig) (k : Int × Int × Int) (sb : Option SB) (sig : Option Sig) : Prop :=
  hrsLt (hrsOf e.sb) k ∨ (hrsOf e.sb = k ∧ sb = some e.sb ∧ sig = some e.sig)

theorem Under.le {e : Rel Sig} {k : Int × Int × Int} {sb : Option SB} {sig : Option Sig} (h : Under e k sb sig) :
    hrsLe (hrsOf e.sb) k :=
  h.elim Or.inl (fun h => Or.inr h.1)

theorem Under.eq {e : Rel Sig} {k : Int × Int × Int} {sb : Option SB} {sig : Option Sig} (h : Under e k sb sig)
    (hk : hrsOf e.sb = k) : sb = some e.sb ∧ sig = some e.sig :=
  h.elim (fun hlt => absurd hk (hrsLt_ne hlt)) (fun h => h.2)

/-- the state file followed by the journal (newest first) is sorted by height/round/step, and where two of
them agree on it they are the same message with the same signature; every released message is the
request up to its timestamp -/
structure JInv (disk : LSS Sig) (rel : List (Rel Sig)) : Prop where
  disk : ∀ e ∈ rel, Under e (lssHRS disk) disk.sb disk.sig
  sorted : rel.Pairwise (fun newer older => Under older (hrsOf newer.sb) (some newer.sb) (some newer.sig))
  req : ∀ e ∈ rel, eqModTs e.sb e.req = true

theorem JInv.release {disk : LSS Sig} {rel : List (Rel Sig)} {q sb : SB} {sig : Sig} (hwf : WF disk)
    (hj : JInv disk rel) (hsb : disk.sb = some sb) (hsig : disk.sig = some sig) (hq : eqModTs sb q = true) :
    JInv disk (⟨q, sb, sig⟩ :: rel) := by
  have hh : hrsOf sb = lssHRS disk := hwf sb hsb
  have hd := hj.disk
  rw [← hh, hsb, hsig] at hd
  refine ⟨?_, List.Pairwise.cons hd hj.sorted, ?_⟩
  · intro e he
    rcases List.mem_cons.1 he with rfl | he
    · exact Or.inr ⟨hh, hsb, hsig⟩
    · exact hj.disk e he
  · intro e he
    rcases List.mem_cons.1 he with rfl | he
    · exact hq
    · exact hj.req e he

theorem JInv.commit {disk disk' : LSS Sig} {rel : List (Rel Sig)} (hj : JInv disk rel)
    (hlt : hrsLt (lssHRS disk) (lssHRS disk')) : JInv disk' rel :=
  ⟨fun e he => Or.inl (hrsLe_lt_trans (hj.disk e he).le hlt), hj.sorted, hj.req⟩

/-- released answers for one height/round/step are identical -/
theorem JInv.consistent {disk : LSS Sig} {rel : List (Rel Sig)} (hj : JInv disk rel) :
    ∀ e1 ∈ rel, ∀ e2 ∈ rel, hrsOf e1.sb = hrsOf e2.sb → e1.sb = e2.sb ∧ e1.sig = e2.sig := by
  intro e1 h1 e2 h2
  refine List.Pairwise.forall_of_forall_of_flip
    (R := fun a b : Rel Sig => hrsOf a.sb = hrsOf b.sb → a.sb = b.sb ∧ a.sig = b.sig)
    (fun _ _ _ => ⟨rfl, rfl⟩) (hj.sorted.imp ?_) (hj.sorted.imp ?_) h1 h2
  · intro a b h hk
    obtain ⟨x, y⟩ := h.eq hk.symm
    exact ⟨Option.some.inj x, Option.some.inj y⟩
  · intro a b h hk
    obtain ⟨x, y⟩ := h.eq hk
    exact ⟨(Option.some.inj x).symm, (Option.some.inj y).symm⟩

structure Inv (c : Cfg Sig) : Prop where
  wf : WF c.disk
  j : JInv c.disk c.rel
  pc : PcInv c.disk c.mem c.pc

theorem inv_init {l : LSS Sig} (h : WF l) : Inv (init l) :=
  { wf := h, j := ⟨(by intro e he; cases he), List.Pairwise.nil, (by intro e he; cases he)⟩, pc := rfl }

theorem Inv.idle {c : Cfg Sig} (hi : Inv c) (h : c.pc = .idle) : ∃ disk rel, c = ⟨disk, disk, .idle, rel⟩ := by
  obtain ⟨disk, mem, pc, rel⟩ := c
  cases h
  exact ⟨disk, rel, by rw [show mem = disk from hi.pc]⟩

/-- what the first micro-step of a call can do: refuse (error / panic, nothing changes), start a
fresh signature (only strictly above the last sign state), or decide to reuse the stored one -/
theorem begin_spec (c : Cfg Sig) (q : Req) :
    ((begin c q).1 = c ∧ ((∃ e, (begin c q).2 = .err e) ∨ (begin c q).2 = .panic)) ∨
    (∃ st sb, reqStep q = some st ∧ signBytes q = some sb ∧ checkHRS c.mem q.h q.r st = .fresh ∧
      begin c q = ({ c with pc := .checked sb q.h q.r st sb }, .none)) ∨
    (∃ st sb lsb lsig, reqStep q = some st ∧ signBytes q = some sb ∧
      checkHRS c.mem q.h q.r st = .same ∧ c.mem.sb = some lsb ∧ c.mem.sig = some lsig ∧
      eqModTs lsb sb = true ∧ begin c q = ({ c with pc := .reusing sb lsb lsig }, .none)) := by
  unfold begin
  cases hst : reqStep q with
  | none => exact Or.inl ⟨rfl, Or.inr rfl⟩
  | some st =>
    simp only
    cases hchk : checkHRS c.mem q.h q.r st with
    | err e => exact Or.inl ⟨rfl, Or.inl ⟨_, rfl⟩⟩
    | panic => exact Or.inl ⟨rfl, Or.inr rfl⟩
    | fresh =>
      cases hsb : signBytes q with
      | none => exact Or.inl ⟨rfl, Or.inr rfl⟩
      | some sb => exact Or.inr (Or.inl ⟨st, sb, rfl, rfl, hchk, rfl⟩)
    | same =>
      cases hsb : signBytes q with
      | none => exact Or.inl ⟨rfl, Or.inr rfl⟩
      | some sb =>
        obtain ⟨_, lsb, lsig, hlsb, hlsig⟩ := checkHRS_same hchk
        simp only [hlsb, hlsig]
        by_cases heq : sb = lsb
        · rw [if_pos heq]
          exact Or.inr (Or.inr ⟨st, sb, lsb, lsig, rfl, rfl, hchk, rfl, rfl, heq ▸ eqModTs_refl _, rfl⟩)
        · rw [if_neg heq]
          by_cases hts : eqModTs lsb sb = true
          · rw [if_pos hts]
            exact Or.inr (Or.inr ⟨st, sb, lsb, lsig, rfl, rfl, hchk, rfl, rfl, hts, rfl⟩)
          · rw [if_neg hts]
            exact Or.inl ⟨rfl, Or.inl ⟨_, rfl⟩⟩

/-- What one event does to state file, memory copy, point of the call and journal. The micro-steps are the
points of `signVote`/`signProposal` (`privval/file.go`) at which something visible changes. -/
inductive Move (sigOf : SB → Sig) : Cfg Sig → Cfg Sig → Prop
  /-- a refused request, a request while a call is in progress, a micro-step with no call in progress -/
  | stay (c) : Move sigOf c c
  | crash (c) : Move sigOf c { c with mem := c.disk, pc := .idle }
  /-- `CheckHRS` said (false, nil) and the sign bytes are there -/
  | check {d m rel} {q : Req} {st sb} : reqStep q = some st → signBytes q = some sb →
      checkHRS m q.h q.r st = .fresh → Move sigOf ⟨d, m, .idle, rel⟩ ⟨d, m, .checked sb q.h q.r st sb, rel⟩
  /-- `CheckHRS` said (true, nil) and the request is the stored message up to its timestamp: signature
  (and timestamp) are taken from the last sign state -/
  | reuse {d m rel q lsb lsig} : m.sb = some lsb → m.sig = some lsig → eqModTs lsb q = true →
      Move sigOf ⟨d, m, .idle, rel⟩ ⟨d, m, .reusing q lsb lsig, rel⟩
  /-- `pv.Key.PrivKey.Sign(signBytes)` -/
  | sign {d m rel q h r st sb} :
      Move sigOf ⟨d, m, .checked q h r st sb, rel⟩ ⟨d, m, .inflight .sigDone q h r st sb (sigOf sb), rel⟩
  /-- `saveSigned` assigns the five fields of `pv.LastSignState` -/
  | setMem {d m rel q h r st sb sig} :
      Move sigOf ⟨d, m, .inflight .sigDone q h r st sb sig, rel⟩
        ⟨d, ⟨h, r, st, some sig, some sb⟩, .inflight .memSet q h r st sb sig, rel⟩
  /-- `WriteFileAtomic` up to the closed temp file -/
  | writeTmp {d m rel q h r st sb sig} :
      Move sigOf ⟨d, m, .inflight .memSet q h r st sb sig, rel⟩ ⟨d, m, .inflight .tmpWritten q h r st sb sig, rel⟩
  /-- `os.Rename(tmp, stateFile)`: the only event that writes the state file -/
  | rename {d m rel q h r st sb sig} :
      Move sigOf ⟨d, m, .inflight .tmpWritten q h r st sb sig, rel⟩ ⟨m, m, .inflight .renamed q h r st sb sig, rel⟩
  /-- the call returns: the only event that adds to the journal -/
  | release {d m rel q sb sig} {pc : Pc Sig} :
      (pc = .reusing q sb sig ∨ ∃ h r st, pc = .inflight .renamed q h r st sb sig) →
      Move sigOf ⟨d, m, pc, rel⟩ ⟨d, m, .idle, ⟨q, sb, sig⟩ :: rel⟩

theorem step_move (sigOf : SB → Sig) (c : Cfg Sig) (e : Ev) : Move sigOf c (step sigOf c e).1 := by
  obtain ⟨d, m, pc, rel⟩ := c
  cases e with
  | crash => exact .crash _
  | req q =>
    cases pc with
    | idle =>
      rcases begin_spec (Sig := Sig) ⟨d, m, .idle, rel⟩ q with ⟨h, _⟩ | ⟨st, sb, hst, hsb, hchk, h⟩ |
          ⟨st, sb, lsb, lsig, _, _, _, hlsb, hlsig, hts, h⟩
      all_goals show Move sigOf _ (begin _ q).1; rw [h]
      · exact .stay _
      · exact .check hst hsb hchk
      · exact .reuse hlsb hlsig hts
    | _ => exact .stay _
  | tick =>
    cases pc with
    | idle => exact .stay _
    | checked => exact .sign
    | reusing => exact .release (Or.inl rfl)
    | inflight stg =>
      cases stg with
      | sigDone => exact .setMem
      | memSet => exact .writeTmp
      | tmpWritten => exact .rename
      | renamed => exact .release (Or.inr ⟨_, _, _, rfl⟩)

theorem inv_move {sigOf : SB → Sig} {c c' : Cfg Sig} (m : Move sigOf c c') (hi : Inv c) : Inv c' := by
  obtain ⟨hwf, hj, hpc⟩ := hi
  cases m with
  | stay => exact ⟨hwf, hj, hpc⟩
  | crash => exact ⟨hwf, hj, rfl⟩
  | check hst hsb hchk =>
    have hmd : _ = _ := hpc
    exact ⟨hwf, hj, ⟨hmd, hmd ▸ checkHRS_fresh hchk, hrsOf_signBytes hst hsb, rfl⟩⟩
  | reuse hlsb hlsig hts =>
    have hmd : _ = _ := hpc
    exact ⟨hwf, hj, ⟨hmd, hmd ▸ hlsb, hmd ▸ hlsig, hts⟩⟩
  | sign => exact ⟨hwf, hj, hpc⟩
  | setMem => exact ⟨hwf, hj, ⟨rfl, hpc.2⟩⟩
  | writeTmp => exact ⟨hwf, hj, hpc⟩
  | rename =>
    obtain ⟨rfl, h2, h3, h4⟩ := hpc
    exact ⟨fun s hs => by cases hs; exact h3, hj.commit h2, ⟨rfl, rfl, h3, h4⟩⟩
  | release hp =>
    rcases hp with rfl | ⟨h, r, st, rfl⟩
    · obtain ⟨h1, h2, h3, h4⟩ := hpc
      exact ⟨hwf, hj.release hwf h2 h3 h4, h1⟩
    · obtain ⟨h1, h2, h3, rfl⟩ := hpc
      have hsb : _ = some _ := congrArg LSS.sb h2
      have hsig : _ = some _ := congrArg LSS.sig h2
      exact ⟨hwf, hj.release hwf hsb hsig (eqModTs_refl _), h1⟩

theorem inv_run (sigOf : SB → Sig) {c : Cfg Sig} (hi : Inv c) (es : List Ev) : Inv (run sigOf c es) := by
  induction es generalizing c with
  | nil => exact hi
  | cons e es ih => exact ih (inv_move (step_move sigOf _ e) hi)

/-! Second invariant: every released signature is the key's signature of the released message
(needs an honest state file to start from, `SigOK`, where `Inv` needs a well-formed one, `WF`). -/

/-- the stored signature is the signature of the stored sign bytes -/
def SigOK (sigOf : SB → Sig) (l : LSS Sig) : Prop :=
  ∀ s g, l.sb = some s → l.sig = some g → g = sigOf s

def PcSig (sigOf : SB → Sig) : Pc Sig → Prop
  | .inflight _ _ _ _ _ sb sig => sig = sigOf sb
  | .reusing _ sb sig => sig = sigOf sb
  | _ => True

structure SInv (sigOf : SB → Sig) (c : Cfg Sig) : Prop where
  disk : SigOK sigOf c.disk
  mem : SigOK sigOf c.mem
  pc : PcSig sigOf c.pc
  rel : ∀ e ∈ c.rel, e.sig = sigOf e.sb

theorem sinv_init (sigOf : SB → Sig) {l : LSS Sig} (h : SigOK sigOf l) : SInv sigOf (init l) :=
  { disk := h, mem := h, pc := trivial, rel := (by intro e he; cases he) }

theorem sinv_move {sigOf : SB → Sig} {c c' : Cfg Sig} (m : Move sigOf c c') (hi : SInv sigOf c) :
    SInv sigOf c' := by
  obtain ⟨hd, hm, hp, hr⟩ := hi
  cases m with
  | stay => exact ⟨hd, hm, hp, hr⟩
  | crash => exact ⟨hd, hd, trivial, hr⟩
  | check => exact ⟨hd, hm, trivial, hr⟩
  | reuse hlsb hlsig => exact ⟨hd, hm, hm _ _ hlsb hlsig, hr⟩
  | sign => exact ⟨hd, hm, rfl, hr⟩
  | setMem => exact ⟨hd, fun s g hs hg => by cases hs; cases hg; exact hp, hp, hr⟩
  | writeTmp => exact ⟨hd, hm, hp, hr⟩
  | rename => exact ⟨hm, hm, hp, hr⟩
  | release h =>
    refine ⟨hd, hm, trivial, fun e he => ?_⟩
    rcases List.mem_cons.1 he with rfl | he
    · rcases h with rfl | ⟨_, _, _, rfl⟩ <;> exact hp
    · exact hr e he

theorem sinv_run (sigOf : SB → Sig) {c : Cfg Sig} (hi : SInv sigOf c) (es : List Ev) :
    SInv sigOf (run sigOf c es) := by
  induction es generalizing c with
  | nil => exact hi
  | cons e es ih => exact ih (sinv_move (step_move sigOf _ e) hi)

/-- the state file never goes back -/
theorem disk_move_le {sigOf : SB → Sig} {c c' : Cfg Sig} (m : Move sigOf c c') (hi : Inv c) :
    hrsLe (lssHRS c.disk) (lssHRS c'.disk) := by
  cases m with
  | rename => obtain ⟨rfl, h2, _⟩ := hi.pc; exact hrsLe_of_lt h2
  | _ => exact hrsLe_refl _

theorem run_append (sigOf : SB → Sig) (c : Cfg Sig) (es es' : List Ev) :
    run sigOf c (es ++ es') = run sigOf (run sigOf c es) es' := by
  induction es generalizing c with
  | nil => rfl
  | cons e es ih => exact ih _

theorem ticks_idle (sigOf : SB → Sig) (n : Nat) (disk mem : LSS Sig) (rel : List (Rel Sig)) (o : Out Sig) :
    ticks sigOf n ⟨disk, mem, .idle, rel⟩ o = (⟨disk, mem, .idle, rel⟩, o) := by
  cases n <;> rfl

def Reach (sigOf : SB → Sig) (c c' : Cfg Sig) : Prop := ∃ es, c' = run sigOf c es

theorem Reach.refl {sigOf : SB → Sig} (c : Cfg Sig) : Reach sigOf c c := ⟨[], rfl⟩

theorem Reach.step {sigOf : SB → Sig} (c : Cfg Sig) (e : Ev) : Reach sigOf c (step sigOf c e).1 := ⟨[e], rfl⟩

theorem Reach.trans {sigOf : SB → Sig} {a b c : Cfg Sig} (h1 : Reach sigOf a b) (h2 : Reach sigOf b c) :
    Reach sigOf a c := by
  obtain ⟨e1, rfl⟩ := h1
  obtain ⟨e2, rfl⟩ := h2
  exact ⟨e1 ++ e2, (run_append sigOf a e1 e2).symm⟩

theorem ticks_reach (sigOf : SB → Sig) (n : Nat) (c : Cfg Sig) (o : Out Sig) :
    Reach sigOf c (ticks sigOf n c o).1 := by
  induction n generalizing c o with
  | zero => exact .refl c
  | succ n ih =>
    unfold ticks
    split
    · exact .refl c
    · exact (Reach.step c .tick).trans (ih _ _)

theorem ticksHold_reach (sigOf : SB → Sig) (n : Nat) (c : Cfg Sig) : Reach sigOf c (ticksHold sigOf n c) := by
  induction n generalizing c with
  | zero => exact .refl c
  | succ n ih =>
    unfold ticksHold
    split
    · exact .refl c
    · exact .refl c
    · exact .refl c
    · exact (Reach.step c .tick).trans (ih _)

theorem hold_crash_reach (sigOf : SB → Sig) (n : Nat) (c : Cfg Sig) (q : Req) :
    Reach sigOf c (step sigOf (ticksHold sigOf n (step sigOf c (.req q)).1) .crash).1 :=
  ((Reach.step c (.req q)).trans (ticksHold_reach sigOf n _)).trans (.step _ .crash)

theorem call_reach (sigOf : SB → Sig) (c : Cfg Sig) (q : Req) (k : Option Nat) :
    Reach sigOf c (call sigOf c q k).1 := by
  cases k with
  | none => exact (Reach.step c (.req q)).trans (ticks_reach sigOf 8 _ _)
  | some k =>
    cases k with
    | zero => exact .step c .crash
    | succ k => exact hold_crash_reach sigOf k c q

theorem begin_err {c : Cfg Sig} {q : Req} {st : Int} {er : Err} (hst : reqStep q = some st)
    (hchk : checkHRS c.mem q.h q.r st = .err er) : begin c q = (c, .err er) := by
  simp only [begin, hst, hchk]

theorem call_refused (sigOf : SB → Sig) {disk mem : LSS Sig} {rel : List (Rel Sig)} {q : Req} {o : Out Sig}
    (h : begin ⟨disk, mem, .idle, rel⟩ q = (⟨disk, mem, .idle, rel⟩, o)) :
    call sigOf ⟨disk, mem, .idle, rel⟩ q none = (⟨disk, mem, .idle, rel⟩, o) := by
  simp only [call, step, h, ticks_idle]

theorem call_reusing (sigOf : SB → Sig) {disk mem : LSS Sig} {rel : List (Rel Sig)} {q : Req} {sb lsb : SB}
    {g : Sig} {o : Out Sig} (h : begin ⟨disk, mem, .idle, rel⟩ q = (⟨disk, mem, .reusing sb lsb g, rel⟩, o)) :
    call sigOf ⟨disk, mem, .idle, rel⟩ q none = (⟨disk, mem, .idle, ⟨sb, lsb, g⟩ :: rel⟩, .ok lsb g) := by
  simp only [call, step, h, ticks]

theorem call_fresh (sigOf : SB → Sig) (disk : LSS Sig) (rel : List (Rel Sig)) (q : Req) (st : Int) (sb : SB)
    (hst : reqStep q = some st) (hchk : checkHRS disk q.h q.r st = .fresh) (hsb : signBytes q = some sb) :
    call sigOf ⟨disk, disk, .idle, rel⟩ q none =
      (⟨⟨q.h, q.r, st, some (sigOf sb), some sb⟩, ⟨q.h, q.r, st, some (sigOf sb), some sb⟩, .idle,
        ⟨sb, sb, sigOf sb⟩ :: rel⟩, .ok sb (sigOf sb)) := by
  have hb : begin ⟨disk, disk, .idle, rel⟩ q = (⟨disk, disk, .checked sb q.h q.r st sb, rel⟩, .none) := by
    simp only [begin, hst, hchk, hsb]
  -- five micro-steps: sign, set the memory copy, write the temp file, rename, return
  simp only [call, step, hb, ticks]

theorem call_err (sigOf : SB → Sig) (disk : LSS Sig) (rel : List (Rel Sig)) (q : Req) (st : Int) (er : Err)
    (hst : reqStep q = some st) (hchk : checkHRS disk q.h q.r st = .err er) :
    call sigOf ⟨disk, disk, .idle, rel⟩ q none = (⟨disk, disk, .idle, rel⟩, .err er) :=
  call_refused sigOf (begin_err hst hchk)

theorem call_same (sigOf : SB → Sig) (disk : LSS Sig) (rel : List (Rel Sig)) (q : Req) (st : Int)
    (sb lsb : SB) (g : Sig)
    (hst : reqStep q = some st) (hchk : checkHRS disk q.h q.r st = .same) (hsb : signBytes q = some sb)
    (hl : disk.sb = some lsb) (hg : disk.sig = some g) :
    call sigOf ⟨disk, disk, .idle, rel⟩ q none =
      if eqModTs lsb sb = true then (⟨disk, disk, .idle, ⟨sb, lsb, g⟩ :: rel⟩, .ok lsb g)
      else (⟨disk, disk, .idle, rel⟩, .err .conflict) := by
  by_cases hts : eqModTs lsb sb = true
  · rw [if_pos hts]
    apply call_reusing (o := .none)
    simp only [begin, hst, hchk, hsb, hl, hg, hts]
    split <;> rfl
  · have hne : sb ≠ lsb := by
      intro h; subst h; exact hts (eqModTs_refl _)
    rw [if_neg hts]
    apply call_refused
    simp only [begin, hst, hchk, hsb, hl, hg, if_neg hne, if_neg hts]

theorem Inv.call_same {c : Cfg Sig} (hi : Inv c) (hidle : c.pc = .idle) (sigOf : SB → Sig) {q : Req} {st : Int}
    {sb lsb : SB} {g : Sig} (hst : reqStep q = some st) (hsb : signBytes q = some sb)
    (hl : c.disk.sb = some lsb) (hg : c.disk.sig = some g) (hh : hrsOf lsb = (q.h, q.r, st)) :
    call sigOf c q none =
      if eqModTs lsb sb = true then ({ c with rel := ⟨sb, lsb, g⟩ :: c.rel }, .ok lsb g)
      else (c, .err .conflict) := by
  obtain ⟨disk, rel, rfl⟩ := hi.idle hidle
  exact Sign.call_same sigOf disk rel q st sb lsb g hst
    (checkHRS_eq_same ((hi.wf lsb hl).symm.trans hh) hl hg) hsb hl hg

end Tmv.Sign
