import Tmv.Lemmas.GoodRoundInv
/-! `good_round_decides_node`: one node, one good round. The node has just entered round `r`
(propose step, nothing received for the round yet), is unlocked or locked on `b`; it is delivered
the complete valid proposal `b` of the round's proposer (without a POL round: `pol = -1`) and then —
in any interleaving of these votes, and nothing else: no other message, no timeout — the
prevotes for `b` of validators `Q1` and the precommits for `b` of validators `Q2`, where
`me :: Q1` and `me :: Q2` carry the quorum. The signer is a `MockPV` (`GoodStart.mock`: it never
refuses). Own messages go through the internal queue as in the
real receive routine (`Cons.step` = one input + drain). Then the node decides `b` in round `r` —
provided a precommit is left whose arrival the node notices (`hfresh`: no precommit majority of the
round is recorded yet, or the node's own precommit is not; without it the statement is false, see
`good_round_needs_fresh`). The invariant and its preservation are in `Lemmas/GoodRoundInv.lean`
(namespace `Tmv.Cons.GRI`).

(Why the proposal and the block come first: a block part that arrives before the node knows the
part-set header is dropped, and a proposal that arrives after the block — possible once a polka
made the header known — is only acted upon by the propose timeout; see
`Props.C03.block_before_header_is_lost` / `proposal_after_block_waits_for_timeout`.) -/
namespace Tmv.Cons

/-- the start of a good round at the node with validator index `me` -/
structure GoodStart (c : Cfg) (me : Nat) (s : NodeState) (r b : Nat) (Q1 Q2 : List Nat) : Prop where
  self : c.self = some me
  mock : c.checkHRS = false
  meLt : me < c.n
  live : s.halted = false ∧ s.decided = none
  round : s.round = r
  step : s.step = .propose
  noProp : s.proposal = none ∧ s.proposalBlock = none ∧ s.proposalParts = none ∧ s.partsDone = false
  queue : s.queue = []
  lock : s.lockedBlock = none ∨ s.lockedBlock = some b
  valid : c.valid b = true
  hvsRound : (r : Int) ≤ s.votes.round
  tracked : (s.votes.getVoteSet (r : Int) .prevote).isSome = true ∧
    (s.votes.getVoteSet (r : Int) .precommit).isSome = true
  wf : HVS.WF c s.votes
  notVoted : ∀ t x, Output.signVote t r x ∉ s.out
  clean1 : ∀ u, u ∈ me :: Q1 → s.votes.only (r : Int) .prevote (some b) u
  clean2 : ∀ u, u ∈ me :: Q2 → s.votes.only (r : Int) .precommit (some b) u
  q1 : (me :: Q1).Nodup ∧ (∀ u ∈ Q1, u < c.n) ∧ c.quorum ≤ ((me :: Q1).map c.power).sum
  q2 : (me :: Q2).Nodup ∧ (∀ u ∈ Q2, u < c.n) ∧ c.quorum ≤ ((me :: Q2).map c.power).sum

/-- the votes of type `t` for block `b` in round `r` of the validators `Q`, as inputs (each arrives
from the peer of its signer) -/
def goodVotes (r b : Nat) (t : VType) (Q : List Nat) : List Input :=
  Q.map fun u => Input.vote ⟨t, r, some b, u, true, u, u⟩ (1 + u)

/-! ### from the start of the round to the invariant of `Lemmas/GoodRoundInv.lean` -/
namespace GRI

theorem _root_.Tmv.Cons.GoodStart.gcfg {c : Cfg} {me : Nat} {s : NodeState} {r b : Nat} {Q1 Q2 : List Nat}
    (hs : GoodStart c me s r b Q1 Q2) : GCfg c me b Q1 Q2 :=
  ⟨hs.self, hs.mock, hs.meLt, hs.valid, hs.q1, hs.q2⟩

theorem _root_.Tmv.Cons.GoodStart.gv {c : Cfg} {me : Nat} {s : NodeState} {r b : Nat} {Q1 Q2 : List Nat}
    (hs : GoodStart c me s r b Q1 Q2) : GV c me r b Q1 Q2 s.votes :=
  ⟨hs.hvsRound, hs.tracked.1, hs.tracked.2, hs.wf, hs.clean1, hs.clean2⟩

/-- the node holds the complete proposal `b` of round `r` and is about to prevote -/
structure Ready (r b : Nat) (x : NodeState) : Prop where
  halted : x.halted = false
  undec : x.decided = none
  round : x.round = r
  step : x.step = .propose
  prop : ∃ p, x.proposal = some p ∧ p.pol < 0
  block : x.proposalBlock = some b
  parts : x.proposalParts = some b
  lock : x.lockedBlock = none ∨ x.lockedBlock = some b
  queue : x.queue = []

variable {c : Cfg} {me r b : Nat} {Q1 Q2 : List Nat}

/-- `enterPrevote` with the complete valid proposal: the prevote for `b` is signed and queued -/
theorem enterPrevote_start (g : GCfg c me b Q1 Q2) {x : NodeState} (hx : Ready r b x) :
    Same x (enterPrevote c x r) ∧ (enterPrevote c x r).step = .prevote ∧
    (enterPrevote c x r).lockedBlock = x.lockedBlock ∧
    (enterPrevote c x r).queue = [.vote (grVote .prevote r b me)] := by
  have hg : ¬ (r < x.round ∨ (x.round = r ∧ Step.prevote.rank ≤ x.step.rank)) := by
    rw [hx.round, hx.step]; simp [Step.rank]
  unfold enterPrevote
  simp only [hx.halted, Bool.false_eq_true, if_false, hg]
  rw [doPrevote_proposal_eq c x b hx.lock hx.block g.valid, signAddVote_mock c _ _ _ me hx.halted g.mock g.self]
  refine ⟨⟨?_, ?_, ?_, ?_, ?_, ?_, ?_⟩, ?_, ?_, ?_⟩ <;> simp [hx.round, hx.queue, grVote]

/-- the tail of `handleCompleteProposal`: prevote, and precommit at once if the polka is there -/
theorem ready_GR (g : GCfg c me b Q1 Q2) {x : NodeState} (hx : Ready r b x)
    (hv : GV c me r b Q1 Q2 x.votes) (hf : Fresh me r b x.votes) (m : Option Bid)
    (hm : m = maj23Of (x.votes.prevotes (r : Int))) :
    GR c me r b Q1 Q2 (if m.isSome = true then enterPrecommit c (enterPrevote c x r) r else enterPrevote c x r) ∧
    mu (if m.isSome = true then enterPrecommit c (enterPrevote c x r) r else enterPrevote c x r) ≤ 2 := by
  obtain ⟨e, e1, e2, e3⟩ := enterPrevote_start g hx
  have hs' : GS r b (enterPrevote c x r) :=
    ⟨e.halted.trans hx.halted, e.decided.trans hx.undec, e.round.trans hx.round, by rw [e1]; simp [Step.rank],
      by rw [e1]; simp [Step.rank], by rw [e.proposal]; exact hx.prop, e.block.trans hx.block, e.parts.trans hx.parts,
      by rw [e2]; exact hx.lock⟩
  have hv' : GV c me r b Q1 Q2 (enterPrevote c x r).votes := by rw [e.votes]; exact hv
  -- the prevote is queued; whatever follows it as `QStep` allows gives the invariant
  have key : ∀ y : NodeState, GS r b y → y.votes = (enterPrevote c x r).votes → PolkaDone r y →
      QStep me r b (enterPrevote c x r) y → GR c me r b Q1 Q2 y ∧ mu y ≤ 2 := by
    intro y h1 h2 h3 h4
    obtain ⟨f1, f2, f3, f4⟩ := h4.facts
    rw [e3] at f1 f2
    refine ⟨⟨h1, by rw [h2]; exact hv', h3, by rw [h2, e.votes]; exact hf, ?_, ?_⟩, ?_⟩
    · intro z hz
      rcases f2 z hz with hz | hz
      · exact ⟨.prevote, List.mem_singleton.mp hz⟩
      · exact ⟨.precommit, hz⟩
    · intro t ht
      cases t with
      | prevote => exact Or.inr (f1 _ (List.mem_singleton.mpr rfl))
      | precommit =>
        rcases f3 (ht rfl) with h6 | h6
        · rw [e1] at h6; simp [Step.rank] at h6
        · exact Or.inr h6
    · have : mu (enterPrevote c x r) = 2 := by unfold mu; rw [e3, e1]; simp [Step.rank]
      omega
  subst hm
  cases hm : maj23Of (x.votes.prevotes (r : Int)) with
  | none =>
    simp only [Option.isSome_none, Bool.false_eq_true, if_false]
    refine key _ hs' rfl ?_ (Or.inl ⟨rfl, Iff.rfl⟩)
    intro k hk
    rw [e.votes, hm] at hk; cases hk
  | some k =>
    simp only [Option.isSome_some, if_true]
    obtain ⟨a1, a2, a3, a4⟩ := enterPrecommit_GR g hs' hv' k (by rw [e.votes]; exact hm)
    exact key _ a1 a2 a3 a4

/-- `handleCompleteProposal` at a node that has just completed the proposal block -/
theorem handleCompleteProposal_GR (g : GCfg c me b Q1 Q2) {x : NodeState} (hx : Ready r b x)
    (hv : GV c me r b Q1 Q2 x.votes) (hf : Fresh me r b x.votes) :
    GR c me r b Q1 Q2 (handleCompleteProposal c x) ∧ mu (handleCompleteProposal c x) ≤ 2 := by
  rw [handleCompleteProposal_eq]
  generalize hy : validUpd x = y
  have hry : Ready r b y ∧ y.votes = x.votes := by
    subst hy
    rcases validUpd_cases x with e | e <;> rw [e]
    · exact ⟨hx, rfl⟩
    · exact ⟨⟨hx.halted, hx.undec, hx.round, hx.step, hx.prop, hx.block, hx.parts, hx.lock, hx.queue⟩, rfl⟩
  obtain ⟨hy1, hy2⟩ := hry
  have hcomp : isProposalComplete y = true := by
    obtain ⟨p, hp, hpol⟩ := hy1.prop
    exact isProposalComplete_of_noPol hp hpol hy1.block
  have hcond : y.step.rank ≤ Step.propose.rank ∧ isProposalComplete y = true := by
    rw [hy1.step]; exact ⟨Nat.le_refl _, hcomp⟩
  rw [if_pos hcond, hy1.round]
  have hr' : (enterPrevote c y r).round = r := (enterPrevote_start g hy1).1.round.trans hy1.round
  rw [hr', hx.round]
  exact ready_GR g hy1 (by rw [hy2]; exact hv) (by rw [hy2]; exact hf) _ (by rw [hy2])

/-- the node after it accepted the proposal `p` (no part-set header was known before) -/
def gotProposal (s : NodeState) (p : Proposal) : NodeState :=
  { s with proposal := some p, proposalParts := some p.bid, partsDone := false }

/-- … and after the block of `p` is complete, before `handleCompleteProposal` -/
def gotBlock (s : NodeState) (p : Proposal) : NodeState :=
  { s with proposal := some p, proposalParts := some p.bid, proposalBlock := some p.bid, partsDone := true }

/-- **any sequence of votes of the good round ends with the decision if every vote not recorded yet is still to
come**: at the end all are recorded and every own message is handled, which the invariant excludes -/
theorem run_GR_decides (g : GCfg c me b Q1 Q2) (L : List Input) : ∀ s : NodeState,
    (∀ i, i ∈ L → GoodIn c me r b Q1 Q2 i) →
    (∀ t, ∀ u ∈ Qs t Q1 Q2, s.votes.has (r : Int) t (some b) u ∨ Input.vote (grVote t r b u) (1 + u) ∈ L) →
    s.decided = some (b, (r : Int)) ∨ (GR c me r b Q1 Q2 s ∧ s.queue = []) →
    (run c s L).decided = some (b, (r : Int)) := by
  induction L with
  | nil =>
    exact fun s _ hD h => h.elim id fun h =>
      (h.1.final g h.2 fun t u hu => (hD t u hu).resolve_right List.not_mem_nil).elim
  | cons i L ih =>
    intro s hL hD h
    rcases h with h | ⟨h, hq⟩
    · rw [run_of_not_live c s _ (NodeState.not_live_of_decided h)]; exact h
    obtain ⟨t, u, hi, hu, hmem⟩ := hL i (List.mem_cons_self ..)
    subst hi
    rw [run_cons]
    rcases step_vote_GR g h hq t u hu hmem (1 + u) with d | ⟨d1, d2, d3⟩
    · rw [run_of_not_live c _ _ (NodeState.not_live_of_decided d)]; exact d
    refine ih _ (fun j hj => hL j (List.mem_cons_of_mem _ hj)) (fun t' u' hu' => ?_) (.inr ⟨d1, d2⟩)
    rcases hD t' u' hu' with x | x
    · exact .inl ((step_votes c s _).has x)
    · rcases List.mem_cons.mp x with e | e
      · injection e with e
        obtain ⟨e1, e2⟩ := grVote_inj e
        subst e1; subst e2
        exact .inl d3
      · exact .inr e

end GRI
open GRI

/-- **one node, one good round.** The hypothesis `hfresh` (no precommit majority of round `r` is
recorded yet, or the node's own precommit is not recorded yet) cannot be dropped: `GoodStart` allows a
start state whose round-`r` precommit set already holds the +2/3 majority for `b` with the precommits
of ALL of `me :: Q2` recorded. Then every precommit of the round (the node's own one included) is a
duplicate, `VoteSet.addVote` reports `added = false`, `afterPrecommit` (the only place that enters the
commit step) never runs, and the node ends in the precommit step, undecided (`good_round_needs_fresh`
below: `n = 1`, power 1, `me = 0`, `Q1 = Q2 = []`, `r = 0`, `b = 5`, start state = `NodeState.init`
in step propose whose round-0 precommit set holds validator 0's precommit for block 5). (Not proved
here: either half of `hfresh` should hold in every state a node reaches by itself, since a recorded
majority for a block makes it enter the commit step at once and its own precommit is only recorded
after it was signed; no proof reads `GoodStart.notVoted`.) -/
theorem good_round_decides_node (c : Cfg) (me : Nat) (s : NodeState) (r b : Nat) (Q1 Q2 : List Nat)
    (hs : GoodStart c me s r b Q1 Q2) (pr : Nat) (hpr : c.proposer s.valRound = pr ∧ pr < c.n)
    (hfresh : maj23Of (s.votes.precommits (r : Int)) = none ∨ ¬ s.votes.has (r : Int) .precommit (some b) me)
    (votes : List Input)
    (hperm : votes.Perm (goodVotes r b .prevote Q1 ++ goodVotes r b .precommit Q2)) :
    (run c s ([Input.proposal ⟨r, b, -1, pr⟩, Input.blockComplete b] ++ votes)).decided = some (b, (r : Int)) := by
  have g := hs.gcfg
  -- the proposal
  have e1 : step c s (.proposal ⟨r, b, -1, pr⟩) = gotProposal s ⟨r, b, -1, pr⟩ := by
    rw [step_of_live c s _ hs.live]
    show drain c drainFuel (setProposal c s ⟨r, b, -1, pr⟩) = _
    have hset : setProposal c s ⟨r, b, -1, pr⟩ = gotProposal s ⟨r, b, -1, pr⟩ := by
      rw [setProposal_accepted_eq c s _ hs.noProp.1 hs.round.symm (by show ¬ ((-1 : Int) < -1 ∨ ((-1 : Int) ≥ 0 ∧ (-1 : Int) ≥ (r : Int))); omega) ⟨hpr.1.symm, hpr.2⟩,
        if_pos (by rw [hs.noProp.2.2.1]; rfl)]
      rfl
    rw [hset]
    exact drain_nil _ _ hs.queue
  -- the block
  have hx : Ready r b (gotBlock s ⟨r, b, -1, pr⟩) :=
    ⟨hs.live.1, hs.live.2, hs.round, hs.step, ⟨_, rfl, (by show (-1 : Int) < 0; omega)⟩, rfl, rfl, hs.lock, hs.queue⟩
  have e2 : step c (gotProposal s ⟨r, b, -1, pr⟩) (.blockComplete b) =
      drain c drainFuel (handleCompleteProposal c (gotBlock s ⟨r, b, -1, pr⟩)) := by
    rw [step_of_live c _ _ (show (gotProposal s ⟨r, b, -1, pr⟩).live from hs.live)]
    show drain c drainFuel (addBlockPart c _ b) = _
    rw [addBlockPart_completes c _ b rfl rfl]
    rfl
  obtain ⟨h3, hmu⟩ := handleCompleteProposal_GR g hx hs.gv hfresh
  have h4 := drain_GR g drainFuel _ h3 (by unfold drainFuel; omega)
  rw [← e2, ← e1] at h4
  -- the votes
  have hrun : run c s ([Input.proposal ⟨r, b, -1, pr⟩, Input.blockComplete b] ++ votes) =
      run c (step c (step c s (.proposal ⟨r, b, -1, pr⟩)) (.blockComplete b)) votes := by
    simp [run, List.foldl]
  rw [hrun]
  refine run_GR_decides g votes _ (fun i hi => ?_) (fun t u hu => .inr (hperm.mem_iff.mpr ?_)) h4
  · rcases List.mem_append.mp (hperm.mem_iff.mp hi) with h | h <;> obtain ⟨u, hu, e⟩ := List.mem_map.mp h
    · exact ⟨.prevote, u, e.symm, hs.q1.2.1 u hu, List.mem_cons_of_mem _ hu⟩
    · exact ⟨.precommit, u, e.symm, hs.q2.2.1 u hu, List.mem_cons_of_mem _ hu⟩
  · cases t
    · exact List.mem_append_left _ (List.mem_map.mpr ⟨u, hu, rfl⟩)
    · exact List.mem_append_right _ (List.mem_map.mpr ⟨u, hu, rfl⟩)

/-! ### the counterexample to the statement without `hfresh` -/

def grCexCfg : Cfg where
  n := 1
  power := fun _ => 1
  self := some 0
  proposer := fun _ => 0
  valid := fun _ => true
  ownBlock := 0
  waitForTxs := false
  needProofBlock := false
  emptyInterval := false
  checkHRS := false

def grCexPrecommits : VoteSet := (VoteSet.empty.addVote grCexCfg ⟨.precommit, 0, some 5, 0, true, 0, 0⟩).1
def grCexVotes : HVS := ⟨0, [(0, ⟨.empty, grCexPrecommits⟩)], []⟩
def grCexStart : NodeState := { NodeState.init with step := .propose, votes := grCexVotes }

theorem grCex_run : (run grCexCfg grCexStart ([Input.proposal ⟨0, 5, -1, 0⟩, Input.blockComplete 5] ++ [])).decided = none := by
  decide

theorem grCex_get (r : Int) (t : VType) (vs : VoteSet) (h : grCexVotes.getVoteSet r t = some vs) :
    r = 0 ∧ ((t = .prevote ∧ vs = .empty) ∨ (t = .precommit ∧ vs = grCexPrecommits)) := by
  unfold HVS.getVoteSet HVS.getRound grCexVotes alookup at h
  by_cases hr : r = 0
  · subst hr
    cases t <;> simp [List.find?] at h <;> simp [h]
  · have h' : ¬ (0 : Int) = r := fun e => hr e.symm
    simp [List.find?, h'] at h
theorem grCex_goodStart : GoodStart grCexCfg 0 grCexStart 0 5 [] [] where
  self := rfl
  mock := rfl
  meLt := by decide
  live := ⟨rfl, rfl⟩
  round := rfl
  step := rfl
  noProp := ⟨rfl, rfl, rfl, rfl⟩
  queue := rfl
  lock := Or.inl rfl
  valid := rfl
  hvsRound := by decide
  tracked := ⟨rfl, rfl⟩
  wf := by
    intro r t vs h
    rcases (grCex_get r t vs h).2 with ⟨_, e⟩ | ⟨_, e⟩
    · rw [e]; exact VoteSet.WF.empty _
    · rw [e]; exact (VoteSet.WF.empty _).addVote _
  notVoted := by intro t x h; cases h
  clean1 := by
    intro u _ vs h
    rcases (grCex_get _ _ vs h).2 with ⟨_, e⟩ | ⟨e, _⟩
    · rw [e]; exact VoteSet.only_empty _ _
    · cases e
  clean2 := by
    intro u _ vs h
    rcases (grCex_get _ _ vs h).2 with ⟨e, _⟩ | ⟨_, e⟩
    · cases e
    · rw [e]
      intro k hk
      rcases (VoteSet.addVote_has grCexCfg VoteSet.empty ⟨.precommit, 0, some 5, 0, true, 0, 0⟩ k u).1 hk with h | h
      · obtain ⟨bv, hb, _⟩ := h
        simp [VoteSet.empty, alookup] at hb
      · exact h.1
  q1 := ⟨by simp, by simp, by decide⟩
  q2 := ⟨by simp, by simp, by decide⟩

/-- **the statement without `hfresh` is false** (the start state already holds the node's own precommit,
which alone is the +2/3 majority: nothing ever makes the node look at the precommits again) -/
theorem good_round_needs_fresh :
    ¬ ∀ (c : Cfg) (me : Nat) (s : NodeState) (r b : Nat) (Q1 Q2 : List Nat), GoodStart c me s r b Q1 Q2 →
      ∀ (pr : Nat), c.proposer s.valRound = pr ∧ pr < c.n → ∀ (votes : List Input),
      votes.Perm (goodVotes r b .prevote Q1 ++ goodVotes r b .precommit Q2) →
      (run c s ([Input.proposal ⟨r, b, -1, pr⟩, Input.blockComplete b] ++ votes)).decided = some (b, (r : Int)) := by
  intro h
  have := h grCexCfg 0 grCexStart 0 5 [] [] grCex_goodStart 0 ⟨rfl, by decide⟩ [] (List.Perm.refl _)
  rw [grCex_run] at this
  cases this

end Tmv.Cons
