/-! Reflexive-transitive closure of a relation, and that an invariant of the relation is one of its closure. -/
namespace Tmv

inductive Star {α : Type} (R : α → α → Prop) : α → α → Prop
  | refl {a : α} : Star R a a
  | head {a b d : α} : R a b → Star R b d → Star R a d

theorem Star.single {α : Type} {R : α → α → Prop} {a b : α} (h : R a b) : Star R a b := .head h .refl

theorem Star.trans {α : Type} {R : α → α → Prop} {a b d : α} (h₁ : Star R a b) (h₂ : Star R b d) : Star R a d := by
  induction h₁ with
  | refl => exact h₂
  | head h _ ih => exact .head h (ih h₂)

theorem Star.mono {α : Type} {R R' : α → α → Prop} (hR : ∀ a b, R a b → R' a b) {a b : α} (h : Star R a b) :
    Star R' a b := by
  induction h with
  | refl => exact .refl
  | head h _ ih => exact .head (hR _ _ h) ih

theorem Star.inv {α : Type} {R : α → α → Prop} {P : α → Prop} (hP : ∀ a b, R a b → P a → P b) {a b : α}
    (h : Star R a b) (ha : P a) : P b := by
  induction h with
  | refl => exact ha
  | head h _ ih => exact ih (hP _ _ h ha)

end Tmv
