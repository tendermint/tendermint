import Tmv.Lemmas.WalHistory
/-! Open readers (`GroupReader` kept across writes, rotations and prunes): the cursor model versus
the byte stream ahead of it (C15). -/
namespace Tmv.Wal
open Tmv

/-- files after the reader's current one, then the head file -/
def readerTail (g : Group) (i : Nat) : Bytes :=
  if i < g.maxIndex then
    ((List.range' (i + 1) (g.maxIndex - (i + 1))).map (fileAt g)).flatten ++ g.head
  else []

/-- the bytes ahead of an open reader -/
def readerStream (g : Group) (r : Reader) : Bytes :=
  (readerContent g r).drop r.off ++ readerTail g r.idx

theorem streamFrom_max (g : Group) : streamFrom g g.maxIndex = g.head := by
  unfold streamFrom; simp

theorem streamFrom_succ (g : Group) (i : Nat) (h : i < g.maxIndex) :
    streamFrom g i = fileAt g i ++ streamFrom g (i + 1) := by
  unfold streamFrom fileAt
  have e : g.maxIndex - i = (g.maxIndex - (i + 1)) + 1 := by omega
  rw [e, List.range'_succ, List.map_cons, List.flatten_cons, List.append_assoc]

/-- a rotation appends what it flushed to the stream of every reader position -/
theorem streamFrom_rotate (g : Group) (i : Nat) (h : i ≤ g.maxIndex) :
    streamFrom (rotateFile g) i = streamFrom g i ++ g.buf := by
  unfold streamFrom
  rw [← List.flatMap_def, ← List.flatMap_def, List.append_assoc]
  exact (List.append_nil _).trans (flatMap_rotate id g i h)

theorem readerTail_lt (g : Group) (i : Nat) (h : i < g.maxIndex) : readerTail g i = streamFrom g (i + 1) := by
  unfold readerTail; rw [if_pos h]; rfl

theorem readerTail_ge (g : Group) (i : Nat) (h : ¬ i < g.maxIndex) : readerTail g i = [] := by
  unfold readerTail; rw [if_neg h]

/-- a reader that holds no unlinked file reads the head file at index `maxIndex` … -/
theorem readerContent_head {g : Group} {r : Reader} (hp : r.pinned = none) (he : r.idx = g.maxIndex) :
    readerContent g r = g.head := by
  unfold readerContent; rw [hp]; exact if_pos he

/-- … and a rotated file below it -/
theorem readerContent_file {g : Group} {r : Reader} (hp : r.pinned = none) (he : ¬ r.idx = g.maxIndex) :
    readerContent g r = fileAt g r.idx := by
  unfold readerContent; rw [hp]; exact if_neg he

/-- a reader just opened at index `i` has the bytes of `streamFrom g i` ahead of it -/
theorem readerStream_fresh (g : Group) (i : Nat) (hi : i ≤ g.maxIndex) :
    readerStream g { idx := i } = streamFrom g i := by
  unfold readerStream
  rw [List.drop_zero]
  by_cases he : i = g.maxIndex
  · rw [readerContent_head rfl he, readerTail_ge g i (by omega), List.append_nil, he, streamFrom_max]
  · have hlt : i < g.maxIndex := by omega
    rw [readerContent_file rfl he, readerTail_lt g i hlt, streamFrom_succ g i hlt]

theorem sameDisk_readerOpen (g : Group) (j : Nat) : SameDisk g (readerOpen g j) := by
  unfold readerOpen
  split
  · split
    · exact SameDisk.refl g
    · rename_i hnone
      exact ⟨rfl, rfl, rfl, rfl, rfl, rfl, rfl, rfl, rfl, lookup_create _ _ hnone⟩
  · exact SameDisk.refl g

/-- how reading moves an open reader: nothing on disk changes but empty files it creates, the
cursor stays in the group (and inside its file, if it was), and `s` is then ahead of it -/
structure Advanced (g : Group) (r : Reader) (g' : Group) (r' : Reader) (s : Bytes) : Prop where
  sameDisk : SameDisk g g'
  idx : r'.idx ≤ g'.maxIndex
  stream : readerStream g' r' = s
  off : r.off ≤ (readerContent g r).length → r'.off ≤ (readerContent g' r').length

theorem Advanced.congr {g g' : Group} {r r' : Reader} {s s' : Bytes} (a : Advanced g r g' r' s) (h : s = s') :
    Advanced g r g' r' s' :=
  h ▸ a

theorem Advanced.trans {g g1 g2 : Group} {r r1 r2 : Reader} {s1 s2 : Bytes}
    (a : Advanced g r g1 r1 s1) (b : Advanced g1 r1 g2 r2 s2) : Advanced g r g2 r2 s2 :=
  ⟨a.sameDisk.trans b.sameDisk, b.idx, b.stream, fun h => b.off (a.off h)⟩

/-- `GroupReader.Read`: it delivers the next `need` bytes of the stream ahead (fewer, with EOF,
when the stream is shorter) and leaves the rest -/
theorem readerRead_spec : ∀ (fuel : Nat) (g : Group) (r : Reader) (need : Nat) (acc : Bytes),
    r.idx ≤ g.maxIndex → g.maxIndex - r.idx < fuel →
    ∃ r' g', readerRead fuel g r need acc =
        (acc ++ (readerStream g r).take need, decide ((readerStream g r).length < need), r', g') ∧
      Advanced g r g' r' ((readerStream g r).drop need) := by
  intro fuel
  induction fuel with
  | zero => intro g r need acc _ h; omega
  | succ fuel ih =>
    intro g r need acc hidx hfuel
    rw [readerRead]
    -- `avail` = the rest of the current file
    have hav : ((readerContent g r).drop r.off).length = (readerContent g r).length - r.off := List.length_drop
    have hst : readerStream g r = (readerContent g r).drop r.off ++ readerTail g r.idx := rfl
    have hdd : ∀ k, (readerContent g r).drop (r.off + k) = ((readerContent g r).drop r.off).drop k :=
      fun k => (List.drop_drop ..).symm
    generalize (readerContent g r).drop r.off = avail at hav hst hdd ⊢
    simp only
    by_cases hle : need ≤ avail.length
    · -- enough in the current file
      rw [Nat.min_eq_left hle, if_pos rfl]
      refine ⟨{ r with off := r.off + need }, g, ?_, SameDisk.refl g, hidx, ?_, fun h => ?_⟩
      · rw [hst, List.take_append_of_le_length hle, decide_eq_false (by rw [List.length_append]; omega)]
      · show (readerContent g r).drop (r.off + need) ++ readerTail g r.idx = _
        rw [hst, List.drop_append_of_le_length hle, hdd]
      · show r.off + need ≤ (readerContent g r).length
        omega
    · have hlt : avail.length < need := by omega
      rw [Nat.min_eq_right (Nat.le_of_lt hlt), if_neg (Nat.ne_of_lt hlt), List.take_length]
      by_cases hend : r.idx + 1 > g.maxIndex
      · -- at the end of the head
        rw [if_pos hend]
        have htail : readerTail g r.idx = [] := by
          unfold readerTail; rw [if_neg (by omega)]
        rw [htail, List.append_nil] at hst
        refine ⟨{ r with off := r.off + avail.length }, g, ?_, SameDisk.refl g, hidx, ?_, fun h => ?_⟩
        · rw [hst, List.take_of_length_le (Nat.le_of_lt hlt), decide_eq_true hlt]
        · show (readerContent g r).drop (r.off + avail.length) ++ readerTail g r.idx = _
          rw [hst, htail, hdd, List.drop_length, List.drop_of_length_le (Nat.le_of_lt hlt)]; rfl
        · show r.off + _ ≤ (readerContent g r).length
          omega
      · rw [if_neg hend]
        have hlt' : r.idx < g.maxIndex := by omega
        have sd := sameDisk_readerOpen g (r.idx + 1)
        obtain ⟨r', g', he, adv⟩ := ih (readerOpen g (r.idx + 1)) { idx := r.idx + 1 }
          (need - avail.length) (acc ++ avail)
          (by rw [sd.maxIndex]; exact hlt') (by rw [sd.maxIndex]; simp only; omega)
        have hS1 : readerStream (readerOpen g (r.idx + 1)) { idx := r.idx + 1 } = readerTail g r.idx := by
          rw [readerStream_fresh _ _ (by rw [sd.maxIndex]; exact hlt'), sd.streamFrom_eq, readerTail_lt g _ hlt']
        rw [hS1] at he adv
        refine ⟨r', g', ?_, sd.trans adv.sameDisk, adv.idx, ?_, fun _ => adv.off (Nat.zero_le _)⟩
        · rw [he, hst, List.take_append, List.take_of_length_le (Nat.le_of_lt hlt), List.append_assoc,
            List.length_append]
          congr 2
          simp only [decide_eq_decide]; omega
        · rw [adv.stream, hst, List.drop_append, List.drop_of_length_le (Nat.le_of_lt hlt), List.nil_append]

theorem readerRead_spec' (fuel : Nat) (g : Group) (r : Reader) (need : Nat)
    (h1 : r.idx ≤ g.maxIndex) (h2 : g.maxIndex - r.idx < fuel) :
    ∃ eof r' g', readerRead fuel g r need [] = ((readerStream g r).take need, eof, r', g') ∧
      (eof = true ↔ (readerStream g r).length < need) ∧
      Advanced g r g' r' ((readerStream g r).drop need) := by
  obtain ⟨r', g', he, adv⟩ := readerRead_spec fuel g r need [] h1 h2
  rw [List.nil_append] at he
  exact ⟨_, r', g', he, by simp, adv⟩

theorem readerDecode3_spec (P : Params) (fuel : Nat) (c lb : Bytes) (g : Group) (r : Reader)
    (hidx : r.idx ≤ g.maxIndex) (hf : g.maxIndex < fuel) :
    ∃ r' g', Advanced g r g' r' ((readerStream g r).drop (ofBe32 lb)) ∧
      readerDecode3 P fuel c lb g r =
        ((if (readerStream g r).length < ofBe32 lb then DecRes.corrupt .dataRead
          else (check P c ((readerStream g r).take (ofBe32 lb)) []).1), r', g') := by
  obtain ⟨eof, r', g', e, he, adv⟩ := readerRead_spec' fuel g r (ofBe32 lb) hidx (by omega)
  refine ⟨r', g', adv, ?_⟩
  unfold readerDecode3
  rw [e]
  cases eof with
  | true => rw [if_pos (he.mp rfl)]; rfl
  | false =>
    have : ¬ (readerStream g r).length < ofBe32 lb := fun h => by simpa using he.mpr h
    rw [if_neg this]; rfl

theorem readerDecode2_spec (P : Params) (fuel : Nat) (c : Bytes) (g : Group) (r : Reader)
    (hidx : r.idx ≤ g.maxIndex) (hf : g.maxIndex < fuel) :
    ∃ r' g', Advanced g r g' r' (stage2 P c (readerStream g r)).2 ∧
      readerDecode2 P fuel c g r = ((stage2 P c (readerStream g r)).1, r', g') := by
  obtain ⟨eof, r2, g2, e, he, adv⟩ := readerRead_spec' fuel g r 4 hidx (by omega)
  unfold readerDecode2 stage2
  rw [e]
  cases eof with
  | true =>
    have h := he.mp rfl
    rw [if_pos h]
    exact ⟨r2, g2, adv.congr (List.drop_of_length_le (by omega)), rfl⟩
  | false =>
    have h : ¬ (readerStream g r).length < 4 := fun h => by simpa using he.mpr h
    simp only [Bool.false_eq_true, if_false, if_neg h]
    by_cases hb : ofBe32 ((readerStream g r).take 4) > P.maxLen
    · simp only [if_pos hb]; exact ⟨r2, g2, adv, rfl⟩
    by_cases hz : ofBe32 ((readerStream g r).take 4) = 0
    · simp only [if_neg hb, if_pos hz]; exact ⟨r2, g2, adv, rfl⟩
    simp only [if_neg hb, if_neg hz]
    obtain ⟨r3, g3, adv3, e3⟩ := readerDecode3_spec P fuel c ((readerStream g r).take 4) g2 r2 adv.idx
      (by rw [adv.sameDisk.maxIndex]; exact hf)
    rw [adv.stream] at adv3 e3
    rw [e3]
    by_cases hsh : ((readerStream g r).drop 4).length < ofBe32 ((readerStream g r).take 4)
    · simp only [if_pos hsh]
      exact ⟨r3, g3, adv.trans (adv3.congr (List.drop_of_length_le (by omega))), rfl⟩
    · simp only [if_neg hsh]
      exact ⟨r3, g3, adv.trans (adv3.congr (check_parts P _ _ _ []).2.symm),
        by rw [(check_parts P _ _ [] _).1]⟩

theorem readerDecode_adv (P : Params) (g : Group) (r : Reader) (hidx : r.idx ≤ g.maxIndex) :
    ∃ r' g', readerDecode P g r = ((decodeG P (readerStream g r)).1, r', g') ∧
      Advanced g r g' r' (decodeG P (readerStream g r)).2 := by
  obtain ⟨eof, r1, g1, e, he, adv⟩ := readerRead_spec' (g.maxIndex + 2) g r 4 hidx (by omega)
  unfold readerDecode
  rw [e]
  cases eof with
  | true =>
    have h := he.mp rfl
    have hres : decodeG P (readerStream g r) =
        (if ((readerStream g r).take 4).isEmpty then DecRes.eof else DecRes.corrupt .crcRead, []) := by
      cases hq : readerStream g r with
      | nil => rfl
      | cons a t => rw [← hq, decodeG_short P _ (by rw [hq]; rfl) h, hq]; rfl
    rw [hres]
    exact ⟨r1, g1, rfl, adv.congr (List.drop_of_length_le (by omega))⟩
  | false =>
    have h4 : ¬ (readerStream g r).length < 4 := fun h => by simpa using he.mpr h
    obtain ⟨r2, g2, adv2, e2⟩ := readerDecode2_spec P (g.maxIndex + 2) ((readerStream g r).take 4) g1 r1 adv.idx
      (by rw [adv.sameDisk.maxIndex]; omega)
    rw [adv.stream] at adv2 e2
    rw [decodeG_stage2 P _ h4]
    refine ⟨r2, g2, ?_, adv.trans adv2⟩
    show (if false = true then _ else readerDecode2 P (g.maxIndex + 2) ((readerStream g r).take 4) g1 r1) = _
    rw [if_neg (by simp), e2]

/-- `Decode` on an open reader = `decodeG` on the bytes ahead of it; the reader is left in front
of what `decodeG` leaves; nothing on disk changes but empty files the reader creates -/
theorem readerDecode_spec (P : Params) (g : Group) (r : Reader) (hidx : r.idx ≤ g.maxIndex) :
    ∃ r' g', readerDecode P g r = ((decodeG P (readerStream g r)).1, r', g') ∧ SameDisk g g' ∧
      r'.idx ≤ g'.maxIndex ∧ readerStream g' r' = (decodeG P (readerStream g r)).2 := by
  obtain ⟨r', g', e, adv⟩ := readerDecode_adv P g r hidx
  exact ⟨r', g', e, adv.sameDisk, adv.idx, adv.stream⟩

theorem readerNext_msg (P : Params) (n : Nat) (g g' : Group) (r r' : Reader) (d : Bytes)
    (h : readerDecode P g r = (.msg d, r', g')) :
    readerNext P (n + 1) g r = (d :: (readerNext P n g' r').1, (readerNext P n g' r').2.1,
      (readerNext P n g' r').2.2.1, (readerNext P n g' r').2.2.2) := by
  rw [readerNext, h]

theorem readerNext_stop (P : Params) (n : Nat) (g g' : Group) (r r' : Reader) (x : DecRes)
    (hx : x.isMsg = false) (h : readerDecode P g r = (x, r', g')) :
    readerNext P (n + 1) g r = ([], some x, r', g') := by
  rw [readerNext, h]
  cases x with
  | msg d => simp [DecRes.isMsg] at hx
  | eof => rfl
  | corrupt e => rfl

/-- **An open reader returns exactly the records ahead of it, in order.** If the bytes ahead of the
reader are the frames of the valid records `ds` followed by a torn tail `t`, then asking for `n`
records returns the first `n` of them (all of them and the reason for stopping when `n` is
larger) and leaves the reader in front of the remaining ones. -/
theorem readerNext_frames (P : Params) (G : Good P) (t : Bytes) (ht : TornTail P t) :
    ∀ (n : Nat) (ds : List Bytes) (g : Group) (r : Reader), r.idx ≤ g.maxIndex →
      (∀ d ∈ ds, ValidRec P d) → readerStream g r = frames P ds ++ t →
      ∃ e r' g' s, readerNext P n g r = (ds.take n, e, r', g') ∧ Advanced g r g' r' s ∧
        ((n ≤ ds.length ∧ e = none ∧ s = frames P (ds.drop n) ++ t) ∨
         (ds.length < n ∧ e = some (decodeG P t).1 ∧ s = [])) := by
  intro n
  induction n with
  | zero =>
    intro ds g r hidx _ hs
    exact ⟨none, r, g, _, rfl, ⟨SameDisk.refl g, hidx, hs, id⟩, Or.inl ⟨Nat.zero_le _, rfl, rfl⟩⟩
  | succ n ih =>
    intro ds g r hidx hv hs
    obtain ⟨r1, g1, e1, adv1⟩ := readerDecode_adv P g r hidx
    rw [hs] at e1 adv1
    cases ds with
    | nil =>
      rw [frames_nil, List.nil_append] at e1 adv1
      obtain ⟨hm, hr⟩ := tornTail_stop P G t ht
      rw [hr] at adv1
      exact ⟨_, r1, g1, [], readerNext_stop P n g g1 r r1 _ hm e1, adv1, Or.inr ⟨by simp, rfl, rfl⟩⟩
    | cons d ds' =>
      have hd : ValidRec P d := hv d (by simp)
      rw [frames_cons, List.append_assoc, decodeG_frame P G d _ hd] at e1 adv1
      obtain ⟨e, r2, g2, s, e2, adv2, hcase⟩ := ih ds' g1 r1 adv1.idx (fun x hx => hv x (by simp [hx])) adv1.stream
      refine ⟨e, r2, g2, s, ?_, adv1.trans adv2, ?_⟩
      · rw [readerNext_msg P n g g1 r r1 d e1, e2]; rfl
      · rcases hcase with ⟨h1, h2, h3⟩ | ⟨h1, h2, h3⟩
        · exact Or.inl ⟨by simp; omega, h2, by simpa using h3⟩
        · exact Or.inr ⟨by simp; omega, h2, h3⟩

/-- the cursor is inside the group and inside its file -/
def ReaderOK (g : Group) (r : Reader) : Prop :=
  r.idx ≤ g.maxIndex ∧ r.off ≤ (readerContent g r).length

end Tmv.Wal
