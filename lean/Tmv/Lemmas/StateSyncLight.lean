import Tmv.Model.StateProviderLight
import Tmv.Lemmas.LightInv
import Tmv.Lemmas.ListFacts
/-! C14 on top of C09's lemmas: the light block `VerifyLightBlockAtHeight` returns is reachable
from the trust root (`verifyLightBlockAtHeight_evolves`); what a successful assembly was made of;
each call of the light provider is that assembly over results that are `Sound`; what a `Bootstrap`
with a failing write leaves. -/
namespace Tmv.StateSync
open Tmv.Light

theorem vlb_spec {cfg : Config} {root : Hash → Prop} {c : Client} (s : List Prov → List Nat) (h : Nat) (now : Int)
    (hinv : Inv cfg root c) :
    Inv cfg root (vlb c s h now).1 ∧ ∀ l, (vlb c s h now).2 = .ok l → Reach cfg root l := by
  obtain ⟨he, hr⟩ := verifyLightBlockAtHeight_evolves (c := { c with sched := s }) (Prod.ext rfl rfl)
  exact ⟨hinv.evolves (he.of_keeps (Keeps.sched c s)),
    fun l hl => hinv.admits ((hr l hl).of_keeps (Keeps.sched c s))⟩

theorem res_ok {v : LightView} {r : Except Light.Err Light.LightBlock} {b : LightBlock} (h : v.res r = .ok b) :
    ∃ l, r = .ok l ∧ b = v.block l := by
  cases r with
  | ok l => exact ⟨l, rfl, by simpa [LightView.res] using h.symm⟩
  | error e => cases e <;> simp [LightView.res] at h

theorem reErr_ne_ok {α β : Type} (e : ProvRes α) (x : β) : (reErr e : ProvRes β) ≠ .ok x := by
  cases e <;> simp [reErr]

theorem assembleAppHash_ok {r1 r2 : ProvRes LightBlock} {x : Bytes}
    (h : assembleAppHash r1 r2 = .ok x) : ∃ b b2, r1 = .ok b ∧ r2 = .ok b2 ∧ x = b.appHash := by
  unfold assembleAppHash at h
  split at h
  · split at h
    · cases h; exact ⟨_, _, rfl, rfl, rfl⟩
    · exact absurd h (reErr_ne_ok _ _)
  · exact absurd h (reErr_ne_ok _ _)

theorem assembleCommit_ok {r0 : ProvRes LightBlock} {c : LcCommit} (h : assembleCommit r0 = .ok c) :
    ∃ b, r0 = .ok b ∧ c = ⟨b.height, b.hash⟩ := by
  unfold assembleCommit at h
  split at h
  · cases h; exact ⟨_, rfl, rfl⟩
  · exact absurd h (reErr_ne_ok _ _)

/-- `State` succeeds only on three verified blocks and parameters that passed `checkParams`; every
field of the state is then one of theirs -/
theorem assembleState_ok {maxBlock : Int} {rpc : Nat → ProvRes ParamsResp} {ih : Nat}
    {r0 r1 r2 : ProvRes LightBlock} {st : LcState}
    (h : assembleState maxBlock rpc ih r0 r1 r2 = .ok st) :
    ∃ b0 b1 b2, r0 = .ok b0 ∧ r1 = .ok b1 ∧ r2 = .ok b2 ∧
      checkParams maxBlock b1.height b1.consHashed (rpc b1.height) = .ok st.params ∧
      st.lastBlockHeight = b0.height ∧ st.lastBlockID = b0.hash ∧ st.lastValidators = b0.vals ∧
      st.appHash = b1.appHash ∧ st.appVersion = b1.appVersion ∧ st.validators = b1.vals ∧
      st.lastResults = b1.lastResults ∧ st.nextValidators = b2.vals ∧
      st.lastHeightValidatorsChanged = b2.height ∧ st.lastHeightParamsChanged = b1.height := by
  unfold assembleState at h
  split at h
  · split at h
    · split at h
      · split at h
        · rename_i hp
          cases h
          exact ⟨_, _, _, rfl, rfl, rfl, hp, rfl, rfl, rfl, rfl, rfl, rfl, rfl, rfl, rfl, rfl⟩
        · exact absurd h (reErr_ne_ok _ _)
      · exact absurd h (reErr_ne_ok _ _)
    · exact absurd h (reErr_ne_ok _ _)
  · exact absurd h (reErr_ne_ok _ _)

/-- what is known of a verification result as the provider sees it. The `.err` that pads an assembly
after a failed call has it too, so no error branch has to be refuted. -/
def Sound (v : LightView) (cfg : Config) (root : Hash → Prop) (r : ProvRes LightBlock) : Prop :=
  ∀ b, r = .ok b → ∃ l, Reach cfg root l ∧ b = v.block l

theorem Sound.err {v : LightView} {cfg : Config} {root : Hash → Prop} : Sound v cfg root .err :=
  fun _ h => nomatch h

theorem vlb_sound (v : LightView) {cfg : Config} {root : Hash → Prop} {c : Client} (s : List Prov → List Nat)
    (h : Nat) (now : Int) (hinv : Inv cfg root c) :
    Inv cfg root (vlb c s h now).1 ∧ Sound v cfg root (v.res (vlb c s h now).2) :=
  ⟨(vlb_spec s h now hinv).1, fun _ hb =>
    let ⟨l, hl, e⟩ := res_ok hb
    ⟨l, (vlb_spec s h now hinv).2 l hl, e⟩⟩

section
variable (v : LightView) (e : CallEnv) {cfg : Config} {root : Hash → Prop} {c : Client} (h : Nat)
  (hinv : Inv cfg root c)
include hinv

theorem lightAppHash_spec : Inv cfg root (lightAppHash v e c h).1 ∧ ∃ r1 r2, Sound v cfg root r1 ∧
    Sound v cfg root r2 ∧ (lightAppHash v e c h).2 = assembleAppHash r1 r2 := by
  unfold lightAppHash
  obtain ⟨i1, s1⟩ := vlb_sound v (e.sched 0) (h + 1) (e.now 0) hinv
  generalize vlb c (e.sched 0) (h + 1) (e.now 0) = p at i1 s1 ⊢
  obtain ⟨c1, _ | b1⟩ := p
  · exact ⟨i1, _, _, s1, Sound.err, rfl⟩
  · obtain ⟨i2, s2⟩ := vlb_sound v (e.sched 1) (h + 2) (e.now 1) i1
    exact ⟨i2, _, _, s1, s2, rfl⟩

theorem lightCommit_spec : Inv cfg root (lightCommit v e c h).1 ∧ ∃ r0, Sound v cfg root r0 ∧
    (lightCommit v e c h).2 = assembleCommit r0 :=
  have ⟨i0, s0⟩ := vlb_sound v (e.sched 0) h (e.now 0) hinv
  ⟨i0, _, s0, rfl⟩

theorem lightState_spec (maxBlock : Int) (rpc : Nat → ProvRes ParamsResp) (ih : Nat) :
    Inv cfg root (lightState v maxBlock rpc ih e c h).1 ∧ ∃ r0 r1 r2, Sound v cfg root r0 ∧
      Sound v cfg root r1 ∧ Sound v cfg root r2 ∧
      (lightState v maxBlock rpc ih e c h).2 = assembleState maxBlock rpc ih r0 r1 r2 := by
  unfold lightState
  obtain ⟨i0, s0⟩ := vlb_sound v (e.sched 0) h (e.now 0) hinv
  generalize vlb c (e.sched 0) h (e.now 0) = p at i0 s0 ⊢
  obtain ⟨c1, _ | b0⟩ := p
  · exact ⟨i0, _, _, _, s0, Sound.err, Sound.err, rfl⟩
  dsimp only
  obtain ⟨i1, s1⟩ := vlb_sound v (e.sched 1) (h + 1) (e.now 1) i0
  generalize vlb c1 (e.sched 1) (h + 1) (e.now 1) = p at i1 s1 ⊢
  obtain ⟨c2, _ | b1⟩ := p
  · exact ⟨i1, _, _, _, s0, s1, Sound.err, rfl⟩
  obtain ⟨i2, s2⟩ := vlb_sound v (e.sched 2) (h + 2) (e.now 2) i1
  exact ⟨i2, _, _, _, s0, s1, s2, rfl⟩
end

/-- `Bootstrap` writes the state key last; no write touches the seen commits -/
theorem bootWrites_eq (st : LcState) :
    ∃ pre : List (Stores → Stores), bootWrites st = pre ++ [fun s => { s with state := some st }] ∧
      ∀ w ∈ pre, ∀ s : Stores, (w s).seen = s.seen ∧ (w s).state = s.state := by
  unfold bootWrites
  simp only
  generalize (if st.lastBlockHeight + 1 = 1 then st.initialHeight else st.lastBlockHeight + 1) = height
  by_cases hc : height > 1 ∧ st.lastValidators ≠ []
  · rw [if_pos hc]
    refine ⟨[_, _, _, _], rfl, fun w hw s => ?_⟩
    simp only [List.mem_cons, List.not_mem_nil, or_false] at hw
    rcases hw with rfl | rfl | rfl | rfl <;> exact ⟨rfl, rfl⟩
  · rw [if_neg hc]
    refine ⟨[_, _, _], rfl, fun w hw s => ?_⟩
    simp only [List.mem_cons, List.not_mem_nil, or_false] at hw
    rcases hw with rfl | rfl | rfl <;> exact ⟨rfl, rfl⟩

theorem bootstrapFailing_cases (s : Stores) (st : LcState) (k : Nat) :
    ∃ s' ok, bootstrapFailing s st k = (s', ok) ∧ s'.seen = s.seen ∧
      s'.state = if ok then some st else s.state := by
  obtain ⟨pre, hw, hpre⟩ := bootWrites_eq st
  have seen : ∀ ws : List (Stores → Stores), (∀ w ∈ ws, w ∈ bootWrites st) →
      (ws.foldl (fun s w => w s) s).seen = s.seen :=
    fun ws hsub => foldl_frame _ Stores.seen ws s fun w hm s => by
      rcases List.mem_append.mp (hw ▸ hsub w hm) with h | h
      · exact (hpre w h s).1
      · rw [List.mem_singleton.mp h]
  unfold bootstrapFailing
  simp only
  split
  · refine ⟨_, _, rfl, seen _ fun _ h => h, ?_⟩
    rw [hw, List.foldl_append]; rfl
  · rename_i hk
    refine ⟨_, _, rfl, seen _ fun _ h => List.mem_of_mem_take h, ?_⟩
    rw [hw, List.take_append_of_le_length (by rw [hw] at hk; simp at hk; omega)]
    exact foldl_frame _ Stores.state _ s fun w hm s => (hpre w (List.mem_of_mem_take hm) s).2

end Tmv.StateSync
