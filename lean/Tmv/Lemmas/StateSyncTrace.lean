import Tmv.Model.Syncer
import Tmv.Lemmas.StateSyncPool
/-! Helper lemmas for C14: every step of the syncer keeps the pool clean, keeps what is rejected
rejected, and journals only `Good` events. The lemmas `Ext.thenX` have the forward form "what is
known of `a ⟶ sy` is known of `a ⟶ X sy`", so that the lemma of a function is its body read off. -/
namespace Tmv.StateSync.Thm
open Tmv Tmv.StateSync

variable (recent : Nat)

/-- a set of rejected snapshot keys, formats and senders -/
structure Rej where
  keys : List Key
  formats : List Nat
  peers : List String

/-- the syncer's pool lists nothing blacklisted, and everything in `R` is blacklisted -/
def Inv (R : Rej) (sy : Sy) : Prop :=
  Clean sy.pool ∧ (∀ k ∈ R.keys, k ∈ sy.pool.blSnap) ∧ (∀ f ∈ R.formats, f ∈ sy.pool.blFormat) ∧
  (∀ p ∈ R.peers, p ∈ sy.pool.blPeer)

section
variable {R : Rej} {sy : Sy} (h : Inv R sy)
include h
theorem Inv.clean : Clean sy.pool := h.1
theorem Inv.keys : ∀ k ∈ R.keys, k ∈ sy.pool.blSnap := h.2.1
theorem Inv.formats : ∀ f ∈ R.formats, f ∈ sy.pool.blFormat := h.2.2.1
theorem Inv.peers : ∀ p ∈ R.peers, p ∈ sy.pool.blPeer := h.2.2.2
end

/-- the invariant survives any change of the pool that keeps it clean and forgets no rejection -/
theorem Inv.of_grows {R : Rej} {sy : Sy} (h : Inv R sy) {p : Pool} (hc : Clean p) (hg : Grows sy.pool p)
    (q : Option Queue) (j : List Ev) : Inv R { sy with pool := p, queue := q, journal := j } :=
  ⟨hc, fun k hk => hg.snap k (h.keys k hk), fun f hf => hg.format f (h.formats f hf),
   fun x hx => hg.peer x (h.peers x hx)⟩

/-- what may be journalled once `R` is rejected: offers carry the provider's app hash and are never
for a rejected snapshot or format; no chunk of a rejected sender is queued; nothing a rejected
peer advertises, and no rejected snapshot or format, enters the pool. -/
def Good (env : Env) (R : Rej) : Ev → Prop
  | .offer s ah _ => env.appHash s.height = .ok ah ∧ keyOf s ∉ R.keys ∧ s.format ∉ R.formats
  | .arriveChunk c r => c.sender ∈ R.peers → r ≠ .added
  | .arriveSnap peer s added =>
      (peer ∈ R.peers ∨ s.format ∈ R.formats ∨ keyOf s ∈ R.keys) → added = false
  | _ => True

/-- `sy'` extends `sy`: invariant kept, snapshot/format blacklists untouched, only good events added -/
def Ext (env : Env) (R : Rej) (sy sy' : Sy) : Prop :=
  Inv R sy' ∧ sy'.pool.blSnap = sy.pool.blSnap ∧ sy'.pool.blFormat = sy.pool.blFormat ∧
  ∃ l, sy'.journal = sy.journal ++ l ∧ ∀ e ∈ l, Good env R e

section
variable {env : Env} {R : Rej} {sy sy' : Sy} (h : Ext env R sy sy')
include h
theorem Ext.inv : Inv R sy' := h.1
theorem Ext.blSnap : sy'.pool.blSnap = sy.pool.blSnap := h.2.1
theorem Ext.blFormat : sy'.pool.blFormat = sy.pool.blFormat := h.2.2.1
end

theorem Ext.refl {env : Env} {R : Rej} {sy : Sy} (h : Inv R sy) : Ext env R sy sy :=
  ⟨h, rfl, rfl, [], by simp, by simp⟩

theorem Ext.trans {env : Env} {R : Rej} {a b c : Sy} (h1 : Ext env R a b) (h2 : Ext env R b c) :
    Ext env R a c := by
  obtain ⟨_, a1, a2, l1, j1, g1⟩ := h1
  obtain ⟨i2, b1, b2, l2, j2, g2⟩ := h2
  refine ⟨i2, b1.trans a1, b2.trans a2, l1 ++ l2, by rw [j2, j1, List.append_assoc], ?_⟩
  intro e he
  rcases List.mem_append.mp he with h | h
  · exact g1 e h
  · exact g2 e h

/-- changing only the queue / active flag keeps everything -/
theorem Ext.queue {env : Env} {R : Rej} {sy : Sy} (h : Inv R sy) (q : Option Queue) (a : Bool) :
    Ext env R sy { sy with queue := q, active := a } :=
  ⟨h, rfl, rfl, [], by simp, by simp⟩

theorem addChunk_spec (sy : Sy) (c : Chunk) :
    (addChunk sy c).1.pool = sy.pool ∧ (addChunk sy c).1.journal = sy.journal ∧
    (c.sender ∈ sy.pool.blPeer → (addChunk sy c).2 ≠ .added) := by
  unfold addChunk
  split
  · split
    · rename_i hb
      exact ⟨rfl, rfl, fun _ => by simp⟩
    · rename_i hb
      refine ⟨rfl, rfl, fun h => ?_⟩
      exact absurd (by simpa using h) hb
  · exact ⟨rfl, rfl, fun _ => by simp⟩

theorem deliver_ext {env : Env} {R : Rej} {sy : Sy} (h : Inv R sy) (m : Msg) :
    Ext env R sy (deliver recent sy m) := by
  obtain ⟨hc, hk, hf, hp⟩ := h
  cases m with
  | chunk c =>
    obtain ⟨e1, e2, e3⟩ := addChunk_spec sy c
    simp only [deliver]
    refine ⟨⟨by rw [e1]; exact hc, by rw [e1]; exact hk, by rw [e1]; exact hf, by rw [e1]; exact hp⟩,
      by rw [e1], by rw [e1], [.arriveChunk c (addChunk sy c).2], by simp [e2], ?_⟩
    intro e he
    simp only [List.mem_singleton] at he
    subst he
    exact fun hin => e3 (hp _ hin)
  | snap peer s =>
    obtain ⟨c1, b1, b2, b3⟩ := clean_add hc recent peer s
    simp only [deliver]
    refine ⟨Inv.of_grows ⟨hc, hk, hf, hp⟩ c1 (Grows.of_eq b1 b2 b3) _ _, b1, b2,
      [.arriveSnap peer s (sy.pool.add recent peer s).2], rfl, ?_⟩
    intro e he
    simp only [List.mem_singleton] at he
    subst he
    intro hin
    have : sy.pool.add recent peer s = (sy.pool, false) := by
      apply add_refuses_rejected
      rcases hin with h | h | h
      · exact Or.inl (hp _ h)
      · exact Or.inr (Or.inl (hf _ h))
      · exact Or.inr (Or.inr (hk _ h))
    rw [this]
  | stop peer =>
    have hs := (removePeer_spec sy.pool peer).1
    simp only [deliver]
    exact ⟨Inv.of_grows ⟨hc, hk, hf, hp⟩ (hc.of_shrinks hs) (Grows.of_eq hs.blSnap hs.blFormat hs.blPeer) _ _,
      hs.blSnap, hs.blFormat, [.peerStopped peer], rfl,
      by intro e he; simp only [List.mem_singleton] at he; subst he; trivial⟩


section forward
variable {env : Env} {R : Rej} {a sy : Sy}

theorem Ext.thenLog (h : Ext env R a sy) (e : Ev) (he : Good env R e) : Ext env R a (StateSync.log sy e) :=
  h.trans ⟨h.inv, rfl, rfl, [e], rfl, by simpa using he⟩

theorem Ext.thenLogAll (h : Ext env R a sy) (es : List Ev) (he : ∀ e ∈ es, Good env R e) :
    Ext env R a (StateSync.logAll sy es) :=
  h.trans ⟨h.inv, rfl, rfl, es, rfl, he⟩

theorem Ext.thenQueue (h : Ext env R a sy) (q : Option Queue) (b : Bool) :
    Ext env R a { sy with queue := q, active := b } :=
  h.trans (Ext.queue h.inv q b)

theorem Ext.thenRejectPeer (h : Ext env R a sy) (p : String) (q : Option Queue) :
    Ext env R a { sy with pool := sy.pool.rejectPeer p, queue := q } :=
  have ⟨c1, _, g, e1, e2⟩ := clean_rejectPeer h.inv.clean p
  h.trans ⟨h.inv.of_grows c1 g q sy.journal, e1, e2, [], by simp, by simp⟩

theorem Ext.thenDeliver (h : Ext env R a sy) (m : Msg) : Ext env R a (deliver recent sy m) :=
  h.trans (deliver_ext recent h.inv m)

theorem Ext.thenDeliverAll (ms : List Msg) : ∀ {sy : Sy}, Ext env R a sy → Ext env R a (deliverAll recent sy ms) := by
  induction ms with
  | nil => exact id
  | cons m rest ih => exact fun h => ih (h.thenDeliver recent m)

theorem Ext.thenGap (h : Ext env R a sy) (sc : Script) : Ext env R a (gapStep recent sy sc).1 :=
  Ext.thenDeliverAll recent _ h

theorem Ext.thenRefetch (l : List Nat) : ∀ {sy : Sy} (sc : Script), Ext env R a sy →
    Ext env R a (doRefetch recent l sy sc).1 := by
  induction l with
  | nil => exact fun _ h => h
  | cons i rest ih => exact fun sc h => ih _ ((h.thenQueue _ _).thenGap recent sc)

theorem Ext.thenRejectSenders (l : List String) : ∀ {sy : Sy} (sc : Script), Ext env R a sy →
    Ext env R a (doRejectSenders recent l sy sc).1 := by
  induction l with
  | nil => exact fun _ h => h
  | cons p rest ih =>
    intro sy sc h
    unfold doRejectSenders
    split
    · exact ih sc h
    · exact ih _ ((h.thenRejectPeer p _).thenGap recent sc)

theorem Ext.thenStarve (snap : Snapshot) (i : Nat) : ∀ (fuel : Nat) {sy : Sy} (sc : Script), Ext env R a sy →
    Ext env R a (starve recent snap i fuel sy sc).1 := by
  intro fuel
  induction fuel with
  | zero => exact fun _ h => h
  | succ f ih =>
    intro sy sc h
    unfold starve
    split
    · exact h
    · split
      · exact h
      · split
        · exact ih _ (h.thenDeliver recent _)
        · split
          · exact h
          · simp only
            split <;> exact h.thenDeliver recent _

/-- the loop body after its first journal entry (the `ApplySnapshotChunk` call itself) -/
theorem Ext.thenApplyOne_after (c : Chunk) (sc : Script)
    (h : Ext env R a (StateSync.log sy (.apply c.index (c.body.getD []) c.sender (popApply sc).1.result
      (popApply sc).1.refetch (popApply sc).1.rejectSenders))) :
    Ext env R a (applyOne recent c sy sc).2.1 := by
  unfold applyOne
  generalize popApply sc = p at h ⊢
  obtain ⟨v, sc1⟩ := p
  simp only
  have a2 := h.thenDeliverAll recent v.pre
  split
  · exact a2
  · exact Ext.thenRejectSenders recent _ _
      (Ext.thenRefetch recent _ _ (a2.thenLogAll _ fun e he => by
        obtain ⟨_, _, rfl⟩ := List.mem_map.mp he
        trivial))

theorem Ext.thenApplyOne (h : Ext env R a sy) (c : Chunk) (sc : Script) :
    Ext env R a (applyOne recent c sy sc).2.1 :=
  Ext.thenApplyOne_after recent c sc (h.thenLog _ trivial)

theorem Ext.thenApplyChunks (snap : Snapshot) : ∀ (fuel : Nat) {sy : Sy} (sc : Script),
    Ext env R a sy → Ext env R a (applyChunks recent snap fuel sy sc).2.1 := by
  intro fuel
  induction fuel with
  | zero => exact fun _ h => h
  | succ f ih =>
    intro sy sc h
    unfold applyChunks
    simp only
    have g := h.thenGap recent sc
    generalize gapStep recent sy sc = p at g ⊢
    obtain ⟨sy0, sc0⟩ := p
    split
    · exact g
    · split
      · exact g
      · have s := Ext.thenStarve recent snap ‹Nat› (sc0.late.length + 2) sc0 g
        split
        · exact ih _ s
        · exact s
      · rename_i c q' _
        have a1 := (g.thenQueue (some q') sy0.active).thenApplyOne recent c sc0
        generalize applyOne recent c _ sc0 = p at a1 ⊢
        obtain ⟨v, sy1, sc1⟩ := p
        cases v
        case accept => exact ih _ a1
        case retry => exact ih _ (a1.thenQueue _ _)
        all_goals exact a1

theorem Ext.thenSyncBody (snap : Snapshot) (fuel : Nat) (sc : Script) (h : Ext env R a sy)
    (hk : keyOf snap ∉ R.keys) (hf : snap.format ∉ R.formats) :
    Ext env R a (syncBody recent env snap fuel sy sc).2.1 := by
  unfold syncBody
  simp only
  have l0 := h.thenLog (.provAppHash snap.height) trivial
  split
  · rename_i appHash hah
    -- each intermediate state is named as soon as it is known to extend `a`
    have g1 := l0.thenGap recent sc
    generalize gapStep recent _ sc = p at g1 ⊢
    obtain ⟨sy1, sc1⟩ := p
    generalize popOffer sc1 = p
    obtain ⟨ov, sc2⟩ := p
    have d1 := (g1.thenLog (.offer snap appHash ov.result) ⟨hah, hk, hf⟩).thenDeliverAll recent ov.pre
    simp only
    split
    all_goals try exact d1
    have l2 := (d1.thenGap recent sc2).thenLog (.provState snap.height) trivial
    generalize gapStep recent _ sc2 = p at l2 ⊢
    obtain ⟨sy3, sc3⟩ := p
    split
    · have l3 := (l2.thenGap recent sc3).thenLog (.provCommit snap.height) trivial
      generalize gapStep recent _ sc3 = p at l3 ⊢
      obtain ⟨sy4, sc4⟩ := p
      split
      · have c4 := Ext.thenApplyChunks recent snap fuel sc4 l3
        generalize applyChunks recent snap fuel _ sc4 = p at c4 ⊢
        obtain ⟨r, sy5, sc5⟩ := p
        cases r with
        | error e => exact c4
        | ok u =>
          have l4 := c4.thenLog (.info (resolveInfo (popInfo sc5).1 ‹PState›.appVersion appHash snap.height)) trivial
          simp only
          split <;> exact l4
      · exact l3
    · exact l2
  · exact l0

theorem Ext.thenSync (snap : Snapshot) (fuel : Nat) (sc : Script) (h : Ext env R a sy)
    (hk : keyOf snap ∉ R.keys) (hf : snap.format ∉ R.formats) :
    Ext env R a (sync recent env snap fuel sy sc).2.1 := by
  unfold sync
  split
  · exact h
  · exact (Ext.thenSyncBody recent snap fuel sc (h.thenQueue _ true) hk hf).thenQueue _ false

end forward

/-- the weaker extension across `SyncAny` iterations: blacklists may grow -/
def ExtA (env : Env) (R : Rej) (sy sy' : Sy) : Prop :=
  Inv R sy' ∧ ∃ l, sy'.journal = sy.journal ++ l ∧ ∀ e ∈ l, Good env R e

theorem Ext.toA {env : Env} {R : Rej} {a b : Sy} (h : Ext env R a b) : ExtA env R a b :=
  ⟨h.inv, h.2.2.2⟩

theorem ExtA.inv {env : Env} {R : Rej} {sy sy' : Sy} (h : ExtA env R sy sy') : Inv R sy' := h.1

theorem ExtA.trans {env : Env} {R : Rej} {a b c : Sy} (h1 : ExtA env R a b) (h2 : ExtA env R b c) :
    ExtA env R a c := by
  obtain ⟨_, l1, j1, g1⟩ := h1
  obtain ⟨i2, l2, j2, g2⟩ := h2
  refine ⟨i2, l1 ++ l2, by rw [j2, j1, List.append_assoc], ?_⟩
  intro e he
  rcases List.mem_append.mp he with h | h
  · exact g1 e h
  · exact g2 e h

theorem ExtA.thenExt {env : Env} {R : Rej} {a sy sy' : Sy} (h : ExtA env R a sy) (h' : Ext env R sy sy') :
    ExtA env R a sy' :=
  h.trans h'.toA

theorem ExtA.thenPool {env : Env} {R : Rej} {a sy : Sy} (h : ExtA env R a sy) {p : Pool} (hc : Clean p)
    (hg : Grows sy.pool p) (q : Option Queue) : ExtA env R a { sy with pool := p, queue := q } :=
  h.trans ⟨h.inv.of_grows hc hg q sy.journal, [], by simp, by simp⟩

/-- a rejection keeps the pool clean and forgets nothing, so the loop goes on under the same invariant -/
theorem ExtA.thenSyncAny (choose : Pool → Option Snapshot)
    (hchoose : ∀ p s, choose p = some s → s ∈ p.snaps) (env : Env) (R : Rej) (fuel : Nat) :
    ∀ (n : Nat) (cur : Option Snapshot) {sy : Sy} (sc : Script) {a : Sy}, ExtA env R a sy →
      (∀ s, cur = some s → keyOf s ∉ sy.pool.blSnap ∧ s.format ∉ sy.pool.blFormat) →
      ExtA env R a (syncAny recent choose env fuel n cur sy sc).2.1 := by
  intro n
  induction n with
  | zero => exact fun _ _ _ _ h _ => h
  | succ n ih =>
    intro cur sy sc a h hcur
    unfold syncAny
    simp only
    have g := (Ext.refl (env := env) h.inv).thenGap recent sc
    generalize gapStep recent sy sc = p at g ⊢
    obtain ⟨sy0, sc0⟩ := p
    have hg := h.thenExt g
    split
    · exact hg
    · rename_i snap sy1 hpick
      have hp : (∃ q, sy1 = { sy0 with queue := q }) ∧
          keyOf snap ∉ sy0.pool.blSnap ∧ snap.format ∉ sy0.pool.blFormat := by
        cases cur with
        | some s =>
          cases hpick
          exact ⟨⟨_, rfl⟩, g.blSnap ▸ (hcur snap rfl).1, g.blFormat ▸ (hcur snap rfl).2⟩
        | none =>
          simp only at hpick
          cases hc : choose sy0.pool with
          | none => rw [hc] at hpick; cases hpick
          | some s =>
            rw [hc] at hpick
            cases hpick
            have hm := hchoose _ _ hc
            exact ⟨⟨_, rfl⟩, g.inv.clean.snapKey snap hm, g.inv.clean.snapFormat snap hm⟩
      obtain ⟨⟨q1, rfl⟩, hk0, hf0⟩ := hp
      split
      · exact hg.thenExt (Ext.queue g.inv _ _)
      · rename_i sy2 hmk
        obtain ⟨q2, rfl⟩ : ∃ q, sy2 = { sy0 with queue := q } := by
          cases q1 with
          | some q => cases hmk; exact ⟨_, rfl⟩
          | none =>
            simp only at hmk
            cases hn : Queue.new snap with
            | none => rw [hn] at hmk; cases hmk
            | some q => rw [hn] at hmk; cases hmk; exact ⟨_, rfl⟩
        have s1 := (Ext.queue (env := env) g.inv q2 sy0.active).thenSync recent snap fuel sc0
          (fun hin => hk0 (g.inv.keys _ hin)) (fun hin => hf0 (g.inv.formats _ hin))
        generalize sync recent env snap fuel _ sc0 = p at s1 ⊢
        obtain ⟨r, sy3, sc3⟩ := p
        have c := hg.thenExt s1
        have again : ∀ p : Pool, Clean p → Grows sy3.pool p →
            ExtA env R a (syncAny recent choose env fuel n none { sy3 with pool := p, queue := none } sc3).2.1 :=
          fun p hc hg => ih none sc3 (c.thenPool hc hg none) (fun _ h => by cases h)
        have stop : ∀ q, ExtA env R a { sy3 with queue := q } := fun q => c.thenExt (Ext.queue s1.inv q _)
        have hrej := again _ (clean_reject s1.inv.clean snap).1 (clean_reject s1.inv.clean snap).2.2
        cases r with
        | ok x => exact stop _
        | error e =>
          cases e
          case retrySnapshot =>
            exact ih (some snap) sc3 (stop _) fun s hs' => by
              cases hs'; exact ⟨s1.blSnap ▸ hk0, s1.blFormat ▸ hf0⟩
          case rejectFormat =>
            exact again _ (clean_rejectFormat s1.inv.clean snap.format).1 (clean_rejectFormat s1.inv.clean snap.format).2.2
          case rejectSender =>
            have hp := foldl_rejectPeer (ps := sy3.pool.getPeers snap) s1.inv.clean
            exact again _ hp.1 hp.2.2
          case timeout | rejectSnapshot | deadline => exact hrej
          all_goals exact stop _

end Tmv.StateSync.Thm
