import Tmv.Lemmas.ConsCore
import Tmv.Lemmas.ConsVotes
import Tmv.Lemmas.Star
/-! The result of every function of the node model (`enterX`, `addVote`, `step`, …) is reached from its
argument by a path of moves (`Prim`), each one state change of `consensus/state.go` with the guards
that hold where the model makes it; an invariant of the node is then one case analysis over the moves
(`Star.inv`, `step_invariant`); what the moves do to the vote sets is `Prim.votes`, for every invariant of these.

A move is as large as the order of the Go code requires for round, step, lock, part set and outputs to
fit together between two moves: `enterPropose`, `enterPrevote`, `enterPrecommit` sign first and set
round and step last (Go's `defer`), so "sign and enter the step" is one move, and so are `enterCommit` and
dropping the block for a polka's while fetching its parts (`dropFetch`).
`enterNewRound` does `updateRoundStep` and then `SetRound`; the path takes the two in the other order
(same state), so that the round never runs ahead of the vote sets' round.

Storing the data of an input (`enter`) and taking an own message off the queue (`Pop`) are not moves:
they have no guard on round or step, and handling one message is `enter` followed by `Prim`s only; `drain` and
`step` alternate the two (`Turn`: a move, or a `Pop`).

Most invariants are stated twice: `XI` on the fields it reads (`AI r st lr`, `GI r st out`, `KUI …`), where the
lemmas about single field changes live (`XI.push`, `XI.mono`, …), and `X s := XI s.round s.step …` on the state, an
`abbrev`, so that a goal `X { s with … }` is a goal `XI …` with the projections reduced. -/
namespace Tmv.Cons

/-- what `handleMsg` stores of a message before it takes any transition -/
def enter (c : Cfg) (s : NodeState) : Input → NodeState
  | .proposal p => setProposal c s p
  | .blockComplete b =>
    match s.proposalParts with
    | none => s
    | some h => if h ≠ b then s else if s.partsDone then s else { s with partsDone := true, proposalBlock := some b }
  | .vote v peer => { s with votes := (s.votes.addVote c v peer).1 }
  | .peerMaj23 r t peer bid => { s with votes := s.votes.setPeerMaj23 r t peer bid }
  | .timeout _ _ => s
  | .txsAvailable => s

/-- The cases of `enter` with their guards (`enter_entry`): what a proof does `cases` on. -/
inductive Entry (c : Cfg) (s : NodeState) : Input → NodeState → Prop
  | skip (i : Input) : Entry c s i s
  | proposal (p : Proposal) (hn : ¬ s.proposal.isSome = true) (hr : ¬ p.round ≠ s.round)
      (hpol : ¬(p.pol < -1 ∨ (p.pol ≥ 0 ∧ p.pol ≥ (p.round : Int))))
      (hsig : ¬(p.signer ≠ c.proposer s.valRound ∨ p.signer ≥ c.n)) (hparts : ¬ s.proposalParts.isNone = true) :
      Entry c s (.proposal p) { s with proposal := some p }
  | proposalParts (p : Proposal) (hn : ¬ s.proposal.isSome = true) (hr : ¬ p.round ≠ s.round)
      (hpol : ¬(p.pol < -1 ∨ (p.pol ≥ 0 ∧ p.pol ≥ (p.round : Int))))
      (hsig : ¬(p.signer ≠ c.proposer s.valRound ∨ p.signer ≥ c.n)) (hparts : s.proposalParts.isNone = true) :
      Entry c s (.proposal p) { s with proposal := some p, proposalParts := some p.bid, partsDone := false }
  | part (b : Nat) (hp : s.proposalParts = some b) (hd : ¬ s.partsDone = true) :
      Entry c s (.blockComplete b) { s with partsDone := true, proposalBlock := some b }
  | vote (v : Vote) (peer : Peer) : Entry c s (.vote v peer) { s with votes := (s.votes.addVote c v peer).1 }
  | peerMaj23 (r : Nat) (t : VType) (peer : Peer) (bid : Bid) :
      Entry c s (.peerMaj23 r t peer bid) { s with votes := s.votes.setPeerMaj23 r t peer bid }

theorem enter_entry (c : Cfg) (s : NodeState) (i : Input) : Entry c s i (enter c s i) := by
  cases i with
  | proposal p =>
    show Entry c s _ (setProposal c s p)
    unfold setProposal
    repeat' split
    all_goals first | exact .skip _ | skip
    dsimp only
    split
    · exact .proposalParts p ‹_› ‹_› ‹_› ‹_› ‹_›
    · exact .proposal p ‹_› ‹_› ‹_› ‹_› ‹_›
  | blockComplete b =>
    show Entry c s _ (match s.proposalParts with
      | none => s
      | some h => if h ≠ b then s else if s.partsDone then s else { s with partsDone := true, proposalBlock := some b })
    repeat' split
    all_goals first | exact .skip _ | skip
    rename_i h hp hb hd
    have e : h = b := Decidable.of_not_not hb
    subst e
    exact .part h hp hd
  | vote v peer => exact .vote v peer
  | peerMaj23 r t peer bid => exact .peerMaj23 r t peer bid
  | timeout r st => exact .skip _
  | txsAvailable => exact .skip _

/-- `enter` writes only the proposal, the block and its parts, and the vote sets. -/
structure EnterFrame (s t : NodeState) : Prop where
  round : t.round = s.round
  step : t.step = s.step
  lockedRound : t.lockedRound = s.lockedRound
  lockedBlock : t.lockedBlock = s.lockedBlock
  commitRound : t.commitRound = s.commitRound
  decided : t.decided = s.decided
  halted : t.halted = s.halted
  lss : t.lss = s.lss
  queue : t.queue = s.queue
  out : t.out = s.out

theorem Entry.framed {c : Cfg} {s t : NodeState} {i : Input} (h : Entry c s i t) : EnterFrame s t := by
  cases h <;> exact ⟨rfl, rfl, rfl, rfl, rfl, rfl, rfl, rfl, rfl, rfl⟩

theorem enter_framed (c : Cfg) (s : NodeState) (i : Input) : EnterFrame s (enter c s i) := (enter_entry c s i).framed

def Internal.asInput : Internal → Input
  | .proposal p => .proposal p
  | .part b => .blockComplete b
  | .vote v => .vote v 0

theorem handleInternal_eq (c : Cfg) (s : NodeState) (m : Internal) :
    handleInternal c s m = handleInput c s m.asInput := by
  cases m <;> rfl

/-- What `enterPrecommit` precommits (`x`) and the lock change it makes first (`t`), by the prevotes of round `r` -/
inductive PrecommitCase (c : Cfg) (s : NodeState) (r : Nat) : NodeState → Bid → Prop
  /-- precommit nil, lock untouched: no +2/3 prevote majority, or one for nil while not locked (the case does not
  record which) -/
  | nil : PrecommitCase c s r s none
  /-- +2/3 prevoted `bid`, which is not the locked block: unlock -/
  | unlock (bid : Bid) (hm : maj23Of (s.votes.prevotes r) = some bid) (hne : ∀ b, s.lockedBlock = some b → bid ≠ some b) :
      PrecommitCase c s r (unlock s) none
  /-- +2/3 prevoted a block we neither locked nor have, nor have the parts of: unlock and fetch it -/
  | fetch (b : Nat) (hm : maj23Of (s.votes.prevotes r) = some (some b))
      (hne : ∀ b', s.lockedBlock = some b' → (some b : Bid) ≠ some b')
      (hp : s.proposalBlock ≠ some b) (hd : ¬ hasHeader s.proposalParts (some b) = true) :
      PrecommitCase c s r { unlock s with proposalBlock := none, proposalParts := some b, partsDone := false } none
  /-- +2/3 prevoted the locked block: relock in this round, precommit it -/
  | relock (b : Nat) (hm : maj23Of (s.votes.prevotes r) = some (some b)) (hl : s.lockedBlock = some b) :
      PrecommitCase c s r { s with lockedRound := r } (some b)
  /-- +2/3 prevoted the (valid) proposal block: lock it, precommit it -/
  | lock (b : Nat) (hm : maj23Of (s.votes.prevotes r) = some (some b)) (hl : s.lockedBlock ≠ some b)
      (hp : s.proposalBlock = some b) (hv : c.valid b = true) :
      PrecommitCase c s r { s with lockedRound := r, lockedBlock := s.proposalBlock } (some b)

/-- The lock change of `enterPrecommit` writes only the lock and, when fetching, the block and its parts. -/
structure LockFrame (s t : NodeState) : Prop where
  round : t.round = s.round
  step : t.step = s.step
  proposal : t.proposal = s.proposal
  commitRound : t.commitRound = s.commitRound
  votes : t.votes = s.votes
  valRound : t.valRound = s.valRound
  decided : t.decided = s.decided
  halted : t.halted = s.halted
  lss : t.lss = s.lss
  queue : t.queue = s.queue
  out : t.out = s.out

theorem PrecommitCase.frame {c : Cfg} {s t : NodeState} {r : Nat} {x : Bid} (h : PrecommitCase c s r t x) :
    LockFrame s t := by
  cases h <;> exact ⟨rfl, rfl, rfl, rfl, rfl, rfl, rfl, rfl, rfl, rfl, rfl⟩

/-- `r` is the round argument of the `enterX` the move belongs to; `s.round ≤ r` follows from its guard,
and `ok → r ≤ s.round` records that the callers pass a round the node has reached. They do, except for
a timeout naming a future round: paths come with `ok := True` when the input is known not to be one,
and with `ok := False` unconditionally.

`cm s` is what is known of a state in which the node enters the commit step or decides (`decide` and the three
moves into the commit step carry it: the latter are the only ones after which the model comes to
`finalizeCommit`): `fun _ => False` for the functions that do neither, `fun _ => True` when nothing is asked,
`fun s => s.decided = none` for a node that is handled only while undecided (`step`, `drain`).
A path that has none of the four moves is stated for every `cm` (`∀ cm, Star (Prim c ok cm) s t`) and used at
`fun _ => False` (`Star.decided_eq`) and at the caller's `cm`. -/
inductive Prim (c : Cfg) (ok : Prop) (cm : NodeState → Prop) : NodeState → NodeState → Prop
  /-- a Go `panic`: the receive routine stops -/
  | panic {s} (w : String) : Prim c ok cm s (panicWith s w)
  /-- `scheduleTimeout` outside an `enterX`: waiting for transactions (`enterNewRound`, `handleTxsAvailable`; both
  schedule `RoundStepNewRound`, which the move does not record) -/
  | schedule {s} (r : Nat) (st : Step) (hr : r ≤ s.round) :
      Prim c ok cm s (emit s (.schedule r st))
  /-- `enterNewRound`: `updateRoundStep(round, RoundStepNewRound)`, proposer priorities, proposal reset; `hle` (the
  vote sets track the round already: `setRound` goes first) is what keeps `round ≤ votes.round` (Lemmas/SyncOwnNode.lean) -/
  | newRound {s} (r : Nat) (hh : ¬ s.halted = true)
      (hg : ¬(r < s.round ∨ (s.round = r ∧ s.step ≠ .newHeight))) (hle : (r : Int) ≤ s.votes.round) :
      Prim c ok cm s (newRoundReset s r)
  /-- `enterNewRound`: `cs.Votes.SetRound(round + 1)`, `TriggeredTimeoutPrecommit = false` -/
  | setRound {s} (r : Nat) (hv : HVS) (hs : s.votes.setRound ((r : Int) + 1) = some hv) (hr : s.round ≤ r) :
      Prim c ok cm s { s with votes := hv, triggered := false }
  /-- `enterPropose` of a node that is not the proposer: schedule the propose timeout, enter the step -/
  | propose {s} (r : Nat) (hh : ¬ s.halted = true)
      (hg : ¬(r < s.round ∨ (s.round = r ∧ Step.propose.rank ≤ s.step.rank))) (hr : ok → r ≤ s.round)
      (hnp : ∀ me, c.self = some me → c.proposer s.valRound ≠ me) :
      Prim c ok cm s { emit s (.schedule r .propose) with round := r, step := .propose }
  /-- `enterPropose` of the proposer: … and `decideProposal` -/
  | proposeOwn {s} (r me : Nat) (hh : ¬ s.halted = true)
      (hg : ¬(r < s.round ∨ (s.round = r ∧ Step.propose.rank ≤ s.step.rank))) (hr : ok → r ≤ s.round)
      (hself : c.self = some me) (hme : c.proposer s.valRound = me) :
      Prim c ok cm s { decideProposal c (emit s (.schedule r .propose)) r me with round := r, step := .propose }
  /-- `enterPrevote` with `defaultDoPrevote`: the locked block, else the proposal block if valid, else nil -/
  | prevote {s} (r : Nat) (bid : Bid) (hh : ¬ s.halted = true)
      (hg : ¬(r < s.round ∨ (s.round = r ∧ Step.prevote.rank ≤ s.step.rank))) (hr : ok → r ≤ s.round)
      (hl : ∀ b, s.lockedBlock = some b → bid = some b)
      (hb : ∀ b, bid = some b → s.lockedBlock = some b ∨ (s.proposalBlock = some b ∧ c.valid b = true)) :
      Prim c ok cm s { signAddVote c s .prevote bid with round := r, step := .prevote }
  /-- `enterPrevoteWait`: +2/3 of any prevotes, schedule the timeout -/
  | prevoteWait {s} (r : Nat) (hh : ¬ s.halted = true)
      (hg : ¬(r < s.round ∨ (s.round = r ∧ Step.prevoteWait.rank ≤ s.step.rank))) (hr : ok → r ≤ s.round)
      (ha : hasAnyOf c (s.votes.prevotes r) = true) :
      Prim c ok cm s { emit s (.schedule r .prevoteWait) with round := r, step := .prevoteWait }
  /-- `enterPrecommit`: change the lock, sign the precommit, enter the step -/
  | precommit {s} (r : Nat) (t : NodeState) (x : Bid) (hh : ¬ s.halted = true)
      (hg : ¬(r < s.round ∨ (s.round = r ∧ Step.precommit.rank ≤ s.step.rank))) (hr : ok → r ≤ s.round)
      (hc : PrecommitCase c s r t x) :
      Prim c ok cm s { signAddVote c t .precommit x with round := r, step := .precommit }
  /-- `enterPrecommitWait` is only entered for a round reached (`afterPrecommit` enters the round first) -/
  | precommitWait {s} (r : Nat) (hh : ¬ s.halted = true)
      (hg : ¬(r < s.round ∨ (s.round = r ∧ s.triggered = true))) (hr : r ≤ s.round)
      (ha : hasAnyOf c (s.votes.precommits r) = true) :
      Prim c ok cm s { emit s (.schedule r .precommitWait) with triggered := true }
  /-- `enterCommit` replaces block and parts first and sets the step last; one move. The locked block is
  the committed one: -/
  | commitLocked {s} (r : Nat) (bid : Bid) (hm : maj23Of (s.votes.precommits r) = some bid)
      (hl : hashesTo s.lockedBlock bid = true) (hh : ¬ s.halted = true) (hg : ¬ Step.commit.rank ≤ s.step.rank)
      (hcm : cm s) :
      Prim c ok cm s { s with proposalBlock := s.lockedBlock, proposalParts := s.lockedBlock, partsDone := true,
                              step := .commit, commitRound := r }
  /-- … we do not have the committed block: -/
  | commitFetch {s} (r : Nat) (bid : Bid) (hm : maj23Of (s.votes.precommits r) = some bid)
      (hp : ¬ hashesTo s.proposalBlock bid = true) (hd : ¬ hasHeader s.proposalParts bid = true)
      (hh : ¬ s.halted = true) (hg : ¬ Step.commit.rank ≤ s.step.rank) (hl : ¬ hashesTo s.lockedBlock bid = true)
      (hcm : cm s) :
      Prim c ok cm s { s with proposalBlock := none, proposalParts := bid, partsDone := false,
                              step := .commit, commitRound := r }
  /-- … we have it, or are fetching it already: -/
  | commit {s} (r : Nat) (bid : Bid) (hh : ¬ s.halted = true) (hg : ¬ Step.commit.rank ≤ s.step.rank)
      (hm : maj23Of (s.votes.precommits r) = some bid) (hl : ¬ hashesTo s.lockedBlock bid = true)
      (hk : hashesTo s.proposalBlock bid = true ∨ hasHeader s.proposalParts bid = true) (hcm : cm s) :
      Prim c ok cm s { s with step := .commit, commitRound := r }
  /-- `finalizeCommit`: the committed block is complete and valid -/
  | decide {s} (b : Nat) (hh : ¬ s.halted = true) (hst : s.step = .commit)
      (hm : maj23Of (s.votes.precommits s.commitRound) = some (some b))
      (hd : hasHeader s.proposalParts (some b) = true) (hp : hashesTo s.proposalBlock (some b) = true)
      (hv : c.valid b = true) (hcm : cm s) :
      Prim c ok cm s { emit s (.decide b s.commitRound) with decided := some (b, s.commitRound) }
  /-- a +2/3 prevote majority of the current round for the proposal block makes it the valid block -/
  | valid {s} (vr : Nat) (bid : Bid) (hm : maj23Of (s.votes.prevotes vr) = some bid) (hb : bid.isSome = true)
      (hlt : s.validRound < (vr : Int)) (hvr : vr = s.round) (hp : hashesTo s.proposalBlock bid = true) :
      Prim c ok cm s { s with validRound := vr, validBlock := s.proposalBlock }
  /-- … for another block whose header the part set has: the proposal block is dropped (`hd` keeps of this what
  is needed: a complete part set is that block's) -/
  | dropBlock {s} (vr : Nat) (bid : Bid) (hm : maj23Of (s.votes.prevotes vr) = some bid) (hb : bid.isSome = true)
      (hlt : s.validRound < (vr : Int)) (hvr : vr = s.round) (hp : ¬ hashesTo s.proposalBlock bid = true)
      (hd : s.partsDone = true → hasHeader s.proposalParts bid = true) :
      Prim c ok cm s { s with proposalBlock := none }
  /-- … for another block with another header: the block is dropped and its parts are fetched. One move: with
  the block dropped the old part set may be complete without a block, and with the new part set the old
  block would be held without its parts. -/
  | dropFetch {s} (vr : Nat) (bid : Bid) (hm : maj23Of (s.votes.prevotes vr) = some bid) (hb : bid.isSome = true)
      (hlt : s.validRound < (vr : Int)) (hvr : vr = s.round) (hp : ¬ hashesTo s.proposalBlock bid = true)
      (hd : ¬ hasHeader s.proposalParts bid = true) :
      Prim c ok cm s { s with proposalBlock := none, proposalParts := bid, partsDone := false }
  /-- … for the proposal block, while `ProposalBlockParts` has another header (the model asks; a node that
  holds a block holds it with its parts, `KI.pb` of Lemmas/CommitInv.lean) -/
  | polkaFetch {s} (vr : Nat) (bid : Bid) (hm : maj23Of (s.votes.prevotes vr) = some bid) (hb : bid.isSome = true)
      (hd : ¬ hasHeader s.proposalParts bid = true) (hvr : vr = s.round) (hp : hashesTo s.proposalBlock bid = true) :
      Prim c ok cm s { s with proposalParts := bid, partsDone := false }
  /-- a +2/3 prevote majority of a round in `(LockedRound, Round]` for something else releases the lock -/
  | unlock {s} (vr : Nat) (bid : Bid) (hm : maj23Of (s.votes.prevotes vr) = some bid)
      (hl : s.lockedBlock.isSome = true) (hlt : s.lockedRound < (vr : Int)) (hle : vr ≤ s.round)
      (hne : ∀ b, s.lockedBlock = some b → bid ≠ some b) : Prim c ok cm s (unlock s)


variable {c : Cfg} {ok : Prop} {cm : NodeState → Prop}

theorem Prim.decided_cases {s t : NodeState} (h : Prim c ok cm s t) :
    t.decided = s.decided ∨
      ∃ b, cm s ∧ maj23Of (s.votes.precommits s.commitRound) = some (some b) ∧ c.valid b = true ∧
        t.decided = some (b, s.commitRound) := by
  cases h with
  | panic w => exact .inl (core_decided (panicWith_core s w))
  | schedule r st | propose r | prevoteWait r | precommitWait r =>
    exact .inl (by show (emit s _).decided = _; exact core_decided (emit_core s _))
  | proposeOwn r me =>
    refine .inl ?_
    show (decideProposal c _ r me).decided = _
    exact (core_decided (decideProposal_core c _ r me)).trans (core_decided (emit_core s _))
  | prevote r bid => exact .inl (by show (signAddVote c _ _ _).decided = _; exact core_decided (signAddVote_core c s _ _))
  | precommit r t x _ _ _ hc =>
    exact .inl (by show (signAddVote c t _ x).decided = _; exact (core_decided (signAddVote_core c t _ x)).trans hc.frame.decided)
  | newRound r => exact .inl (newRoundReset_frame s r).decided
  | decide b _ _ hm _ _ hv hcm => exact .inr ⟨b, hcm, hm, hv, rfl⟩
  | _ => exact .inl rfl

theorem Prim.decided_eq {s t : NodeState} (h : Prim c ok (fun _ => False) s t) : t.decided = s.decided :=
  h.decided_cases.resolve_right fun ⟨_, hcm, _⟩ => hcm

theorem _root_.Tmv.Star.decided_eq {s t : NodeState} (h : Star (Prim c ok fun _ => False) s t) : t.decided = s.decided :=
  h.inv (P := fun a => a.decided = s.decided) (fun _ _ hp e => hp.decided_eq.trans e) rfl

theorem enterPrevote_star (s : NodeState) (r : Nat) (hle : ok → s.halted = true ∨ r ≤ s.round) :
    Star (Prim c ok cm) s (enterPrevote c s r) := by
  unfold enterPrevote
  split
  · exact .refl
  rename_i hh
  split
  · exact .refl
  rename_i hg
  have hr : ok → r ≤ s.round := fun o => (hle o).resolve_left hh
  unfold doPrevote
  split
  · rename_i b hb
    refine .single (.prevote r (some b) hh hg hr (fun b' e => ?_) (fun b' e => ?_))
    · rw [hb] at e; exact e
    · cases e; exact .inl hb
  · rename_i hb
    have hl : ∀ b, s.lockedBlock = some b → (none : Bid) = some b := fun b e => by rw [hb] at e; cases e
    split
    · exact .single (.prevote r none hh hg hr hl (fun b' e => by cases e))
    · rename_i b hp
      split
      · rename_i hv
        exact .single (.prevote r (some b) hh hg hr (fun b e => by rw [hb] at e; cases e)
          (fun b' e => by cases e; exact .inr ⟨hp, hv⟩))
      · exact .single (.prevote r none hh hg hr hl (fun b' e => by cases e))

theorem enterPropose_star (s : NodeState) (r : Nat) (hle : ok → s.halted = true ∨ r ≤ s.round) :
    Star (Prim c ok cm) s (enterPropose c s r) := by
  unfold enterPropose
  split
  · exact .refl
  rename_i hh
  split
  · exact .refl
  rename_i hg
  have hr : ok → r ≤ s.round := fun o => (hle o).resolve_left hh
  extract_lets s₁ s₂ s₃
  have hv : s₁.valRound = s.valRound := core_valRound (emit_core s _)
  have h₃ : Star (Prim c ok cm) s s₃ := by
    unfold s₃ s₂
    split
    · rename_i hn
      exact .single (.propose r hh hg hr fun me e => by rw [hn] at e; cases e)
    · rename_i me hme
      split
      · rename_i hp
        exact .single (.proposeOwn r me hh hg hr hme (hv ▸ hp))
      · rename_i hp
        exact .single (.propose r hh hg hr fun me' e => by rw [hme] at e; cases e; exact hv ▸ hp)
  split
  · exact h₃.trans (enterPrevote_star s₃ s₃.round fun _ => .inr (Nat.le_refl _))
  · exact h₃

theorem enterNewRound_star (s : NodeState) (r : Nat) : Star (Prim c ok cm) s (enterNewRound c s r) := by
  unfold enterNewRound
  split
  · exact .refl
  rename_i hh
  split
  · exact .refl
  rename_i hg
  extract_lets s₁
  have hf := newRoundReset_frame s r
  split
  · rename_i hs
    rw [hf.votes] at hs
    have := HVS.setRound_none hs
    exact .head (.newRound r hh hg (by omega)) (.single (.panic _))
  · rename_i hv hs
    rw [hf.votes] at hs
    extract_lets s₂
    have hr : s₂.round = r := hf.round
    -- `SetRound` first, `updateRoundStep` second: the same state, and the round never runs ahead of `Votes`
    have e : s₂ = newRoundReset { s with votes := hv, triggered := false } r := by
      unfold s₂ s₁ newRoundReset; dsimp only; split <;> rfl
    refine .trans (b := s₂) ?_ ?_
    · rw [e]
      exact .head (.setRound r hv hs (le_of_guard hg))
        (.single (.newRound r hh hg (by show (r : Int) ≤ hv.round; rw [HVS.setRound_round hs]; omega)))
    split
    · split
      · exact .single (.schedule r _ (Nat.le_of_eq hr.symm))
      · exact .refl
    · exact enterPropose_star s₂ r fun _ => .inr (Nat.le_of_eq hr.symm)

theorem enterPrevoteWait_star (s : NodeState) (r : Nat) (hle : ok → s.halted = true ∨ r ≤ s.round) :
    Star (Prim c ok cm) s (enterPrevoteWait c s r) := by
  unfold enterPrevoteWait
  split
  · exact .refl
  rename_i hh
  split
  · exact .refl
  rename_i hg
  split
  · exact .single (.panic _)
  rename_i ha
  exact .single (.prevoteWait r hh hg (fun o => (hle o).resolve_left hh) (by simpa using ha))

/-- A `_rule` is the case analysis of a function, for any predicate: it gives the function's path (`_star`) and
serves the statements that follow its control flow instead of holding move by move (Lemmas/ConsHeld.lean,
Lemmas/CommitInv.lean). -/
theorem enterPrecommit_rule {P : NodeState → Prop} (s : NodeState) (r : Nat)
    (hs : s.halted = true ∨ (r < s.round ∨ (s.round = r ∧ Step.precommit.rank ≤ s.step.rank)) → P s)
    (hp : ∀ w, P (panicWith s w))
    (hv : ¬ s.halted = true → ¬ (r < s.round ∨ (s.round = r ∧ Step.precommit.rank ≤ s.step.rank)) → ∀ t x,
      PrecommitCase c s r t x → P { signAddVote c t .precommit x with round := r, step := .precommit }) :
    P (enterPrecommit c s r) := by
  unfold enterPrecommit
  by_cases hh : s.halted = true
  · rw [if_pos hh]; exact hs (.inl hh)
  rw [if_neg hh]
  by_cases hg : r < s.round ∨ (s.round = r ∧ Step.precommit.rank ≤ s.step.rank)
  · rw [if_pos hg]; exact hs (.inr hg)
  rw [if_neg hg]
  extract_lets done s₁ s₂ s₃ s₄
  have hv' : ∀ t x, PrecommitCase c s r t x → P (done (signAddVote c t .precommit x)) := hv hh hg
  split
  · exact hv' _ _ .nil
  rename_i bid hm
  split
  · exact hp _
  split
  · unfold s₁
    split
    · exact hv' _ _ .nil
    · exact hv' _ _ (.unlock none hm fun b _ e => by cases e)
  rename_i b
  split
  · rename_i hl
    exact hv' _ _ (.relock b hm (hashesTo_some hl))
  rename_i hl
  have hne : s.lockedBlock ≠ some b := fun e => hl (by rw [e]; exact hashesTo_refl b)
  split
  · rename_i hpb
    split
    · exact hp _
    · rename_i hval
      exact hv' _ _ (.lock b hm hne (hashesTo_some hpb) (by simpa using hval))
  · rename_i hpb
    have hnp : s.proposalBlock ≠ some b := fun e => hpb (by rw [e]; exact hashesTo_refl b)
    extract_lets s₅
    unfold s₅
    split
    · rename_i hd
      exact hv' _ _ (.fetch b hm (fun b' e e' => by cases e'; exact hne e) hnp (by have hd' : (!hasHeader s.proposalParts (some b)) = true := hd; simpa using hd'))
    · exact hv' _ _ (.unlock (some b) hm fun b' e e' => by cases e'; exact hne e)

theorem enterPrecommit_star (s : NodeState) (r : Nat) (hle : ok → s.halted = true ∨ r ≤ s.round) :
    Star (Prim c ok cm) s (enterPrecommit c s r) :=
  enterPrecommit_rule (P := Star (Prim c ok cm) s) s r (fun _ => .refl) (fun w => .single (.panic w))
    fun hh hg t x hc => .single (.precommit r t x hh hg (fun o => (hle o).resolve_left hh) hc)

theorem enterPrecommitWait_star (s : NodeState) (r : Nat) (hle : s.halted = true ∨ r ≤ s.round) :
    Star (Prim c ok cm) s (enterPrecommitWait c s r) := by
  unfold enterPrecommitWait
  split
  · exact .refl
  rename_i hh
  split
  · exact .refl
  rename_i hg
  split
  · exact .single (.panic _)
  rename_i ha
  exact .single (.precommitWait r hh hg (hle.resolve_left hh) (by simpa using ha))

theorem finalizeCommit_rule {P : NodeState → Prop} (s : NodeState) (hs : s.halted = true ∨ s.step ≠ .commit → P s)
    (hp : ∀ w, P (panicWith s w))
    (hd : ¬ s.halted = true → s.step = .commit → ∀ b, maj23Of (s.votes.precommits s.commitRound) = some (some b) →
      hasHeader s.proposalParts (some b) = true → hashesTo s.proposalBlock (some b) = true → c.valid b = true →
      P { emit s (.decide b s.commitRound) with decided := some (b, s.commitRound) }) :
    P (finalizeCommit c s) := by
  unfold finalizeCommit
  by_cases hh : s.halted = true
  · rw [if_pos hh]; exact hs (.inl hh)
  rw [if_neg hh]
  by_cases hst : s.step ≠ .commit
  · rw [if_pos hst]; exact hs (.inr hst)
  rw [if_neg hst]
  split
  · exact hp _
  rename_i bid hm
  split
  · exact hp _
  rename_i hhd
  split
  · exact hp _
  rename_i hhp
  split
  · exact hp _
  rename_i b
  split
  · exact hp _
  rename_i hv
  extract_lets s₁
  have e : ({ s₁ with decided := some (b, s₁.commitRound) } : NodeState) = { s₁ with decided := some (b, s.commitRound) } :=
    congrArg (fun x => ({ s₁ with decided := some (b, x) } : NodeState)) (core_commitRound (emit_core s _))
  rw [e]
  exact hd hh (Decidable.of_not_not hst) b hm (by simpa using hhd) (by simpa using hhp) (by simpa using hv)

theorem finalizeCommit_star (s : NodeState) (hcm : cm s) : Star (Prim c ok cm) s (finalizeCommit c s) :=
  finalizeCommit_rule (P := Star (Prim c ok cm) s) s (fun _ => .refl) (fun w => .single (.panic w))
    fun hh hst b hm hd hp hv => .single (.decide b hh hst hm hd hp hv hcm)

theorem tryFinalizeCommit_rule {P : NodeState → Prop} (s : NodeState)
    (hs : (s.halted = false → ∀ b, maj23Of (s.votes.precommits s.commitRound) = some (some b) → s.proposalBlock ≠ some b) →
      P s)
    (hf : P (finalizeCommit c s)) : P (tryFinalizeCommit c s) := by
  unfold tryFinalizeCommit
  by_cases hh : s.halted = true
  · rw [if_pos hh]; exact hs fun hn => by rw [hh] at hn; cases hn
  rw [if_neg hh]
  split
  · rename_i hm
    exact hs fun _ b hb => by rw [hm] at hb; cases hb
  · rename_i hm
    exact hs fun _ b hb => by rw [hm] at hb; cases hb
  · rename_i bid _ hm
    split
    · rename_i hn
      refine hs fun _ b hb e => ?_
      rw [hm] at hb; cases hb
      rw [e, hashesTo_refl] at hn
      cases hn
    · exact hf

theorem tryFinalizeCommit_star (s : NodeState) (hcm : cm s) : Star (Prim c ok cm) s (tryFinalizeCommit c s) :=
  tryFinalizeCommit_rule (P := Star (Prim c ok cm) s) s (fun _ => .refl) (finalizeCommit_star s hcm)

theorem enterCommit_rule {P : NodeState → Prop} (s : NodeState) (r : Nat)
    (hs : s.halted = true ∨ Step.commit.rank ≤ s.step.rank → P s)
    (hp : maj23Of (s.votes.precommits r) = none → ∀ w, P (panicWith s w))
    (hc : ¬ s.halted = true → ¬ Step.commit.rank ≤ s.step.rank → ∀ bid, maj23Of (s.votes.precommits r) = some bid →
      (hashesTo s.lockedBlock bid = true →
        P (tryFinalizeCommit c { s with proposalBlock := s.lockedBlock, proposalParts := s.lockedBlock, partsDone := true,
                                        step := .commit, commitRound := r })) ∧
      (¬ hashesTo s.lockedBlock bid = true → ¬ hashesTo s.proposalBlock bid = true →
        ¬ hasHeader s.proposalParts bid = true →
        P (tryFinalizeCommit c { s with proposalBlock := none, proposalParts := bid, partsDone := false,
                                        step := .commit, commitRound := r })) ∧
      (¬ hashesTo s.lockedBlock bid = true →
        hashesTo s.proposalBlock bid = true ∨ hasHeader s.proposalParts bid = true →
        P (tryFinalizeCommit c { s with step := .commit, commitRound := r }))) :
    P (enterCommit c s r) := by
  unfold enterCommit
  by_cases hh : s.halted = true
  · rw [if_pos hh]; exact hs (.inl hh)
  rw [if_neg hh]
  by_cases hg : Step.commit.rank ≤ s.step.rank
  · rw [if_pos hg]; exact hs (.inr hg)
  rw [if_neg hg]
  split
  · exact hp ‹_› _
  rename_i bid hm
  obtain ⟨h₁, h₂, h₃⟩ := hc hh hg bid hm
  extract_lets s₁ s₂ s₃
  unfold s₃ s₂ s₁
  by_cases hl : hashesTo s.lockedBlock bid = true
  · rw [if_pos hl]
    dsimp only
    rw [if_neg (by rw [hl]; decide)]
    exact h₁ hl
  rw [if_neg hl]
  by_cases hpb : hashesTo s.proposalBlock bid = true
  · rw [if_neg (by rw [hpb]; decide)]
    exact h₃ hl (.inl hpb)
  rw [if_pos (by simpa using hpb)]
  by_cases hd : hasHeader s.proposalParts bid = true
  · rw [if_neg (by rw [hd]; decide)]
    exact h₃ hl (.inr hd)
  rw [if_pos (by simpa using hd)]
  exact h₂ hl hpb hd

/-- `hcm` has this shape because the states in which a function enters the commit step or decides are reached
from its argument by moves that leave `decided` alone. -/
theorem enterCommit_star (s : NodeState) (r : Nat) (hcm : ∀ t, t.decided = s.decided → cm t) :
    Star (Prim c ok cm) s (enterCommit c s r) :=
  enterCommit_rule (P := Star (Prim c ok cm) s) s r (fun _ => .refl) (fun _ w => .single (.panic w))
    fun hh hg bid hm =>
      ⟨fun hl => .head (.commitLocked r bid hm hl hh hg (hcm s rfl)) (tryFinalizeCommit_star _ (hcm _ rfl)),
       fun hl hp hd => .head (.commitFetch r bid hm hp hd hh hg hl (hcm s rfl)) (tryFinalizeCommit_star _ (hcm _ rfl)),
       fun hl hk => .head (.commit r bid hh hg hm hl hk (hcm s rfl)) (tryFinalizeCommit_star _ (hcm _ rfl))⟩

theorem handleCompleteProposal_star (s : NodeState) (hcm : ∀ t, t.decided = s.decided → cm t) :
    Star (Prim c ok cm) s (handleCompleteProposal c s) := by
  unfold handleCompleteProposal
  extract_lets m s₁ s₂
  have h₁ : ∀ cm, Star (Prim c ok cm) s s₁ := by
    intro cm
    unfold s₁ m
    split
    · rename_i b hm
      split
      · rename_i h
        exact .single (.valid s.round (some b) hm rfl h.1 rfl h.2)
      · exact .refl
    · exact .refl
  split
  · have h₂ := (h₁ cm).trans (enterPrevote_star s₁ s₁.round fun _ => .inr (Nat.le_refl _))
    split
    · exact h₂.trans (enterPrecommit_star s₂ s₂.round fun _ => .inr (Nat.le_refl _))
    · exact h₂
  · split
    · exact (h₁ cm).trans (tryFinalizeCommit_star s₁ (hcm _ (h₁ _).decided_eq))
    · exact h₁ cm

theorem onPolka_star (s : NodeState) (vr : Nat) (bid : Bid) (hm : maj23Of (s.votes.prevotes vr) = some bid) :
    Star (Prim c ok cm) s (onPolka s vr bid) := by
  unfold onPolka
  extract_lets s₁ s₂
  have h₁ : Star (Prim c ok cm) s s₁ := by
    unfold s₁
    split
    · rename_i h
      exact .single (.unlock vr bid hm h.1 h.2.1 h.2.2.1 fun b hb => hashesTo_ne (by rw [← hb]; simpa using h.2.2.2))
    · exact .refl
  have hm₁ : maj23Of (s₁.votes.prevotes vr) = some bid := by
    unfold s₁; split <;> exact hm
  split
  · rename_i h
    refine h₁.trans ?_
    unfold s₂
    split
    · rename_i hp
      split
      · rename_i hd
        exact .head (.valid vr bid hm₁ h.1 h.2.1 h.2.2 hp)
          (.single (.polkaFetch vr bid hm₁ h.1 (by simpa using hd) h.2.2 hp))
      · exact .single (.valid vr bid hm₁ h.1 h.2.1 h.2.2 hp)
    · rename_i hp
      split
      · rename_i hd
        exact .single (.dropFetch vr bid hm₁ h.1 h.2.1 h.2.2 hp (by simpa using hd))
      · rename_i hd
        exact .single (.dropBlock vr bid hm₁ h.1 h.2.1 h.2.2 hp fun _ => by simpa using hd)
  · exact h₁

theorem prevoteTransitions_star (s : NodeState) (vr : Nat) : Star (Prim c ok cm) s (prevoteTransitions c s vr) := by
  unfold prevoteTransitions
  extract_lets prevotes
  split
  · exact enterNewRound_star s vr
  split
  · rename_i h
    have hle : ok → s.halted = true ∨ vr ≤ s.round := fun _ => .inr (Nat.le_of_eq h.1.symm)
    split
    · split
      · exact enterPrecommit_star s vr hle
      · split
        · exact enterPrevoteWait_star s vr hle
        · exact .refl
    · split
      · exact enterPrevoteWait_star s vr hle
      · exact .refl
  · repeat' split
    all_goals first | exact .refl | exact enterPrevote_star s s.round fun _ => .inr (Nat.le_refl _)

theorem afterPrevote_star (s : NodeState) (vr : Nat) : Star (Prim c ok cm) s (afterPrevote c s vr) := by
  unfold afterPrevote
  extract_lets s₁
  refine Star.trans ?_ (prevoteTransitions_star s₁ vr)
  unfold s₁
  split
  · exact onPolka_star s vr _ ‹_›
  · exact .refl

theorem Prim.round_le {s t : NodeState} (h : Prim c ok cm s t) : s.round ≤ t.round := by
  cases h with
  | panic w => exact Nat.le_of_eq (core_round (panicWith_core s w)).symm
  | schedule r st => exact Nat.le_of_eq (core_round (emit_core s _)).symm
  | precommitWait r => exact Nat.le_of_eq (core_round (emit_core s _)).symm
  | decide b => exact Nat.le_of_eq (core_round (emit_core s _)).symm
  | newRound r _ hg => rw [(newRoundReset_frame s r).round]; exact le_of_guard hg
  | propose r _ hg | proposeOwn r _ _ hg | prevote r _ _ hg | prevoteWait r _ hg | precommit r _ _ _ hg =>
    exact le_of_guard hg
  | _ => exact Nat.le_refl _

theorem Prim.halted_mono {s t : NodeState} (h : Prim c ok cm s t) (hs : s.halted = true) : t.halted = true := by
  cases h with
  | panic w => exact panicWith_halted s w
  | schedule r st => rw [halted_emit]; exact hs
  | newRound r hh | propose r hh | proposeOwn r _ hh | prevote r _ hh | prevoteWait r hh | precommit r _ _ hh
  | precommitWait r hh | commit r _ hh | commitLocked r _ _ _ hh | commitFetch r _ _ _ _ hh | decide b hh =>
    exact absurd hs hh
  | _ => exact hs

theorem _root_.Tmv.Star.reach {s t : NodeState} {r : Nat} (h : Star (Prim c ok cm) s t) (hs : s.halted = true ∨ r ≤ s.round) :
    t.halted = true ∨ r ≤ t.round :=
  h.inv (P := fun a => a.halted = true ∨ r ≤ a.round)
    (fun _ _ hp => Or.imp hp.halted_mono (fun hr => Nat.le_trans hr hp.round_le)) hs

theorem enterNewRound_reach (s : NodeState) (r : Nat) :
    (enterNewRound c s r).halted = true ∨ r ≤ (enterNewRound c s r).round := by
  unfold enterNewRound
  split
  · exact .inl ‹_›
  rename_i hh
  split
  · rename_i hg
    exact .inr (by omega)
  extract_lets s₁
  have hf := newRoundReset_frame s r
  split
  · exact .inl (panicWith_halted _ _)
  extract_lets s₂
  have hr : r ≤ s₂.round := Nat.le_of_eq hf.round.symm
  split
  · split
    · exact .inr (by rw [core_round (emit_core _ _)]; exact hr)
    · exact .inr hr
  · exact (enterPropose_star (ok := False) (cm := fun _ => False) s₂ r nofun).reach (.inr hr)

theorem enterPrecommit_reach (s : NodeState) (r : Nat) (hle : s.halted = true ∨ r ≤ s.round) :
    (enterPrecommit c s r).halted = true ∨ r ≤ (enterPrecommit c s r).round :=
  (enterPrecommit_star (ok := False) (cm := fun _ => False) s r nofun).reach hle

theorem afterPrecommit_rule {P : NodeState → Prop} (s : NodeState) (vr : Nat)
    (hq : (∀ b, maj23Of (s.votes.precommits vr) ≠ some (some b)) → ∀ t, (∀ cm, Star (Prim c ok cm) s t) → P t)
    (hc : ∀ b, maj23Of (s.votes.precommits vr) = some (some b) → ∀ t, (∀ cm, Star (Prim c ok cm) s t) →
      P (enterCommit c t vr)) :
    P (afterPrecommit c s vr) := by
  unfold afterPrecommit
  extract_lets precommits s₁ s₂
  have h₁ : ∀ cm, Star (Prim c ok cm) s s₁ := fun _ => enterNewRound_star s vr
  split
  · rename_i bid hm
    have h₂ : ∀ cm, Star (Prim c ok cm) s s₂ := fun _ =>
      (h₁ _).trans (enterPrecommit_star s₁ vr fun _ => enterNewRound_reach s vr)
    cases bid with
    | some b => exact hc b hm s₂ h₂
    | none =>
      refine hq (fun b e => by rw [hm] at e; cases e) _ fun _ => (h₂ _).trans ?_
      exact enterPrecommitWait_star s₂ vr (enterPrecommit_reach s₁ vr (enterNewRound_reach s vr))
  · rename_i hm
    have hn : ∀ b, maj23Of (s.votes.precommits vr) ≠ some (some b) := fun b e => by rw [hm] at e; cases e
    split
    · exact hq hn _ fun _ => (h₁ _).trans (enterPrecommitWait_star s₁ vr (enterNewRound_reach s vr))
    · exact hq hn s fun _ => .refl

theorem afterPrecommit_star (s : NodeState) (vr : Nat) (hcm : ∀ t, t.decided = s.decided → cm t) :
    Star (Prim c ok cm) s (afterPrecommit c s vr) :=
  afterPrecommit_rule (P := Star (Prim c ok cm) s) s vr (fun _ _ h => h cm)
    fun _ _ t h => (h cm).trans (enterCommit_star t vr fun u e => hcm u (e.trans (h _).decided_eq))

theorem handleTimeout_star (s : NodeState) (r : Nat) (st : Step) (hr : ok → r ≤ s.round) :
    Star (Prim c ok cm) s (handleTimeout c s r st) := by
  unfold handleTimeout
  split
  · exact .refl
  have hle : ok → s.halted = true ∨ r ≤ s.round := fun o => .inr (hr o)
  split
  · exact enterNewRound_star s 0
  · exact enterPropose_star s 0 fun _ => .inr (Nat.zero_le _)
  · exact enterPrevote_star s r hle
  · exact enterPrecommit_star s r hle
  · extract_lets s₁
    exact (enterPrecommit_star s r hle).trans (enterNewRound_star s₁ (r + 1))
  · exact .single (.panic _)

theorem handleTxsAvailable_star (s : NodeState) : Star (Prim c ok cm) s (handleTxsAvailable c s) := by
  unfold handleTxsAvailable
  split
  · exact .refl
  split
  · split
    · exact .refl
    · exact .single (.schedule 0 _ (Nat.zero_le _))
  · exact enterPropose_star s 0 fun _ => .inr (Nat.zero_le _)
  · exact .refl

/-- the timeout (if the input is one) is for a round the node has reached -/
def Input.notFuture (s : NodeState) : Input → Prop
  | .timeout r _ => r ≤ s.round
  | _ => True

theorem handleInput_star (s : NodeState) (i : Input) (hi : ok → i.notFuture s)
    (hcm : ∀ t, t.decided = s.decided → cm t) : Star (Prim c ok cm) (enter c s i) (handleInput c s i) := by
  cases i with
  | proposal p => exact .refl
  | blockComplete b =>
    show Star _ (match s.proposalParts with
      | none => s
      | some h => if h ≠ b then s else if s.partsDone then s else { s with partsDone := true, proposalBlock := some b })
      (addBlockPart c s b)
    unfold addBlockPart
    cases s.proposalParts with
    | none => exact .refl
    | some h =>
      dsimp only
      by_cases hb : h ≠ b
      · rw [if_pos hb, if_pos hb]; exact .refl
      · rw [if_neg hb, if_neg hb]
        by_cases hd : s.partsDone = true
        · rw [if_pos hd, if_pos hd]; exact .refl
        · rw [if_neg hd, if_neg hd]; exact handleCompleteProposal_star _ hcm
  | vote v peer =>
    show Star _ _ (addVote c s v peer)
    unfold addVote
    extract_lets res s₁
    repeat' split
    all_goals first | exact .refl | exact afterPrevote_star s₁ _ | exact afterPrecommit_star s₁ _ hcm
  | peerMaj23 r t peer bid => exact .refl
  | timeout r st => exact handleTimeout_star s r st hi
  | txsAvailable => exact handleTxsAvailable_star s

/-- the receive routine takes the next own message off the queue and stores it -/
inductive Pop (c : Cfg) : NodeState → NodeState → Prop
  | mk {s} (m : Internal) (rest : List Internal) (hh : ¬(s.halted = true ∨ s.decided.isSome = true))
      (hq : s.queue = m :: rest) : Pop c s (enter c { s with queue := rest } m.asInput)

theorem decided_none_of_guard {s : NodeState} (h : ¬(s.halted = true ∨ s.decided.isSome = true)) : s.decided = none :=
  Option.not_isSome_iff_eq_none.1 fun e => h (.inr e)

/-- own messages come off the queue only while it is drained; `handleInput_star` has `Prim`s alone -/
abbrev Turn (c : Cfg) (ok : Prop) (a b : NodeState) : Prop := Prim c ok (fun s => s.decided = none) a b ∨ Pop c a b

theorem drain_star (fuel : Nat) (s : NodeState) : Star (Turn c ok) s (drain c fuel s) := by
  induction fuel generalizing s with
  | zero => exact .refl
  | succ n ih =>
    unfold drain
    split
    · exact .refl
    rename_i hh
    split
    · exact .refl
    rename_i m rest hq
    rw [handleInternal_eq]
    refine .head (.inr (.mk m rest hh hq)) (.trans (.mono (fun _ _ => .inl)
      (handleInput_star _ _ (fun _ => ?_) fun _ e => e.trans (decided_none_of_guard hh))) (ih _))
    cases m <;> trivial

theorem step_star (s : NodeState) (i : Input) (hi : ok → i.notFuture s) :
    step c s i = s ∨ Star (Turn c ok) (enter c s i) (step c s i) := by
  unfold step
  split
  · exact .inl rfl
  · rename_i hh
    exact .inr (((handleInput_star s i hi fun _ e => e.trans (decided_none_of_guard hh)).mono fun _ _ => .inl).trans
      (drain_star _ _))

section
variable {P : NodeState → Prop} (hP : ∀ a b, Prim c ok (fun s => s.decided = none) a b → P a → P b)
  (hpop : ∀ (s : NodeState) (m : Internal) (rest : List Internal), s.queue = m :: rest → P s →
    P (enter c { s with queue := rest } m.asInput))
include hP hpop

theorem Turn.inv {a b : NodeState} (hm : Turn c ok a b) (ha : P a) : P b := by
  rcases hm with hp | ⟨m, rest, _, hq⟩
  · exact hP a b hp ha
  · exact hpop _ m rest hq ha

/-- … for the own messages alone -/
theorem drain_invariant (fuel : Nat) (s : NodeState) (hs : P s) : P (drain c fuel s) :=
  (drain_star fuel s).inv (fun _ _ hm => hm.inv hP hpop) hs

/-- The interface of the families: `P` is kept by `step` if every move of an undecided node keeps it (`hP`, the
family's `X_prim`), taking an own message off the queue and storing it keeps it (`hpop`), and storing the input keeps
it (`he`, the family's `enter_X`). `hi` matters for `ok := True` only. -/
theorem step_invariant (s : NodeState) (i : Input) (hi : ok → i.notFuture s) (he : P s → P (enter c s i))
    (hs : P s) : P (step c s i) := by
  rcases step_star s i hi with e | h
  · rw [e]; exact hs
  · exact h.inv (fun _ _ hm => hm.inv hP hpop) (he hs)

end

theorem run_invariant {P : NodeState → Prop} (hP : ∀ s i, P s → P (step c s i)) (is : List Input) {s : NodeState}
    (hs : P s) : P (run c s is) :=
  List.foldlRecOn is (step c) hs fun s hs i _ => hP s i hs

theorem run_invariant_past {P : List Input → NodeState → Prop}
    (hP : ∀ past s i, P past s → P (past ++ [i]) (step c s i)) (is : List Input) {s : NodeState} {past : List Input}
    (hs : P past s) : P (past ++ is) (run c s is) := by
  induction is generalizing s past with
  | nil => rw [List.append_nil]; exact hs
  | cons i is ih => rw [List.append_cons]; exact ih (hP past s i hs)

/-- no timeout in the list names a round the node has not reached when it is delivered -/
def NoFutureTimeout (c : Cfg) : NodeState → List Input → Prop
  | _, [] => True
  | s, i :: is => i.notFuture s ∧ NoFutureTimeout c (step c s i) is

theorem run_invariant_noFuture {P : NodeState → Prop} (hP : ∀ s i, i.notFuture s → P s → P (step c s i))
    (is : List Input) {s : NodeState} (hnf : NoFutureTimeout c s is) (hs : P s) : P (run c s is) := by
  induction is generalizing s with
  | nil => exact hs
  | cons i is ih => exact ih hnf.2 (hP s i hnf.1 hs)

/-! The vote sets after are a later stage (`HExt`, Lemmas/ConsVotes.lean) of the vote sets before; `A r t` bounds the
votes added to the set of (r, t). Every invariant of the vote sets alone is carried by these (`HExt.all`). -/

section
variable {A : Int → VType → Vote → Prop}

theorem Prim.votes {s t : NodeState} (hp : Prim c ok cm s t) : HExt c A s.votes t.votes := by
  cases hp with
  | panic w => rw [core_votes (panicWith_core s w)]; exact .refl ..
  | schedule r st | propose r | prevoteWait r | precommitWait r | decide b =>
    show HExt c A _ (emit s _).votes; rw [core_votes (emit_core s _)]; exact .refl ..
  | proposeOwn r me =>
    show HExt c A _ (decideProposal c _ r me).votes
    rw [core_votes (decideProposal_core c _ r me), core_votes (emit_core s _)]; exact .refl ..
  | prevote r bid => show HExt c A _ (signAddVote c _ _ _).votes; rw [core_votes (signAddVote_core c _ _ _)]; exact .refl ..
  | precommit r t x _ _ _ hc =>
    show HExt c A _ (signAddVote c t _ x).votes; rw [core_votes (signAddVote_core c t _ x), hc.frame.votes]; exact .refl ..
  | newRound r => rw [(newRoundReset_frame s r).votes]; exact .refl ..
  | setRound r hv hs => exact .setRound c A _ _ _ hs
  | _ => exact .refl ..

theorem enter_votes (s : NodeState) (i : Input) (ha : ∀ v peer, i = .vote v peer → A (v.round : Int) v.typ v) :
    HExt c A s.votes (enter c s i).votes := by
  have he := enter_entry c s i
  generalize enter c s i = t at he
  cases he with
  | vote v peer => exact .addVote c A _ v peer (ha v peer rfl)
  | peerMaj23 r t peer bid => exact .setPeerMaj23 c A _ _ _ _ _
  | _ => exact .refl ..

theorem _root_.Tmv.Star.votes {s t : NodeState} (hs : Star (Prim c ok cm) s t) : HExt c A s.votes t.votes :=
  hs.inv (P := fun t => HExt c A s.votes t.votes) (fun _ _ hp h => h.trans hp.votes) (.refl ..)

theorem handleInput_votes (s : NodeState) (i : Input) (ha : ∀ v peer, i = .vote v peer → A (v.round : Int) v.typ v) :
    HExt c A s.votes (handleInput c s i).votes :=
  (enter_votes s i ha).trans (handleInput_star (ok := False) (cm := fun _ => True) s i nofun fun _ _ => trivial).votes

theorem handleInternal_votes (s : NodeState) (m : Internal) (ha : ∀ v, m = .vote v → A (v.round : Int) v.typ v) :
    HExt c A s.votes (handleInternal c s m).votes := by
  rw [handleInternal_eq]
  refine handleInput_votes s _ fun v peer e => ha v ?_
  cases m <;> cases e; rfl

end

/-- recording a message never changes a recorded majority -/
theorem enter_stable (c : Cfg) (s : NodeState) (i : Input) : Stable s.votes (enter c s i).votes :=
  (enter_votes (A := fun _ _ _ => True) s i fun _ _ _ => trivial).stable

theorem Prim.stable {s t : NodeState} (hp : Prim c ok cm s t) : Stable s.votes t.votes :=
  (hp.votes (A := fun _ _ _ => True)).stable

theorem drain_votes (c : Cfg) (fuel : Nat) (s : NodeState) :
    HExt c (fun _ _ _ => True) s.votes (drain c fuel s).votes :=
  drain_invariant (ok := False) (P := fun t => HExt c (fun _ _ _ => True) s.votes t.votes)
    (fun _ _ hp h => h.trans hp.votes)
    (fun t m rest _ h => h.trans (enter_votes { t with queue := rest } m.asInput fun _ _ _ => trivial)) fuel s (.refl ..)

theorem step_votes (c : Cfg) (s : NodeState) (i : Input) : HExt c (fun _ _ _ => True) s.votes (step c s i).votes :=
  step_invariant (ok := False) (P := fun t => HExt c (fun _ _ _ => True) s.votes t.votes)
    (fun _ _ hp h => h.trans hp.votes)
    (fun t m rest _ h => h.trans (enter_votes { t with queue := rest } m.asInput fun _ _ _ => trivial))
    s i nofun (fun h => h.trans (enter_votes s i fun _ _ _ => trivial)) (.refl ..)

theorem run_votes (c : Cfg) (is : List Input) (s : NodeState) : HExt c (fun _ _ _ => True) s.votes (run c s is).votes :=
  run_invariant (P := fun t => HExt c (fun _ _ _ => True) s.votes t.votes) (fun t i h => h.trans (step_votes c t i)) is
    (.refl ..)

/-- `receiveRoutine` handles nothing more at this height once the node has halted (a Go panic) or decided: `step`,
`drain` and `Net.stepItem` test `s.halted ∨ s.decided.isSome` first, the negation of `live` (`live_iff`). -/
def NodeState.live (s : NodeState) : Prop := s.halted = false ∧ s.decided = none

theorem NodeState.live_iff {s : NodeState} : s.live ↔ ¬(s.halted = true ∨ s.decided.isSome = true) := by
  unfold NodeState.live
  cases s.halted <;> cases s.decided <;> simp

theorem NodeState.not_live_of_halted {s : NodeState} (h : s.halted = true) : ¬ s.live :=
  fun l => by rw [l.1] at h; cases h

theorem NodeState.not_live_of_decided {s : NodeState} {x : Nat × Int} (h : s.decided = some x) : ¬ s.live :=
  fun l => by rw [l.2] at h; cases h

theorem step_of_not_live (c : Cfg) (s : NodeState) (i : Input) (h : ¬ s.live) : step c s i = s :=
  if_pos (Decidable.of_not_not (mt NodeState.live_iff.mpr h))

theorem step_of_live (c : Cfg) (s : NodeState) (i : Input) (h : s.live) :
    step c s i = drain c drainFuel (handleInput c s i) :=
  if_neg (NodeState.live_iff.mp h)

theorem drain_of_not_live (c : Cfg) (fuel : Nat) (s : NodeState) (h : ¬ s.live) : drain c fuel s = s := by
  cases fuel with
  | zero => rfl
  | succ n => exact if_pos (Decidable.of_not_not (mt NodeState.live_iff.mpr h))

theorem run_cons (c : Cfg) (s : NodeState) (i : Input) (is : List Input) : run c s (i :: is) = run c (step c s i) is := rfl

theorem run_append (c : Cfg) (s : NodeState) (is js : List Input) : run c s (is ++ js) = run c (run c s is) js :=
  List.foldl_append ..

theorem run_of_not_live (c : Cfg) (s : NodeState) (is : List Input) (h : ¬ s.live) : run c s is = s := by
  induction is with
  | nil => rfl
  | cons i is ih => rw [run_cons, step_of_not_live c s i h]; exact ih

end Tmv.Cons
