import Tmv.Lemmas.StateStoreRange
import Tmv.Lemmas.AllPrefix
/-! The invariant of the state store's record bookkeeping over whole histories: established by the
genesis `Save`, maintained by every `Save` of a state computed by `updateState` (at every write
prefix), by `SaveABCIResponses`, and by every write prefix of `PruneStates`.  The validator records
and the params records each form a `Chain`; `SInv` spells out the fields of the two chains. -/
namespace Tmv.StateStore

theorem loadState_apply_of_ne (db : DB) (w : Write) (h : w.key ≠ .state) :
    loadState (apply db w) = loadState db := by
  simp only [loadState, get_apply_of_ne _ _ _ h]

theorem loadState_set_state (db : DB) (s : St) : loadState (apply db (.set .state (.state s))) = some s := by
  simp [loadState, get_set]

theorem loadInfo_empty (k : Key) : loadInfo ({} : DB) k = none := by
  simp [loadInfo, get]

/-- The records `info` of the heights `lo … top` are present, point downwards, carry a value only
where `full` allows, agree with each other (LastHeightChanged is monotone), can be loaded, and the
newest one has change height `ctop`. -/
structure Chain (info : Int → Option (Int × Bool)) (tgt : Int → Int → Int) (full : Int → Int → Prop)
    (lo top ctop : Int) : Prop where
  recs : ∀ h, lo ≤ h → h ≤ top → ∃ c f, info h = some (c, f) ∧ c ≤ h ∧ (f = true → full h c)
  load : ∀ h, lo ≤ h → h ≤ top → loadable info tgt h = true
  agree : ∀ h1 h2 c1 f1 c2 f2, lo ≤ h1 → h1 ≤ h2 → h2 ≤ top →
    info h1 = some (c1, f1) → info h2 = some (c2, f2) → c2 ≤ h1 → c1 = c2
  newest : ∃ f, info top = some (ctop, f) ∧ ctop ≤ top

namespace Chain
variable {info info' : Int → Option (Int × Bool)} {tgt : Int → Int → Int} {full : Int → Int → Prop}
  {lo top ctop : Int}

theorem mono (hc : Chain info tgt full lo top ctop) {lo' : Int} (hle : lo ≤ lo') :
    Chain info tgt full lo' top ctop :=
  ⟨fun a h1 h2 => hc.recs a (Int.le_trans hle h1) h2, fun a h1 h2 => hc.load a (Int.le_trans hle h1) h2,
    fun a b c1 f1 c2 f2 h1 => hc.agree a b c1 f1 c2 f2 (Int.le_trans hle h1), hc.newest⟩

theorem recs_eq (hc : Chain info tgt full lo top ctop) {h c : Int} {f : Bool} (h1 : lo ≤ h) (h2 : h ≤ top)
    (e : info h = some (c, f)) : c ≤ h ∧ (f = true → full h c) := by
  obtain ⟨c', f', e', hle, hf⟩ := hc.recs h h1 h2
  cases e.symm.trans e'
  exact ⟨hle, hf⟩

theorem congr (P : Ptr tgt full) (hc : Chain info tgt full lo top ctop)
    (hi : ∀ a, a ≤ top → info' a = info a) : Chain info' tgt full lo top ctop := by
  refine ⟨fun a h1 h2 => hi a h2 ▸ hc.recs a h1 h2, fun a h1 h2 => ?_, ?_, hi top (Int.le_refl _) ▸ hc.newest⟩
  · rw [loadable_congr (hi a h2), hc.load a h1 h2]
    intro c e
    exact hi _ (Int.le_trans (P.le a c (hc.recs_eq h1 h2 e).1) h2)
  · intro a b c1 f1 c2 f2 h1 h2 h3 e1 e2
    rw [hi a (Int.le_trans h2 h3)] at e1; rw [hi b h3] at e2
    exact hc.agree a b c1 f1 c2 f2 h1 h2 h3 e1 e2

/-- A new record of height `top + 1` without a value points where the record of `top` pointed, or
to the record of `top` if that carries a value. -/
theorem extend (P : Ptr tgt full) (hc : Chain info tgt full lo top ctop) (hlo : lo ≤ top)
    {c' : Int} {f' : Bool} (hinfo : ∀ a, info' a = if top + 1 = a then some (c', f') else info a)
    (hc' : c' = ctop ∨ c' = top + 1) (hf' : f' = true ↔ full (top + 1) c') :
    Chain info' tgt full lo (top + 1) c' := by
  obtain ⟨ft, htop, hcle⟩ := hc.newest
  have hold : ∀ a, a ≤ top → info' a = info a := fun a ha => by
    rw [hinfo, if_neg (by omega)]
  have hnew : info' (top + 1) = some (c', f') := by rw [hinfo, if_pos rfl]
  have hcle' : c' ≤ top + 1 := by rcases hc' with e | e <;> omega
  have old := hc.congr (info' := info') P hold
  have split : ∀ a, a ≤ top + 1 → a ≤ top ∨ a = top + 1 := fun a h => by omega
  refine ⟨fun a h1 h2 => ?_, fun a h1 h2 => ?_, ?_, ⟨f', hnew, hcle'⟩⟩
  · rcases split a h2 with ha | rfl
    · exact old.recs a h1 ha
    · exact ⟨c', f', hnew, hcle', hf'.1⟩
  · rcases split a h2 with ha | rfl
    · exact old.load a h1 ha
    · cases hf : f' with
      | true => unfold loadable; rw [hnew, hf]
      | false =>
        have hnf : ¬ full (top + 1) c' := fun e => by rw [hf'.2 e] at hf; cases hf
        have hcc : c' = ctop := hc'.resolve_right (fun e => hnf (e ▸ P.refl _))
        rw [hf, hcc] at hnew
        have htgt : ∃ c2, info' (tgt (top + 1) ctop) = some (c2, true) := by
          rw [P.next top ctop (hcc ▸ hnf)]
          cases ft with
          | false =>
            obtain ⟨c2, e2⟩ := loadable_false htop (hc.load top hlo (Int.le_refl _))
            exact ⟨c2, (hold _ (P.le top ctop hcle)).trans e2⟩
          | true =>
            rw [P.self top ctop ((hc.recs_eq hlo (Int.le_refl _) htop).2 rfl) hcle]
            exact ⟨ctop, (hold _ (Int.le_refl _)).trans htop⟩
        obtain ⟨c2, e2⟩ := htgt
        exact loadable_of_target hnew e2
  · intro a b c1 f1 c2 f2 h1 h2 h3 e1 e2 hle
    rcases split b h3 with hb | rfl
    · exact old.agree a b c1 f1 c2 f2 h1 h2 hb e1 e2 hle
    · cases hnew.symm.trans e2
      rcases split a h2 with ha | rfl
      · rcases hc' with e | e
        · rw [e]
          exact old.agree a top c1 f1 ctop ft h1 ha (Int.le_refl _) e1 ((hold _ (Int.le_refl _)).trans htop)
            (by omega)
        · omega
      · exact (Prod.mk.inj (Option.some.inj (e1.symm.trans hnew))).1

theorem single (P : Ptr tgt full) {h0 : Int} (e : info h0 = some (h0, true)) :
    Chain info tgt full h0 h0 h0 := by
  have only : ∀ a, h0 ≤ a → a ≤ h0 → a = h0 := fun a h1 h2 => Int.le_antisymm h2 h1
  refine ⟨fun a h1 h2 => ?_, fun a h1 h2 => ?_, ?_, ⟨true, e, Int.le_refl _⟩⟩
  · cases only a h1 h2
    exact ⟨h0, true, e, Int.le_refl _, fun _ => P.refl _⟩
  · cases only a h1 h2
    unfold loadable; rw [e]
  · intro a b c1 f1 c2 f2 h1 h2 h3 e1 e2 _
    cases only b (Int.le_trans h1 h2) h3
    cases only a h1 h2
    exact (Prod.mk.inj (Option.some.inj (e1.symm.trans e2))).1

theorem pruned (P : Ptr tgt full) (hc : Chain info tgt full lo top ctop) {to c0 : Int} {f0 : Bool}
    (hlo : lo ≤ to) (hto : to ≤ top) (hto0 : info to = some (c0, f0))
    (hsame : ∀ h, to ≤ h → info' h = info h)
    (hkept : f0 = false → ∀ c, info (tgt to c0) = some (c, true) → ∃ c', info' (tgt to c0) = some (c', true)) :
    Chain info' tgt full to top ctop := by
  refine ⟨fun a h1 h2 => ?_, fun a h1 h2 => ?_, ?_, ?_⟩
  · rw [hsame a h1]; exact hc.recs a (Int.le_trans hlo h1) h2
  · refine loadable_pruned P hto0 hsame hkept (fun c e => (hc.recs_eq hlo hto e).2 rfl) a h1 ?_
      (hc.load a (Int.le_trans hlo h1) h2)
    intro c e hlt
    exact ⟨f0, hc.agree to a c0 f0 c false hlo h1 h2 hto0 e (Int.le_of_lt hlt) ▸ hto0⟩
  · intro a b c1 f1 c2 f2 h1 h2 h3 e1 e2
    rw [hsame a h1] at e1; rw [hsame b (Int.le_trans h1 h2)] at e2
    exact hc.agree a b c1 f1 c2 f2 (Int.le_trans hlo h1) h2 h3 e1 e2
  · rw [hsame _ hto]; exact hc.newest

end Chain

/-- the records of heights `lo … saveNext+1` (validators) and `lo … saveNext` (params) are present,
point downwards, carry a full value only at change / checkpoint heights, agree with each other
(LastHeightChanged is monotone), can be loaded, and the newest ones carry the change heights of the
persisted `State`. -/
structure SInv (db : DB) (st : St) (lo : Int) : Prop where
  state : loadState db = some st
  lNonneg : 0 ≤ st.lastBlockHeight
  ihPos : 1 ≤ st.initialHeight
  /-- the state is at genesis or at/above the initial height -/
  lRange : st.lastBlockHeight = 0 ∨ st.initialHeight ≤ st.lastBlockHeight
  vRec : ∀ h, lo ≤ h → h ≤ saveNext st + 1 → ∃ c f, loadInfo db (.vals h) = some (c, f) ∧ c ≤ h ∧
    (f = true → c = h ∨ h % interval = 0)
  vLoad : ∀ h, lo ≤ h → h ≤ saveNext st + 1 → valsLoadable db h = true
  vAgree : ∀ h1 h2 c1 f1 c2 f2, lo ≤ h1 → h1 ≤ h2 → h2 ≤ saveNext st + 1 →
    loadInfo db (.vals h1) = some (c1, f1) → loadInfo db (.vals h2) = some (c2, f2) → c2 ≤ h1 → c1 = c2
  vTop : ∃ f, loadInfo db (.vals (saveNext st + 1)) = some (st.lhcVals, f) ∧ st.lhcVals ≤ saveNext st + 1
  pRec : ∀ h, lo ≤ h → h ≤ saveNext st → ∃ c f, loadInfo db (.params h) = some (c, f) ∧ c ≤ h ∧
    (f = true → c = h)
  pLoad : ∀ h, lo ≤ h → h ≤ saveNext st → paramsLoadable db h = true
  pAgree : ∀ h1 h2 c1 f1 c2 f2, lo ≤ h1 → h1 ≤ h2 → h2 ≤ saveNext st →
    loadInfo db (.params h1) = some (c1, f1) → loadInfo db (.params h2) = some (c2, f2) → c2 ≤ h1 → c1 = c2
  pTop : ∃ f, loadInfo db (.params (saveNext st)) = some (st.lhcParams, f) ∧ st.lhcParams ≤ saveNext st

abbrev VChain (db : DB) (lo top ctop : Int) : Prop :=
  Chain (fun a => loadInfo db (.vals a)) lastStoredHeightFor (fun h c => c = h ∨ h % interval = 0) lo top ctop

abbrev PChain (db : DB) (lo top ctop : Int) : Prop :=
  Chain (fun a => loadInfo db (.params a)) (fun _ c => c) (fun h c => c = h) lo top ctop

theorem SInv.vals {db : DB} {st : St} {lo : Int} (h : SInv db st lo) :
    VChain db lo (saveNext st + 1) st.lhcVals :=
  ⟨h.vRec, h.vLoad, h.vAgree, h.vTop⟩

theorem SInv.params {db : DB} {st : St} {lo : Int} (h : SInv db st lo) :
    PChain db lo (saveNext st) st.lhcParams :=
  ⟨h.pRec, h.pLoad, h.pAgree, h.pTop⟩

/-- `SInv` is the flat form that the statements use; the chains are how it is proved: every lemma on
`SInv` below takes it apart with `vals`/`params` and puts it together here (`vLoad`/`pLoad` are the
chains' `load` by `valsLoadable_eq`/`paramsLoadable_eq`). -/
theorem SInv.of_chains {db : DB} {st : St} {lo : Int} (hs : loadState db = some st)
    (h0 : 0 ≤ st.lastBlockHeight) (h1 : 1 ≤ st.initialHeight)
    (h2 : st.lastBlockHeight = 0 ∨ st.initialHeight ≤ st.lastBlockHeight)
    (cv : VChain db lo (saveNext st + 1) st.lhcVals) (cp : PChain db lo (saveNext st) st.lhcParams) :
    SInv db st lo :=
  { state := hs, lNonneg := h0, ihPos := h1, lRange := h2,
    vRec := cv.recs, vLoad := cv.load, vAgree := cv.agree, vTop := cv.newest,
    pRec := cp.recs, pLoad := cp.load, pAgree := cp.agree, pTop := cp.newest }

theorem saveNext_pos (st : St) (h1 : 0 ≤ st.lastBlockHeight) (h2 : 1 ≤ st.initialHeight) :
    1 ≤ saveNext st := by
  unfold saveNext; split <;> omega

theorem initialHeight_le_saveNext (st : St) (h : st.lastBlockHeight = 0 ∨ st.initialHeight ≤ st.lastBlockHeight) :
    st.initialHeight ≤ saveNext st := by
  unfold saveNext; split <;> omega

theorem SInv.mono {db : DB} {st : St} {lo lo' : Int} (h : SInv db st lo) (hle : lo ≤ lo') :
    SInv db st lo' :=
  .of_chains h.state h.lNonneg h.ihPos h.lRange (h.vals.mono hle) (h.params.mono hle)

/-- writes above the newest records (and to unrelated keys) do not disturb the invariant -/
theorem SInv.congr_upto {db db' : DB} {st : St} {lo : Int} (h : SInv db st lo)
    (hv : ∀ a, a ≤ saveNext st + 1 → loadInfo db' (.vals a) = loadInfo db (.vals a))
    (hp : ∀ a, a ≤ saveNext st → loadInfo db' (.params a) = loadInfo db (.params a))
    (hs : loadState db' = loadState db) : SInv db' st lo :=
  .of_chains (hs.trans h.state) h.lNonneg h.ihPos h.lRange (h.vals.congr ptrVals hv)
    (h.params.congr ptrParams hp)

/-- a write that `SInv _ st _` does not read -/
def Above (st : St) (w : Write) : Prop :=
  (∃ a, saveNext st + 1 < a ∧ w.key = .vals a) ∨ (∃ a, saveNext st < a ∧ w.key = .params a) ∨
    (∃ a, w.key = .abci a) ∨ w.key = .lastAbci

theorem SInv.above {db : DB} {st : St} {lo : Int} (h : SInv db st lo) {w : Write} (hw : Above st w) :
    SInv (apply db w) st lo := by
  refine h.congr_upto (fun a ha => loadInfo_apply_of_ne _ _ _ ?_) (fun a ha => loadInfo_apply_of_ne _ _ _ ?_)
    (loadState_apply_of_ne _ _ ?_) <;>
  rcases hw with ⟨b, hb, e⟩ | ⟨b, hb, e⟩ | ⟨b, e⟩ | e <;> rw [e] <;> intro e' <;> cases e' <;> omega

theorem save_eq (s : St) (h1 : ¬ s.lastBlockHeight + 1 = 1)
    (h2 : ¬ s.lhcVals > s.lastBlockHeight + 1 + 1) :
    save s = ([[.set (.vals (s.lastBlockHeight + 1 + 1)) (.info s.lhcVals
        (decide (s.lastBlockHeight + 1 + 1 = s.lhcVals ∨ (s.lastBlockHeight + 1 + 1) % interval = 0)))],
      [.set (.params (s.lastBlockHeight + 1)) (.info s.lhcParams (decide (s.lhcParams = s.lastBlockHeight + 1)))],
      [.set .state (.state s)]], true) := by
  simp [save, saveValsInfo, saveParamsInfo, h1, h2]

/-- `Save` of any state one block ahead of `st` whose change heights are those of `st` or the
first height a change made by the new block applies to (what `updateState` computes). -/
theorem SInv.save_next {db : DB} {st st' : St} {lo : Int} (h : SInv db st lo) (hlo : lo ≤ saveNext st)
    (hL : st'.lastBlockHeight = saveNext st) (hih : st'.initialHeight = st.initialHeight)
    (hcV : st'.lhcVals = st.lhcVals ∨ st'.lhcVals = saveNext st + 1 + 1)
    (hcP : st'.lhcParams = st.lhcParams ∨ st'.lhcParams = saveNext st + 1) :
    (save st').2 = true ∧
    AllPrefix apply (fun d => SInv d st lo ∨ SInv d st' lo) db (save st').1.flatten ∧
    SInv (applyAll db (save st').1.flatten) st' lo := by
  have hn := saveNext_pos st h.lNonneg h.ihPos
  obtain ⟨ft, htop, hcle⟩ := h.vTop
  have hn' : saveNext st' = saveNext st + 1 := by
    rw [saveNext, hL, if_neg (by omega)]
  rw [save_eq st' (by omega) (by omega), hL]
  have hfinal : SInv (applyAll db [.set (.vals (saveNext st + 1 + 1)) (.info st'.lhcVals
        (decide (saveNext st + 1 + 1 = st'.lhcVals ∨ (saveNext st + 1 + 1) % interval = 0))),
      .set (.params (saveNext st + 1)) (.info st'.lhcParams (decide (st'.lhcParams = saveNext st + 1))),
      .set .state (.state st')]) st' lo := by
    refine .of_chains ?_ (by omega) (hih ▸ h.ihPos) ?_ ?_ ?_
    · simp only [applyAll_cons, applyAll_nil, loadState_set_state]
    · rw [hL, hih]; exact Or.inr (initialHeight_le_saveNext st h.lRange)
    · rw [hn']
      refine h.vals.extend ptrVals (by omega) (fun a => ?_) hcV
        (decide_eq_true_iff.trans (or_congr_left eq_comm))
      simp only [applyAll_cons, applyAll_nil, loadInfo_set, reduceCtorEq, if_false, Key.vals.injEq]
    · rw [hn']
      refine h.params.extend ptrParams hlo (fun a => ?_) hcP decide_eq_true_iff
      simp only [applyAll_cons, applyAll_nil, loadInfo_set, reduceCtorEq, if_false, Key.params.injEq]
  refine ⟨rfl, ?_, by simpa using hfinal⟩
  -- two records above the newest ones, then the state that makes them the newest
  have a1 := h.above (w := .set (.vals (saveNext st + 1 + 1)) (.info st'.lhcVals
    (decide (saveNext st + 1 + 1 = st'.lhcVals ∨ (saveNext st + 1 + 1) % interval = 0))))
    (Or.inl ⟨_, Int.lt_succ _, rfl⟩)
  have a2 := a1.above (w := .set (.params (saveNext st + 1)) (.info st'.lhcParams
    (decide (st'.lhcParams = saveNext st + 1)))) (Or.inr (Or.inl ⟨_, Int.lt_succ _, rfl⟩))
  exact .cons (.inl h) (.cons (.inl a1) (.cons (.inl a2) (.nil (.inr hfinal))))

/-- **`Save` of the state `updateState` computes maintains the invariant at every write prefix**:
before the state record is written the old state's invariant holds, afterwards the new state's. -/
theorem SInv.save_step {db : DB} {st : St} {lo : Int} (h : SInv db st lo) (hlo : lo ≤ saveNext st)
    (hash : Nat) (vu pu : Bool) (j : Nat) :
    (save (updateState st (saveNext st) hash vu pu)).2 = true ∧
    (SInv (applyAll db ((save (updateState st (saveNext st) hash vu pu)).1.flatten.take j)) st lo ∨
     SInv (applyAll db ((save (updateState st (saveNext st) hash vu pu)).1.flatten.take j))
       (updateState st (saveNext st) hash vu pu) lo) ∧
    SInv (applyAll db (save (updateState st (saveNext st) hash vu pu)).1.flatten)
       (updateState st (saveNext st) hash vu pu) lo := by
  obtain ⟨h1, h2, h3⟩ := h.save_next hlo (st' := updateState st (saveNext st) hash vu pu) rfl rfl
    (by cases vu <;> simp [updateState]) (by cases pu <;> simp [updateState])
  exact ⟨h1, h2 j, h3⟩

/-- **every write prefix of `PruneStates(from, to)` maintains the invariant from `to` upwards** -/
theorem SInv.prune_prefix {db : DB} {st : St} {lo : Int} (h : SInv db st lo) (frm to : Int)
    (hlo : lo ≤ to) (hto : to ≤ saveNext st) (j : Nat) :
    SInv (applyAll db ((pruneStates db frm to).1.flatten.take j)) st to := by
  rcases pruneStates_prefix_rel db frm to j with e | ⟨vc, vfull, pc, pfull, hv, hp, hr⟩
  · rw [e]; exact h.mono hlo
  · generalize applyAll db ((pruneStates db frm to).1.flatten.take j) = db' at hr
    have hst : loadState db' = loadState db := by simp only [loadState, hr.stateKey]
    refine .of_chains (hst.trans h.state) h.lNonneg h.ihPos h.lRange ?_ ?_
    · exact h.vals.pruned ptrVals hlo (by omega) hv hr.vals
        (fun hf c hc => hr.keptV _ (by simp [hf]) c hc)
    · exact h.params.pruned ptrParams hlo hto hp hr.params
        (fun hf c hc => hr.keptP _ (by simp [hf]) c hc)

/-- `SaveABCIResponses` writes only response keys -/
theorem SInv.abci_prefix {db : DB} {st : St} {lo : Int} (h : SInv db st lo) (a : Int) :
    AllPrefix apply (fun d => SInv d st lo) db (saveAbci a).flatten := by
  refine AllPrefix.of_step h (fun _ w hw h' => h'.above ?_)
  simp only [saveAbci, List.flatten_cons, List.flatten_nil, List.cons_append, List.nil_append, List.mem_cons,
    List.not_mem_nil, or_false] at hw
  rcases hw with rfl | rfl
  · exact Or.inr (Or.inr (Or.inl ⟨a, rfl⟩))
  · exact Or.inr (Or.inr (Or.inr rfl))

/-- `MakeGenesisState` as far as the records go -/
def genesisSt (ih : Int) : St :=
  { lastBlockHeight := 0, lastBlockHash := 0, initialHeight := ih, lhcVals := ih, lhcParams := ih }

/-- **the genesis `Save` establishes the invariant** (any initial height ≥ 1) -/
theorem SInv.genesis (ih : Int) (hih : 1 ≤ ih) :
    SInv (applyAll {} (save (genesisSt ih)).1.flatten) (genesisSt ih) ih := by
  have hw : (save (genesisSt ih)).1.flatten =
      [.set (.vals ih) (.info ih true),
       .set (.vals (ih + 1)) (.info ih (decide (ih + 1 = ih ∨ (ih + 1) % interval = 0))),
       .set (.params ih) (.info ih true), .set .state (.state (genesisSt ih))] := by
    have h1 : ¬ ih + 1 < ih := by omega
    simp [save, saveValsInfo, saveParamsInfo, genesisSt, h1]
  rw [hw]
  have hn : saveNext (genesisSt ih) = ih := by simp [saveNext, genesisSt]
  refine .of_chains ?_ (Int.le_refl 0) hih (Or.inl rfl) ?_ ?_
  · simp only [applyAll_cons, applyAll_nil, loadState_set_state]
  · rw [hn]
    show VChain _ ih (ih + 1) ih
    have c0 : Chain (fun a => if ih = a then some (ih, true) else none) lastStoredHeightFor
        (fun h c => c = h ∨ h % interval = 0) ih ih ih := .single ptrVals (if_pos rfl)
    refine c0.extend ptrVals (Int.le_refl _) (fun a => ?_) (Or.inl rfl)
      (decide_eq_true_iff.trans (or_congr_left eq_comm))
    simp only [applyAll_cons, applyAll_nil, loadInfo_set, loadInfo_empty, reduceCtorEq, if_false,
      Key.vals.injEq]
  · rw [hn]
    show PChain _ ih ih ih
    refine .single ptrParams ?_
    simp [applyAll_cons, applyAll_nil, loadInfo_set]

end Tmv.StateStore
