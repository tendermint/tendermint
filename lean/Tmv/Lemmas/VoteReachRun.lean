import Tmv.Lemmas.VoteReach
import Tmv.Lemmas.NetNI
/-! The vote sets of a node after any run are a later stage (`HExt`) of its vote sets before: the
only votes added are the vote inputs of the run and the node's own signed votes. Consequences for
every run from `NodeState.init`: every vote set is well-formed (`VoteSet.WF`), recorded votes stay
recorded, and **votes carrying the quorum yield the recorded majority** whatever else was delivered
and in whatever order. -/
namespace Tmv.Cons

/-- votes that may be added to the set of (r, t): an external vote satisfying `E`, or an own vote
that was signed (appears in `outF`) -/
def AOwn (me : Nat) (outF : List Output) (E : Vote → Prop) : Int → VType → Vote → Prop :=
  fun r t w => (w.round : Int) = r ∧ w.typ = t ∧
    (E w ∨ (w.val = me ∧ Output.signVote w.typ w.round w.bid ∈ outF))

variable {c : Cfg} {me : Nat} {base : List Output} {outF : List Output} {E : Vote → Prop} {h0 : HVS}

theorem drain_succ_cons (fuel : Nat) (s : NodeState) (m : Internal) (rest : List Internal)
    (h1 : s.live) (hq : s.queue = m :: rest) :
    drain c (fuel + 1) s = drain c fuel (handleInternal c { s with queue := rest } m) := by
  conv => lhs; unfold drain
  simp only [NodeState.live_iff.mp h1, if_false, hq]

theorem drain_nil (fuel : Nat) (s : NodeState) (hq : s.queue = []) : drain c fuel s = s := by
  cases fuel with
  | zero => rfl
  | succ n =>
    unfold drain
    split
    · rfl
    · rw [hq]

/-- lifting by whole handlers, beside `step_invariant` (by moves): for invariants that speak of the outputs at
the END of a handling (`XO` below, `Mid` in Lemmas/SyncOwnNode.lean) and so rest on `handleInput_N` and `N.out_sub` -/
theorem drain_keeps {P : NodeState → Prop}
    (hpop : ∀ (s : NodeState) (m : Internal) (rest : List Internal), s.queue = m :: rest → P s →
      P (handleInternal c { s with queue := rest } m)) (fuel : Nat) {s : NodeState} (hs : P s) : P (drain c fuel s) := by
  induction fuel generalizing s with
  | zero => exact hs
  | succ n ih =>
    unfold drain
    split
    · exact hs
    split
    · exact hs
    · exact ih (hpop s _ _ ‹_› hs)

theorem step_keeps {P : NodeState → Prop}
    (hpop : ∀ (s : NodeState) (m : Internal) (rest : List Internal), s.queue = m :: rest → P s →
      P (handleInternal c { s with queue := rest } m)) {s : NodeState} (i : Input) (hi : P s → P (handleInput c s i))
    (hs : P s) : P (step c s i) := by
  unfold step
  split
  · exact hs
  · exact drain_keeps hpop _ (hi hs)

/-- where the votes in a node's vote sets come from: the votes added since `h0` (`HExt`) are vote inputs
satisfying `E` and own votes whose signing is in `outF`, for every `outF` that contains the outputs so far. In this
form the statement is kept input by input (the outputs only grow, so a bound of the later outputs bounds the
present ones); `N` says that a queued own vote was signed. -/
def XO (c : Cfg) (me : Nat) (base outF : List Output) (E : Vote → Prop) (h0 : HVS) (s : NodeState) : Prop :=
  N me base s ∧ ((∀ o ∈ s.out, o ∈ outF) → HExt c (AOwn me outF E) h0 s.votes)

theorem N.out_sub (hc : c.self = some me) {s : NodeState} (hn : N me base s) (i : Input) :
    ∀ o ∈ s.out, o ∈ (handleInput c s i).out := by
  obtain ⟨new, e⟩ := (handleInput_N hc i hn.rebase).ext
  intro o ho; rw [e]; exact List.mem_append_left _ ho

theorem pop_XO (hc : c.self = some me) (s : NodeState) (m : Internal) (rest : List Internal) (hq : s.queue = m :: rest)
    (h : XO c me base outF E h0 s) : XO c me base outF E h0 (handleInternal c { s with queue := rest } m) := by
  have hn0 : NI me base s.round s.queue s.out := h.1
  rw [hq] at hn0
  have hn' : N me base { s with queue := rest } := hn0.pop
  refine ⟨handleInternal_N hc m hn', fun hsub => ?_⟩
  have hs : ∀ o ∈ s.out, o ∈ outF := fun o ho => hsub o (by
    rw [handleInternal_eq]; exact N.out_sub hc (s := { s with queue := rest }) hn' _ o ho)
  refine (h.2 hs).trans (handleInternal_votes { s with queue := rest } m ?_)
  intro v hv
  subst hv
  have hqi := hn0.qi v (List.mem_cons_self ..)
  exact ⟨rfl, rfl, Or.inr ⟨hqi.1, hs _ hqi.2.2⟩⟩

theorem step_XO (hc : c.self = some me) {s : NodeState} (i : Input) (hE : ∀ v peer, i = .vote v peer → E v)
    (h : XO c me base outF E h0 s) : XO c me base outF E h0 (step c s i) :=
  step_keeps (pop_XO hc) i (fun h => ⟨handleInput_N hc i h.1, fun hsub =>
    (h.2 fun o ho => hsub o (N.out_sub hc h.1 i o ho)).trans
      (handleInput_votes s i fun v peer hv => ⟨rfl, rfl, Or.inl (hE v peer hv)⟩)⟩) h

theorem run_XO (hc : c.self = some me) (is : List Input) {s : NodeState} (hE : ∀ v peer, Input.vote v peer ∈ is → E v)
    (h : XO c me base outF E h0 s) : XO c me base outF E h0 (run c s is) := by
  induction is generalizing s with
  | nil => exact h
  | cons i is ih =>
    exact ih (fun v peer hm => hE v peer (List.mem_cons_of_mem _ hm))
      (step_XO hc i (fun v peer hv => hE v peer (by rw [hv]; exact List.mem_cons_self ..)) h)

/-- one vote input at a live node that tracks the round and holds no conflicting vote: recorded -/
theorem step_vote_records (c : Cfg) (s : NodeState) (v : Vote) (peer : Peer) (hw : HVS.WF c s.votes)
    (hv : v.wellSigned c) (hlive : s.halted = false ∧ s.decided = none)
    (ht : (s.votes.getVoteSet (v.round : Int) v.typ).isSome = true)
    (ho : s.votes.only (v.round : Int) v.typ v.bid v.val) :
    (step c s (.vote v peer)).votes.has (v.round : Int) v.typ v.bid v.val := by
  have hrec := HVS.addVote_records hw v peer hv ht ho
  rw [step_of_live c s _ hlive]
  -- what `State.addVote` does after `HeightVoteSet.AddVote`, and the own messages, only extend the sets
  have h2 : HExt c (fun _ _ _ => True) (s.votes.addVote c v peer).1 (addVote c s v peer).votes :=
    (handleInput_star (ok := False) (cm := fun _ => True) s (.vote v peer) nofun fun _ _ => trivial).votes
  exact (h2.trans (drain_votes c _ _)).has hrec

/-- every vote set a node ever holds is well-formed (no hypothesis on the inputs) -/
theorem run_WF (is : List Input) : HVS.WF c (run c .init is).votes :=
  (run_votes c is .init).wf (HVS.WF.init c)

/-- **votes carrying the quorum yield the recorded majority**: after ANY run, if validators `Q`
(distinct, power at least the quorum) all have a recorded vote for `b` in the set of (r, t), no vote
input of the run carries a different value for one of them, and the node itself — if it is one of
them — signed nothing else, then that set's recorded +2/3 majority is `b`. Junk from other
validators, conflicting votes, majority claims, catch-up rounds, timeouts and the order of
everything are irrelevant. -/
theorem votes_yield_majority (hc : c.self = some me) (is : List Input) (r : Nat) (t : VType) (b : Bid)
    (Q : List Nat) (hn : Q.Nodup)
    (hq : ∀ u ∈ Q, u < c.n ∧ (run c .init is).votes.has (r : Int) t b u)
    (hin : ∀ v peer, Input.vote v peer ∈ is → v.typ = t → v.round = r → v.val ∈ Q → v.bid = b)
    (hown : me ∈ Q → ∀ x, Output.signVote t r x ∈ (run c .init is).out → x = b)
    (hp : c.quorum ≤ (Q.map c.power).sum) :
    maj23Of ((run c .init is).votes.getVoteSet (r : Int) t) = some b := by
  have h := (run_XO (E := fun w => ∃ peer, Input.vote w peer ∈ is) (outF := (run c .init is).out)
    (h0 := HVS.init) hc is (fun v peer hm => ⟨peer, hm⟩) ⟨N.init me, fun _ => HExt.refl c _ _⟩).2 fun _ ho => ho
  refine HVS.quorum_majority (h.wf (HVS.WF.init c)) r t b Q hn (fun u hu => ⟨(hq u hu).1, (hq u hu).2, ?_⟩) hp
  apply h.only (HVS.only_init _ _ _ _)
  intro w ⟨hr, ht, hsrc⟩
  by_cases hwu : w.val = u
  · right
    have hr' : w.round = r := by exact_mod_cast hr
    rcases hsrc with ⟨peer, hm⟩ | ⟨hme, hout⟩
    · exact hin w peer hm ht hr' (by rw [hwu]; exact hu)
    · have : me ∈ Q := by rw [← hme, hwu]; exact hu
      exact hown this w.bid (by rw [← ht, ← hr']; exact hout)
  · exact Or.inl hwu

/-- **votes for anything carrying more than 2/3 of the power yield `hasTwoThirdsAny`** -/
theorem votes_yield_any (hc : c.self = some me) (is : List Input) (r : Nat) (t : VType)
    (R : List Nat) (hn : R.Nodup)
    (hr : ∀ u ∈ R, u < c.n ∧ ∃ k, (run c .init is).votes.has (r : Int) t k u)
    (hp : c.total * 2 / 3 < (R.map c.power).sum) :
    hasAnyOf c ((run c .init is).votes.getVoteSet (r : Int) t) = true := by
  have hwf := run_WF (c := c) is
  cases hg : (run c .init is).votes.getVoteSet (r : Int) t with
  | none =>
    exfalso
    cases R with
    | nil => simp at hp
    | cons u R =>
      obtain ⟨_, k, vs, hvs, _⟩ := hr u (List.mem_cons_self ..)
      rw [hg] at hvs; cases hvs
  | some vs =>
    show vs.hasTwoThirdsAny c = true
    apply VoteSet.any_of_members (hwf _ _ vs hg) R hn _ hp
    intro u hu
    obtain ⟨hlt, k, vs', hvs', hhas⟩ := hr u hu
    rw [hg] at hvs'; cases hvs'
    exact ⟨hlt, k, hhas⟩

/-- **a delivered vote is recorded and stays recorded**: the input list is `pre ++ vote :: post`; when
the vote arrives the node is live and tracks the vote's round, the vote is well signed and its
validator has no conflicting vote in that set. Then the vote is in the set at the end of the run. -/
theorem delivered_vote_recorded (hc : c.self = some me) (pre post : List Input) (v : Vote) (peer : Peer)
    (hv : v.wellSigned c)
    (hlive : (run c .init pre).halted = false ∧ (run c .init pre).decided = none)
    (ht : ((run c .init pre).votes.getVoteSet (v.round : Int) v.typ).isSome = true)
    (ho : (run c .init pre).votes.only (v.round : Int) v.typ v.bid v.val) :
    (run c .init (pre ++ Input.vote v peer :: post)).votes.has (v.round : Int) v.typ v.bid v.val := by
  rw [run_append, run_cons]
  exact (run_votes c post _).has (step_vote_records c _ v peer (run_WF pre) hv hlive ht ho)

end Tmv.Cons
