import Tmv.Model.Cons
/-! The output primitives of the node model (`emit`, `panicWith`, `sign`, `signAddVote`, `decideProposal`):
what each does to the state, said once and exactly (`_shape`, `sign_cases`), and the readings of it that the
invariants use — the round state `Core`, which all of them leave alone, `halted`, the outputs, single fields. -/
namespace Tmv.Cons

theorem emit_shape (s : NodeState) (o : Output) : emit s o = s ∨ emit s o = { s with out := s.out ++ [o] } := by
  unfold emit; split
  · left; rfl
  · right; rfl

theorem panicWith_shape (s : NodeState) (w : String) :
    panicWith s w = s ∨ panicWith s w = { s with out := s.out ++ [.panic w], halted := true } := by
  unfold panicWith; split
  · left; rfl
  · right; rfl

/-- what an accepting `sign` does to the state; under `checkHRS`, with what `lss` was before: `sign_some`, and when it
refuses: `sign_none` (Lemmas/ConsSign.lean) -/
theorem sign_cases {c : Cfg} {s s' : NodeState} {r cd : Nat} {p : Payload} (h : sign c s r cd p = some s') :
    s' = s ∨ s' = { s with lss := some (r, cd, p) } := by
  unfold sign at h
  repeat' split at h
  all_goals first | (cases h; first | exact .inl rfl | exact .inr rfl) | cases h

/-- the vote validator `u` signs itself: its own index and address, an intact signature by its own key -/
def Vote.honest (t : VType) (r : Nat) (b : Bid) (u : Nat) : Vote := ⟨t, r, b, u, true, u, u⟩

theorem signAddVote_shape (c : Cfg) (s : NodeState) (t : VType) (bid : Bid) :
    signAddVote c s t bid = s ∨ ∃ s' me, c.self = some me ∧ ¬ s.halted = true ∧
      sign c s s.round t.code (.vote bid) = some s' ∧ signAddVote c s t bid =
      { s with lss := s'.lss, out := s.out ++ [.signVote t s.round bid],
               queue := s.queue ++ [.vote (.honest t s.round bid me)] } := by
  unfold signAddVote
  split
  · left; rfl
  · rename_i hh
    split
    · left; rfl
    · rename_i me hme
      split
      · rename_i s' hs
        right
        refine ⟨s', me, hme, hh, hs, ?_⟩
        rcases sign_cases hs with rfl | rfl <;> simp [emit, hh, Vote.honest]
      · left; rfl

theorem decideProposal_shape (c : Cfg) (s : NodeState) (r me : Nat) :
    decideProposal c s r me = s ∨ ∃ s' o, sign c s r 1 (.prop (s.validBlock.getD c.ownBlock) s.validRound) = some s' ∧
      ((s.halted = true ∧ o = s.out) ∨
        (¬ s.halted = true ∧ o = s.out ++ [.signProposal r (s.validBlock.getD c.ownBlock) s.validRound])) ∧
      decideProposal c s r me = { s with lss := s'.lss, out := o, queue := s.queue ++ [.proposal ⟨r, s.validBlock.getD c.ownBlock, s.validRound, me⟩, .part (s.validBlock.getD c.ownBlock)] } := by
  unfold decideProposal
  simp only []
  split
  · rename_i s' hs
    right
    have hs' : s' = { s with lss := s'.lss } := by rcases sign_cases hs with rfl | rfl <;> rfl
    by_cases hh : s.halted = true
    · refine ⟨s', s.out, hs, .inl ⟨hh, rfl⟩, ?_⟩
      rw [hs']; simp [emit, hh]
    · refine ⟨s', _, hs, .inr ⟨hh, rfl⟩, ?_⟩
      rw [hs']; simp [emit, hh]
  · left; rfl

/-- The round state: the state without what the output primitives write — the signer's last-sign state, the
outputs, the queue of own messages, and `halted`. `halted` is left out because a panic sets it and changes nothing
else that an invariant reads, so that `panicWith` keeps `Core` like the other four (`er` of Lemmas/ConsErase.lean
is `Core` with `halted`). An invariant that reads round-state fields only is carried over all five by one lemma
`X.core`. -/
def Core (s : NodeState) : NodeState := { s with lss := none, out := [], queue := [], halted := false }

section
variable {s t : NodeState} (h : Core s = Core t)
include h
theorem core_round : s.round = t.round := (congrArg NodeState.round h :)
theorem core_step : s.step = t.step := (congrArg NodeState.step h :)
theorem core_lockedRound : s.lockedRound = t.lockedRound := (congrArg NodeState.lockedRound h :)
theorem core_lockedBlock : s.lockedBlock = t.lockedBlock := (congrArg NodeState.lockedBlock h :)
theorem core_validRound : s.validRound = t.validRound := (congrArg NodeState.validRound h :)
theorem core_validBlock : s.validBlock = t.validBlock := (congrArg NodeState.validBlock h :)
theorem core_proposal : s.proposal = t.proposal := (congrArg NodeState.proposal h :)
theorem core_proposalBlock : s.proposalBlock = t.proposalBlock := (congrArg NodeState.proposalBlock h :)
theorem core_proposalParts : s.proposalParts = t.proposalParts := (congrArg NodeState.proposalParts h :)
theorem core_partsDone : s.partsDone = t.partsDone := (congrArg NodeState.partsDone h :)
theorem core_commitRound : s.commitRound = t.commitRound := (congrArg NodeState.commitRound h :)
theorem core_triggered : s.triggered = t.triggered := (congrArg NodeState.triggered h :)
theorem core_votes : s.votes = t.votes := (congrArg NodeState.votes h :)
theorem core_valRound : s.valRound = t.valRound := (congrArg NodeState.valRound h :)
theorem core_decided : s.decided = t.decided := (congrArg NodeState.decided h :)
end

theorem emit_core (s : NodeState) (o : Output) : Core (emit s o) = Core s := by
  rcases emit_shape s o with e | e <;> rw [e] <;> rfl
theorem panicWith_core (s : NodeState) (w : String) : Core (panicWith s w) = Core s := by
  rcases panicWith_shape s w with e | e <;> rw [e] <;> rfl
theorem sign_core {c : Cfg} {s s' : NodeState} {r cd : Nat} {p : Payload} (h : sign c s r cd p = some s') :
    Core s' = Core s := by
  rcases sign_cases h with e | e <;> rw [e] <;> rfl
theorem signAddVote_core (c : Cfg) (s : NodeState) (t : VType) (b : Bid) : Core (signAddVote c s t b) = Core s := by
  rcases signAddVote_shape c s t b with e | ⟨_, _, _, _, _, e⟩ <;> rw [e] <;> rfl
theorem decideProposal_core (c : Cfg) (s : NodeState) (r me : Nat) : Core (decideProposal c s r me) = Core s := by
  rcases decideProposal_shape c s r me with e | ⟨_, _, _, _, e⟩ <;> rw [e] <;> rfl
theorem doPrevote_core (c : Cfg) (s : NodeState) : Core (doPrevote c s) = Core s := by
  unfold doPrevote
  repeat' split
  all_goals exact signAddVote_core ..

theorem halted_emit (s : NodeState) (o : Output) : (emit s o).halted = s.halted := by
  rcases emit_shape s o with e | e <;> rw [e]
theorem panicWith_halted (s : NodeState) (w : String) : (panicWith s w).halted = true := by
  unfold panicWith; split
  · assumption
  · rfl
theorem sign_out {c : Cfg} {s s' : NodeState} {r cd : Nat} {p : Payload} (h : sign c s r cd p = some s') :
    s'.out = s.out ∧ s'.halted = s.halted := by
  rcases sign_cases h with e | e <;> rw [e] <;> exact ⟨rfl, rfl⟩
theorem halted_signAddVote (c : Cfg) (s : NodeState) (t : VType) (b : Bid) :
    (signAddVote c s t b).halted = s.halted := by
  rcases signAddVote_shape c s t b with e | ⟨_, _, _, _, _, e⟩ <;> rw [e]
theorem halted_decideProposal (c : Cfg) (s : NodeState) (r me : Nat) :
    (decideProposal c s r me).halted = s.halted := by
  rcases decideProposal_shape c s r me with e | ⟨_, _, _, _, e⟩ <;> rw [e]
theorem halted_doPrevote (c : Cfg) (s : NodeState) : (doPrevote c s).halted = s.halted := by
  unfold doPrevote
  repeat' split
  all_goals exact halted_signAddVote ..

theorem emit_out (s : NodeState) (o : Output) : (emit s o).out = s.out ∨ (emit s o).out = s.out ++ [o] :=
  (emit_shape s o).imp (congrArg NodeState.out) (congrArg NodeState.out)

theorem panicWith_out (s : NodeState) (w : String) :
    (panicWith s w).out = s.out ∨ (panicWith s w).out = s.out ++ [.panic w] :=
  (panicWith_shape s w).imp (congrArg NodeState.out) (congrArg NodeState.out)

theorem signAddVote_out (c : Cfg) (s : NodeState) (t : VType) (b : Bid) :
    (signAddVote c s t b).out = s.out ∨ (signAddVote c s t b).out = s.out ++ [.signVote t s.round b] :=
  (signAddVote_shape c s t b).imp (congrArg NodeState.out) fun ⟨_, _, _, _, _, e⟩ => congrArg NodeState.out e

theorem decideProposal_out (c : Cfg) (s : NodeState) (r me : Nat) :
    (decideProposal c s r me).out = s.out ∨
    (decideProposal c s r me).out = s.out ++ [.signProposal r (s.validBlock.getD c.ownBlock) s.validRound] := by
  rcases decideProposal_shape c s r me with e | ⟨_, _, _, ho, e⟩ <;> rw [e]
  · exact .inl rfl
  · exact ho.imp And.right And.right

theorem doPrevote_out (c : Cfg) (s : NodeState) :
    (doPrevote c s).out = s.out ∨ ∃ x, (doPrevote c s).out = s.out ++ [.signVote .prevote s.round x] := by
  unfold doPrevote
  repeat' split
  all_goals
    rcases signAddVote_out c s .prevote _ with e | e
    · left; exact e
    · right; exact ⟨_, e⟩

theorem emit_out_le (s : NodeState) (o : Output) : s.out.length ≤ (emit s o).out.length := by
  rcases emit_out s o with e | e <;> rw [e] <;> simp
theorem panicWith_out_le (s : NodeState) (w : String) : s.out.length ≤ (panicWith s w).out.length := by
  rcases panicWith_shape s w with e | e <;> rw [e] <;> simp
theorem signAddVote_out_le (c : Cfg) (s : NodeState) (t : VType) (b : Bid) :
    s.out.length ≤ (signAddVote c s t b).out.length := by
  rcases signAddVote_out c s t b with e | e <;> rw [e] <;> simp
theorem decideProposal_out_le (c : Cfg) (s : NodeState) (r me : Nat) :
    s.out.length ≤ (decideProposal c s r me).out.length := by
  rcases decideProposal_out c s r me with e | e <;> rw [e] <;> simp

/-! `enterPropose`, `enterPrevote`, `enterPrevoteWait` and `enterPrecommit c s r` start with
`if r < s.round ∨ (s.round = r ∧ k ≤ s.step.rank) then s`, `k` the rank of the step entered (`enterNewRound` and
`enterPrecommitWait` have another second disjunct; `enterCommit` tests the step only). `Step.rank` is read through
`rank_…` (the tactic `ranks` rewrites with all eight). -/

theorem rank_newHeight : Step.newHeight.rank = 1 := rfl
theorem rank_newRound : Step.newRound.rank = 2 := rfl
theorem rank_propose : Step.propose.rank = 3 := rfl
theorem rank_prevote : Step.prevote.rank = 4 := rfl
theorem rank_prevoteWait : Step.prevoteWait.rank = 5 := rfl
theorem rank_precommit : Step.precommit.rank = 6 := rfl
theorem rank_precommitWait : Step.precommitWait.rank = 7 := rfl
theorem rank_commit : Step.commit.rank = 8 := rfl

macro "ranks" : tactic => `(tactic| simp only [rank_newHeight, rank_newRound, rank_propose, rank_prevote,
  rank_prevoteWait, rank_precommit, rank_precommitWait, rank_commit] at *)

theorem Step.rank_le (st : Step) : st.rank ≤ Step.commit.rank := by cases st <;> decide
theorem rank_commit_le {st : Step} (h : Step.commit.rank ≤ st.rank) : st = .commit := by
  cases st <;> simp [Step.rank] at h ⊢

theorem rank_le_propose {st : Step} (h : st.rank ≤ Step.propose.rank) : st ≠ .commit := by
  cases st <;> simp [Step.rank] at h ⊢

/-- the guard `if r < s.round ∨ (s.round = r ∧ …) then s` of every `enterX`, passed: the round is not behind -/
theorem le_of_guard {a r : Nat} {p : Prop} (h : ¬(r < a ∨ p)) : a ≤ r := Nat.le_of_not_lt fun h' => h (.inl h')
/-- … and, once `r = s.round` has been substituted (`ok := True`), the step is before the one entered -/
theorem lt_of_guard {a k m : Nat} (h : ¬(a < a ∨ (a = a ∧ k ≤ m))) : m < k :=
  Nat.lt_of_not_le fun h' => h (.inr ⟨rfl, h'⟩)
/-- (round, step) moves strictly forward: the round grows, or the step passes from before `k` to `n ≥ k` -/
theorem lt_or_of_guard {a r k m n : Nat} (h : ¬(r < a ∨ (a = r ∧ k ≤ m))) (hk : k ≤ n) : a < r ∨ (a = r ∧ m < n) := by
  omega
theorem newRound_of_guard {a r : Nat} {st : Step} (h : ¬(r < a ∨ (a = r ∧ st ≠ .newHeight))) :
    a < r ∨ (a = r ∧ st = .newHeight) :=
  (Nat.lt_or_ge a r).imp_right fun hle =>
    have e : a = r := Nat.le_antisymm (le_of_guard h) hle
    ⟨e, Decidable.of_not_not fun hn => h (.inr ⟨e, hn⟩)⟩
/-- a caller that passes a round the node has reached (`ok := True` of Lemmas/ConsPrim.lean) passes the current one -/
theorem eq_of_guard {a r : Nat} {p : Prop} (hr : True → r ≤ a) (h : ¬(r < a ∨ p)) : r = a :=
  Nat.le_antisymm (hr trivial) (le_of_guard h)

theorem hashesTo_some {ob : Option Nat} {b : Nat} (h : hashesTo ob (some b) = true) : ob = some b := by
  unfold hashesTo at h
  cases ob with
  | none => simp at h
  | some x => simp at h; rw [h]

theorem hashesTo_refl (b : Nat) : hashesTo (some b) (some b) = true := by simp [hashesTo]
theorem hashesTo_ne {b' : Nat} {bid : Bid} (h : ¬ hashesTo (some b') bid = true) : bid ≠ some b' :=
  fun e => h (e ▸ hashesTo_refl b')
theorem hasHeader_self (x : Nat) : hasHeader (some x) (some x) = true := by simp [hasHeader]

@[simp] theorem emit_round (s : NodeState) (o : Output) : (emit s o).round = s.round :=
  core_round (emit_core s o)
@[simp] theorem emit_step (s : NodeState) (o : Output) : (emit s o).step = s.step :=
  core_step (emit_core s o)
@[simp] theorem emit_lockedRound (s : NodeState) (o : Output) : (emit s o).lockedRound = s.lockedRound :=
  core_lockedRound (emit_core s o)
@[simp] theorem emit_lockedBlock (s : NodeState) (o : Output) : (emit s o).lockedBlock = s.lockedBlock :=
  core_lockedBlock (emit_core s o)
@[simp] theorem emit_proposalBlock (s : NodeState) (o : Output) : (emit s o).proposalBlock = s.proposalBlock :=
  core_proposalBlock (emit_core s o)
@[simp] theorem emit_votes (s : NodeState) (o : Output) : (emit s o).votes = s.votes :=
  core_votes (emit_core s o)
@[simp] theorem panicWith_round (s : NodeState) (w : String) : (panicWith s w).round = s.round :=
  core_round (panicWith_core s w)
@[simp] theorem panicWith_step (s : NodeState) (w : String) : (panicWith s w).step = s.step :=
  core_step (panicWith_core s w)
@[simp] theorem panicWith_lockedRound (s : NodeState) (w : String) : (panicWith s w).lockedRound = s.lockedRound :=
  core_lockedRound (panicWith_core s w)
@[simp] theorem panicWith_lockedBlock (s : NodeState) (w : String) : (panicWith s w).lockedBlock = s.lockedBlock :=
  core_lockedBlock (panicWith_core s w)
@[simp] theorem panicWith_proposalBlock (s : NodeState) (w : String) : (panicWith s w).proposalBlock = s.proposalBlock :=
  core_proposalBlock (panicWith_core s w)
@[simp] theorem panicWith_votes (s : NodeState) (w : String) : (panicWith s w).votes = s.votes :=
  core_votes (panicWith_core s w)
@[simp] theorem signAddVote_round (c : Cfg) (s : NodeState) (t : VType) (b : Bid) : (signAddVote c s t b).round = s.round :=
  core_round (signAddVote_core c s t b)
@[simp] theorem signAddVote_step (c : Cfg) (s : NodeState) (t : VType) (b : Bid) : (signAddVote c s t b).step = s.step :=
  core_step (signAddVote_core c s t b)
@[simp] theorem signAddVote_lockedRound (c : Cfg) (s : NodeState) (t : VType) (b : Bid) : (signAddVote c s t b).lockedRound = s.lockedRound :=
  core_lockedRound (signAddVote_core c s t b)
@[simp] theorem signAddVote_lockedBlock (c : Cfg) (s : NodeState) (t : VType) (b : Bid) : (signAddVote c s t b).lockedBlock = s.lockedBlock :=
  core_lockedBlock (signAddVote_core c s t b)
@[simp] theorem signAddVote_proposalBlock (c : Cfg) (s : NodeState) (t : VType) (b : Bid) : (signAddVote c s t b).proposalBlock = s.proposalBlock :=
  core_proposalBlock (signAddVote_core c s t b)
@[simp] theorem signAddVote_votes (c : Cfg) (s : NodeState) (t : VType) (b : Bid) : (signAddVote c s t b).votes = s.votes :=
  core_votes (signAddVote_core c s t b)
@[simp] theorem decideProposal_round (c : Cfg) (s : NodeState) (r me : Nat) : (decideProposal c s r me).round = s.round :=
  core_round (decideProposal_core c s r me)
@[simp] theorem decideProposal_step (c : Cfg) (s : NodeState) (r me : Nat) : (decideProposal c s r me).step = s.step :=
  core_step (decideProposal_core c s r me)
@[simp] theorem decideProposal_lockedRound (c : Cfg) (s : NodeState) (r me : Nat) : (decideProposal c s r me).lockedRound = s.lockedRound :=
  core_lockedRound (decideProposal_core c s r me)
@[simp] theorem decideProposal_lockedBlock (c : Cfg) (s : NodeState) (r me : Nat) : (decideProposal c s r me).lockedBlock = s.lockedBlock :=
  core_lockedBlock (decideProposal_core c s r me)
@[simp] theorem decideProposal_proposalBlock (c : Cfg) (s : NodeState) (r me : Nat) : (decideProposal c s r me).proposalBlock = s.proposalBlock :=
  core_proposalBlock (decideProposal_core c s r me)
@[simp] theorem decideProposal_votes (c : Cfg) (s : NodeState) (r me : Nat) : (decideProposal c s r me).votes = s.votes :=
  core_votes (decideProposal_core c s r me)
@[simp] theorem doPrevote_round (c : Cfg) (s : NodeState) : (doPrevote c s).round = s.round :=
  core_round (doPrevote_core c s)
@[simp] theorem doPrevote_step (c : Cfg) (s : NodeState) : (doPrevote c s).step = s.step :=
  core_step (doPrevote_core c s)
@[simp] theorem doPrevote_lockedRound (c : Cfg) (s : NodeState) : (doPrevote c s).lockedRound = s.lockedRound :=
  core_lockedRound (doPrevote_core c s)
@[simp] theorem doPrevote_lockedBlock (c : Cfg) (s : NodeState) : (doPrevote c s).lockedBlock = s.lockedBlock :=
  core_lockedBlock (doPrevote_core c s)
@[simp] theorem doPrevote_proposalBlock (c : Cfg) (s : NodeState) : (doPrevote c s).proposalBlock = s.proposalBlock :=
  core_proposalBlock (doPrevote_core c s)
@[simp] theorem doPrevote_votes (c : Cfg) (s : NodeState) : (doPrevote c s).votes = s.votes :=
  core_votes (doPrevote_core c s)

@[simp] theorem unlock_lockedRound (s : NodeState) : (unlock s).lockedRound = -1 := rfl
@[simp] theorem unlock_lockedBlock (s : NodeState) : (unlock s).lockedBlock = none := rfl
@[simp] theorem unlock_round (s : NodeState) : (unlock s).round = s.round := rfl
@[simp] theorem unlock_step (s : NodeState) : (unlock s).step = s.step := rfl
@[simp] theorem unlock_votes (s : NodeState) : (unlock s).votes = s.votes := rfl
@[simp] theorem unlock_out (s : NodeState) : (unlock s).out = s.out := rfl
@[simp] theorem unlock_proposalBlock (s : NodeState) : (unlock s).proposalBlock = s.proposalBlock := rfl
@[simp] theorem emit_decided (s : NodeState) (o : Output) : (emit s o).decided = s.decided := core_decided (emit_core s o)
@[simp] theorem emit_commitRound (s : NodeState) (o : Output) : (emit s o).commitRound = s.commitRound :=
  core_commitRound (emit_core s o)
@[simp] theorem decideProposal_decided (c : Cfg) (s : NodeState) (r me : Nat) :
    (decideProposal c s r me).decided = s.decided := core_decided (decideProposal_core c s r me)

/-- `newRoundReset s r` sets round and step, advances the proposer priorities (`vr`) and, for a round other than 0,
clears the proposal, its block and parts -/
theorem newRoundReset_shape (s : NodeState) (r : Nat) :
    (r = 0 ∧ newRoundReset s r =
      { s with round := r, step := .newRound,
               valRound := if s.round < r then s.valRound + (r - s.round) else s.valRound }) ∨
    (r ≠ 0 ∧ newRoundReset s r =
      { s with round := r, step := .newRound,
               valRound := if s.round < r then s.valRound + (r - s.round) else s.valRound,
               proposal := none, proposalBlock := none, proposalParts := none, partsDone := false }) := by
  unfold newRoundReset; dsimp only; split
  · exact .inl ⟨‹_›, rfl⟩
  · exact .inr ⟨‹_›, rfl⟩

/-- what `newRoundReset s r` sets of round and step, and what it leaves alone, by name -/
structure ResetFrame (s : NodeState) (r : Nat) (t : NodeState) : Prop where
  round : t.round = r
  step : t.step = .newRound
  lockedRound : t.lockedRound = s.lockedRound
  lockedBlock : t.lockedBlock = s.lockedBlock
  commitRound : t.commitRound = s.commitRound
  votes : t.votes = s.votes
  decided : t.decided = s.decided
  halted : t.halted = s.halted
  lss : t.lss = s.lss
  queue : t.queue = s.queue
  out : t.out = s.out

theorem newRoundReset_frame (s : NodeState) (r : Nat) : ResetFrame s r (newRoundReset s r) := by
  obtain ⟨_, e⟩ | ⟨_, e⟩ := newRoundReset_shape s r <;> rw [e] <;> exact ⟨rfl, rfl, rfl, rfl, rfl, rfl, rfl, rfl, rfl, rfl, rfl⟩

end Tmv.Cons
