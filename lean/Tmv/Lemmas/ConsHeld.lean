import Tmv.Lemmas.ConsPrim
/-! "Holds that block": whatever block the node has as proposal / locked / valid block, queues as its own
block part, or precommits, was delivered to it complete or is the block it creates itself. Last,
`enterPrecommit_locks_what_it_precommits`, a statement about one call, from the case rule of `enterPrecommit`. -/
namespace Tmv.Cons

/-- block `b` was delivered complete, or is the block the node creates itself -/
def Held (c : Cfg) (past : List Input) (b : Nat) : Prop := Input.blockComplete b ∈ past ∨ b = c.ownBlock

theorem Held.mono {c : Cfg} {past : List Input} {b : Nat} (h : Held c past b) (i : Input) : Held c (past ++ [i]) b :=
  h.imp (fun m => List.mem_append_left _ m) id

/-- (H): every block the node refers to as its own is held -/
structure HI (c : Cfg) (past : List Input) (pb lb vb : Option Nat) (queue : List Internal) (out : List Output) : Prop where
  pb : ∀ b, pb = some b → Held c past b
  lb : ∀ b, lb = some b → Held c past b
  vb : ∀ b, vb = some b → Held c past b
  q : ∀ b, Internal.part b ∈ queue → Held c past b
  pc : ∀ r b, Output.signVote .precommit r (some b) ∈ out → Held c past b

abbrev H (c : Cfg) (past : List Input) (s : NodeState) : Prop :=
  HI c past s.proposalBlock s.lockedBlock s.validBlock s.queue s.out

theorem HI.mono {c past pb lb vb q o} (h : HI c past pb lb vb q o) (i : Input) : HI c (past ++ [i]) pb lb vb q o :=
  ⟨fun b e => (h.pb b e).mono i, fun b e => (h.lb b e).mono i, fun b e => (h.vb b e).mono i,
   fun b e => (h.q b e).mono i, fun r b e => (h.pc r b e).mono i⟩

theorem HI.push_out {c past pb lb vb q o} (h : HI c past pb lb vb q o) (x : Output)
    (hx : ∀ r b, x = .signVote .precommit r (some b) → Held c past b) : HI c past pb lb vb q (o ++ [x]) :=
  ⟨h.pb, h.lb, h.vb, h.q, fun r b hm => by
    rcases List.mem_append.1 hm with a | a
    · exact h.pc r b a
    · simp at a; exact hx r b a.symm⟩

variable {c : Cfg} {past : List Input}

theorem emit_H {s : NodeState} (o : Output) (ho : ∀ r b, o = .signVote .precommit r (some b) → Held c past b)
    (h : H c past s) : H c past (emit s o) := by
  rcases emit_shape s o with e | e <;> rw [e]
  · exact h
  · exact h.push_out o ho

theorem panicWith_H {s : NodeState} (w : String) (h : H c past s) : H c past (panicWith s w) := by
  rcases panicWith_shape s w with e | e <;> rw [e]
  · exact h
  · exact h.push_out _ (by intro _ _ e; cases e)

theorem signAddVote_H {s : NodeState} (t : VType) (bid : Bid)
    (hb : t = .precommit → ∀ b, bid = some b → Held c past b) (h : H c past s) : H c past (signAddVote c s t bid) := by
  rcases signAddVote_shape c s t bid with e | ⟨_, me, _, _, _, e⟩ <;> rw [e]
  · exact h
  · show HI _ _ _ _ _ _ _
    dsimp only
    refine ⟨h.pb, h.lb, h.vb, ?_, ?_⟩
    · intro b hm
      rcases List.mem_append.1 hm with a | a
      · exact h.q b a
      · simp at a
    · intro r b hm
      rcases List.mem_append.1 hm with a | a
      · exact h.pc r b a
      · simp at a
        obtain ⟨rfl, _, rfl⟩ := a
        exact hb rfl b rfl

theorem decideProposal_H {s : NodeState} (r me : Nat) (h : H c past s) : H c past (decideProposal c s r me) := by
  rcases decideProposal_shape c s r me with e | ⟨_, o, _, ho, e⟩ <;> rw [e]
  · exact h
  · show HI _ _ _ _ _ _ _
    dsimp only
    refine ⟨h.pb, h.lb, h.vb, ?_, ?_⟩
    · intro b hm
      rcases List.mem_append.1 hm with a | a
      · exact h.q b a
      · simp at a
        subst a
        cases hv : s.validBlock with
        | none => right; simp
        | some x => simp; exact h.vb x hv
    · intro r' b hm
      rcases ho with ⟨_, rfl⟩ | ⟨_, rfl⟩
      · exact h.pc r' b hm
      · rcases List.mem_append.1 hm with a | a
        · exact h.pc r' b a
        · simp at a

theorem newRoundReset_H {s : NodeState} (r : Nat) (h : H c past s) : H c past (newRoundReset s r) := by
  obtain ⟨_, e⟩ | ⟨_, e⟩ := newRoundReset_shape s r <;> rw [e]
  · exact h
  · exact ⟨(by intro b e; cases e), h.lb, h.vb, h.q, h.pc⟩

theorem unlock_H {s : NodeState} (h : H c past s) : H c past (unlock s) := by
  unfold unlock
  exact ⟨h.pb, (by intro b e; cases e), h.vb, h.q, h.pc⟩

/-- recording a block part makes it the proposal block: the part must be held -/
theorem enter_H {s : NodeState} (i : Input) (hi : ∀ b, i = .blockComplete b → Held c past b) (h : H c past s) :
    H c past (enter c s i) := by
  have he := enter_entry c s i
  generalize enter c s i = t at he
  cases he with
  | part b => exact ⟨fun b' e => by cases e; exact hi b rfl, h.lb, h.vb, h.q, h.pc⟩
  | _ => exact h

/-- blocks move between the proposal, locked and valid slots, a block precommit is for the locked block
just set from one of them, and the queued own block part is the valid block or the node's own -/
theorem H_prim {ok : Prop} {cm : NodeState → Prop} {s t : NodeState} (hp : Prim c ok cm s t) (h : H c past s) : H c past t := by
  cases hp with
  | panic w => exact panicWith_H w h
  | schedule r st | propose r | prevoteWait r | precommitWait r | decide b => exact emit_H _ nofun h
  | proposeOwn r me => exact decideProposal_H r me (emit_H _ nofun h)
  | prevote r bid => exact signAddVote_H _ _ nofun h
  | precommit r t x _ _ _ hc =>
    cases hc with
    | nil => exact signAddVote_H _ _ nofun h
    | unlock bid => exact signAddVote_H _ _ nofun (unlock_H h)
    | fetch b => exact signAddVote_H _ _ nofun ⟨nofun, nofun, h.vb, h.q, h.pc⟩
    | relock b _ hl => exact signAddVote_H _ _ (fun _ b' e => by cases e; exact h.lb _ hl) h
    | lock b _ _ hp =>
      exact signAddVote_H _ _ (fun _ b' e => by cases e; exact h.pb _ hp) ⟨h.pb, h.pb, h.vb, h.q, h.pc⟩
  | newRound r => exact newRoundReset_H r h
  | commitLocked r bid => exact ⟨h.lb, h.lb, h.vb, h.q, h.pc⟩
  | commitFetch r bid => exact ⟨nofun, h.lb, h.vb, h.q, h.pc⟩
  | valid vr bid => exact ⟨h.pb, h.lb, h.pb, h.q, h.pc⟩
  | dropBlock vr bid | dropFetch vr bid => exact ⟨nofun, h.lb, h.vb, h.q, h.pc⟩
  | unlock vr bid => exact unlock_H h
  | _ => exact h

theorem pop_H {s : NodeState} (m : Internal) (rest : List Internal) (hq : s.queue = m :: rest) (h : H c past s) :
    H c past (enter c { s with queue := rest } m.asInput) := by
  refine enter_H m.asInput (fun b e => h.q b ?_) ⟨h.pb, h.lb, h.vb, fun b hm => h.q b ?_, h.pc⟩
  · cases m <;> cases e
    rw [hq]; exact List.mem_cons_self ..
  · rw [hq]; exact List.mem_cons_of_mem _ hm

theorem step_H {s : NodeState} (i : Input) (h : H c past s) : H c (past ++ [i]) (step c s i) :=
  step_invariant (ok := False) (P := H c (past ++ [i])) (fun _ _ hp => H_prim hp) (fun _ => pop_H) s i nofun
    (enter_H i fun b e => .inl (by rw [e]; exact List.mem_append_right _ (List.mem_singleton_self _))) (h.mono i)

theorem run_H (is : List Input) {s : NodeState} {past : List Input} (h : H c past s) : H c (past ++ is) (run c s is) :=
  run_invariant_past (P := H c) (fun _ _ i h => step_H i h) is h

theorem init_H : H c [] NodeState.init :=
  ⟨(by intro b e; cases e), (by intro b e; cases e), (by intro b e; cases e), (by intro b e; simp [NodeState.init] at e),
   (by intro r b e; simp [NodeState.init] at e)⟩

/-- the step that emits a block precommit leaves the node locked on exactly that block, in exactly that
round, and the block was the locked block or the (complete) proposal block when `enterPrecommit` began -/
theorem enterPrecommit_locks_what_it_precommits (c : Cfg) (s : NodeState) (round : Nat) :
    ∀ r b, Output.signVote .precommit r (some b) ∈ (enterPrecommit c s round).out →
      Output.signVote .precommit r (some b) ∈ s.out ∨
      ((enterPrecommit c s round).lockedBlock = some b ∧ (enterPrecommit c s round).lockedRound = (round : Int) ∧
        (s.lockedBlock = some b ∨ s.proposalBlock = some b)) := by
  intro r b
  refine enterPrecommit_rule (c := c) (P := fun u => Output.signVote .precommit r (some b) ∈ u.out →
    Output.signVote .precommit r (some b) ∈ s.out ∨ (u.lockedBlock = some b ∧ u.lockedRound = (round : Int) ∧
      (s.lockedBlock = some b ∨ s.proposalBlock = some b))) s round (fun _ => .inl) (fun w hm => .inl ?_)
    fun _ _ t x hc hm => ?_
  · rcases panicWith_shape s w with e | e <;> rw [e] at hm
    · exact hm
    · exact (List.mem_append.1 hm).resolve_right (by simp)
  have hx : Output.signVote .precommit r (some b) ∈ t.out ∨ x = some b := by
    replace hm : _ ∈ (signAddVote c t .precommit x).out := hm
    rcases signAddVote_out c t .precommit x with e | e <;> rw [e] at hm
    · exact .inl hm
    · exact (List.mem_append.1 hm).imp_right fun a => by simp at a; exact a.2.symm
  show _ ∨ (signAddVote c t _ _).lockedBlock = _ ∧ (signAddVote c t _ _).lockedRound = _ ∧ _
  rw [signAddVote_lockedBlock, signAddVote_lockedRound]
  cases hc with
  | nil | unlock | fetch => exact .inl (hx.resolve_right nofun)
  | relock b' _ hl => exact hx.imp_right fun e => by cases e; exact ⟨hl, rfl, .inl hl⟩
  | lock b' _ _ hp => exact hx.imp_right fun e => by cases e; exact ⟨hp, rfl, .inr hp⟩

end Tmv.Cons
