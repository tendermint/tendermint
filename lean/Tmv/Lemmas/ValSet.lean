import Tmv.Model.ValSet
import Tmv.Lemmas.InsertSort
/-! Lemmas for the C08 validator-set model.  A list with strictly ascending addresses (`SAddr`) is
read as a finite map through its lookup `findAddr`: each pass (`mergeUpd`, `applyRemovals`) gets one
equation saying what it does to every lookup. -/
namespace Tmv.ValSet

theorem maxTotal_eq : maxTotal = 1152921504606846975 := rfl
theorem windowFactor_eq : windowFactor = 2 := rfl

/-- within the int64 range the clamps are dead -/
theorem safeAddClip_eq {a b : Int} (h1 : -9223372036854775808 ≤ a + b)
    (h2 : a + b ≤ 9223372036854775807) : safeAddClip a b = a + b := by
  unfold safeAddClip maxI64 minI64
  rw [if_neg (by omega), if_neg (by omega)]

theorem safeSubClip_eq {a b : Int} (h1 : -9223372036854775808 ≤ a - b)
    (h2 : a - b ≤ 9223372036854775807) : safeSubClip a b = a - b := by
  unfold safeSubClip maxI64 minI64
  rw [if_neg (by omega), if_neg (by omega)]

theorem sorts (le : Val → Val → Bool) : InsertionSort (le · · = true) (insertBy le) (sortBy le) :=
  ⟨fun _ => rfl, fun _ _ _ => rfl, rfl, fun _ _ => rfl⟩

theorem sortBy_perm (le : Val → Val → Bool) (l : List Val) : (sortBy le l).Perm l :=
  (sorts le).perm l

theorem sortBy_pairwise (le : Val → Val → Bool)
    (htot : ∀ a b, le a b = true ∨ le b a = true)
    (htr : ∀ a b c, le a b = true → le b c = true → le a c = true)
    (l : List Val) : (sortBy le l).Pairwise (fun a b => le a b = true) :=
  (sorts le).pairwise htr (List.pairwise_of_forall fun a b => ⟨id, (htot a b).resolve_left⟩)

theorem leAddr_total (a b : Val) : leAddr a b = true ∨ leAddr b a = true := by
  simp only [leAddr, decide_eq_true_eq]; omega
theorem leAddr_trans (a b c : Val) (h1 : leAddr a b = true) (h2 : leAddr b c = true) :
    leAddr a c = true := by
  simp only [leAddr, decide_eq_true_eq] at *; omega

theorem lePower_total (a b : Val) : lePower a b = true ∨ lePower b a = true := by
  simp only [lePower, decide_eq_true_eq]; omega
theorem lePower_trans (a b c : Val) (h1 : lePower a b = true) (h2 : lePower b c = true) :
    lePower a c = true := by
  simp only [lePower, decide_eq_true_eq] at *; omega

theorem eq_of_addr_eq (l : List Val) (hnd : (l.map (·.addr)).Nodup) (a b : Val)
    (ha : a ∈ l) (hb : b ∈ l) (hab : a.addr = b.addr) : a = b := by
  induction l with
  | nil => cases ha
  | cons x xs ih =>
    simp only [List.map_cons, List.nodup_cons] at hnd
    rcases List.mem_cons.mp ha with e1 | ha'
    · rcases List.mem_cons.mp hb with e2 | hb'
      · rw [e1, e2]
      · exfalso; apply hnd.1; rw [← e1, hab]; exact List.mem_map.mpr ⟨b, hb', rfl⟩
    · rcases List.mem_cons.mp hb with e2 | hb'
      · exfalso; apply hnd.1; rw [← e2, ← hab]; exact List.mem_map.mpr ⟨a, ha', rfl⟩
      · exact ih hnd.2 ha' hb'

/-- sorting by address is a function of the multiset when addresses are unique -/
theorem sortBy_leAddr_perm_eq (l1 l2 : List Val) (hp : l1.Perm l2)
    (hnd : (l1.map (·.addr)).Nodup) : sortBy leAddr l1 = sortBy leAddr l2 := by
  have hinj : ∀ a b, a ∈ l1 → b ∈ l1 → a.addr = b.addr → a = b := by
    intro a b ha hb hab
    exact eq_of_addr_eq l1 hnd a b ha hb hab
  apply List.Perm.eq_of_pairwise (le := fun a b => leAddr a b = true)
  · intro a b ha hb h1 h2
    have ha' : a ∈ l1 := (sortBy_perm leAddr l1).mem_iff.mp ha
    have hb' : b ∈ l1 := hp.mem_iff.mpr ((sortBy_perm leAddr l2).mem_iff.mp hb)
    apply hinj a b ha' hb'
    simp only [leAddr, decide_eq_true_eq] at h1 h2; omega
  · exact sortBy_pairwise leAddr leAddr_total leAddr_trans l1
  · exact sortBy_pairwise leAddr leAddr_total leAddr_trans l2
  · exact (sortBy_perm leAddr l1).trans (hp.trans (sortBy_perm leAddr l2).symm)

/-- strictly ascending addresses -/
def SAddr (l : List Val) : Prop := l.Pairwise (fun a b => a.addr < b.addr)

theorem SAddr.nodup {l : List Val} (h : SAddr l) : (l.map (·.addr)).Nodup := by
  unfold SAddr at h
  rw [List.Nodup, List.pairwise_map]
  exact h.imp (fun hab => by omega)

theorem sAddr_of_sorted_nodup (l : List Val) (hs : l.Pairwise (fun a b => leAddr a b = true))
    (hn : (l.map (·.addr)).Nodup) : SAddr l := by
  unfold SAddr
  rw [List.Nodup, List.pairwise_map] at hn
  exact (hs.and hn).imp (fun ⟨h1, h2⟩ => by simp only [leAddr, decide_eq_true_eq] at h1; omega)

theorem findAddr_some {l : List Val} {a : Nat} {v : Val} (h : findAddr l a = some v) :
    v ∈ l ∧ v.addr = a := by
  unfold findAddr at h
  exact ⟨List.mem_of_find?_eq_some h, by simpa using List.find?_some h⟩

theorem findAddr_none {l : List Val} {a : Nat} (h : findAddr l a = none) : ∀ v ∈ l, v.addr ≠ a := by
  unfold findAddr at h
  intro v hv
  have := List.find?_eq_none.mp h v hv
  simpa using this

theorem findAddr_cons (v : Val) (r : List Val) (a : Nat) :
    findAddr (v :: r) a = if v.addr = a then some v else findAddr r a := by
  unfold findAddr
  rw [List.find?_cons]
  by_cases h : v.addr = a <;> simp [h]

theorem findAddr_cons_of_lt {v : Val} {r : List Val} {a : Nat} (h : v.addr < a) :
    findAddr (v :: r) a = findAddr r a := by
  rw [findAddr_cons, if_neg (Nat.ne_of_lt h)]

theorem findAddr_eq_none_of {l : List Val} {a : Nat} (h : ∀ x ∈ l, x.addr ≠ a) : findAddr l a = none := by
  unfold findAddr
  apply List.find?_eq_none.mpr
  intro x hx; simpa using h x hx

theorem findAddr_eq_none_iff {l : List Val} {a : Nat} :
    findAddr l a = none ↔ a ∉ l.map (·.addr) :=
  ⟨fun h ha => by obtain ⟨v, hv, e⟩ := List.mem_map.mp ha; exact findAddr_none h v hv e,
    fun h => findAddr_eq_none_of fun x hx e => h (List.mem_map.mpr ⟨x, hx, e⟩)⟩

theorem mem_iff_findAddr {l : List Val} (hnd : (l.map (·.addr)).Nodup) (x : Val) :
    x ∈ l ↔ findAddr l x.addr = some x := by
  refine ⟨fun hx => ?_, fun h => (findAddr_some h).1⟩
  cases hf : findAddr l x.addr with
  | none => exact absurd rfl (findAddr_none hf x hx)
  | some w =>
    obtain ⟨hw, hwa⟩ := findAddr_some hf
    rw [eq_of_addr_eq l hnd w x hw hx hwa]

theorem findAddr_perm {l1 l2 : List Val} (hp : l1.Perm l2) (hnd : (l1.map (·.addr)).Nodup) (a : Nat) :
    findAddr l1 a = findAddr l2 a := by
  have hnd2 : (l2.map (·.addr)).Nodup := (List.Perm.map _ hp).nodup_iff.mp hnd
  cases hf : findAddr l1 a with
  | none => exact (findAddr_eq_none_of fun x hx => findAddr_none hf x (hp.mem_iff.mpr hx)).symm
  | some x =>
    obtain ⟨hx, rfl⟩ := findAddr_some hf
    exact ((mem_iff_findAddr hnd2 x).mp (hp.mem_iff.mp hx)).symm

theorem findAddr_filter {l : List Val} (hnd : (l.map (·.addr)).Nodup) (p : Val → Bool) (a : Nat) :
    findAddr (l.filter p) a = (findAddr l a).filter p := by
  have hndf : ((l.filter p).map (·.addr)).Nodup := hnd.sublist (List.filter_sublist.map _)
  cases hf : findAddr l a with
  | none => exact findAddr_eq_none_of fun x hx => findAddr_none hf x (List.mem_filter.mp hx).1
  | some x =>
    obtain ⟨hx, rfl⟩ := findAddr_some hf
    by_cases hp : p x = true
    · rw [Option.filter_some, if_pos hp]
      exact (mem_iff_findAddr hndf x).mp (List.mem_filter.mpr ⟨hx, hp⟩)
    · rw [Option.filter_some, if_neg hp]
      refine findAddr_eq_none_of fun y hy hya => hp ?_
      obtain ⟨hy1, hy2⟩ := List.mem_filter.mp hy
      rw [← eq_of_addr_eq l hnd y x hy1 hx hya]; exact hy2

theorem SAddr.cons {v : Val} {r : List Val} (h : ∀ x ∈ r, v.addr < x.addr) (hr : SAddr r) :
    SAddr (v :: r) := List.pairwise_cons.mpr ⟨h, hr⟩

theorem SAddr.above {u : Val} {us : List Val} {k : Nat} (h : SAddr (u :: us)) (hk : k < u.addr) :
    ∀ x ∈ u :: us, k < x.addr := by
  intro x hx
  rcases List.mem_cons.mp hx with rfl | hx'
  · exact hk
  · exact Nat.lt_trans hk ((List.pairwise_cons.mp h).1 x hx')

theorem findAddr_above {l : List Val} {a : Nat} (h : ∀ x ∈ l, a < x.addr) : findAddr l a = none :=
  findAddr_eq_none_of fun x hx => Nat.ne_of_gt (h x hx)

theorem SAddr.filter {l : List Val} (h : SAddr l) (p : Val → Bool) : SAddr (l.filter p) :=
  List.Pairwise.sublist List.filter_sublist h

theorem scanChanges_split (l : List Val) (prev : Option Nat) (u d : List Val)
    (hs : l.Pairwise (fun a b => leAddr a b = true)) (h : scanChanges prev l = .ok (u, d)) :
    (∀ w, l.head? = some w → some w.addr ≠ prev) ∧ SAddr l ∧
    u = l.filter (fun v => v.power ≠ 0) ∧ d = l.filter (fun v => v.power = 0) ∧
    ∀ v ∈ l, 0 ≤ v.power ∧ v.power ≤ maxTotal := by
  induction l generalizing prev u d with
  | nil =>
    cases h
    exact ⟨fun w hw => (by cases hw), List.Pairwise.nil, rfl, rfl, fun v hv => (by cases hv)⟩
  | cons v rest ih =>
    rw [List.pairwise_cons] at hs
    unfold scanChanges at h
    by_cases hprev : some v.addr = prev
    · rw [if_pos hprev] at h; cases h
    rw [if_neg hprev] at h
    by_cases hneg : v.power < 0
    · rw [if_pos hneg] at h; cases h
    rw [if_neg hneg] at h
    by_cases hbig : v.power > maxTotal
    · rw [if_pos hbig] at h; cases h
    rw [if_neg hbig] at h
    cases hrec : scanChanges (some v.addr) rest with
    | error e => rw [hrec] at h; cases h
    | ok p =>
      obtain ⟨u', d'⟩ := p
      rw [hrec] at h
      simp only at h
      obtain ⟨ih1, ih2, rfl, rfl, ih5⟩ := ih (some v.addr) u' d' hs.2 hrec
      have hud : u = (v :: rest).filter (fun v => v.power ≠ 0) ∧
          d = (v :: rest).filter (fun v => v.power = 0) := by
        by_cases hz : v.power = 0
        · rw [if_pos hz] at h; cases h; simp [hz]
        · rw [if_neg hz] at h; cases h; simp [hz]
      refine ⟨fun w hw => (by cases hw; exact hprev), SAddr.cons (fun w hw => ?_) ih2, hud.1, hud.2, ?_⟩
      · -- the scan of the rest refused `v`'s address at its head
        cases rest with
        | nil => cases hw
        | cons w0 rest' =>
          have h0 : w0.addr ≠ v.addr := fun e => ih1 w0 rfl (by rw [e])
          have h1 := hs.1 w0 List.mem_cons_self
          simp only [leAddr, decide_eq_true_eq] at h1
          exact ih2.above (by omega) w hw
      · intro x hx
        rcases List.mem_cons.mp hx with rfl | hx'
        · omega
        · exact ih5 x hx'

theorem scanChanges_dup (l : List Val) (prev : Option Nat)
    (hs : l.Pairwise (fun a b => leAddr a b = true))
    (hd : ¬ (l.map (·.addr)).Nodup) : ∃ e, scanChanges prev l = .error e := by
  cases h : scanChanges prev l with
  | error e => exact ⟨e, rfl⟩
  | ok p => exact absurd (scanChanges_split l prev p.1 p.2 hs h).2.1.nodup hd

/-- membership in an ascending list is a lookup, so an equation for the lookups answers it -/
theorem mem_of_findAddr_or {l l1 l2 : List Val} (hs : SAddr l)
    (hf : ∀ a, findAddr l a = (findAddr l1 a).or (findAddr l2 a)) : ∀ x ∈ l, x ∈ l1 ∨ x ∈ l2 := by
  intro x hx
  have h := (hf x.addr).symm.trans ((mem_iff_findAddr hs.nodup x).mp hx)
  cases h1 : findAddr l1 x.addr with
  | none => rw [h1] at h; exact Or.inr (findAddr_some h).1
  | some w => rw [h1] at h; cases h; exact Or.inl (findAddr_some h1).1

theorem mergeUpd_find (f : Nat) (es us : List Val) (hf : es.length + us.length ≤ f)
    (he : SAddr es) (hu : SAddr us) :
    SAddr (mergeUpd f es us) ∧
    ∀ a, findAddr (mergeUpd f es us) a = (findAddr us a).or (findAddr es a) := by
  fun_induction mergeUpd f es us with
  | case1 es us =>
    have h1 : es = [] := List.eq_nil_of_length_eq_zero (by omega)
    have h2 : us = [] := List.eq_nil_of_length_eq_zero (by omega)
    subst h1; subst h2
    exact ⟨he, fun a => rfl⟩
  | case2 n us => exact ⟨hu, fun a => by simp [findAddr]⟩
  | case3 n es _ => exact ⟨he, fun a => by simp [findAddr]⟩
  | case4 n e es' u us' hlt ih =>
    have he' := List.pairwise_cons.mp he
    obtain ⟨i1, i2⟩ := ih (by simp only [List.length_cons] at hf ⊢; omega) he'.2 hu
    have hue := hu.above hlt
    refine ⟨SAddr.cons (fun x hx => (mem_of_findAddr_or i1 i2 x hx).elim (hue x) (he'.1 x)) i1,
      fun a => ?_⟩
    rw [findAddr_cons, i2, findAddr_cons e]
    by_cases ha : e.addr = a
    · rw [if_pos ha, if_pos ha, ← ha, findAddr_above hue]; rfl
    · rw [if_neg ha, if_neg ha]
  | case5 n e es' u us' hnlt heq ih =>
    have he' := List.pairwise_cons.mp he
    have hu' := List.pairwise_cons.mp hu
    obtain ⟨i1, i2⟩ := ih (by simp only [List.length_cons] at hf; omega) he'.2 hu'.2
    refine ⟨SAddr.cons (fun x hx =>
      (mem_of_findAddr_or i1 i2 x hx).elim (hu'.1 x) (heq ▸ he'.1 x)) i1, fun a => ?_⟩
    rw [findAddr_cons, i2, findAddr_cons u, findAddr_cons e, heq]
    by_cases ha : u.addr = a
    · rw [if_pos ha, if_pos ha]; rfl
    · rw [if_neg ha, if_neg ha, if_neg ha]
  | case6 n e es' u us' hnlt hne ih =>
    have hu' := List.pairwise_cons.mp hu
    obtain ⟨i1, i2⟩ := ih (by simp only [List.length_cons] at hf ⊢; omega) he hu'.2
    refine ⟨SAddr.cons (fun x hx =>
      (mem_of_findAddr_or i1 i2 x hx).elim (hu'.1 x) (he.above (by omega) x)) i1, fun a => ?_⟩
    rw [findAddr_cons, i2, findAddr_cons u]
    by_cases ha : u.addr = a
    · rw [if_pos ha, if_pos ha]; rfl
    · rw [if_neg ha, if_neg ha]
theorem applyUpdates_find (vals us : List Val) (hnd : (vals.map (·.addr)).Nodup) (hu : SAddr us) :
    SAddr (applyUpdates vals us) ∧
    ∀ a, findAddr (applyUpdates vals us) a = (findAddr us a).or (findAddr vals a) := by
  have hsnd := (List.Perm.map (·.addr) (sortBy_perm leAddr vals)).nodup_iff.mpr hnd
  obtain ⟨m1, m2⟩ := mergeUpd_find _ _ _ (Nat.le_refl _)
    (sAddr_of_sorted_nodup _ (sortBy_pairwise leAddr leAddr_total leAddr_trans _) hsnd) hu
  exact ⟨m1, fun a => by rw [← findAddr_perm (sortBy_perm leAddr vals) hsnd]; exact m2 a⟩

/-- `hsub` is what `verifyRemovals` checked; without it the pass would keep later entries it should drop -/
theorem applyRemovals_find (es ds : List Val) (he : SAddr es) (hd : SAddr ds)
    (hsub : ∀ d ∈ ds, findAddr es d.addr ≠ none) :
    (applyRemovals es ds).Sublist es ∧
    ∀ a, findAddr (applyRemovals es ds) a = if findAddr ds a = none then findAddr es a else none := by
  fun_induction applyRemovals es ds with
  | case1 es => exact ⟨List.Sublist.refl _, fun a => rfl⟩
  | case2 d ds' => exact absurd rfl (hsub d List.mem_cons_self)
  | case3 e es' d ds' heq ih =>
    have he' := List.pairwise_cons.mp he
    have hd' := List.pairwise_cons.mp hd
    obtain ⟨i1, i2⟩ := ih he'.2 hd'.2 fun x hx =>
      findAddr_cons_of_lt (heq ▸ hd'.1 x hx) ▸ hsub x (List.mem_cons_of_mem _ hx)
    refine ⟨i1.cons _, fun a => ?_⟩
    rw [i2, findAddr_cons d, findAddr_cons e, heq]
    by_cases ha : d.addr = a
    · rw [if_pos ha, if_pos ha, if_neg (Option.some_ne_none d), ← ha, findAddr_above hd'.1,
        if_pos rfl, ← heq, findAddr_above he'.1]
    · rw [if_neg ha, if_neg ha]
  | case4 e es' d ds' hne ih =>
    have he' := List.pairwise_cons.mp he
    have hlt : e.addr < d.addr := by
      have := hsub d List.mem_cons_self
      rw [findAddr_cons, if_neg hne] at this
      cases hf : findAddr es' d.addr with
      | none => exact absurd hf this
      | some w => obtain ⟨hw, hwa⟩ := findAddr_some hf; exact hwa ▸ he'.1 w hw
    have hde := hd.above hlt
    obtain ⟨i1, i2⟩ := ih he'.2 hd fun x hx => findAddr_cons_of_lt (hde x hx) ▸ hsub x hx
    refine ⟨i1.cons_cons _, fun a => ?_⟩
    rw [findAddr_cons, i2, findAddr_cons e]
    by_cases ha : e.addr = a
    · rw [if_pos ha, if_pos ha, ← ha, findAddr_above hde, if_pos rfl]
    · rw [if_neg ha, if_neg ha]

theorem verifyRemovals_some (vals ds : List Val) (acc r : Int)
    (h : verifyRemovals vals ds acc = some r) : ∀ d ∈ ds, findAddr vals d.addr ≠ none := by
  fun_induction verifyRemovals vals ds acc with
  | case1 => intro d hd; cases hd
  | case2 => cases h
  | case3 d ds acc v hv ih =>
    intro x hx
    rcases List.mem_cons.mp hx with e | hx'
    · rw [e, hv]; exact Option.some_ne_none v
    · exact ih h x hx'

/-- same addresses and powers, position by position -/
def SameAP (l l' : List Val) : Prop := l.map (fun v => (v.addr, v.power)) = l'.map (fun v => (v.addr, v.power))

theorem sameAP_map_setPrio (l : List Val) (f : Val → Int) : SameAP (l.map (fun v => setPrio v (f v))) l := by
  unfold SameAP
  rw [List.map_map]
  apply List.map_congr_left
  intro v _; rfl

theorem rescale_sameAP (l : List Val) (d : Int) : SameAP (rescale l d) l := by
  unfold rescale
  split
  · rfl
  · simp only
    split
    · exact sameAP_map_setPrio l _
    · rfl

theorem shiftByAvg_sameAP (l : List Val) : SameAP (shiftByAvg l) l := by
  unfold shiftByAvg
  exact sameAP_map_setPrio l _

theorem SameAP.trans {a b c : List Val} (h1 : SameAP a b) (h2 : SameAP b c) : SameAP a c :=
  Eq.trans h1 h2

/-- the normalisation prefix only rewrites priorities -/
theorem normalize_sameAP (l : List Val) : SameAP (normalize l) l :=
  (shiftByAvg_sameAP _).trans (rescale_sameAP _ _)

theorem SameAP.addrs {a b : List Val} (h : SameAP a b) : a.map (·.addr) = b.map (·.addr) := by
  have := congrArg (List.map Prod.fst) h
  simpa [List.map_map, Function.comp_def] using this

theorem SameAP.powers {a b : List Val} (h : SameAP a b) : a.map (·.power) = b.map (·.power) := by
  have := congrArg (List.map Prod.snd) h
  simpa [List.map_map, Function.comp_def] using this

theorem SameAP.find {l1 l2 : List Val} (h : SameAP l1 l2) (a : Nat) :
    (findAddr l1 a).map (·.power) = (findAddr l2 a).map (·.power) := by
  induction l1 generalizing l2 with
  | nil =>
    cases l2 with
    | nil => rfl
    | cons y t => simp [SameAP] at h
  | cons x r ih =>
    cases l2 with
    | nil => simp [SameAP] at h
    | cons y t =>
      simp only [SameAP, List.map_cons, List.cons.injEq, Prod.mk.injEq] at h
      obtain ⟨⟨ha, hp⟩, hrest⟩ := h
      rw [findAddr_cons, findAddr_cons, ha]
      by_cases hy : y.addr = a
      · rw [if_pos hy, if_pos hy, Option.map_some, Option.map_some, hp]
      · rw [if_neg hy, if_neg hy]; exact ih hrest

def sumPower (l : List Val) : Int := (l.map (·.power)).sum

theorem sumPower_nonneg (l : List Val) (hp : ∀ v ∈ l, 0 ≤ v.power) : 0 ≤ sumPower l := by
  induction l with
  | nil => simp [sumPower]
  | cons w t ih =>
    have h1 := hp w List.mem_cons_self
    have h2 := ih (fun x hx => hp x (List.mem_cons_of_mem _ hx))
    simp only [sumPower, List.map_cons, List.sum_cons] at h2 ⊢; omega

theorem totalFrom_eq (l : List Val) (acc : Int) (hacc : 0 ≤ acc) (hp : ∀ v ∈ l, 0 ≤ v.power)
    (hs : acc + sumPower l ≤ 9223372036854775807) : totalFrom acc l = acc + sumPower l := by
  induction l generalizing acc with
  | nil => simp [totalFrom, sumPower]
  | cons v r ih =>
    have hv := hp v List.mem_cons_self
    have hr : ∀ w ∈ r, 0 ≤ w.power := fun w hw => hp w (List.mem_cons_of_mem _ hw)
    have hrs : 0 ≤ sumPower r := sumPower_nonneg r hr
    simp only [sumPower, List.map_cons, List.sum_cons] at hs
    simp only [sumPower] at hrs
    have hclip : safeAddClip acc v.power = acc + v.power := safeAddClip_eq (by omega) (by omega)
    unfold totalFrom
    rw [hclip, ih (acc + v.power) (by omega) hr (by simp only [sumPower]; omega)]
    simp only [sumPower, List.map_cons, List.sum_cons]; omega

theorem totalPanicsFrom_le (l : List Val) (acc : Int) (hacc : 0 ≤ acc) (hacc2 : acc ≤ maxTotal)
    (hp : ∀ v ∈ l, 0 ≤ v.power) (hnp : totalPanicsFrom acc l = false) :
    acc + sumPower l ≤ maxTotal := by
  induction l generalizing acc with
  | nil => simpa [sumPower] using hacc2
  | cons v r ih =>
    have hv := hp v List.mem_cons_self
    unfold totalPanicsFrom at hnp
    simp only at hnp
    rw [maxTotal_eq] at hacc2
    -- a clamped step would read `MaxInt64`, above the limit
    have hclip : safeAddClip acc v.power = acc + v.power := by
      by_cases hbig : acc + v.power > 9223372036854775807
      · exfalso
        have : safeAddClip acc v.power = 9223372036854775807 := by
          unfold safeAddClip maxI64 minI64
          rw [if_pos (by omega)]
        rw [this, maxTotal_eq] at hnp
        simp at hnp
      · exact safeAddClip_eq (by omega) (by omega)
    rw [hclip] at hnp
    by_cases hgt : acc + v.power > maxTotal
    · rw [if_pos hgt] at hnp; cases hnp
    · rw [if_neg hgt] at hnp
      have := ih (acc + v.power) (by omega) (by omega) (fun w hw => hp w (List.mem_cons_of_mem _ hw)) hnp
      simp only [sumPower, List.map_cons, List.sum_cons] at this ⊢
      omega

theorem totalFrom_noclip (l : List Val) (acc : Int) (hacc : 0 ≤ acc) (hacc2 : acc ≤ maxTotal)
    (hp : ∀ v ∈ l, 0 ≤ v.power) (hnp : totalPanicsFrom acc l = false) :
    totalFrom acc l = acc + sumPower l ∧ acc + sumPower l ≤ maxTotal := by
  have hle := totalPanicsFrom_le l acc hacc hacc2 hp hnp
  exact ⟨totalFrom_eq l acc hacc hp (by rw [maxTotal_eq] at hle; omega), hle⟩

end Tmv.ValSet
