import Tmv.Lemmas.ConsPrim
/-! Universal invariants of the commit path of the node model (every run from `NodeState.init`,
every input list): the proposal block is always held together with its complete part set; a node in
the commit step never holds the committed block without having decided; a recorded +2/3 precommit
majority for a block means the node has been through `enterCommit`. An orphan is a node that knows a commit
round while outside the commit step (`NoOrphanCommit`, Props/C03.lean, says of a net that it has none; here the
hypothesis `hnorphan` says it of one state). Together they give: **a node that is not an orphan, has recorded
the precommit quorum for `b` and holds `b`, has decided** — for every order of everything.

`KI` holds between the handling of two messages, not between two moves: `recd` fails from the recording
of the completing precommit until `enterCommit`, `ci` between the arrival of the block (or a move into the
commit step) and `finalizeCommit`. What holds move by move is `KU`, for the moves that neither enter the
commit step nor decide (`KU_prim`); the functions that do are followed one by one, `KU … s → KI (f c s)`:
`finalizeCommit`, `tryFinalizeCommit`, `enterCommit`, `afterPrecommit` along their case rules (Lemmas/ConsPrim.lean),
`handleCompleteProposal`, `addBlockPart`, `addVote`, `drain`, `step` unfolded here. `KW` is `KI` without `ci`. -/
namespace Tmv.Cons

/-- the commit-path invariant -/
structure KI (c : Cfg) (s : NodeState) : Prop where
  /-- the proposal block is held with its complete part set -/
  pb : ∀ x, s.proposalBlock = some x → s.proposalParts = some x ∧ s.partsDone = true
  /-- in the commit step the precommits of the commit round have a recorded majority for a block -/
  cr : s.halted = false → s.step = .commit →
    0 ≤ s.commitRound ∧ ∃ b, maj23Of (s.votes.getVoteSet s.commitRound .precommit) = some (some b)
  /-- in the commit step, undecided and not halted, the committed block is not held -/
  ci : s.halted = false → s.step = .commit → s.decided = none →
    ∀ b, maj23Of (s.votes.getVoteSet s.commitRound .precommit) = some (some b) → s.proposalBlock ≠ some b
  /-- a recorded precommit majority for a block: the node has entered the commit step at some point -/
  recd : s.halted = false → (∃ (r : Nat) (b : Nat), maj23Of (s.votes.getVoteSet (r : Int) .precommit) = some (some b)) →
    0 ≤ s.commitRound
  /-- a decision is for the recorded majority of the commit round -/
  dec : ∀ b r, s.decided = some (b, r) → r = s.commitRound ∧
    maj23Of (s.votes.getVoteSet s.commitRound .precommit) = some (some b)

/-! ### the working forms of the invariant -/

/-- the invariant of an undecided node, on the fields it reads; the rounds in `X` are exempt from
`recd` (the round of a precommit that has just been added, until `afterPrecommit` has run) -/
structure KUI (c : Cfg) (X : Nat → Prop) (pB pP : Option Nat) (pD hl : Bool) (st : Step) (cR : Int) (v : HVS)
    (d : Option (Nat × Int)) : Prop where
  pb : ∀ x, pB = some x → pP = some x ∧ pD = true
  cr : hl = false → st = .commit → 0 ≤ cR ∧ ∃ b, maj23Of (v.getVoteSet cR .precommit) = some (some b)
  ci : hl = false → st = .commit → ∀ b, maj23Of (v.getVoteSet cR .precommit) = some (some b) → pB ≠ some b
  recd : hl = false → (∃ (r : Nat) (b : Nat), ¬ X r ∧ maj23Of (v.getVoteSet (r : Int) .precommit) = some (some b)) →
    0 ≤ cR
  und : d = none

abbrev KU (c : Cfg) (X : Nat → Prop) (s : NodeState) : Prop :=
  KUI c X s.proposalBlock s.proposalParts s.partsDone s.halted s.step s.commitRound s.votes s.decided

/-- the invariant without `ci` (the state between setting the block and `tryFinalizeCommit`) -/
structure KW (c : Cfg) (s : NodeState) : Prop where
  pb : ∀ x, s.proposalBlock = some x → s.proposalParts = some x ∧ s.partsDone = true
  cr : s.halted = false → s.step = .commit →
    0 ≤ s.commitRound ∧ ∃ b, maj23Of (s.votes.getVoteSet s.commitRound .precommit) = some (some b)
  recd : s.halted = false → (∃ (r : Nat) (b : Nat), maj23Of (s.votes.getVoteSet (r : Int) .precommit) = some (some b)) →
    0 ≤ s.commitRound
  dec : ∀ b r, s.decided = some (b, r) → r = s.commitRound ∧
    maj23Of (s.votes.getVoteSet s.commitRound .precommit) = some (some b)

abbrev NoX : Nat → Prop := fun _ => False

variable {c : Cfg} {X : Nat → Prop}

theorem KI.toKW {s : NodeState} (h : KI c s) : KW c s := ⟨h.pb, h.cr, h.recd, h.dec⟩

theorem KI.toKU {s : NodeState} (h : KI c s) (hd : s.decided = none) : KU c NoX s :=
  ⟨h.pb, h.cr, fun hh hs => h.ci hh hs hd, fun hh ⟨r, b, _, hm⟩ => h.recd hh ⟨r, b, hm⟩, hd⟩

/-- in the commit step or halted the exemption is void -/
theorem KU.toKI {s : NodeState} (h : KU c X s) (hx : s.halted = true ∨ s.step = .commit ∨ ∀ r, ¬ X r) : KI c s := by
  refine ⟨h.pb, h.cr, fun hh hs _ => h.ci hh hs, ?_, ?_⟩
  · intro hh ⟨r, b, hm⟩
    rcases hx with hx | hx | hx
    · rw [hx] at hh; cases hh
    · exact (h.cr hh hx).1
    · exact h.recd hh ⟨r, b, hx r, hm⟩
  · intro b r hd; rw [h.und] at hd; cases hd

theorem KU.toKI' {s : NodeState} (h : KU c NoX s) : KI c s := h.toKI (Or.inr (Or.inr fun _ hx => hx))

theorem KU.mono {X' : Nat → Prop} {s : NodeState} (hX : ∀ r, X r → X' r) (h : KU c X s) : KU c X' s :=
  ⟨h.pb, h.cr, h.ci, fun hh ⟨r, b, hn, hm⟩ => h.recd hh ⟨r, b, fun hx => hn (hX r hx), hm⟩, h.und⟩

theorem KU.weaken {s : NodeState} (h : KU c NoX s) : KU c X s := h.mono nofun

/-- outside the commit step `ci` is void -/
theorem KW.toKU {s : NodeState} (h : KW c s) (hd : s.decided = none) (hs : s.step ≠ .commit) : KU c NoX s :=
  ⟨h.pb, h.cr, fun _ hs' => absurd hs' hs, fun hh ⟨r, b, _, hm⟩ => h.recd hh ⟨r, b, hm⟩, hd⟩

/-- the invariant only reads `Core` fields and `halted`, and halting makes it easier -/
theorem KU.core {s t : NodeState} (hc : Core t = Core s) (hh : t.halted = false → s.halted = false)
    (h : KU c X s) : KU c X t := by
  show KUI _ _ _ _ _ _ _ _ _ _
  rw [core_step hc, core_proposalBlock hc, core_proposalParts hc, core_partsDone hc, core_commitRound hc, core_votes hc,
    core_decided hc]
  exact ⟨h.pb, fun h1 => h.cr (hh h1), fun h1 => h.ci (hh h1), fun h1 => h.recd (hh h1), h.und⟩

/-! ### changes of the fields the invariant reads -/

section
variable {pb pp : Option Nat} {pd hl : Bool} {st : Step} {cR : Int} {v : HVS} {d : Option (Nat × Int)}

theorem KUI.step (h : KUI c X pb pp pd hl st cR v d) {st' : Step} (hst : st' ≠ .commit) :
    KUI c X pb pp pd hl st' cR v d :=
  ⟨h.pb, fun _ hs => absurd hs hst, fun _ hs => absurd hs hst, h.recd, h.und⟩

/-- dropping the block (and waiting for other parts) -/
theorem KUI.dropBlock (h : KUI c X pb pp pd hl st cR v d) (pp' : Option Nat) (pd' : Bool) :
    KUI c X none pp' pd' hl st cR v d :=
  ⟨fun _ e => (by cases e), h.cr, fun _ _ _ _ e => (by cases e), h.recd, h.und⟩

/-- replacing the part set while no block is held -/
theorem KUI.setParts (h : KUI c X pb pp pd hl st cR v d) (hb : pb = none) (pp' : Option Nat) (pd' : Bool) :
    KUI c X pb pp' pd' hl st cR v d :=
  ⟨fun x e => (by rw [e] at hb; cases hb), h.cr, h.ci, h.recd, h.und⟩

theorem KUI.halt (h : KUI c X pb pp pd hl st cR v d) : KUI c X pb pp pd true st cR v d :=
  ⟨h.pb, fun e => (by cases e), fun e => (by cases e), fun e => (by cases e), h.und⟩

/-- the vote sets move on without a new recorded majority -/
theorem KUI.votes (h : KUI c X pb pp pd hl st cR v d) {v' : HVS} (hx : HExt c (fun _ _ _ => False) v v') :
    KUI c X pb pp pd hl st cR v' d := by
  refine ⟨h.pb, ?_, ?_, ?_, h.und⟩
  · intro h1 h2
    obtain ⟨h3, b, hb⟩ := h.cr h1 h2
    exact ⟨h3, b, hx.maj23 hb⟩
  · intro h1 h2 b hb
    exact h.ci h1 h2 b (hx.maj23_back hb)
  · intro h1 ⟨r, b, hn, hb⟩
    exact h.recd h1 ⟨r, b, hn, hx.maj23_back hb⟩
end

/-- `KUI.step` at the shape of the goal a move leaves, `KU c X { B with round := r, step := st }` -/
theorem KU.enter {B : NodeState} (h : KU c X B) (r : Nat) {st : Step} (hst : st ≠ .commit) :
    KU c X { B with round := r, step := st } :=
  KUI.step h hst


theorem emit_U {s : NodeState} (o : Output) (h : KU c X s) : KU c X (emit s o) :=
  h.core (emit_core s o) (by rw [halted_emit]; exact id)
theorem panicWith_U {s : NodeState} (w : String) (h : KU c X s) : KU c X (panicWith s w) :=
  h.core (panicWith_core s w) (by rw [panicWith_halted]; intro e; cases e)
theorem signAddVote_U {s : NodeState} (t : VType) (b : Bid) (h : KU c X s) : KU c X (signAddVote c s t b) :=
  h.core (signAddVote_core c s t b) (by rw [halted_signAddVote]; exact id)
theorem decideProposal_U {s : NodeState} (r me : Nat) (h : KU c X s) : KU c X (decideProposal c s r me) :=
  h.core (decideProposal_core c s r me) (by rw [halted_decideProposal]; exact id)

theorem newRoundReset_U {s : NodeState} (r : Nat) (h : KU c X s) : KU c X (newRoundReset s r) := by
  obtain ⟨_, e⟩ | ⟨_, e⟩ := newRoundReset_shape s r <;> rw [e]
  · exact KUI.step (st' := .newRound) h (by decide)
  · exact KUI.dropBlock (KUI.step (st' := .newRound) h (by decide)) _ _

/-- `ci` fails between a move into the commit step and `decide`, hence `cm := fun _ => False`. No other move
enters the commit step, records a majority or sets a block. -/
theorem KU_prim {ok : Prop} {s t : NodeState} (hp : Prim c ok (fun _ => False) s t) (h : KU c X s) : KU c X t := by
  have hx : HExt c (fun _ _ _ => False) s.votes t.votes := hp.votes
  cases hp with
  | panic w => exact panicWith_U w h
  | schedule r st => exact emit_U _ h
  | precommitWait r => exact emit_U (s := s) _ h
  | propose r | prevoteWait r => exact KU.enter (emit_U _ h) r (by decide)
  | proposeOwn r me => exact KU.enter (decideProposal_U r me (emit_U _ h)) r (by decide)
  | prevote r bid => exact KU.enter (signAddVote_U _ _ h) r (by decide)
  | precommit r t x _ _ _ hc =>
    refine KU.enter (st := .precommit) (signAddVote_U _ x ?_) r (by decide)
    cases hc with
    | fetch => exact KUI.dropBlock h _ _
    | _ => exact h
  | newRound r => exact newRoundReset_U r h
  | setRound r hv hs => exact KUI.votes h hx
  | commitLocked _ _ _ _ _ _ hcm | commitFetch _ _ _ _ _ _ _ _ hcm | commit _ _ _ _ _ _ _ hcm
  | decide _ _ _ _ _ _ _ hcm => exact hcm.elim
  | dropBlock vr bid | dropFetch vr bid => exact KUI.dropBlock h _ _
  | polkaFetch vr bid hm hb hd hvr hp =>
    -- the block of the polka is held, so the part set has its header
    cases bid with
    | none => cases hb
    | some b =>
      rw [(h.pb b (hashesTo_some hp)).1, hasHeader_self] at hd
      exact absurd rfl hd
  | _ => exact h

theorem _root_.Tmv.Star.U {ok : Prop} {s t : NodeState} (hs : Star (Prim c ok fun _ => False) s t) (h : KU c X s) : KU c X t :=
  hs.inv (P := KU c X) (fun _ _ => KU_prim) h

theorem setProposal_U {s : NodeState} (p : Proposal) (h : KU c X s) : KU c X (setProposal c s p) := by
  show KU c X (enter c s (.proposal p))
  have he := enter_entry c s (.proposal p)
  generalize enter c s (.proposal p) = t at he
  cases he with
  | proposalParts _ _ _ _ _ hparts =>
    -- no part set, hence no block
    refine KUI.setParts h ?_ _ _
    cases hb : s.proposalBlock with
    | none => rfl
    | some x => rw [(h.pb x hb).1] at hparts; cases hparts
  | _ => exact h

theorem KW.toKI_of {s : NodeState} (h : KW c s) (hci : s.halted = true ∨ s.step ≠ .commit ∨ s.decided ≠ none) : KI c s := by
  refine ⟨h.pb, h.cr, ?_, h.recd, h.dec⟩
  intro h1 h2 h3
  rcases hci with hci | hci | hci
  · rw [hci] at h1; cases h1
  · exact absurd h2 hci
  · exact absurd h3 hci

theorem KW.core {s t : NodeState} (hc : Core t = Core s) (hh : t.halted = false → s.halted = false)
    (h : KW c s) : KW c t := by
  refine ⟨?_, ?_, ?_, ?_⟩
  · rw [core_proposalBlock hc, core_proposalParts hc, core_partsDone hc]; exact h.pb
  · intro h1; rw [core_step hc, core_commitRound hc, core_votes hc]; exact h.cr (hh h1)
  · intro h1; rw [core_commitRound hc, core_votes hc]; exact h.recd (hh h1)
  · rw [core_decided hc, core_commitRound hc, core_votes hc]; exact h.dec

theorem panicWith_K {s : NodeState} (w : String) (h : KW c s) : KI c (panicWith s w) :=
  (h.core (panicWith_core s w) (by rw [panicWith_halted]; intro e; cases e)).toKI_of (Or.inl (panicWith_halted s w))

theorem finalizeCommit_K {s : NodeState} (h : KW c s) : KI c (finalizeCommit c s) :=
  finalizeCommit_rule (P := KI c) s (fun hx => h.toKI_of (hx.imp id .inl)) (fun w => panicWith_K w h)
    fun _ _ b hm _ _ _ => by
      have he : KW c (emit s (.decide b s.commitRound)) := h.core (emit_core s _) (by rw [halted_emit]; exact id)
      refine ⟨he.pb, he.cr, fun _ _ hd => (by cases hd), he.recd, fun b' r' hd => ?_⟩
      cases hd
      refine ⟨(core_commitRound (emit_core s _)).symm, ?_⟩
      show maj23Of ((emit s _).votes.getVoteSet (emit s _).commitRound .precommit) = _
      rw [emit_votes, core_commitRound (emit_core s _)]
      exact hm

theorem tryFinalizeCommit_K {s : NodeState} (h : KW c s) : KI c (tryFinalizeCommit c s) :=
  tryFinalizeCommit_rule (P := KI c) s (fun hn => ⟨h.pb, h.cr, fun hh _ _ => hn hh, h.recd, h.dec⟩) (finalizeCommit_K h)

theorem KU.commit {s t : NodeState} {r b : Nat} (h : KU c X s)
    (hm : maj23Of (s.votes.getVoteSet (r : Int) .precommit) = some (some b))
    (hpb : ∀ x, t.proposalBlock = some x → t.proposalParts = some x ∧ t.partsDone = true)
    (hr : t.commitRound = r) (hv : t.votes = s.votes) (hd : t.decided = s.decided) : KW c t := by
  refine ⟨hpb, fun _ _ => ?_, fun _ _ => ?_, fun b' r' e => ?_⟩
  · rw [hr, hv]; exact ⟨Int.natCast_nonneg _, b, hm⟩
  · rw [hr]; exact Int.natCast_nonneg _
  · rw [hd, h.und] at e; cases e

theorem enterCommit_K {s : NodeState} (r : Nat) (b : Nat) (h : KU c X s)
    (hm : maj23Of (s.votes.getVoteSet (r : Int) .precommit) = some (some b)) : KI c (enterCommit c s r) :=
  enterCommit_rule (P := KI c) s r (fun hx => h.toKI (hx.imp id fun hg => .inl (rank_commit_le hg)))
    (fun hn => by rw [show maj23Of (s.votes.getVoteSet (r : Int) .precommit) = none from hn] at hm; cases hm)
    fun _ _ _ _ =>
      ⟨fun _ => tryFinalizeCommit_K (h.commit hm (fun _ e => ⟨e, rfl⟩) rfl rfl rfl),
       fun _ _ _ => tryFinalizeCommit_K (h.commit hm nofun rfl rfl rfl),
       fun _ _ => tryFinalizeCommit_K (h.commit hm h.pb rfl rfl rfl)⟩

theorem handleCompleteProposal_K {s : NodeState} (h : KW c s) (hd : s.decided = none) :
    KI c (handleCompleteProposal c s) := by
  unfold handleCompleteProposal
  extract_lets m s₁ s₂
  -- the valid block is not read by the invariant
  have h₁ : KW c s₁ ∧ s₁.decided = none := by
    unfold s₁ m
    split
    · split
      · exact ⟨⟨h.pb, h.cr, h.recd, h.dec⟩, hd⟩
      · exact ⟨h, hd⟩
    · exact ⟨h, hd⟩
  by_cases hc : s₁.step.rank ≤ Step.propose.rank ∧ isProposalComplete s₁
  · rw [if_pos hc]
    have hu : KU c NoX s₁ := h₁.1.toKU h₁.2 (rank_le_propose hc.1)
    have h₂ : Star (Prim c False fun _ => False) s₁ s₂ := enterPrevote_star s₁ s₁.round nofun
    split
    · exact ((h₂.trans (enterPrecommit_star s₂ s₂.round nofun)).U hu).toKI'
    · exact (h₂.U hu).toKI'
  · rw [if_neg hc]
    by_cases hs : s₁.step = .commit
    · rw [if_pos hs]; exact tryFinalizeCommit_K h₁.1
    · rw [if_neg hs]; exact h₁.1.toKI_of (.inr (.inl hs))

theorem addBlockPart_K {s : NodeState} (b : Nat) (h : KU c NoX s) : KI c (addBlockPart c s b) := by
  unfold addBlockPart
  cases hp : s.proposalParts with
  | none => exact h.toKI'
  | some x =>
    dsimp only
    by_cases hx : x ≠ b
    · rw [if_pos hx]; exact h.toKI'
    rw [if_neg hx]
    by_cases hd : s.partsDone = true
    · rw [if_pos hd]; exact h.toKI'
    rw [if_neg hd]
    have e : x = b := Decidable.of_not_not hx
    subst e
    -- the block has arrived: `ci` is open until `handleCompleteProposal` has called `tryFinalizeCommit`
    exact handleCompleteProposal_K ⟨fun y e => (by cases e; exact ⟨rfl, rfl⟩), h.cr,
      fun hh ⟨r, b, hm⟩ => h.recd hh ⟨r, b, id, hm⟩, fun b' r' e => (by rw [h.und] at e; cases e)⟩ h.und

/-- the exempt round has no recorded majority for a block: nothing is exempt -/
theorem KU.upgrade {s : NodeState} {vr : Nat} (h : KU c (fun r => r = vr) s)
    (hn : ∀ b, maj23Of (s.votes.getVoteSet (vr : Int) .precommit) ≠ some (some b)) : KU c NoX s := by
  refine ⟨h.pb, h.cr, h.ci, ?_, h.und⟩
  intro hh ⟨r, b, _, hm⟩
  by_cases e : r = vr
  · subst e; exact absurd hm (hn b)
  · exact h.recd hh ⟨r, b, e, hm⟩

theorem afterPrecommit_K {s : NodeState} (vr : Nat) (h : KU c (fun r => r = vr) s) :
    KI c (afterPrecommit c s vr) :=
  afterPrecommit_rule (ok := False) (P := KI c) s vr (fun hn _ ht => ((ht _).U (h.upgrade hn)).toKI')
    fun b hm _ ht => enterCommit_K vr b ((ht _).U h) (((ht fun _ => True).votes (A := fun _ _ _ => True)).maj23 hm)

theorem addVote_K {s : NodeState} (v : Vote) (peer : Peer) (h : KU c NoX s) : KI c (addVote c s v peer) := by
  have hx : HExt c (fun _ _ _ => True) s.votes (s.votes.addVote c v peer).1 :=
    HExt.addVote c _ s.votes v peer trivial
  have h1 : KU c (fun r => r = v.round ∧ v.typ = .precommit ∧ (s.votes.addVote c v peer).2 = true)
      { s with votes := (s.votes.addVote c v peer).1 } := by
    refine ⟨h.pb, ?_, ?_, ?_, h.und⟩
    · intro hh hs
      obtain ⟨h3, b, hb⟩ := h.cr hh hs
      exact ⟨h3, b, hx.maj23 hb⟩
    · intro hh hs b hb
      obtain ⟨_, b0, hb0⟩ := h.cr hh hs
      have hb1 := hx.maj23 hb0
      have hb' : maj23Of ((s.votes.addVote c v peer).1.getVoteSet s.commitRound .precommit) = some (some b) := hb
      rw [hb1] at hb'
      cases hb'
      exact h.ci hh hs b hb0
    · intro hh ⟨r, b, hn, hm⟩
      rcases HVS.addVote_maj23_new c s.votes v peer hm with ho | ⟨⟨e1, e2⟩, e3⟩
      · exact h.recd hh ⟨r, b, fun hx => hx, ho⟩
      · exact absurd ⟨by omega, e2.symm, e3⟩ hn
  unfold addVote
  extract_lets res s₁
  split
  · rename_i hr
    refine h1.toKI (Or.inr (Or.inr ?_))
    intro r ⟨_, _, e⟩
    rw [show res.2 = true from e] at hr; cases hr
  · split
    · rename_i ht
      refine ((afterPrevote_star (ok := False) s₁ v.round).U h1).toKI (Or.inr (Or.inr ?_))
      intro r ⟨_, e, _⟩
      rw [ht] at e; cases e
    · exact afterPrecommit_K _ (h1.mono fun r hr => hr.1)

theorem handleInput_K {s : NodeState} (i : Input) (h : KU c NoX s) : KI c (handleInput c s i) := by
  cases i with
  | timeout r st => exact ((handleTimeout_star (ok := False) s r st nofun).U h).toKI'
  | txsAvailable => exact ((handleTxsAvailable_star (ok := False) s).U h).toKI'
  | peerMaj23 r t peer bid =>
    exact KU.toKI' (s := { s with votes := s.votes.setPeerMaj23 r t peer bid })
      (KUI.votes h (HExt.setPeerMaj23 c _ _ _ _ _ _))
  | proposal p => exact (setProposal_U p h).toKI'
  | blockComplete b => exact addBlockPart_K b h
  | vote v peer => exact addVote_K v peer h

theorem handleInternal_K {s : NodeState} (m : Internal) (h : KU c NoX s) : KI c (handleInternal c s m) := by
  rw [handleInternal_eq]; exact handleInput_K _ h

theorem drain_K (fuel : Nat) {s : NodeState} (h : KI c s) : KI c (drain c fuel s) := by
  induction fuel generalizing s with
  | zero => exact h
  | succ n ih =>
    unfold drain
    split
    · exact h
    rename_i hg
    split
    · exact h
    rename_i m rest hq
    exact ih (handleInternal_K m (s := { s with queue := rest }) (h.toKU (decided_none_of_guard hg)))


theorem KI.init (c : Cfg) : KI c NodeState.init := by
  have hn : ∀ (r : Int) (x : Bid), maj23Of (NodeState.init.votes.getVoteSet r .precommit) ≠ some x := by
    intro r x hm
    change maj23Of (HVS.init.getVoteSet r .precommit) = some x at hm
    rw [getVoteSet_init] at hm
    split at hm <;> cases hm
  refine ⟨?_, ?_, ?_, ?_, ?_⟩
  · intro x e; cases e
  · intro _ e; cases e
  · intro _ e; cases e
  · intro _ ⟨r, b, hm⟩; exact absurd hm (hn _ _)
  · intro b r e; cases e

/-- one input of the receive routine keeps the invariant (no hypothesis on the input) -/
theorem step_K {c : Cfg} {s : NodeState} (i : Input) (h : KI c s) : KI c (step c s i) := by
  unfold step; split
  · exact h
  · rename_i hg
    exact drain_K _ (handleInput_K i (h.toKU (decided_none_of_guard hg)))

theorem run_K {c : Cfg} (is : List Input) {s : NodeState} (h : KI c s) : KI c (run c s is) :=
  run_invariant (fun _ i => step_K i) is h

/-- **not an orphan + precommit quorum recorded + block held ⇒ decided**, of any state that satisfies the
commit-path invariant. `hnorphan` is the state form of `NoOrphanCommit`; `hcv` says that the round the
node committed in carries the same block (it is `r` itself, or agreement gives it). -/
theorem KI.decides {c : Cfg} {s : NodeState} (hk : KI c s) (r b : Nat) (hh : s.halted = false)
    (hnorphan : 0 ≤ s.commitRound → s.step = .commit)
    (hm : maj23Of (s.votes.getVoteSet (r : Int) .precommit) = some (some b))
    (hcv : ∀ b', maj23Of (s.votes.getVoteSet s.commitRound .precommit) = some (some b') → b' = b)
    (hb : s.proposalBlock = some b) : s.decided = some (b, s.commitRound) := by
  have hst := hnorphan (hk.recd hh ⟨r, b, hm⟩)
  obtain ⟨_, b', hm'⟩ := hk.cr hh hst
  have e := hcv b' hm'
  subst e
  cases hd : s.decided with
  | none => exact absurd hb (hk.ci hh hst hd b' hm')
  | some x =>
    obtain ⟨b1, r1⟩ := x
    obtain ⟨e1, e2⟩ := hk.dec b1 r1 hd
    rw [hm'] at e2
    cases e2
    rw [e1]

/-- … in particular after every run and every order of the inputs -/
theorem quorum_and_block_decide {c : Cfg} (is : List Input) (r b : Nat)
    (hh : (run c .init is).halted = false)
    (hnorphan : 0 ≤ (run c .init is).commitRound → (run c .init is).step = .commit)
    (hm : maj23Of ((run c .init is).votes.getVoteSet (r : Int) .precommit) = some (some b))
    (hcv : ∀ b', maj23Of ((run c .init is).votes.getVoteSet (run c .init is).commitRound .precommit) = some (some b') →
      b' = b)
    (hb : (run c .init is).proposalBlock = some b) :
    (run c .init is).decided = some (b, (run c .init is).commitRound) :=
  (run_K is (KI.init c)).decides r b hh hnorphan hm hcv hb

end Tmv.Cons
