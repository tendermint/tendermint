import Tmv.Lemmas.ValRotate
import Tmv.Model.ValStore
/-! Turns are proportional to voting power: the closed form of one calm rotation (no rescale, the
centring is the identity) and the k-step accounting identity
`priority_k(a) = priority_0(a) + k·power(a) − turns_k(a)·total`. -/
namespace Tmv.ValSet

def prioOf (l : List Val) (a : Nat) : Int :=
  match findAddr l a with
  | some v => v.prio
  | none => 0

/-- no rescale triggers: `computeMaxMinPriorityDiff ≤ 2·total` -/
def NoRescale (l : List Val) : Prop := prioDiff l ≤ 2 * sumPower l

theorem findAddr_map (l : List Val) (f : Val → Val) (hf : ∀ v, (f v).addr = v.addr) (a : Nat) :
    findAddr (l.map f) a = (findAddr l a).map f := by
  induction l with
  | nil => rfl
  | cons v r ih =>
    unfold findAddr at ih ⊢
    simp only [List.map_cons, List.find?_cons, hf]
    by_cases h : v.addr = a
    · simp [h]
    · simp only [h, decide_false]; exact ih

theorem prioOf_mem (l : List Val) (hnd : (l.map (·.addr)).Nodup) (v : Val) (hv : v ∈ l) :
    prioOf l v.addr = v.prio := by
  unfold prioOf
  rw [(mem_iff_findAddr hnd v).mp hv]

theorem prioOf_bound (l : List Val) (P : Int) (hP : 0 ≤ P) (hb : PBound P l) (a : Nat) :
    -P ≤ prioOf l a ∧ prioOf l a ≤ P := by
  unfold prioOf
  cases hf : findAddr l a with
  | none => simp only; omega
  | some w => exact hb w (findAddr_some hf).1

theorem setPrio_self (v : Val) : setPrio v v.prio = v := rfl

theorem normalize_calm (l : List Val) (hr : Reach l) (hc : Centred l) (hn : NoRescale l) :
    normalize l = l := by
  have hcap : 0 ≤ prioCap ∧ 2 * prioCap ≤ maxI64 := by unfold prioCap maxI64; omega
  have hres : rescale l (2 * sumPower l) = l := by
    unfold rescale
    have h0 : ¬ 2 * sumPower l ≤ 0 := by have := hr.wf.total_pos; omega
    have h1 : ¬ prioDiff l > 2 * sumPower l := by unfold NoRescale at hn; omega
    simp only [h0, if_false, h1]
  unfold normalize
  rw [windowFactor_eq, hr.wf.total_eq, hres]
  obtain ⟨_, _, d2, _⟩ := prioDiff_spec l prioCap hr.wf.ne hcap.1 hcap.2 hr.bound
  obtain ⟨e, _⟩ := shift_spec l prioCap (prioDiff l) hr.wf.ne hcap.1 hcap.2 hr.bound d2
  rw [e, hc.avg]
  simp only [Int.sub_zero]
  exact List.map_id'' setPrio_self l

/-- **one calm rotation, closed form.** On a reachable, centred set within the window,
`IncrementProposerPriority(1)` is exactly: everybody gains its power, the member `m` whose
`priority + power` is maximal (ties: lowest address) pays the total and is the proposer. -/
theorem increment_calm (s : VSet) (hr : Reach s.vals) (hc : Centred s.vals) (hn : NoRescale s.vals) :
    ∃ m, m ∈ s.vals ∧
      increment s 1 = some ⟨rotate s.vals m (sumPower s.vals),
        some (setPrio m (m.prio + m.power - sumPower s.vals))⟩ ∧
      mostPrio (s.vals.map (fun v => setPrio v (v.prio + v.power))) =
        some (setPrio m (m.prio + m.power)) := by
  obtain ⟨⟨_, _⟩, m, hinc, hm, hmost, rfl, rfl, _⟩ := hr.step
  rw [normalize_calm s.vals hr hc hn] at hm hmost hinc
  exact ⟨m, hm, hinc, hmost⟩

/-- `k` single rotations (what the chain does over `k` heights / rounds without set changes) -/
def rotations : Nat → VSet → Option VSet
  | 0, s => some s
  | k+1, s =>
    match increment s 1 with
    | none => none
    | some s' => rotations k s'

/-- number of turns (times proposer) of address `a` during `k` single rotations from `s` -/
def turns (a : Nat) : Nat → VSet → Int
  | 0, _ => 0
  | k+1, s =>
    match increment s 1 with
    | none => 0
    | some s' => (if s'.proposer.map (·.addr) = some a then 1 else 0) + turns a k s'

/-- no rescale triggers at any of the `k` rotations -/
def CalmRun : Nat → VSet → Prop
  | 0, _ => True
  | k+1, s => NoRescale s.vals ∧ ∀ s', increment s 1 = some s' → CalmRun k s'

/-- the store model replays heights with the same function (`LoadValidators`, `Props.C08.load_exact`) -/
theorem rotations_eq_incrTimes (k : Nat) (s : VSet) : rotations k s = ValStore.incrTimes k s := by
  induction k generalizing s with
  | zero => rfl
  | succ k ih =>
    simp only [rotations, ValStore.incrTimes]
    cases increment s 1 with
    | none => rfl
    | some s' => exact ih s'

theorem Reach.steps {s : VSet} (hr : Reach s.vals) (k : Nat) :
    ∃ sk, rotations k s = some sk ∧ Reach sk.vals ∧ sumPower sk.vals = sumPower s.vals ∧
      (1 ≤ k → PBound (3 * sumPower s.vals) sk.vals) := by
  induction k generalizing s with
  | zero => exact ⟨s, rfl, hr, rfl, fun h => by omega⟩
  | succ k ih =>
    obtain ⟨s', m, hinc, h⟩ := hr.step
    obtain ⟨sk, hrot, hrk, hTk, hbk⟩ := ih h.reach
    refine ⟨sk, by simp only [rotations, hinc]; exact hrot, hrk, by rw [hTk, h.total], fun _ => ?_⟩
    cases k with
    | zero => cases hrot; exact h.bound
    | succ j => rw [← h.total]; exact hbk (by omega)

theorem calm_bound (l : List Val) (hr : Reach l) (hc : Centred l) (hn : NoRescale l) :
    PBound (2 * sumPower l) l := by
  obtain ⟨d0, d1, d2, _⟩ := prioDiff_spec l prioCap hr.wf.ne (by unfold prioCap; omega)
    (by unfold prioCap maxI64; omega) hr.bound
  have havg := hc.avg
  intro v hv
  obtain ⟨b1, b2⟩ := avgPrio_bounds l (v.prio - prioDiff l) (v.prio + prioDiff l) hr.wf.ne (by
    intro w hw
    have := d2 v hv w hw
    have := d2 w hw v hv
    omega)
  unfold NoRescale at hn
  omega

theorem prioOf_rotate (l : List Val) (m : Val) (T : Int) (v : Val) (hv : v ∈ l)
    (hnd : (l.map (·.addr)).Nodup) :
    prioOf (rotate l m T) v.addr = v.prio + v.power - (if v.addr = m.addr then T else 0) := by
  unfold prioOf rotate
  rw [findAddr_map l (fun v => setPrio v (v.prio + v.power - (if v.addr = m.addr then T else 0)))
    (fun _ => rfl), (mem_iff_findAddr hnd v).mp hv]
  rfl

/-- `normalize` only rewrites priorities, validator by validator -/
theorem normalize_map (l : List Val) : ∃ g : Val → Int, normalize l = l.map (fun v => setPrio v (g v)) := by
  unfold normalize shiftByAvg
  generalize windowFactor * totalPower l = d
  generalize havg : avgPrio (rescale l d) = a
  unfold rescale
  by_cases h1 : d ≤ 0
  · simp only [h1, if_true]
    exact ⟨fun v => safeSubClip v.prio a, rfl⟩
  · simp only [h1, if_false]
    by_cases h2 : prioDiff l > d
    · simp only [h2, if_true, List.map_map]
      exact ⟨fun v => safeSubClip (Int.tdiv v.prio (Int.tdiv (wrap64 (wrap64 (prioDiff l + d) - 1)) d)) a, rfl⟩
    · simp only [h2, if_false]
      exact ⟨fun v => safeSubClip v.prio a, rfl⟩

/-- number of rotations among the first `k` at which the normalisation changed something -/
def events : Nat → VSet → Int
  | 0, _ => 0
  | k+1, s =>
    match increment s 1 with
    | none => 0
    | some s' => (if normalize s.vals = s.vals then 0 else 1) + events k s'

theorem events_calm (k : Nat) (s : VSet) (hr : Reach s.vals) (hc : Centred s.vals)
    (hcalm : CalmRun k s) : events k s = 0 := by
  induction k generalizing s with
  | zero => rfl
  | succ k ih =>
    obtain ⟨s', m, hinc, h⟩ := hr.step
    rw [events]
    simp only [hinc]
    rw [if_pos (normalize_calm s.vals hr hc hcalm.1), ih s' h.reach h.centred (hcalm.2 s' hinc)]
    rfl

/-- the `5·total` per event: a normalisation that changes something takes a priority from within
`3·total` to within `2·total` -/
theorem normalize_drift {l : List Val} (hr : Reach l) (hb : PBound (3 * sumPower l) l) :
    ∃ g : Val → Int, normalize l = l.map (fun v => setPrio v (g v)) ∧ ∀ v ∈ l,
      -(5 * sumPower l * (if normalize l = l then 0 else 1)) ≤ g v - v.prio ∧
      g v - v.prio ≤ 5 * sumPower l * (if normalize l = l then 0 else 1) := by
  obtain ⟨g, hg⟩ := normalize_map l
  refine ⟨g, hg, fun v hv => ?_⟩
  have hvn : setPrio v (g v) ∈ normalize l := by rw [hg]; exact List.mem_map.mpr ⟨v, hv, rfl⟩
  by_cases hne : normalize l = l
  · have : g v = v.prio :=
      congrArg Val.prio (eq_of_addr_eq l hr.wf.nodup (setPrio v (g v)) v (hne ▸ hvn) hv rfl)
    rw [if_pos hne]; omega
  · have hgb := hr.normalized.bound _ hvn
    have hvb := hb v hv
    have := hr.wf.total_pos
    rw [if_neg hne]; simp only [setPrio] at hgb; omega

theorem turns_account (k : Nat) (s sk : VSet) (hr : Reach s.vals)
    (hb : PBound (3 * sumPower s.vals) s.vals) (hrot : rotations k s = some sk) :
    0 ≤ events k s ∧
      ∀ v ∈ s.vals,
        -(5 * sumPower s.vals * events k s) ≤
          prioOf sk.vals v.addr - (v.prio + (k : Int) * v.power - turns v.addr k s * sumPower s.vals) ∧
        prioOf sk.vals v.addr - (v.prio + (k : Int) * v.power - turns v.addr k s * sumPower s.vals) ≤
          5 * sumPower s.vals * events k s := by
  induction k generalizing s with
  | zero =>
    obtain rfl : s = sk := Option.some.inj hrot
    refine ⟨by simp [events], ?_⟩
    intro v hv
    have := prioOf_mem s.vals hr.wf.nodup v hv
    simp only [turns, events, this, Int.natCast_zero, Int.zero_mul, Int.mul_zero]
    omega
  | succ k ih =>
    obtain ⟨s', m, hinc, h⟩ := hr.step
    simp only [rotations, hinc] at hrot
    obtain ⟨hek, hid⟩ := ih s' h.reach (by rw [h.total]; exact h.bound) hrot
    obtain ⟨g, hg, hdrift⟩ := normalize_drift hr hb
    have hev : events (k + 1) s = (if normalize s.vals = s.vals then 0 else 1) + events k s' := by
      rw [events]; simp only [hinc]
    refine ⟨by rw [hev]; split <;> omega, ?_⟩
    intro v hv
    -- the image of `v` under normalisation and rotation
    have h1 := hid (setPrio v (g v + v.power - (if v.addr = m.addr then sumPower s.vals else 0))) (by
      rw [h.vals, hg, rotate, List.map_map]; exact List.mem_map.mpr ⟨v, hv, rfl⟩)
    simp only [setPrio] at h1
    rw [h.total] at h1
    have ht : turns v.addr (k + 1) s =
        (if some m.addr = some v.addr then 1 else 0) + turns v.addr k s' := by
      rw [turns]; simp only [hinc, h.proposer]; rfl
    have hd := hdrift v hv
    rw [ht, hev, Int.natCast_succ, Int.add_mul, Int.add_mul, Int.one_mul, Int.mul_add]
    by_cases hvm : v.addr = m.addr
    · have h2 : some m.addr = some v.addr := by rw [hvm]
      simp only [hvm, h2, if_true, Int.one_mul] at h1 ⊢
      omega
    · have h2 : ¬ some m.addr = some v.addr := fun e => hvm (Option.some.inj e).symm
      simp only [hvm, h2, if_false, Int.zero_mul, Int.zero_add, Int.sub_zero] at h1 ⊢
      omega

/-- **turns_proportional** (general). In any window of `k` consecutive single rotations without
set changes, starting from a reachable set whose priorities are within `3·total` (every set a
rotation produces is): the `k` rotations succeed, the priorities stay within `3·total`, and
`|k·power_i − turns_i·total − (priority_k − priority_0)| ≤ 5·total·E`, where `E` (`events`) is the
number of rotations in the window at which a rescale or a non-trivial centring happened. With the
`3·total` bound at both ends this gives `(6 + 5·E)·total` (`Props.C08.turns_proportional_events`). -/
theorem turns_proportional (k : Nat) (s : VSet) (hr : Reach s.vals)
    (hb : PBound (3 * sumPower s.vals) s.vals) :
    ∃ sk, rotations k s = some sk ∧ Reach sk.vals ∧ sumPower sk.vals = sumPower s.vals ∧
      PBound (3 * sumPower s.vals) sk.vals ∧ 0 ≤ events k s ∧
      ∀ v ∈ s.vals,
        -(5 * sumPower s.vals * events k s) ≤
          prioOf sk.vals v.addr - (v.prio + (k : Int) * v.power - turns v.addr k s * sumPower s.vals) ∧
        prioOf sk.vals v.addr - (v.prio + (k : Int) * v.power - turns v.addr k s * sumPower s.vals) ≤
          5 * sumPower s.vals * events k s := by
  obtain ⟨sk, hrot, hrk, hT, hbk⟩ := hr.steps k
  obtain ⟨hek, hid⟩ := turns_account k s sk hr hb hrot
  refine ⟨sk, hrot, hrk, hT, ?_, hek, hid⟩
  cases k with
  | zero => exact Option.some.inj hrot ▸ hb
  | succ j => exact hbk (by omega)

/-- **accounting identity.** After `k` calm single rotations:
`priority_k(a) = priority_0(a) + k·power(a) − turns_k(a)·total`, the set stays reachable, and (for
`k ≥ 1`) the priorities are within `3·total`. -/
theorem turns_identity (k : Nat) (s : VSet) (hr : Reach s.vals) (hc : Centred s.vals)
    (hcalm : CalmRun k s) :
    ∃ sk, rotations k s = some sk ∧ Reach sk.vals ∧ sumPower sk.vals = sumPower s.vals ∧
      (1 ≤ k → PBound (3 * sumPower s.vals) sk.vals) ∧
      ∀ v ∈ s.vals, prioOf sk.vals v.addr =
        v.prio + (k : Int) * v.power - turns v.addr k s * sumPower s.vals := by
  cases k with
  | zero =>
    refine ⟨s, rfl, hr, rfl, fun h => by omega, fun v hv => ?_⟩
    simp only [turns, Int.zero_mul, Int.natCast_zero, Int.add_zero, Int.sub_zero]
    exact prioOf_mem s.vals hr.wf.nodup v hv
  | succ j =>
    -- the case without events of `turns_proportional`; a calm centred set is within `2·total`
    have hT := hr.wf.total_pos
    have hb : PBound (3 * sumPower s.vals) s.vals := fun v hv => by
      have := calm_bound s.vals hr hc hcalm.1 v hv; omega
    obtain ⟨sk, hrot, hrk, hTk, hbk, _, hid⟩ := turns_proportional (j + 1) s hr hb
    refine ⟨sk, hrot, hrk, hTk, fun _ => hbk, fun v hv => ?_⟩
    have := hid v hv
    rw [events_calm _ s hr hc hcalm, Int.mul_zero] at this
    omega

end Tmv.ValSet
