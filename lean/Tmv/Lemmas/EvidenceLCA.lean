import Tmv.Lemmas.InsertSort
import Tmv.Model.Evidence
/-! Lemmas about the light-client-attack part of the evidence model: byzantine-validator
computation, `VerifyLightClientAttack` as a conjunction. -/
namespace Tmv.Evidence
variable (c : Ctx)

theorem sorts : InsertionSort (fun v x => ¬ byPowerLess x v = true) insertByPower sortByPower :=
  ⟨fun _ => rfl, fun _ _ _ => (ite_not ..).symm, rfl, fun _ _ => rfl⟩

theorem mem_sortByPower (x : Validator) (l : List Validator) : x ∈ sortByPower l ↔ x ∈ l :=
  (sorts.perm l).mem_iff

theorem length_sortByPower (l : List Validator) : (sortByPower l).length = l.length :=
  (sorts.perm l).length_eq

/-- lunatic attack: exactly the members of the common set that have a for-block slot in the
conflicting commit -/
theorem mem_lunaticSigners (l : LCA) (cv : List Validator) (v : Validator) :
    v ∈ lunaticSigners l cv ↔
      ∃ s ∈ l.sigs, s.flag = CommitVerify.flagCommit ∧ findVal cv s.addr = some v := by
  unfold lunaticSigners
  simp only [List.mem_filterMap]
  constructor
  · rintro ⟨s, hs, h⟩
    split at h
    · exact ⟨s, hs, by assumption, h⟩
    · cases h
  · rintro ⟨s, hs, hf, h⟩
    exact ⟨s, hs, by simp [hf, h]⟩

theorem equivocators_eq (l : LCA) : ∀ (sigs : List CSig) (fl : List Nat) (r : List Validator),
    equivocators l sigs fl = some r →
    r = (sigs.zip fl).filterMap fun sf =>
      if sf.1.flag ≠ CommitVerify.flagAbsent ∧ sf.2 ≠ CommitVerify.flagAbsent then findVal l.cvals sf.1.addr
      else none := by
  intro sigs
  induction sigs with
  | nil => intro fl r h; cases h; rfl
  | cons s ss ih =>
    intro fl r h
    unfold equivocators at h
    cases fl with
    | nil =>
      -- beyond the trusted commit only absent slots pass
      by_cases hs : s.flag = CommitVerify.flagAbsent
      · simp only [hs, ↓reduceIte] at h; simpa using ih [] r h
      · simp [hs] at h
    | cons f ft =>
      by_cases hs : s.flag = CommitVerify.flagAbsent
      · simp only [hs, ↓reduceIte] at h; simpa [hs] using ih ft r h
      · simp only [hs, ↓reduceIte] at h
        by_cases hf : f = CommitVerify.flagAbsent
        · simp only [hf, ↓reduceIte] at h; simpa [hs, hf] using ih ft r h
        · simp only [hf, ↓reduceIte] at h
          cases hv : findVal l.cvals s.addr with
          | none => simp only [hv] at h; simpa [hs, hf, hv] using ih ft r h
          | some v =>
            simp only [hv, Option.map_eq_some_iff] at h
            obtain ⟨r', hr, rfl⟩ := h
            simpa [hs, hf, hv] using ih ft r' hr

/-- the three attacks, as `GetByzantineValidators` classifies them -/
theorem getByz_classification (l : LCA) (cv : List Validator) (t : Block) (vs : List Validator)
    (h : getByz l cv t = some vs) :
    (headerInvalid l t = true → vs = sortByPower (lunaticSigners l cv)) ∧
    (headerInvalid l t = false → t.round = l.round →
        ∃ r, equivocators l l.sigs t.flags = some r ∧ vs = sortByPower r) ∧
    (headerInvalid l t = false → t.round ≠ l.round → vs = []) := by
  unfold getByz at h
  refine ⟨?_, ?_, ?_⟩
  · intro hi; simp [hi] at h; exact h.symm
  · intro hi hr
    simp [hi, hr] at h
    obtain ⟨r, h1, h2⟩ := h
    exact ⟨r, h1, h2.symm⟩
  · intro hi hr
    simp [hi, hr] at h; exact h

/-- the loop of `validateABCIEvidence` accepts exactly the same (address, power) list -/
theorem byzMatch_ok_iff : ∀ (vs : List Validator) (bs : List (String × Int)), vs.length = bs.length →
    (byzMatch vs bs = .ok () ↔ bs = vs.map (fun v => (v.addr, v.power))) := by
  intro vs
  induction vs with
  | nil => intro bs h; cases bs <;> simp_all [byzMatch]
  | cons v vs ih =>
    intro bs h
    cases bs with
    | nil => simp at h
    | cons b bs =>
      simp at h
      unfold byzMatch
      by_cases h1 : b.1 = v.addr
      · by_cases h2 : b.2 = v.power
        · simp [h1, h2, ih bs h]
          intro _; exact Prod.ext h1 h2
        · simp [h1, h2]
          intro h3; exact absurd (congrArg Prod.snd h3) (by simpa using h2)
      · simp [h1]
        intro h3; exact absurd (congrArg Prod.fst h3) (by simpa using h1)

/-- `VerifyLightClientAttack` accepts: what the evidence must show against the node's own chain
(`commonVals` = validator set at the common height, `trusted` = the node's header / commit at height
`th`) -/
structure LCAAttack (l : LCA) (commonVals : List Validator) (th : Int) (trusted : Block) : Prop where
  /-- lunatic jump: one light-client verification step from the common validators -/
  jump : l.common ≠ l.cfh →
    CommitVerify.verifyCommitLightTrusting c.csigOK (commonVals.map toCV) c.chainID (toCommit l) 1 3 = .ok
  /-- same height: the conflicting header is correctly derived from the trusted state -/
  derived : l.common = l.cfh → headerInvalid l trusted = false
  /-- +2/3 of the conflicting validator set signed the conflicting block -/
  commit : CommitVerify.verifyCommitLight c.csigOK (l.cvals.map toCV) c.chainID someBlockID l.cfh (toCommit l) = .ok
  /-- the claimed total voting power is the common set's -/
  total : totalOf commonVals = some l.tvp
  /-- it conflicts: not merely a later block with a later time, and not the node's own header -/
  notLater : ¬ (l.cfh > th ∧ l.cft > trusted.time)
  differs : trusted.hash ≠ l.chash
  /-- the listed byzantine validators are exactly (address and power, in order) the ones
  `GetByzantineValidators` derives -/
  byz : ∃ vs, getByz l commonVals trusted = some vs ∧ l.byz = vs.map (fun v => (v.addr, v.power))

theorem cvOK_iff (r : CommitVerify.Res) : cvOK r = .ok () ↔ r = .ok := by
  cases r <;> simp [cvOK]

theorem validateABCI_ok_iff (l : LCA) (cv : List Validator) (t : Block) (htot : totalOf cv = some l.tvp) :
    validateABCI l cv t = .ok () ↔
      ∃ vs, getByz l cv t = some vs ∧ l.byz = vs.map (fun v => (v.addr, v.power)) := by
  unfold validateABCI
  simp only [htot, ne_eq, not_true_eq_false, ↓reduceIte]
  cases hg : getByz l cv t with
  | none => simp
  | some vs =>
    simp only [Option.some.injEq, exists_eq_left']
    by_cases h0 : vs.length = 0 ∧ l.byz.length ≠ 0
    · simp [h0]
      intro h; have := congrArg List.length h; simp at this; omega
    · rw [if_neg h0]
      by_cases h1 : vs.length = l.byz.length
      · simp [h1, byzMatch_ok_iff vs l.byz h1]
      · simp [h1]
        intro h; have := congrArg List.length h; simp at this; omega

theorem verifyLightClientAttack_ok_iff (l : LCA) (cv : List Validator) (th : Int) (t : Block) :
    verifyLightClientAttack c l l.common cv th t = .ok () ↔ LCAAttack c l cv th t := by
  unfold verifyLightClientAttack
  constructor
  · -- one `split` per guard of the Go function, in its order; each failing branch is an error
    intro h
    simp only at h
    split at h
    · cases h -- lunatic jump / derived header
    · rename_i hj
      split at h
      · cases h -- +2/3 of the conflicting set
      · rename_i hc
        split at h
        · cases h -- total of the common set
        · rename_i total htot
          split at h
          · cases h -- claimed total
          · rename_i htvp
            split at h
            · cases h -- merely a later block
            · rename_i hnl
              split at h
              · cases h -- the node's own header
              · rename_i hd
                have htot' : totalOf cv = some l.tvp := by
                  rw [htot]; simp at htvp; rw [htvp]
                refine ⟨?_, ?_, (cvOK_iff _).1 hc, htot', hnl, ?_, (validateABCI_ok_iff l cv t htot').1 h⟩
                · intro hne
                  simp only [hne, ne_eq, not_false_eq_true, ↓reduceIte] at hj
                  split at hj
                  · assumption -- the trusting check returned `.ok`
                  all_goals cases hj
                · intro heq
                  simp only [heq, ne_eq, not_true_eq_false, ↓reduceIte] at hj
                  split at hj
                  · cases hj
                  · rename_i hh; simpa using hh
                · intro hh; exact hd ⟨hnl, hh⟩
  · intro h
    by_cases hne : l.common = l.cfh
    · simp [hne, h.derived hne, (cvOK_iff _).2 h.commit, h.total, h.notLater, h.differs,
        (validateABCI_ok_iff l cv t h.total).2 h.byz]
    · simp [hne, h.jump hne, (cvOK_iff _).2 h.commit, h.total, h.notLater, h.differs,
        (validateABCI_ok_iff l cv t h.total).2 h.byz]

theorem lcaOK_iff (l : LCA) (th : Int) :
    lcaOK c l th = true ↔
      ∃ cb tb, blockAt c l.common = some cb ∧ blockAt c th = some tb ∧ LCAAttack c l cb.vals th tb := by
  unfold lcaOK lcaVerdict
  cases h1 : blockAt c l.common with
  | none => simp
  | some cb =>
    cases h2 : blockAt c th with
    | none => simp
    | some tb =>
      simp only [Option.some.injEq, exists_and_left, exists_eq_left']
      rw [← verifyLightClientAttack_ok_iff]
      cases h3 : verifyLightClientAttack c l l.common cb.vals th tb <;> simp

end Tmv.Evidence
