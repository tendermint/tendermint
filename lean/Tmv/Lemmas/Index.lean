import Tmv.Model.Index
import Tmv.Lemmas.ListFacts
/-! The key layout of the kv tx index at byte level (decimals, the separator), association lists
with `set`, and the rows the database holds after a clean history. -/
namespace Tmv.Index
open Tmv.Query

theorem digit_byte (c : Char) (h : c.isDigit = true) :
    isDigit (UInt8.ofNat c.toNat) = true ∧ (UInt8.ofNat c.toNat).toNat = c.toNat := by
  have h1 : 48 ≤ c.toNat ∧ c.toNat ≤ 57 := by
    simp [Char.isDigit] at h
    obtain ⟨a, b⟩ := h
    have a' := UInt32.le_iff_toNat_le.mp a
    have b' := UInt32.le_iff_toNat_le.mp b
    simp at a' b'
    exact ⟨a', b'⟩
  have h2 : (UInt8.ofNat c.toNat).toNat = c.toNat := by
    simp [UInt8.toNat_ofNat']; omega
  refine ⟨?_, h2⟩
  simp [isDigit, UInt8.le_iff_toNat_le, h2]
  omega

theorem dec_isDigit (n : Nat) : ∀ b ∈ dec n, isDigit b = true := by
  intro b hb
  simp only [dec, List.mem_map] at hb
  obtain ⟨c, hc, rfl⟩ := hb
  exact (digit_byte c (Nat.isDigit_of_mem_toDigits (by decide) (by decide) hc)).1

theorem digitsVal_map (l : List Char) (hl : ∀ c ∈ l, c.isDigit = true) (init : Nat) :
    (l.map fun c => UInt8.ofNat c.toNat).foldl (fun acc c => acc * 10 + (c.toNat - 48)) init =
    Nat.ofDigitChars 10 l init := by
  induction l generalizing init with
  | nil => simp
  | cons c cs ih =>
    simp only [List.map_cons, List.foldl_cons, Nat.ofDigitChars_cons]
    rw [ih (fun x hx => hl x (List.mem_cons_of_mem _ hx))]
    have := (digit_byte c (hl c List.mem_cons_self)).2
    rw [this]
    congr 1
    have : '0'.toNat = 48 := by decide
    rw [this]; omega

theorem digitsVal_dec (n : Nat) : digitsVal (dec n) = n := by
  unfold digitsVal dec
  rw [digitsVal_map _ (fun c hc => Nat.isDigit_of_mem_toDigits (by decide) (by decide) hc)]
  exact Nat.ofDigitChars_ten_toDigits

theorem dec_inj {a b : Nat} (h : dec a = dec b) : a = b := by
  rw [← digitsVal_dec a, ← digitsVal_dec b, h]

theorem dec_ne_nil (n : Nat) : dec n ≠ [] := by
  simp [dec, Nat.toDigits_ne_nil]

theorem dec_nosep (n : Nat) : sep ∉ dec n := by
  intro h
  have := dec_isDigit n sep h
  simp [isDigit, sep] at this

theorem numRun_digits (l : Str) (h : ∀ b ∈ l, isDigit b = true) : numRun l = l := by
  have hn : ∀ b ∈ l, isNumCh b = true := fun b hb => by simp [isNumCh, h b hb]
  unfold numRun
  have h1 : l.dropWhile (fun c => !isNumCh c) = l := by
    cases l with
    | nil => rfl
    | cons a t => simp [List.dropWhile, hn a List.mem_cons_self]
  rw [h1]
  clear h1
  induction l with
  | nil => rfl
  | cons a t ih =>
    simp only [List.takeWhile, hn a List.mem_cons_self]
    rw [ih (fun b hb => h b (List.mem_cons_of_mem _ hb)) (fun b hb => hn b (List.mem_cons_of_mem _ hb))]

/-- `matchValue`'s conversion reads a canonical decimal back -/
theorem convInt_dec (n : Nat) (hn : n ≤ maxInt64) : convInt (dec n) = .ok n := by
  have hd : dot ∉ dec n := by
    intro h
    have := dec_isDigit n dot h
    simp [isDigit, dot] at this
  have he : (dec n).isEmpty = false := by simpa using dec_ne_nil n
  simp [convInt, numRun_digits _ (dec_isDigit n), hd, parseDigits, digitsVal_dec, hn, he]

/-- so does `matchRange`'s `strconv.ParseInt` -/
theorem parseInt_dec (m : Nat) (hm : m ≤ maxInt64) : parseInt (dec m) = some (m : Int) := by
  have hd := dec_isDigit m
  have hv := digitsVal_dec m
  cases hl : dec m with
  | nil => exact absurd hl (dec_ne_nil m)
  | cons d ds =>
    rw [hl] at hd hv
    have hd0 : isDigit d = true := hd d List.mem_cons_self
    have h45 : d ≠ 45 := by intro e; rw [e] at hd0; simp [isDigit] at hd0
    have h43 : d ≠ 43 := by intro e; rw [e] at hd0; simp [isDigit] at hd0
    have hall : (d :: ds).all isDigit = true := List.all_eq_true.mpr hd
    simp [parseInt, h45, h43, hall, hv, hm]

/-! ### the separator -/

theorem append_sep_inj {a c x y : Str} (ha : sep ∉ a) (hc : sep ∉ c)
    (h : a ++ sep :: x = c ++ sep :: y) : a = c ∧ x = y := by
  induction a generalizing c with
  | nil =>
    cases c with
    | nil => simpa using h
    | cons d c' =>
      simp at h
      exact absurd (h.1 ▸ List.mem_cons_self) hc
  | cons e a' ih =>
    cases c with
    | nil =>
      simp at h
      exact absurd (h.1 ▸ List.mem_cons_self) ha
    | cons d c' =>
      simp at h
      obtain ⟨h1, h2⟩ := h
      have := ih (fun m => ha (List.mem_cons_of_mem _ m)) (fun m => hc (List.mem_cons_of_mem _ m)) h2
      exact ⟨by rw [h1, this.1], this.2⟩

theorem prefix_sep {a c x y : Str} (ha : sep ∉ a) (hc : sep ∉ c) :
    (a ++ sep :: x) <+: (c ++ sep :: y) ↔ a = c ∧ x <+: y := by
  constructor
  · rintro ⟨t, ht⟩
    rw [List.append_assoc, List.cons_append] at ht
    have := append_sep_inj ha hc ht
    exact ⟨this.1, ⟨t, this.2⟩⟩
  · rintro ⟨rfl, t, rfl⟩
    exact ⟨t, by simp⟩

theorem not_prefix_of_nosep {p x h : Str} (hh : sep ∉ h) : ¬ (p ++ sep :: x) <+: h := by
  rintro ⟨t, ht⟩
  apply hh
  rw [← ht]
  simp

theorem startKey_cons (f : Str) (fs : List Str) : startKey (f :: fs) = f ++ sep :: startKey fs := by
  simp [startKey]

/-- a start key is a prefix of a key exactly when its fields are the key's first fields -/
theorem startKey_prefix {fs gs : List Str} {t : Str} (hf : ∀ f ∈ fs, sep ∉ f) (hg : ∀ g ∈ gs, sep ∉ g)
    (ht : sep ∉ t) : startKey fs <+: startKey gs ++ t ↔ fs <+: gs := by
  induction fs generalizing gs with
  | nil => simp [startKey]
  | cons f fs ih =>
    rw [startKey_cons]
    cases gs with
    | nil => simpa [startKey] using not_prefix_of_nosep ht
    | cons g gs =>
      rw [startKey_cons, List.append_assoc, List.cons_append, List.cons_prefix_cons,
        prefix_sep (hf f List.mem_cons_self) (hg g List.mem_cons_self),
        ih (fun f' h => hf f' (List.mem_cons_of_mem _ h)) (fun g' h => hg g' (List.mem_cons_of_mem _ h))]

theorem keyForEvent_eq (k v : Str) (h i : Nat) : keyForEvent k v h i = startKey [k, v, dec h] ++ dec i := by
  simp [keyForEvent, startKey]

theorem ne_sep_of_nosep {a : Str} (ha : sep ∉ a) : ∀ b ∈ a, (b != sep) = true :=
  fun _ hb => bne_iff_ne.mpr fun e => ha (e ▸ hb)

theorem extractValue_key (k v : Str) (h i : Nat) (hk : sep ∉ k) (hv : sep ∉ v) :
    extractValue (keyForEvent k v h i) = v := by
  unfold extractValue keyForEvent
  rw [List.dropWhile_append_of_pos (ne_sep_of_nosep hk), List.dropWhile_cons_of_neg (by simp)]
  simp only [List.drop_succ_cons, List.drop_zero]
  rw [List.takeWhile_append_of_pos (ne_sep_of_nosep hv), List.takeWhile_cons_of_neg (by simp), List.append_nil]

theorem isTagKey_key (k v : Str) (h i : Nat) (hk : sep ∉ k) (hv : sep ∉ v) :
    isTagKey (keyForEvent k v h i) = true := by
  unfold isTagKey keyForEvent
  have c1 := List.count_eq_zero.mpr hk
  have c2 := List.count_eq_zero.mpr hv
  have c3 := List.count_eq_zero.mpr (dec_nosep h)
  have c4 := List.count_eq_zero.mpr (dec_nosep i)
  simp [List.count_append, c1, c2, c3, c4]

theorem keyForEvent_inj {k v k' v' : Str} {h i h' i' : Nat}
    (hk : sep ∉ k) (hv : sep ∉ v) (hk' : sep ∉ k') (hv' : sep ∉ v')
    (e : keyForEvent k v h i = keyForEvent k' v' h' i') : k = k' ∧ v = v' ∧ h = h' ∧ i = i' := by
  unfold keyForEvent at e
  obtain ⟨e1, e⟩ := append_sep_inj hk hk' e
  obtain ⟨e2, e⟩ := append_sep_inj hv hv' e
  obtain ⟨e3, e4⟩ := append_sep_inj (dec_nosep h) (dec_nosep h') e
  exact ⟨e1, e2, dec_inj e3, dec_inj e4⟩

theorem sep_mem_key (k v : Str) (h i : Nat) : sep ∈ keyForEvent k v h i := by
  simp [keyForEvent]

/-! ### association lists with `set` (the tx index's and the block index's `dbSet`) -/

def kvSet {κ ν : Type} [BEq κ] (db : List (κ × ν)) (k : κ) (v : ν) : List (κ × ν) :=
  if db.any (·.1 == k) then db.map (fun p => if p.1 == k then (k, v) else p) else db ++ [(k, v)]

section kvSet
variable {κ ν : Type} [BEq κ] [LawfulBEq κ]

theorem mem_kvSet (db : List (κ × ν)) (k : κ) (v : ν) (row : κ × ν) :
    row ∈ kvSet db k v ↔ row = (k, v) ∨ (row ∈ db ∧ row.1 ≠ k) := by
  unfold kvSet
  split
  · rename_i hany
    obtain ⟨p, hp, hpk⟩ := List.any_eq_true.mp hany
    simp only [List.mem_map]
    constructor
    · rintro ⟨p, hp, rfl⟩
      by_cases hpk : p.1 = k
      · left; simp [hpk]
      · right; simp [hpk, hp]
    · rintro (rfl | ⟨hr, hne⟩)
      · exact ⟨p, hp, by rw [if_pos hpk]⟩
      · exact ⟨row, hr, by simp [hne]⟩
  · rename_i hany
    have hno : ∀ p ∈ db, p.1 ≠ k := fun p hp e =>
      hany (List.any_eq_true.mpr ⟨p, hp, by simp [e]⟩)
    simp only [List.mem_append, List.mem_singleton]
    constructor
    · rintro (hr | rfl)
      · exact Or.inr ⟨hr, hno row hr⟩
      · exact Or.inl rfl
    · rintro (rfl | ⟨hr, _⟩)
      · exact Or.inr rfl
      · exact Or.inl hr

/-- setting a key to the value it already has, where it has one, only adds the row -/
theorem mem_kvSet_of_agree (db : List (κ × ν)) (k : κ) (v : ν) (h : ∀ p ∈ db, p.1 = k → p.2 = v)
    (row : κ × ν) : row ∈ kvSet db k v ↔ row ∈ db ∨ row = (k, v) := by
  rw [mem_kvSet]
  constructor
  · rintro (h1 | ⟨h1, _⟩)
    · exact Or.inr h1
    · exact Or.inl h1
  · rintro (h1 | h1)
    · by_cases e : row.1 = k
      · exact Or.inl (Prod.ext e (h row h1 e))
      · exact Or.inr ⟨h1, e⟩
    · exact Or.inl h1

theorem kvSet_keys_nodup (db : List (κ × ν)) (k : κ) (v : ν) (h : (db.map (·.1)).Nodup) :
    ((kvSet db k v).map (·.1)).Nodup := by
  unfold kvSet
  split
  · have : (db.map fun p => if (p.1 == k) = true then (k, v) else p).map (·.1) = db.map (·.1) := by
      rw [List.map_map]
      apply List.map_congr_left
      intro p _
      by_cases e : p.1 = k <;> simp [e]
    rw [this]; exact h
  · rename_i hany
    rw [List.map_append]
    refine nodup_concat h fun ha => ?_
    obtain ⟨p, hp, e⟩ := List.mem_map.mp ha
    exact hany (List.any_eq_true.mpr ⟨p, hp, by simp [e]⟩)

def setAll (db rows : List (κ × ν)) : List (κ × ν) := rows.foldl (fun d row => kvSet d row.1 row.2) db

/-- no two rows share a key unless they are the same row -/
def Functional (rows : List (κ × ν)) : Prop :=
  ∀ a ∈ rows, ∀ b ∈ rows, a.1 = b.1 → a = b

theorem mem_setAll (db rows : List (κ × ν)) (hf : Functional (db ++ rows)) (row : κ × ν) :
    row ∈ setAll db rows ↔ row ∈ db ∨ row ∈ rows := by
  induction rows generalizing db with
  | nil => simp [setAll]
  | cons x xs ih =>
    have hx : ∀ z, z ∈ kvSet db x.1 x.2 ↔ z ∈ db ∨ z = x :=
      mem_kvSet_of_agree db x.1 x.2 fun p hp e => congrArg (·.2) (hf p (by simp [hp]) x (by simp) e)
    have hf' : Functional (kvSet db x.1 x.2 ++ xs) := by
      have conv : ∀ z, z ∈ kvSet db x.1 x.2 ++ xs → z ∈ db ++ x :: xs := by
        intro z hz
        rcases List.mem_append.mp hz with hz | hz
        · rcases (hx z).mp hz with h | rfl <;> simp [*]
        · simp [hz]
      exact fun a ha b hb => hf a (conv a ha) b (conv b hb)
    show row ∈ setAll (kvSet db x.1 x.2) xs ↔ _
    rw [ih _ hf', hx, List.mem_cons, or_assoc]

theorem setAll_keys_nodup (db rows : List (κ × ν)) (h : (db.map (·.1)).Nodup) :
    ((setAll db rows).map (·.1)).Nodup := by
  induction rows generalizing db with
  | nil => exact h
  | cons x xs ih => exact ih _ (kvSet_keys_nodup db x.1 x.2 h)

omit [LawfulBEq κ] in
theorem setAll_append (db a b : List (κ × ν)) : setAll (setAll db a) b = setAll db (a ++ b) := by
  simp [setAll, List.foldl_append]

end kvSet

/-! ### the rows of a history -/

theorem dbSet_eq (db : DB) (k : Bytes) (v : Val) : dbSet db k v = kvSet db k v := rfl

variable (H : Bytes → Bytes)

/-- every composite key/value `AddBatch` writes a secondary row for: the indexed attributes and
the height row (`tx.height/<h>/<h>/<i>`) -/
def attrsAll (r : TxResult) : List (Str × Str) := indexedAttrs r ++ [(txHeightKey, dec r.height)]

def secRow (r : TxResult) (kv : Str × Str) : Bytes × Val :=
  (keyForEvent kv.1 kv.2 r.height r.index, Val.hash (H r.tx))

def rowsOf (r : TxResult) : List (Bytes × Val) :=
  (attrsAll r).map (secRow H r) ++ [(H r.tx, Val.result r)]

theorem addOne_eq (db : DB) (r : TxResult) : addOne H db r = setAll db (rowsOf H r) := by
  simp [addOne, setAll, rowsOf, secRow, attrsAll, List.foldl_append, List.foldl_map, keyForHeight, dbSet_eq]

theorem addBatch_eq (db : DB) (rs : List TxResult) :
    addBatch H db rs = setAll db (rs.flatMap (rowsOf H)) := by
  induction rs generalizing db with
  | nil => rfl
  | cons r rest ih =>
    simp only [addBatch, List.foldl_cons, List.flatMap_cons] at ih ⊢
    rw [ih, addOne_eq, setAll_append]

/-- hypotheses under which the index is exact (`hashInj` and `keysClean` are each violated by a
listed known finding).  `hashNoSep` asks more than its two uses need — that no hash is a secondary
key (`functional_rows`) or begins with a scanned `key/` (`mem_prefixRows`: a scan that picks up a
primary row is outside the model) — and about one SHA-256 hash in eight contains a '/'. -/
structure CleanHist (hist : List TxResult) : Prop where
  hashInj : ∀ r ∈ hist, ∀ r' ∈ hist, H r.tx = H r'.tx → r = r'
  posInj : ∀ r ∈ hist, ∀ r' ∈ hist, r.height = r'.height → r.index = r'.index → r = r'
  hashNoSep : ∀ r ∈ hist, sep ∉ H r.tx
  hashNonempty : ∀ r ∈ hist, H r.tx ≠ []
  keysClean : ∀ r ∈ hist, ∀ kv ∈ indexedAttrs r, sep ∉ kv.1 ∧ sep ∉ kv.2

theorem txHeightKey_nosep : sep ∉ txHeightKey := by decide

theorem attrsAll_clean {hist : List TxResult} (hc : CleanHist H hist) {r : TxResult} (hr : r ∈ hist)
    {kv : Str × Str} (hkv : kv ∈ attrsAll r) : sep ∉ kv.1 ∧ sep ∉ kv.2 := by
  rcases List.mem_append.mp hkv with h | h
  · exact hc.keysClean r hr kv h
  · rw [List.mem_singleton.mp h]
    exact ⟨txHeightKey_nosep, dec_nosep _⟩

theorem mem_rows {hist : List TxResult} (row : Bytes × Val) :
    row ∈ hist.flatMap (rowsOf H) ↔
      ∃ r ∈ hist, (∃ kv ∈ attrsAll r, row = secRow H r kv) ∨ row = (H r.tx, Val.result r) := by
  simp only [List.mem_flatMap, rowsOf, List.mem_append, List.mem_map, List.mem_singleton, eq_comm]

theorem functional_rows {hist : List TxResult} (hc : CleanHist H hist) :
    Functional (hist.flatMap (rowsOf H)) := by
  intro a ha b hb hab
  obtain ⟨r, hr, ha⟩ := (mem_rows H a).mp ha
  obtain ⟨r', hr', hb⟩ := (mem_rows H b).mp hb
  rcases ha with ⟨kv, hkv, rfl⟩ | rfl <;> rcases hb with ⟨kv', hkv', rfl⟩ | rfl
  · have c1 := attrsAll_clean H hc hr hkv
    have c2 := attrsAll_clean H hc hr' hkv'
    obtain ⟨_, _, e3, e4⟩ := keyForEvent_inj c1.1 c1.2 c2.1 c2.2 hab
    cases hc.posInj r hr r' hr' e3 e4
    exact Prod.ext hab rfl
  · have hab : keyForEvent kv.1 kv.2 r.height r.index = H r'.tx := hab
    exact absurd (hab ▸ sep_mem_key _ _ _ _) (hc.hashNoSep r' hr')
  · have hab : H r.tx = keyForEvent kv'.1 kv'.2 r'.height r'.index := hab
    exact absurd (hab ▸ sep_mem_key _ _ _ _) (hc.hashNoSep r hr)
  · cases hc.hashInj r hr r' hr' hab
    rfl

/-- the database after indexing `hist` holds exactly the rows of its results -/
theorem mem_db_iff {hist : List TxResult} (hc : CleanHist H hist) (row : Bytes × Val) :
    row ∈ addBatch H [] hist ↔
      ∃ r ∈ hist, (∃ kv ∈ attrsAll r, row = secRow H r kv) ∨ row = (H r.tx, Val.result r) := by
  rw [addBatch_eq, mem_setAll _ _ (by simpa using functional_rows H hc), mem_rows]
  simp

theorem db_keys_nodup (hist : List TxResult) : ((addBatch H [] hist).map (·.1)).Nodup := by
  rw [addBatch_eq]
  exact setAll_keys_nodup _ _ (by simp)

theorem dbGet_of_mem {hist : List TxResult} (hc : CleanHist H hist) (row : Bytes × Val)
    (h : row ∈ hist.flatMap (rowsOf H)) : dbGet (addBatch H [] hist) row.1 = some row.2 := by
  have hdb : ∀ x, x ∈ addBatch H [] hist ↔ x ∈ hist.flatMap (rowsOf H) := fun x => by
    rw [mem_db_iff H hc, mem_rows]
  unfold dbGet
  cases hfind : (addBatch H [] hist).find? (·.1 == row.1) with
  | none =>
    have := List.find?_eq_none.mp hfind row ((hdb row).mpr h)
    simp at this
  | some x =>
    have hx := List.find?_some hfind
    have hx' := (hdb x).mp (List.mem_of_find?_eq_some hfind)
    rw [functional_rows H hc x hx' row h (by simpa using hx)]
    rfl

/-- the rows under a start key: the secondary rows whose key begins with its fields -/
theorem mem_prefixRows {hist : List TxResult} (hc : CleanHist H hist) (f : Str) (fs : List Str)
    (hfs : ∀ g ∈ f :: fs, sep ∉ g) (row : Bytes × Val) :
    row ∈ prefixRows (addBatch H [] hist) (startKey (f :: fs)) ↔
      ∃ r ∈ hist, ∃ kv ∈ attrsAll r, f :: fs <+: [kv.1, kv.2, dec r.height] ∧ row = secRow H r kv := by
  simp only [prefixRows, List.mem_filter, List.isPrefixOf_iff_prefix, mem_db_iff H hc]
  have hkey : ∀ r ∈ hist, ∀ kv ∈ attrsAll r,
      (startKey (f :: fs) <+: (secRow H r kv).1 ↔ f :: fs <+: [kv.1, kv.2, dec r.height]) := by
    intro r hr kv hkv
    have cl := attrsAll_clean H hc hr hkv
    rw [secRow, keyForEvent_eq]
    refine startKey_prefix hfs ?_ (dec_nosep _)
    simp only [List.mem_cons, List.not_mem_nil, or_false]
    rintro g (rfl | rfl | rfl)
    · exact cl.1
    · exact cl.2
    · exact dec_nosep _
  constructor
  · rintro ⟨⟨r, hr, ⟨kv, hkv, rfl⟩ | rfl⟩, hpre⟩
    · exact ⟨r, hr, kv, hkv, (hkey r hr kv hkv).mp hpre, rfl⟩
    · rw [startKey_cons] at hpre
      exact absurd hpre (not_prefix_of_nosep (hc.hashNoSep r hr))
  · rintro ⟨r, hr, kv, hkv, hpre, rfl⟩
    exact ⟨⟨r, hr, Or.inl ⟨kv, hkv, rfl⟩⟩, (hkey r hr kv hkv).mpr hpre⟩

/-- a scan that meets secondary rows only yields their hashes -/
theorem valHashes_all_hash (rows : DB) (h : ∀ row ∈ rows, ∃ x, row.2 = Val.hash x) :
    ∃ hs, valHashes rows = some hs ∧ ∀ x, x ∈ hs ↔ ∃ row ∈ rows, row.2 = Val.hash x := by
  induction rows with
  | nil => exact ⟨[], rfl, by simp⟩
  | cons row rest ih =>
    obtain ⟨hs, e, hm⟩ := ih (fun r hr => h r (List.mem_cons_of_mem _ hr))
    obtain ⟨x, hx⟩ := h row List.mem_cons_self
    unfold valHashes at e ⊢
    refine ⟨x :: hs, by simp [List.mapM_cons, hx, e], ?_⟩
    intro y
    simp only [List.mem_cons, hm, or_and_right, exists_or, exists_eq_left, hx, Val.hash.injEq,
      eq_comm (a := y)]

end Tmv.Index
