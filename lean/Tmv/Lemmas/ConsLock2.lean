import Tmv.Lemmas.ConsLock
/-! (T) is kept by every move of the node model (given (A) and no future-round timeouts). -/
namespace Tmv.Cons

variable {c : Cfg}

theorem emit_T {s : NodeState} (o : Output) (ho : ¬ isVote o) (h : T s) : T (emit s o) := by
  show TR _ _ _ _ _
  rw [emit_round, emit_lockedRound, emit_lockedBlock, emit_votes]
  rcases emit_out s o with e | e <;> rw [e]
  · exact h
  · exact h.push_other o ho
theorem panicWith_T {s : NodeState} (w : String) (h : T s) : T (panicWith s w) := by
  show TR _ _ _ _ _
  rw [panicWith_round, panicWith_lockedRound, panicWith_lockedBlock, panicWith_votes]
  rcases panicWith_out s w with e | e <;> rw [e]
  · exact h
  · exact h.push_other _ (fun h => h)
theorem decideProposal_T {s : NodeState} (r me : Nat) (h : T s) : T (decideProposal c s r me) := by
  show TR _ _ _ _ _
  rw [decideProposal_round, decideProposal_lockedRound, decideProposal_lockedBlock, decideProposal_votes]
  rcases decideProposal_out c s r me with e | e <;> rw [e]
  · exact h
  · exact h.push_other _ (fun h => h)
theorem signAddVote_T {s : NodeState} (t : VType) (bid : Bid)
    (hpv : t = .prevote → ∀ b, s.lockedBlock = some b → bid = some b)
    (hpc : t = .precommit → ∀ b, bid = some b → s.lockedBlock = some b ∧ s.lockedRound = (s.round : Int))
    {r : Nat} (st : Step) (hr : s.round ≤ r) (h : T s) : T { signAddVote c s t bid with round := r, step := st } := by
  dsimp only [T]
  rw [signAddVote_lockedRound, signAddVote_lockedBlock, signAddVote_votes]
  refine TR.mono_round ?_ hr
  rcases signAddVote_out c s t bid with e | e <;> rw [e]
  · exact h
  · cases t with
    | prevote => exact h.push_pv bid (hpv rfl)
    | precommit => exact h.push_pc bid (hpc rfl)

theorem newRoundReset_T {s : NodeState} (r : Nat) (hr : s.round ≤ r) (h : T s) : T (newRoundReset s r) := by
  have hf := newRoundReset_frame s r
  show TR _ _ _ _ _
  rw [hf.round, hf.lockedRound, hf.lockedBlock, hf.votes, hf.out]
  exact TR.mono_round h hr

/-- releasing the lock is justified by a recorded majority for something else in a later round -/
theorem unlock_T {s : NodeState} (vr : Nat) (bid : Bid) (hm : maj23Of (s.votes.prevotes (vr : Int)) = some bid)
    (h1 : s.lockedRound < (vr : Int)) (h2 : vr ≤ s.round) (h3 : ∀ b, s.lockedBlock = some b → bid ≠ some b)
    (h : T s) : T (unlock s) := by
  show TR _ _ _ _ _
  rw [unlock_round, unlock_lockedRound, unlock_lockedBlock, unlock_votes, unlock_out]
  apply h.relock
  intro b hb
  exact Or.inr ⟨vr, bid, h1, h2, h3 b hb, hm⟩

theorem enter_T {s : NodeState} (i : Input) (h : T s) : T (enter c s i) := by
  have hf := enter_framed c s i
  show TR _ _ _ _ _
  rw [hf.round, hf.lockedRound, hf.lockedBlock, hf.out]
  exact h.stable (enter_stable c s i)

/-- votes are signed by `prevote` (the locked block if there is one) and by the `precommit…` moves (a
block only together with locking it in this round); the lock is released only on a majority for
something else in a round after the lock round (under the guard of `enterPrecommit`, (A) puts the lock
before the round) -/
theorem T_prim {cm : NodeState → Prop} {s t : NodeState} (hp : Prim c True cm s t) (hA : A s) (h : T s) : T t := by
  have hst := hp.stable
  cases hp with
  | panic w => exact panicWith_T w h
  | schedule r st | precommitWait r | decide b => exact emit_T _ (fun h => h) h
  | newRound r _ hg => exact newRoundReset_T r (le_of_guard hg) h
  | setRound r hv hs => exact h.stable hst
  | propose r _ hg | prevoteWait r _ hg =>
    exact TR.mono_round (emit_T _ (fun h => h) h) (by rw [emit_round]; exact le_of_guard hg)
  | proposeOwn r me _ hg =>
    exact TR.mono_round (decideProposal_T r me (emit_T _ (fun h => h) h))
      (by rw [decideProposal_round, emit_round]; exact le_of_guard hg)
  | prevote r bid _ hg _ hl =>
    exact signAddVote_T .prevote bid (fun _ => hl) nofun _ (le_of_guard hg) h
  | precommit r t x _ hg hr hc =>
    have e := eq_of_guard hr hg
    subst e
    cases hc with
    | nil => exact signAddVote_T .precommit none nofun nofun _ (Nat.le_refl _) h
    | unlock bid hm hne =>
      have hU : T (unlock s) := unlock_T s.round bid hm (hA.lt_of_guard hg) (Nat.le_refl _) hne h
      exact signAddVote_T .precommit none nofun nofun _ (Nat.le_refl _) hU
    | fetch b hm hne =>
      -- `unlock` again: (T) does not read the block and its parts
      have hU : T (unlock s) := unlock_T s.round (some b) hm (hA.lt_of_guard hg) (Nat.le_refl _) hne h
      exact signAddVote_T (s := { unlock s with proposalBlock := none, proposalParts := some b, partsDone := false })
        .precommit none nofun nofun _ (Nat.le_refl _) hU
    | relock b hm hl =>
      have h' : T { s with lockedRound := s.round } :=
        h.relock _ _ fun b' hb' => .inl ⟨hb', hA.1⟩
      exact signAddVote_T .precommit (some b) nofun (fun _ b' e => by cases e; exact ⟨hl, rfl⟩) _ (Nat.le_refl _) h'
    | lock b hm hl hp =>
      have h' : T { s with lockedRound := s.round, lockedBlock := s.proposalBlock } :=
        h.relock _ _ fun b' hb' =>
          .inr ⟨s.round, some b, hA.lt_of_guard hg, Nat.le_refl _, fun e => by cases e; exact hl hb', hm⟩
      exact signAddVote_T .precommit (some b) nofun (fun _ b' e => by cases e; exact ⟨hp, rfl⟩) _ (Nat.le_refl _) h'
  | unlock vr bid hm _ hlt hle hne =>
    exact unlock_T vr bid hm hlt hle hne h
  | _ => exact h

theorem step_T {s : NodeState} (i : Input) (hi : i.notFuture s) (hA : A s) (h : T s) : T (step c s i) :=
  (step_invariant (P := fun s => A s ∧ T s) (fun _ _ hp h => ⟨A_prim hp h.1, T_prim hp h.1 h.2⟩)
    (fun s m rest _ h => ⟨enter_A (s := { s with queue := rest }) m.asInput h.1, enter_T (s := { s with queue := rest }) m.asInput h.2⟩)
    s i (fun _ => hi)
    (fun h => ⟨enter_A i h.1, enter_T i h.2⟩) ⟨hA, h⟩).2

theorem run_AT (is : List Input) {s : NodeState} (hnf : NoFutureTimeout c s is) (hA : A s) (h : T s) :
    A (run c s is) ∧ T (run c s is) :=
  run_invariant_noFuture (P := fun s => A s ∧ T s) (fun _ i hi h => ⟨step_A i h.1, step_T i hi h.1 h.2⟩) is hnf ⟨hA, h⟩

theorem init_A : A NodeState.init := by
  show AI _ _ _
  simp [AI, NodeState.init]

theorem init_T : T NodeState.init := TR.init

end Tmv.Cons
