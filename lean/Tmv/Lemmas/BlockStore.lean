import Tmv.Model.BlockStore
import Tmv.Lemmas.AllPrefix
/-! Frame lemmas for the block-store model: which keys each load and the audit of one height read,
that writes to other keys leave them unchanged, and `Shows`, the relation of a crash state to the
database the operation started from. -/
namespace Tmv

namespace BlockStore

theorem get_set (db : DB) (k a : Key) (v : Val) :
    get (apply db (.set k v)) a = if k = a then some v else get db a := by
  simp only [get, apply]
  rw [Std.HashMap.getElem?_insert]; simp

theorem get_del (db : DB) (k a : Key) :
    get (apply db (.del k)) a = if k = a then none else get db a := by
  simp only [get, apply]
  rw [Std.HashMap.getElem?_erase]; simp

theorem get_empty (k : Key) : get ({} : DB) k = none := by
  simp [get]

theorem loadRange_empty : loadRange ({} : DB) = (0, 0) := by
  simp [loadRange, get_empty]

theorem loadMeta_empty (h : Int) : loadMeta ({} : DB) h = none := by
  simp [loadMeta, get_empty]

theorem get_apply_of_ne (db : DB) (w : Write) (a : Key) (h : w.key ≠ a) :
    get (apply db w) a = get db a := by
  cases w with
  | set k v => exact (get_set db k a v).trans (if_neg h)
  | del k => exact (get_del db k a).trans (if_neg h)

theorem applyAll_nil (db : DB) : applyAll db [] = db := rfl
theorem applyAll_cons (db : DB) (w : Write) (ws : List Write) :
    applyAll db (w :: ws) = applyAll (apply db w) ws := rfl
theorem applyAll_append (db : DB) (a b : List Write) :
    applyAll db (a ++ b) = applyAll (applyAll db a) b :=
  List.foldl_append

theorem get_applyAll_of_not_mem (ws : List Write) (db : DB) (a : Key)
    (h : ∀ w ∈ ws, w.key ≠ a) : get (applyAll db ws) a = get db a :=
  (AllPrefix.of_step (P := fun d => get d a = get db a) rfl
    fun d w hw e => (get_apply_of_ne d w a (h w hw)).trans e).last

section Congr
variable {db db' : DB} {h : Int}

theorem loadRange_congr (e : get db' .bsState = get db .bsState) : loadRange db' = loadRange db := by
  simp only [loadRange, e]

theorem loadMeta_congr (e : get db' (.bmeta h) = get db (.bmeta h)) : loadMeta db' h = loadMeta db h := by
  simp only [loadMeta, e]

theorem loadCommit_congr (e : get db' (.commit h) = get db (.commit h)) :
    loadCommit db' h = loadCommit db h := by
  simp only [loadCommit, e]

theorem loadSeen_congr (e : get db' (.seen h) = get db (.seen h)) : loadSeen db' h = loadSeen db h := by
  simp only [loadSeen, e]

theorem loadHeightByHash_congr {x : Hash} (e : get db' (.hashIdx x) = get db (.hashIdx x)) :
    loadHeightByHash db' x = loadHeightByHash db x := by
  simp only [loadHeightByHash, e]

theorem loadBlock_congr (em : get db' (.bmeta h) = get db (.bmeta h))
    (ep : ∀ i, get db' (.part h i) = get db (.part h i)) : loadBlock db' h = loadBlock db h := by
  have hpis : ∀ b, partIs db' h b = partIs db h b := by
    intro b; funext i; simp only [partIs, ep]
  simp only [loadBlock, loadMeta_congr em, ep, hpis]

end Congr

/-- the keys the audit of height `h` reads when the store's height is `H` -/
def usedAt (db : DB) (H h : Int) (k : Key) : Prop :=
  k = .bmeta h ∨ (∃ i, k = .part h i) ∨ (h < H ∧ k = .commit h) ∨ (¬ h < H ∧ k = .seen h) ∨
    (∃ m, loadMeta db h = some m ∧ k = .hashIdx m.hash)

theorem checkAt_congr (db db' : DB) (H h : Int)
    (hk : ∀ k, usedAt db H h k → get db' k = get db k) : checkAt db' H h = checkAt db H h := by
  have hmeta : loadMeta db' h = loadMeta db h := loadMeta_congr (hk _ (Or.inl rfl))
  have hblock : loadBlock db' h = loadBlock db h :=
    loadBlock_congr (hk _ (Or.inl rfl)) (fun i => hk _ (Or.inr (Or.inl ⟨i, rfl⟩)))
  unfold checkAt
  rw [hmeta, hblock]
  cases hm : loadMeta db h with
  | none => rfl
  | some m =>
    have hidx : loadHeightByHash db' m.hash = loadHeightByHash db m.hash :=
      loadHeightByHash_congr (hk _ (Or.inr (Or.inr (Or.inr (Or.inr ⟨m, hm, rfl⟩)))))
    simp only [hidx]
    by_cases hlt : h < H
    · simp only [hlt, if_true, loadCommit_congr (hk _ (Or.inr (Or.inr (Or.inl ⟨hlt, rfl⟩))))]
    · simp only [hlt, if_false, loadSeen_congr (hk _ (Or.inr (Or.inr (Or.inr (Or.inl ⟨hlt, rfl⟩)))))]

/-- `usedAt` only depends on the meta of the height -/
theorem usedAt_congr (db db' : DB) (H h : Int) (k : Key) (hm : loadMeta db' h = loadMeta db h) :
    usedAt db' H h k ↔ usedAt db H h k := by
  simp only [usedAt, hm]

theorem usedAt_ne_bsState {db : DB} {H h : Int} {k : Key} (hk : usedAt db H h k) : k ≠ .bsState := by
  rintro rfl
  rcases hk with e | ⟨_, e⟩ | ⟨_, e⟩ | ⟨_, e⟩ | ⟨_, _, e⟩ <;> cases e

theorem get_set_bsState (db : DB) (v : Val) (k : Key) (hk : k ≠ .bsState) :
    get (apply db (.set .bsState v)) k = get db k :=
  get_apply_of_ne _ _ _ hk.symm

theorem loadRange_applyAll_of_not_mem (ws : List Write) (db : DB)
    (h : ∀ w ∈ ws, w.key ≠ .bsState) : loadRange (applyAll db ws) = loadRange db :=
  loadRange_congr (get_applyAll_of_not_mem ws db _ h)

theorem loadRange_set (db : DB) (b H : Int) (hb : ¬ (H > 0 ∧ b = 0)) :
    loadRange (apply db (.set .bsState (.range b H))) = (b, H) := by
  simp only [loadRange, get_set, if_true, hb, if_false]

/-- every height in `[B,H]` passes the audit -/
def GoodFrom (db : DB) (B H : Int) : Prop := ∀ h, B ≤ h → h ≤ H → checkAt db H h = none

theorem good_iff (db : DB) : Good db ↔
    ((loadRange db).1 = 0 ∧ (loadRange db).2 = 0) ∨
    (0 < (loadRange db).1 ∧ (loadRange db).1 ≤ (loadRange db).2 ∧
      GoodFrom db (loadRange db).1 (loadRange db).2) := Iff.rfl

theorem good_of_range {db : DB} {B H : Int} (hr : loadRange db = (B, H)) (hB : 0 < B) (hBH : B ≤ H)
    (hG : GoodFrom db B H) : Good db := by
  rw [good_iff, hr]; exact Or.inr ⟨hB, hBH, hG⟩

theorem Good.goodFrom {db : DB} {B H : Int} (hG : Good db) (hr : loadRange db = (B, H)) (hH : 0 < H) :
    0 < B ∧ B ≤ H ∧ GoodFrom db B H := by
  rw [good_iff, hr] at hG
  rcases hG with ⟨_, h0⟩ | hG
  · exact absurd h0 (Int.ne_of_gt hH)
  · exact hG

/-- a write is *unused* by the heights `[B,H]` -/
def Unused (db : DB) (B H : Int) (w : Write) : Prop :=
  w.key ≠ .bsState ∧ ∀ h, B ≤ h → h ≤ H → ¬ usedAt db H h w.key

/-- `db'` carries the descriptor `[B,H]` and, under every key the audit of `[B,H]` reads in `db`,
what `db` has there: what a crash leaves of `db` while an operation moves the range to `[B,H]`. -/
structure Shows (db : DB) (B H : Int) (db' : DB) : Prop where
  range : loadRange db' = (B, H)
  same : ∀ h, B ≤ h → h ≤ H → ∀ k, usedAt db H h k → get db' k = get db k

namespace Shows
variable {db db' db'' : DB} {B B' H h : Int}

theorem rfl' (hr : loadRange db = (B, H)) : Shows db B H db := ⟨hr, fun _ _ _ _ _ => rfl⟩

theorem loadMeta (s : Shows db B H db') (hB : B ≤ h) (hH : h ≤ H) : loadMeta db' h = loadMeta db h :=
  loadMeta_congr (s.same h hB hH _ (Or.inl rfl))

theorem goodFrom (s : Shows db B H db') (hG : GoodFrom db B H) : GoodFrom db' B H :=
  fun h h1 h2 => (checkAt_congr db db' H h (s.same h h1 h2)).trans (hG h h1 h2)

theorem good (s : Shows db B H db') (hB : 0 < B) (hBH : B ≤ H) (hG : GoodFrom db B H) : Good db' :=
  good_of_range s.range hB hBH (s.goodFrom hG)

theorem good_of_good (s : Shows db B H db') (hr : loadRange db = (B, H)) (hG : Good db) : Good db' := by
  rw [good_iff, hr] at hG
  rw [good_iff, s.range]
  exact hG.imp id fun ⟨h1, h2, h3⟩ => ⟨h1, h2, s.goodFrom h3⟩

theorem unused (s : Shows db B H db') {ws : List Write} (hws : ∀ w ∈ ws, Unused db B H w) :
    Shows db B H (applyAll db' ws) :=
  ⟨(loadRange_applyAll_of_not_mem ws db' fun w hw => (hws w hw).1).trans s.range, fun h hB hH k hk =>
    (get_applyAll_of_not_mem _ _ _ fun w hw e => (hws w hw).2 h hB hH (e ▸ hk)).trans (s.same h hB hH k hk)⟩

theorem allPrefix (s : Shows db B H db') {ws : List Write} (hws : ∀ w ∈ ws, Unused db B H w) :
    AllPrefix apply (Shows db B H) db' ws :=
  fun _ => s.unused fun w hw => hws w (List.mem_of_mem_take hw)

theorem desc (db : DB) (hb : ¬ (H > 0 ∧ B = 0)) : Shows db B H (apply db (.set .bsState (.range B H))) :=
  ⟨loadRange_set _ _ _ hb, fun _ _ _ k hk => get_set_bsState db _ k (usedAt_ne_bsState hk)⟩

/-- the metas of `[B,H]` are those of `db`, so the audit of `[B',H]` reads the same keys in both -/
theorem trans (s1 : Shows db B H db') (s2 : Shows db' B' H db'') (hle : B ≤ B') : Shows db B' H db'' :=
  ⟨s2.range, fun h hB hH k hk =>
    (s2.same h hB hH k ((usedAt_congr db db' H h k (s1.loadMeta (Int.le_trans hle hB) hH)).2 hk)).trans
      (s1.same h (Int.le_trans hle hB) hH k hk)⟩

end Shows

/-- `AllPrefix apply Good db ws` written out (`allPrefixGood_iff`): the form the statements of
Props/C18 use -/
def AllPrefixGood (db : DB) (ws : List Write) : Prop := ∀ k, Good (applyAll db (ws.take k))

theorem allPrefixGood_iff {db : DB} {ws : List Write} : AllPrefixGood db ws ↔ AllPrefix apply Good db ws :=
  Iff.rfl

theorem allPrefixGood_last (db : DB) (ws : List Write) (h : AllPrefixGood db ws) :
    Good (applyAll db ws) :=
  (allPrefixGood_iff.1 h).last

theorem allPrefixGood_first (db : DB) (ws : List Write) (h : AllPrefixGood db ws) : Good db :=
  (allPrefixGood_iff.1 h).first

/-- a crash-unit prefix is a write prefix -/
theorem take_flatten_prefix {α : Type} (units : List (List α)) (k : Nat) :
    ∃ j, (units.take k).flatten = units.flatten.take j := by
  induction units generalizing k with
  | nil => exact ⟨0, by simp⟩
  | cons u us ih =>
    cases k with
    | zero => exact ⟨0, by simp⟩
    | succ k =>
      obtain ⟨j, hj⟩ := ih k
      refine ⟨u.length + j, ?_⟩
      simp only [List.take_succ_cons, List.flatten_cons, hj]
      rw [List.take_append]
      simp [List.take_of_length_le]

theorem good_afterUnits (db : DB) (units : List (List Write))
    (h : AllPrefixGood db units.flatten) (k : Nat) : Good (afterUnits db units k) := by
  obtain ⟨j, hj⟩ := take_flatten_prefix units k
  simp only [afterUnits, hj]
  exact h j

/-- what `checkAt db H h = none` says, check by check (`checkAt_none_iff`) -/
structure OkAt (db : DB) (H h : Int) (m : Meta) (b : Block) (c : Commit) : Prop where
  hmeta : loadMeta db h = some m
  metaHeight : m.height = h
  block : loadBlock db h = some b
  blockHash : b.hash = m.hash
  blockHeight : b.height = h
  blockTotal : b.total = m.total
  hashIdx : loadHeightByHash db m.hash = some h
  commit : (if h < H then loadCommit db h else loadSeen db h) = some c
  commitHeight : c.height = h
  commitHash : c.blockHash = m.hash

theorem ite_some_eq_none {α : Type} {c : Prop} [Decidable c] {f : α} {x : Option α} :
    (if c then some f else x) = none ↔ ¬ c ∧ x = none := by
  by_cases h : c
  · simp only [h, if_true, not_true_eq_false, false_and, reduceCtorEq]
  · simp only [h, if_false, not_false_eq_true, true_and]

theorem checkAt_none_iff (db : DB) (H h : Int) :
    checkAt db H h = none ↔ ∃ m b c, OkAt db H h m b c := by
  constructor
  · intro hc
    unfold checkAt at hc
    cases hm : loadMeta db h with
    | none => rw [hm] at hc; cases hc
    | some m =>
    cases hb : loadBlock db h with
    | none => simp only [hm, hb, ite_some_eq_none, reduceCtorEq, and_false] at hc
    | some b =>
    -- the chain of `if … then some fault else …` is a conjunction of the negated conditions
    simp only [hm, hb, ite_some_eq_none, Decidable.not_not] at hc
    obtain ⟨h1, h2, h3, h4, h5, hc⟩ := hc
    by_cases hlt : h < H
    · simp only [hlt, if_true] at hc
      cases hcm : loadCommit db h with
      | none => rw [hcm] at hc; cases hc
      | some c =>
        simp only [hcm, ite_eq_left_iff, reduceCtorEq, imp_false, Decidable.not_not] at hc
        exact ⟨m, b, c, hm, h1, hb, h2, h3, h4, h5, by simp only [hlt, if_true, hcm], hc.1, hc.2⟩
    · simp only [hlt, if_false] at hc
      cases hcm : loadSeen db h with
      | none => rw [hcm] at hc; cases hc
      | some c =>
        simp only [hcm, ite_eq_left_iff, reduceCtorEq, imp_false, Decidable.not_not] at hc
        exact ⟨m, b, c, hm, h1, hb, h2, h3, h4, h5, by simp only [hlt, if_false, hcm], hc.1, hc.2⟩
  · rintro ⟨m, b, c, ok⟩
    unfold checkAt
    have hc := ok.commit
    by_cases hlt : h < H
    · simp only [hlt, if_true] at hc
      simp [ok.hmeta, ok.metaHeight, ok.block, ok.blockHash, ok.blockHeight, ok.blockTotal, ok.hashIdx,
        hlt, hc, ok.commitHeight, ok.commitHash]
    · simp only [hlt, if_false] at hc
      simp [ok.hmeta, ok.metaHeight, ok.block, ok.blockHash, ok.blockHeight, ok.blockTotal, ok.hashIdx,
        hlt, hc, ok.commitHeight, ok.commitHash]

theorem OkAt.meta_eq {db : DB} {H h : Int} {m m' : Meta} {b : Block} {c : Commit} (ok : OkAt db H h m b c)
    (hm : loadMeta db h = some m') : m = m' :=
  Option.some.inj (ok.hmeta.symm.trans hm)

/-- below the tip the audit of a height does not depend on where the tip is -/
theorem checkAt_below_tip (db : DB) (H H' h : Int) (h1 : h < H) (h2 : h < H') :
    checkAt db H' h = checkAt db H h := by
  unfold checkAt
  simp only [h1, h2, if_true]

/-- two audited heights never share a block hash (the hash index is a function) -/
theorem hash_ne_of_good (db : DB) (H a h : Int) (ma mh : Meta)
    (ha : checkAt db H a = none) (hh : checkAt db H h = none)
    (hma : loadMeta db a = some ma) (hmh : loadMeta db h = some mh) (hne : a ≠ h) :
    ma.hash ≠ mh.hash := by
  obtain ⟨m1, _, _, o1⟩ := (checkAt_none_iff db H a).1 ha
  obtain ⟨m2, _, _, o2⟩ := (checkAt_none_iff db H h).1 hh
  cases o1.meta_eq hma
  cases o2.meta_eq hmh
  intro heq
  have h1 := o1.hashIdx
  rw [heq, o2.hashIdx] at h1
  exact hne (Option.some.inj h1).symm

/-- after writing the parts of block `b` at height `n`, part `i` is there -/
theorem get_partsWrites (db : DB) (n : Int) (b : Block) (t i : Nat) (hi : i < t) :
    get (applyAll db ((List.range t).map (fun i => Write.set (.part n i) (.part b i)))) (.part n i)
      = some (.part b i) := by
  induction t with
  | zero => omega
  | succ t ih =>
    rw [List.range_succ, List.map_append, applyAll_append]
    simp only [List.map_cons, List.map_nil, applyAll_cons, applyAll_nil, get_set]
    by_cases h : t = i
    · subst h; simp
    · have : i < t := by omega
      simp [h, ih this]

end BlockStore
end Tmv
