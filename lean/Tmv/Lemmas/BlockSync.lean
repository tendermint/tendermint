import Tmv.Model.BlockSync
/-! Lemmas for C13 about the model of blockchain/v0: what `VerifyCommitLight` establishes, and the pool
methods and the processing step by outcome. -/
namespace Tmv.BlockSync

variable (sigOK : Nat → SignBytes → Nat → Bool)

/-- power of the validators whose entry in `c` is a for-block signature that verifies -/
def signedPower (c : Commit) : List Val → List CSig → Int
  | v :: vs, s :: ss =>
    (if s.flag = .commit ∧ sigOK v.key (signBytes c s) s.sig = true then v.power else 0)
      + signedPower c vs ss
  | _, _ => 0

theorem signedPower_nonneg (c : Commit) (vals : List Val) (sigs : List CSig) :
    0 ≤ signedPower sigOK c vals sigs := by
  fun_induction signedPower sigOK c vals sigs with
  | case1 v vs s ss ih => split <;> omega
  | case2 => exact Int.le_refl 0

theorem signedPower_cons_commit (c : Commit) {v : Val} {s : CSig} (vs : List Val) (ss : List CSig)
    (hf : s.flag = .commit) (hs : sigOK v.key (signBytes c s) s.sig = true) :
    signedPower sigOK c (v :: vs) (s :: ss) = v.power + signedPower sigOK c vs ss := by
  simp only [signedPower, hf, hs, and_self, if_true]

theorem signedPower_cons_other (c : Commit) (v : Val) {s : CSig} (vs : List Val) (ss : List CSig)
    (hf : s.flag ≠ .commit) :
    signedPower sigOK c (v :: vs) (s :: ss) = signedPower sigOK c vs ss := by
  simp only [signedPower, show ¬ s.flag = .commit from hf, false_and, if_false, Int.natCast_zero, Int.zero_add]

/-- what an accepting run of the `VerifyCommitLight` loop has established -/
theorem lightLoop_ok (c : Commit) (need : Int) (vals : List Val) (sigs : List CSig) (idx : Nat)
    (tally : Int) (h : lightLoop sigOK c need vals sigs idx tally = .ok ()) :
    tally + signedPower sigOK c vals sigs > need := by
  fun_induction lightLoop sigOK c need vals sigs idx tally with
  | case1 v vs s ss idx tally hf ih =>
    rw [signedPower_cons_other sigOK c v vs ss hf]
    exact ih h
  | case2 => cases h
  | case3 v vs s ss idx tally hf hs ht =>
    have := signedPower_nonneg sigOK c vs ss
    rw [signedPower_cons_commit sigOK c vs ss (Decidable.not_not.mp hf) (by simpa using hs)]
    omega
  | case4 v vs s ss idx tally hf hs ht ih =>
    have := ih h
    rw [signedPower_cons_commit sigOK c vs ss (Decidable.not_not.mp hf) (by simpa using hs)]
    omega
  | case5 => cases h

/-- a commit with valid for-block signatures of more than 2/3 of `vals` for exactly (`id`, `h`) -/
def Quorum (vals : List Val) (id : BlockId) (h : Int) (c : Commit) : Prop :=
  c.sigs.length = vals.length ∧ c.height = h ∧ c.blockId = id ∧
    3 * signedPower sigOK c vals c.sigs > 2 * totalPower vals

/-- the code's threshold, `tally > total * 2 / 3`, is "more than two thirds" -/
theorem needed_lt_iff (vals : List Val) (x : Int) : needed vals < x ↔ 2 * totalPower vals < 3 * x := by
  unfold needed
  omega

theorem Quorum.needed_lt {vals : List Val} {id : BlockId} {h : Int} {c : Commit} (hq : Quorum sigOK vals id h c) :
    needed vals < signedPower sigOK c vals c.sigs :=
  (needed_lt_iff vals _).mpr hq.2.2.2

theorem verifyCommitLight_quorum (vals : List Val) (id : BlockId) (h : Int) (c : Commit)
    (hv : verifyCommitLight sigOK vals id h c = .ok ()) :
    Quorum sigOK vals id h c := by
  unfold verifyCommitLight at hv
  by_cases h1 : vals.length ≠ c.sigs.length
  · rw [if_pos h1] at hv; cases hv
  by_cases h2 : h ≠ c.height
  · rw [if_neg h1, if_pos h2] at hv; cases hv
  by_cases h3 : id ≠ c.blockId
  · rw [if_neg h1, if_neg h2, if_pos h3] at hv; cases hv
  rw [if_neg h1, if_neg h2, if_neg h3] at hv
  have h4 := lightLoop_ok sigOK c (needed vals) vals c.sigs 0 0 hv
  rw [Int.zero_add] at h4
  exact ⟨(Decidable.not_not.mp h1).symm, (Decidable.not_not.mp h2).symm,
    (Decidable.not_not.mp h3).symm, (needed_lt_iff vals _).mp h4⟩

theorem checkPair_ok {st : St} {first second : Block} (h : checkPair sigOK st first second = .ok ()) :
    Quorum sigOK st.vals first.id first.height second.lastCommit ∧ validate sigOK st first = .ok () := by
  unfold checkPair at h
  split at h; · cases h
  split at h; · cases h
  rename_i hv _ _ hval
  exact ⟨verifyCommitLight_quorum sigOK _ _ _ _ hv, hval⟩

theorem idx?_add (p : Pool) (k : Nat) :
    p.idx? (p.height + k) = if k < p.requesters.length then some k else none := by
  unfold Pool.idx?
  rw [if_neg (by omega), show (p.height + (k : Int) - p.height).toNat = k by omega]

theorem idx?_some {p : Pool} {h : Int} {i : Nat} (hi : p.idx? h = some i) : h = p.height + i := by
  unfold Pool.idx? at hi
  by_cases h1 : h < p.height
  · rw [if_pos h1] at hi; cases hi
  · rw [if_neg h1] at hi
    by_cases h2 : (h - p.height).toNat < p.requesters.length
    · rw [if_pos h2] at hi; cases hi; omega
    · rw [if_neg h2] at hi; cases hi

theorem req?_add (p : Pool) (k : Nat) : p.req? (p.height + k) = p.requesters[k]? := by
  unfold Pool.req?
  rw [idx?_add]
  by_cases hk : k < p.requesters.length
  · rw [if_pos hk]
  · rw [if_neg hk]; exact (List.getElem?_eq_none (by omega)).symm

theorem setReq_add (p : Pool) (k : Nat) (r : Requester) (hk : k < p.requesters.length) :
    p.setReq (p.height + k) r = { p with requesters := p.requesters.set k r } := by
  unfold Pool.setReq
  rw [idx?_add, if_pos hk]

theorem req?_some {p : Pool} {h : Int} {r : Requester} (hr : p.req? h = some r) :
    ∃ i : Nat, h = p.height + i ∧ p.requesters[i]? = some r := by
  unfold Pool.req? at hr
  cases hi : p.idx? h with
  | none => rw [hi] at hr; cases hr
  | some i =>
    rw [hi] at hr
    obtain rfl := idx?_some hi
    exact ⟨i, rfl, hr⟩

/-- over any pool `q` with `p`'s height and requesters: `pick`, `addBlock`, `resetReq` change peers or
counters before they call `setReq` -/
theorem setReq_like {p q : Pool} {h : Int} {r : Requester} (hr : p.req? h = some r)
    (hh : q.height = p.height) (hq : q.requesters = p.requesters) :
    ∃ i : Nat, h = p.height + i ∧ p.requesters[i]? = some r ∧
      ∀ r', q.setReq h r' = { q with requesters := p.requesters.set i r' } := by
  obtain ⟨i, rfl, hi⟩ := req?_some hr
  refine ⟨i, rfl, hi, fun r' => ?_⟩
  have := setReq_add q i r' (hq ▸ (List.getElem?_eq_some_iff.mp hi).1)
  rw [← hh, this, hq]

theorem setReq_req?_same (p : Pool) (h : Int) (r r' : Requester) (hr : p.req? h = some r) :
    (p.setReq h r').req? h = some r' := by
  obtain ⟨i, rfl, hi, hs⟩ := setReq_like hr rfl rfl
  have := req?_add { p with requesters := p.requesters.set i r' } i
  rw [hs, this]
  exact List.getElem?_set_self (List.getElem?_eq_some_iff.mp hi).1

theorem rtimeout_eq (p : Pool) (h : Int) :
    (p.rtimeout h).1 = match p.req? h with
      | some r => if r.peer.isNone then p else p.resetReq h r
      | none => p := by
  unfold Pool.rtimeout
  cases p.req? h with
  | none => rfl
  | some r => dsimp only; split <;> rfl

/-- the retry timer always returns the requester to the picking state -/
theorem rtimeout_resets (p : Pool) (h : Int) (r : Requester) (hr : p.req? h = some r)
    (hp : r.peer.isSome) :
    (p.rtimeout h).1.req? h = some { r with peer := none, block := none } := by
  rw [rtimeout_eq, hr]
  cases hpe : r.peer with
  | none => rw [hpe] at hp; cases hp
  | some id =>
    simp only [hpe, Option.isNone_some, Bool.false_eq_true, if_false]
    exact setReq_req?_same _ h r _ hr

/-- the redo signal of the requester's own peer returns it to the picking state -/
theorem rstep_resets (p : Pool) (h : Int) (r : Requester) (id : Nat) (hr : p.req? h = some r)
    (hp : r.peer = some id) (hd : r.redo = some id) :
    (p.rstep h).1.req? h = some ⟨none, none, none⟩ := by
  simp only [Pool.rstep, hr, hp, hd, Option.isNone_some, Bool.false_eq_true, if_false, if_true,
    Pool.resetReq]
  exact setReq_req?_same _ h r _ hr

theorem req?_of_map {p q : Pool} {g : Requester → Requester} (hh : q.height = p.height)
    (hq : q.requesters = p.requesters.map g) (h : Int) : q.req? h = (p.req? h).map g := by
  unfold Pool.req? Pool.idx?
  rw [hh, hq, List.length_map]
  split
  · exact List.getElem?_map ..
  · rfl

theorem peer?_none_iff (p : Pool) (x : Nat) : p.peer? x = none ↔ ∀ q ∈ p.peers, q.id ≠ x := by
  simp [Pool.peer?]

theorem peer?_id {p : Pool} {w : Nat} {q : Peer} (h : p.peer? w = some q) : q.id = w := by
  simpa using List.find?_some h

theorem peer?_map {p q : Pool} {f : Peer → Peer} (hq : q.peers = p.peers.map f)
    (hf : ∀ x, (f x).id = x.id) (w : Nat) : q.peer? w = (p.peer? w).map f := by
  simp only [Pool.peer?, hq, List.find?_map]
  congr 2
  funext x
  simp [hf]

theorem incrIf_id (w : Nat) (q : Peer) : (Peer.incrIf w q).id = q.id := by
  unfold Peer.incrIf; split <;> rfl

theorem decrIf_id (w : Nat) (q : Peer) : (Peer.decrIf w q).id = q.id := by
  unfold Peer.decrIf; split <;> rfl

/-- `r'` is `r` after some `removePeer`s: same peer and block, a pending redo signal stays -/
def Keeps (r r' : Requester) : Prop :=
  r'.peer = r.peer ∧ r'.block = r.block ∧ (∀ x, r.redo = some x → r'.redo = some x)

theorem Keeps.refl (r : Requester) : Keeps r r := ⟨rfl, rfl, fun _ h => h⟩

/-- what `removePeer id` does to each requester -/
def redoMark (id : Nat) (r : Requester) : Requester :=
  if r.peer = some id then r.signalRedo id else r

theorem redoMark_keeps (id : Nat) (r : Requester) :
    Keeps r (redoMark id r) ∧ (r.peer = some id → (redoMark id r).redo.isSome) ∧
      (r.peer = some id → r.redo = none → (redoMark id r).redo = some id) := by
  unfold redoMark Requester.signalRedo
  by_cases hp : r.peer = some id
  · cases hd : r.redo <;> simp [hp, hd, Keeps]
  · simp [hp, Keeps]

theorem redoMark_idem (id : Nat) (r : Requester) : redoMark id (redoMark id r) = redoMark id r := by
  unfold redoMark Requester.signalRedo
  by_cases hp : r.peer = some id
  · cases hd : r.redo <;> simp [hp, hd]
  · simp [hp]

theorem removePeer_eq (p : Pool) (id : Nat) :
    ∃ ps mx, p.removePeer id =
        { p with requesters := p.requesters.map (redoMark id), peers := ps, maxPeerHeight := mx } ∧
      ∀ q ∈ ps, q ∈ p.peers ∧ q.id ≠ id := by
  unfold Pool.removePeer
  split
  · exact ⟨_, _, rfl, fun q hq => by simpa using hq⟩
  · rename_i h
    exact ⟨_, _, rfl, fun q hq => ⟨hq, (peer?_none_iff p id).mp h q hq⟩⟩

theorem removePeer_req? (p : Pool) (id : Nat) (h : Int) :
    (p.removePeer id).req? h = (p.req? h).map (redoMark id) := by
  obtain ⟨ps, mx, e, _⟩ := removePeer_eq p id
  rw [e]
  apply req?_of_map <;> rfl

theorem removePeer_self (p : Pool) (id : Nat) : (p.removePeer id).peer? id = none := by
  obtain ⟨ps, mx, e, hps⟩ := removePeer_eq p id
  rw [e, peer?_none_iff]
  exact fun q hq => (hps q hq).2

theorem removePeer_mono (p : Pool) (id x : Nat) (h : p.peer? x = none) :
    (p.removePeer id).peer? x = none := by
  obtain ⟨ps, mx, e, hps⟩ := removePeer_eq p id
  rw [peer?_none_iff] at h
  rw [e, peer?_none_iff]
  exact fun q hq => h q (hps q hq).1

theorem pick_eq (p : Pool) (h : Int) (w : Nat) :
    (p.pick h w).1 = match p.req? h, p.peer? w with
      | some r, some q =>
        if r.peer = none ∧ q.available h = true then
          ({ p with peers := p.peers.map (Peer.incrIf w) } : Pool).setReq h { r with peer := some w }
        else p
      | _, _ => p := by
  unfold Pool.pick
  cases p.req? h with
  | none => rfl
  | some r =>
    cases hb : r.peer with
    | some x => cases p.peer? w <;> simp [hb]
    | none =>
      cases p.peer? w with
      | none => simp only [hb, Option.isSome_none, Bool.false_eq_true, if_false]; split <;> rfl
      | some q =>
        by_cases hav : q.available h = true
        · simp [hb, hav]
        · simp only [hb, Option.isSome_none, Bool.false_eq_true, if_false, hav, and_false]
          split <;> rfl

theorem pick_cases (p : Pool) (h : Int) (w : Nat) :
    (p.pick h w).1 = p ∨ ∃ r q, p.req? h = some r ∧ r.peer = none ∧ p.peer? w = some q ∧
      q.available h = true ∧ (p.pick h w).1 =
        ({ p with peers := p.peers.map (Peer.incrIf w) } : Pool).setReq h { r with peer := some w } := by
  rw [pick_eq]
  cases p.req? h with
  | none => exact .inl rfl
  | some r =>
    cases p.peer? w with
    | none => exact .inl rfl
    | some q =>
      dsimp only
      split
      · rename_i hc; exact .inr ⟨r, q, rfl, hc.1, rfl, hc.2, rfl⟩
      · exact .inl rfl

theorem addBlock_cases (p : Pool) (id : Nat) (b : Block) :
    ((p.addBlock id b).1 = p ∧ ∀ r, p.req? b.height = some r → r.block.isSome ∨ r.peer ≠ some id) ∨
    ∃ r, p.req? b.height = some r ∧ r.block = none ∧ r.peer = some id ∧
      (p.addBlock id b).1 =
        ({ p with numPending := p.numPending - 1, peers := p.peers.map (Peer.decrIf id) } : Pool).setReq
          b.height { r with block := some b } ∧
      (p.addBlock id b).2 = if (p.peer? id).all (·.armed) then .added else .addedPanic := by
  cases hr : p.req? b.height with
  | none => left; exact ⟨by simp only [Pool.addBlock, hr], fun _ e => by cases e⟩
  | some r =>
    by_cases hc : r.block.isSome = true ∨ r.peer ≠ some id
    · left; exact ⟨by simp only [Pool.addBlock, hr, hc, if_true], fun _ e => Option.some.inj e ▸ hc⟩
    · right
      refine ⟨r, rfl, by simpa using fun h => hc (Or.inl h), Decidable.not_not.mp fun h => hc (Or.inr h), ?_⟩
      simp only [Pool.addBlock, hr, hc, if_false, true_and]
      cases p.peer? id with
      | none => rfl
      | some q => cases hq : q.armed <;> simp [hq]

theorem rtimeout_cases (p : Pool) (h : Int) :
    (p.rtimeout h).1 = p ∨ ∃ r, p.req? h = some r ∧ (p.rtimeout h).1 = p.resetReq h r := by
  cases hr : p.req? h with
  | none => left; rw [rtimeout_eq, hr]
  | some r =>
    rw [rtimeout_eq, hr]
    dsimp only
    split
    · exact .inl rfl
    · exact .inr ⟨r, rfl, rfl⟩

theorem rstep_cases (p : Pool) (h : Int) :
    (p.rstep h).1 = p ∨ ∃ r, p.req? h = some r ∧
      ((p.rstep h).1 = p.resetReq h { r with redo := none } ∨
        (p.rstep h).1 = p.setReq h { r with redo := none }) := by
  cases hr : p.req? h with
  | none => left; simp only [Pool.rstep, hr]
  | some r =>
    cases hp : r.peer with
    | none => left; simp only [Pool.rstep, hr, hp, Option.isNone_none, if_true]
    | some x =>
      cases hd : r.redo with
      | none => left; simp only [Pool.rstep, hr, hp, hd, Option.isNone_some, Bool.false_eq_true, if_false]
      | some id =>
        right
        refine ⟨r, rfl, ?_⟩
        by_cases he : id = x
        · left; simp only [Pool.rstep, hr, hp, hd, he, Option.isNone_some, Bool.false_eq_true, if_false, if_true]
        · right
          simp only [Pool.rstep, hr, hp, hd, he, Option.isNone_some, Bool.false_eq_true, if_false,
            Option.some.injEq]

theorem routineStep_cases (p : Pool) :
    (p.routineStep = p ∧ (Facts.c13_maxPendingRequests ≤ p.numPending ∨
        Facts.c13_maxTotalRequesters ≤ p.requesters.length ∨
        p.maxPeerHeight < p.height + p.requesters.length)) ∨
      p.routineStep =
        { p with requesters := p.requesters ++ [Requester.fresh], numPending := p.numPending + 1 } := by
  unfold Pool.routineStep Pool.makeNextRequester
  by_cases h1 : p.numPending ≥ Facts.c13_maxPendingRequests
  · left; rw [if_pos h1]; exact ⟨rfl, .inl h1⟩
  by_cases h2 : (p.requesters.length : Int) ≥ Facts.c13_maxTotalRequesters
  · left; rw [if_neg h1, if_pos h2]; exact ⟨rfl, .inr (.inl h2)⟩
  by_cases h3 : p.height + p.requesters.length > p.maxPeerHeight
  · left; rw [if_neg h1, if_neg h2, if_pos h3]; exact ⟨rfl, .inr (.inr h3)⟩
  · right; rw [if_neg h1, if_neg h2, if_neg h3]

/-- from `n` to `n'` peers have only been dropped (`dropPeer`), none added -/
structure Drops (n n' : Node) : Prop where
  pool : ∀ x, n.pool.peer? x = none → n'.pool.peer? x = none
  conn : ∀ x, x ∉ n.connected → x ∉ n'.connected
  stopped : ∀ x, x ∈ n.stopped → x ∈ n'.stopped
  left : ∀ x, x ∈ n.connected → x ∉ n'.connected → x ∈ n'.stopped

theorem Drops.refl (n : Node) : Drops n n := ⟨fun _ h => h, fun _ h => h, fun _ h => h, fun _ h h' => absurd h h'⟩

/-- the conclusion of `liar_dropped` for one peer -/
def Gone (n n' : Node) (id : Nat) : Prop :=
  n'.pool.peer? id = none ∧ id ∉ n'.connected ∧ (id ∈ n.connected → id ∈ n'.stopped)

theorem Gone.later {n n1 n2 : Node} {id : Nat} (g : Gone n n1 id) (d : Drops n1 n2) : Gone n n2 id :=
  ⟨d.pool id g.1, d.conn id g.2.1, fun h => d.stopped id (g.2.2 h)⟩

theorem Gone.earlier {n n1 n2 : Node} {id : Nat} (d1 : Drops n n1) (d2 : Drops n1 n2)
    (g : Gone n1 n2 id) : Gone n n2 id := by
  refine ⟨g.1, g.2.1, fun h => ?_⟩
  by_cases h1 : id ∈ n1.connected
  · exact g.2.2 h1
  · exact d2.stopped id (d1.left id h h1)

/-- `pool.RemovePeer(id)` followed by `StopPeerForError`: what `poolRoutine` does to a peer that
`RedoRequest` names or that timed out -/
def Node.dropPeer (n : Node) (id : Nat) : Node :=
  ({ n with pool := n.pool.removePeer id }).stopPeer id

theorem dropPeer_drops (n : Node) (id : Nat) : Drops n (n.dropPeer id) ∧ Gone n (n.dropPeer id) id := by
  unfold Node.dropPeer Node.stopPeer
  split
  · refine ⟨⟨fun x h => removePeer_mono _ _ _ (removePeer_mono _ _ _ h), fun x h => by simp [h],
      fun x h => List.mem_cons_of_mem _ h, fun x h1 h2 => ?_⟩, removePeer_self _ _, by simp,
      fun _ => List.mem_cons_self ..⟩
    have : x = id := by simpa [h1] using h2
    exact this ▸ List.mem_cons_self ..
  · rename_i hc
    exact ⟨⟨fun x h => removePeer_mono _ _ _ h, fun _ h => h, fun _ h => h, fun _ h h' => absurd h h'⟩,
      removePeer_self _ _, hc, fun h => absurd h hc⟩

/-- whether the switch still had the peer or not, every requester is marked exactly once -/
theorem dropPeer_req? (n : Node) (id : Nat) (h : Int) :
    (n.dropPeer id).pool.req? h = (n.pool.req? h).map (redoMark id) := by
  unfold Node.dropPeer Node.stopPeer
  split
  · show (Pool.removePeer (n.pool.removePeer id) id).req? h = _
    rw [removePeer_req?, removePeer_req?, Option.map_map]
    congr 1
    funext r
    exact redoMark_idem id r
  · exact removePeer_req? ..

/-- `RedoRequest(h)` and the `StopPeerForError` that follows it in `poolRoutine` -/
def Node.redoStop (n : Node) (h : Int) : Node × Option Nat :=
  let (n1, p1) := match n.pool.redoRequest h with
    | some (p, id) => ({ n with pool := p }, id)
    | none => (n, none)
  (match p1 with | some id => n1.stopPeer id | none => n1, p1)

theorem redoBoth_eq (n : Node) (h1 h2 : Int) :
    n.redoBoth h1 h2 =
      (((n.redoStop h1).1.redoStop h2).1, (n.redoStop h1).2, ((n.redoStop h1).1.redoStop h2).2) := by
  unfold Node.redoBoth Node.redoStop; rfl

theorem redoStop_eq (n : Node) (h : Int) :
    n.redoStop h = match (n.pool.req? h).bind (·.peer) with
      | some id => (n.dropPeer id, some id)
      | none => (n, none) := by
  unfold Node.redoStop Pool.redoRequest
  cases n.pool.req? h with
  | none => rfl
  | some r => cases hp : r.peer <;> simp [hp] <;> rfl

theorem redoStop_drops (n : Node) (h : Int) :
    Drops n (n.redoStop h).1 ∧ ∀ id, (n.redoStop h).2 = some id → Gone n (n.redoStop h).1 id := by
  rw [redoStop_eq]
  split
  · exact ⟨(dropPeer_drops n _).1, fun id h => by cases h; exact (dropPeer_drops n _).2⟩
  · exact ⟨Drops.refl n, fun _ h => by cases h⟩

theorem redoStop_keeps (n : Node) (h0 h : Int) (r : Requester) (hr : n.pool.req? h = some r) :
    ∃ r', (n.redoStop h0).1.pool.req? h = some r' ∧ Keeps r r' := by
  rw [redoStop_eq]
  split
  · exact ⟨_, by rw [dropPeer_req?, hr]; rfl, (redoMark_keeps _ r).1⟩
  · exact ⟨r, hr, Keeps.refl r⟩

theorem peekTwo_eq (p : Pool) :
    p.peekTwo = (p.requesters[0]?.bind (·.block), p.requesters[1]?.bind (·.block)) := by
  have h0 := req?_add p 0
  have h1 := req?_add p 1
  rw [Int.natCast_zero, Int.add_zero] at h0
  rw [Int.natCast_one] at h1
  unfold Pool.peekTwo
  rw [h0, h1]

theorem peekTwo_some {p : Pool} {first second : Block} (h : p.peekTwo = (some first, some second)) :
    ∃ a b rest, p.requesters = a :: b :: rest ∧ a.block = some first ∧ b.block = some second := by
  rw [peekTwo_eq] at h
  obtain ⟨h0, h1⟩ := Prod.mk.inj h
  cases hq : p.requesters with
  | nil => rw [hq] at h0; cases h0
  | cons a t =>
    cases t with
    | nil => rw [hq] at h1; cases h1
    | cons b rest => rw [hq] at h0 h1; exact ⟨a, b, rest, rfl, h0, h1⟩

/-- one iteration of the `didProcessCh` branch: nothing to do; the check fails and both requests are
redone; or the first block is saved and applied and its requester popped -/
theorem processStep_cases (n : Node) :
    (n.processStep sigOK = (n, .wait) ∧ ∀ first second, n.pool.peekTwo ≠ (some first, some second)) ∨
    (∃ first second e, n.pool.peekTwo = (some first, some second) ∧
      checkPair sigOK n.st first second = .error e ∧
      n.processStep sigOK = (((n.redoStop first.height).1.redoStop second.height).1,
        .failed e (n.redoStop first.height).2 ((n.redoStop first.height).1.redoStop second.height).2)) ∨
    (∃ first second a rest, n.pool.peekTwo = (some first, some second) ∧
      checkPair sigOK n.st first second = .ok () ∧ n.pool.requesters = a :: rest ∧
      a.block = some first ∧
      n.processStep sigOK =
        ({ n with pool := { n.pool with requesters := rest, height := n.pool.height + 1 },
                  store := (first, second.lastCommit) :: n.store, st := applyBlock n.st first },
          .saved)) := by
  cases hpk : n.pool.peekTwo with
  | mk o1 o2 =>
  cases o1 with
  | none => left; exact ⟨by simp only [Node.processStep, hpk], fun _ _ h => by cases h⟩
  | some first =>
  cases o2 with
  | none => left; exact ⟨by simp only [Node.processStep, hpk], fun _ _ h => by cases h⟩
  | some second =>
  obtain ⟨a, b, rest, hq, ha, _⟩ := peekTwo_some hpk
  cases hc : checkPair sigOK n.st first second with
  | error e =>
    right; left
    exact ⟨first, second, e, rfl, hc, by simp only [Node.processStep, hpk, hc, redoBoth_eq]⟩
  | ok u =>
    right; right
    exact ⟨first, second, a, b :: rest, rfl, hc, hq, ha,
      by simp only [Node.processStep, hpk, hc, Pool.pop, hq]⟩

theorem processStep_failed {n n' : Node} {e : PErr} {p1 p2 : Option Nat}
    (h : n.processStep sigOK = (n', .failed e p1 p2)) :
    ∃ first second, n.pool.peekTwo = (some first, some second) ∧
      n' = ((n.redoStop first.height).1.redoStop second.height).1 ∧
      p1 = (n.redoStop first.height).2 ∧ p2 = ((n.redoStop first.height).1.redoStop second.height).2 := by
  rcases processStep_cases sigOK n with ⟨e0, _⟩ | ⟨first, second, _, hpk, _, e0⟩ | ⟨_, _, _, _, _, _, _, _, e0⟩ <;>
    rw [e0] at h
  · cases h
  · injection h with h1 h2
    injection h2 with _ h3 h4
    exact ⟨first, second, hpk, h1.symm, h3.symm, h4.symm⟩
  · cases h

theorem processStep_saved (n : Node) {first second : Block}
    (hpk : n.pool.peekTwo = (some first, some second))
    (hok : checkPair sigOK n.st first second = .ok ()) :
    ∃ n', n.processStep sigOK = (n', .saved) ∧ n'.store = (first, second.lastCommit) :: n.store ∧
      n'.st = applyBlock n.st first ∧ n'.pool.height = n.pool.height + 1 := by
  rcases processStep_cases sigOK n with ⟨_, hg⟩ | ⟨f, s, e, hpk', hc, _⟩ | ⟨f, s, a, rest, hpk', _, _, _, e0⟩
  · exact absurd hpk (hg _ _)
  · cases hpk.symm.trans hpk'
    rw [hok] at hc; cases hc
  · cases hpk.symm.trans hpk'
    exact ⟨_, e0, rfl, rfl, rfl⟩

theorem recvStatus_cases (n : Node) (id : Nat) (base height : Int) :
    (n.recvStatus id base height).1 = n ∨ (n.recvStatus id base height).1 = n.stopPeer id ∨
      (id ∈ n.connected ∧
        (n.recvStatus id base height).1 = { n with pool := n.pool.setPeerRange id base height }) := by
  unfold Node.recvStatus
  by_cases h1 : id ∉ n.connected
  · left; rw [if_pos h1]
  by_cases h2 : base < 0 ∨ height < 0 ∨ base > height
  · right; left; rw [if_neg h1, if_pos h2]
  · right; right; rw [if_neg h1, if_neg h2]; exact ⟨Decidable.not_not.mp h1, rfl⟩

theorem recvBlock_cases (n : Node) (id : Nat) (b : Block) :
    (n.recvBlock id b).1 = n ∨ (n.recvBlock id b).1 = n.stopPeer id ∨
      (n.recvBlock id b).1 = { n with pool := (n.pool.addBlock id b).1 } ∨
      (n.recvBlock id b).1 = ({ n with pool := (n.pool.addBlock id b).1 } : Node).stopPeer id := by
  unfold Node.recvBlock
  by_cases h1 : id ∉ n.connected
  · left; rw [if_pos h1]
  by_cases h2 : (!b.lastCommit.basicOK || b.malformed) = true
  · right; left; rw [if_neg h1, if_pos h2]
  rw [if_neg h1, if_neg h2]
  right; right
  generalize n.pool.addBlock id b = x
  obtain ⟨p, r⟩ := x
  cases r with
  | added | unexpected => exact .inl rfl
  | unexpectedFar | invalidPeer | addedPanic => exact .inr rfl

/-- a restart reports what `consensus.NewState` found, and goes on, with a new pool on the same stores,
only if that was `.ok` -/
theorem restart_cases (n : Node) :
    (n.restart sigOK).2 = (if n.st.lastHeight > 0 then reconstruct sigOK n.st n.store else .ok) ∧
      ((n.restart sigOK).1 = n ∨ (n.restart sigOK).1 = { Node.new n.st with store := n.store }) := by
  unfold Node.restart
  generalize (if n.st.lastHeight > 0 then reconstruct sigOK n.st n.store else .ok) = r
  by_cases h : r = .ok
  · rw [if_pos h, h]
    exact ⟨rfl, .inr rfl⟩
  · rw [if_neg h]
    exact ⟨rfl, .inl rfl⟩

end Tmv.BlockSync
