import Tmv.Lemmas.ConsLock
/-! Relational form of the lock discipline: across every move of the node model, hence across `step`
(`step_rel`), the triple (Round, LockedRound, LockedBlock) only moves by: advancing the round; locking block `b` in
the current round on a recorded +2/3 prevote majority for `b` in that round; unlocking on a recorded
+2/3 prevote majority for something else in a round of `(LockedRound, Round]`. -/
namespace Tmv.Cons

abbrev LockTriple := Nat × Int × Option Nat

/-- the moves of (Round, LockedRound, LockedBlock); majorities are read off the vote sets `v` -/
inductive LockMoves (v : HVS) : LockTriple → LockTriple → Prop
  | refl (a : LockTriple) : LockMoves v a a
  | advance {r r' : Nat} {lr : Int} {lb : Option Nat} : r ≤ r' → LockMoves v (r, lr, lb) (r', lr, lb)
  | lock {r : Nat} {lr : Int} {lb : Option Nat} {b : Nat} :
      maj23Of (v.prevotes (r : Int)) = some (some b) → LockMoves v (r, lr, lb) (r, (r : Int), some b)
  | unlock {r : Nat} {lr : Int} {lb : Option Nat} {r'' : Nat} {y : Bid} :
      lr < (r'' : Int) → r'' ≤ r → maj23Of (v.prevotes (r'' : Int)) = some y → (∀ b, lb = some b → y ≠ some b) →
      LockMoves v (r, lr, lb) (r, -1, none)
  | trans {a b c : LockTriple} : LockMoves v a b → LockMoves v b c → LockMoves v a c

theorem LockMoves.stable {v v' : HVS} (hs : Stable v v') {a b : LockTriple} (h : LockMoves v a b) : LockMoves v' a b := by
  induction h with
  | refl a => exact .refl a
  | advance h => exact .advance h
  | lock h => exact .lock (hs _ _ h)
  | unlock h1 h2 h3 h4 => exact .unlock h1 h2 (hs _ _ h3) h4
  | trans _ _ ih1 ih2 => exact .trans ih1 ih2

/-- state `a` evolves into a state with these (round, lock, votes) by lock moves; majorities persist -/
def RelP (a : NodeState) (r : Nat) (lr : Int) (lb : Option Nat) (v : HVS) : Prop :=
  Stable a.votes v ∧ LockMoves v (a.round, a.lockedRound, a.lockedBlock) (r, lr, lb)

abbrev Rel (a t : NodeState) : Prop := RelP a t.round t.lockedRound t.lockedBlock t.votes

theorem Rel.refl (s : NodeState) : Rel s s := ⟨Stable.refl _, .refl _⟩

theorem RelP.advance {a r r' lr lb v} (h : RelP a r lr lb v) (hr : r ≤ r') : RelP a r' lr lb v :=
  ⟨h.1, .trans h.2 (.advance hr)⟩

theorem RelP.stable {a r lr lb v v'} (h : RelP a r lr lb v) (hs : Stable v v') : RelP a r lr lb v' :=
  ⟨h.1.trans hs, h.2.stable hs⟩

theorem RelP.lock {a r lr lb v} (h : RelP a r lr lb v) {b : Nat} (hm : maj23Of (v.prevotes (r : Int)) = some (some b)) :
    RelP a r (r : Int) (some b) v := ⟨h.1, .trans h.2 (.lock hm)⟩

theorem RelP.unlock {a r lr lb v} (h : RelP a r lr lb v) {r'' : Nat} {y : Bid} (h1 : lr < (r'' : Int)) (h2 : r'' ≤ r)
    (h3 : maj23Of (v.prevotes (r'' : Int)) = some y) (h4 : ∀ b, lb = some b → y ≠ some b) :
    RelP a r (-1) none v := ⟨h.1, .trans h.2 (.unlock h1 h2 h3 h4)⟩

variable {c : Cfg}

/-- `RelP` reads the lock and the votes, which are round state (`Core`) -/
theorem RelP.core {a s t : NodeState} {r : Nat} (h : RelP a r s.lockedRound s.lockedBlock s.votes)
    (e : Core t = Core s) : RelP a r t.lockedRound t.lockedBlock t.votes := by
  rw [core_lockedRound e, core_lockedBlock e, core_votes e]; exact h

theorem Rel.core {a s t : NodeState} (h : Rel a s) (e : Core t = Core s) : Rel a t := by
  show RelP _ _ _ _ _
  rw [core_round e]; exact RelP.core h e

theorem signAddVote_rel (s : NodeState) (t : VType) (b : Bid) : Rel s (signAddVote c s t b) :=
  (Rel.refl s).core (signAddVote_core c s t b)

theorem enter_rel {a s : NodeState} (i : Input) (h : Rel a s) : Rel a (enter c s i) := by
  have hf := enter_framed c s i
  show RelP _ _ _ _ _
  rw [hf.round, hf.lockedRound, hf.lockedBlock]
  exact RelP.stable h (enter_stable c s i)

/-- the lock triple moves in `enterPrecommit` (lock on the majority of the round entered, which is the
current one; unlock on a majority for something else, (A) putting the lock before this round), in
`onPolka` (unlock) and wherever the round advances -/
theorem Rel_prim {cm : NodeState → Prop} {a s t : NodeState} (hp : Prim c True cm s t) (hA : A s) (h : Rel a s) : Rel a t := by
  have hst := hp.stable
  cases hp with
  | panic w => exact h.core (panicWith_core s w)
  | schedule r st | precommitWait r | decide b => exact (h.core (emit_core s _) : Rel a (emit s _))
  | newRound r _ hg =>
    have hf := newRoundReset_frame s r
    show RelP _ _ _ _ _
    rw [hf.round, hf.lockedRound, hf.lockedBlock, hf.votes]
    exact h.advance (le_of_guard hg)
  | setRound r hv hs => exact RelP.stable h hst
  | propose r _ hg | prevoteWait r _ hg => exact (h.advance (le_of_guard hg)).core (t := emit s _) (emit_core s _)
  | proposeOwn r me _ hg =>
    exact (h.advance (le_of_guard hg)).core (t := decideProposal c _ r me) ((decideProposal_core c _ r me).trans (emit_core s _))
  | prevote r bid _ hg => exact (h.advance (le_of_guard hg)).core (t := signAddVote c s _ _) (signAddVote_core c s _ _)
  | precommit r t x _ hg hr hc =>
    cases eq_of_guard hr hg
    refine RelP.core (t := signAddVote c t _ _) ?_ (signAddVote_core c t _ _)
    cases hc with
    | nil => exact h
    | unlock bid hm hne | fetch bid hm hne => exact RelP.unlock h (hA.lt_of_guard hg) (Nat.le_refl _) hm hne
    | relock b hm hl =>
      show RelP a s.round s.round s.lockedBlock s.votes
      rw [hl]
      exact RelP.lock h hm
    | lock b hm hl hp =>
      show RelP a s.round s.round s.proposalBlock s.votes
      rw [hp]
      exact RelP.lock h hm
  | unlock vr bid hm _ hlt hle hne =>
    exact RelP.unlock h hlt hle hm hne
  | _ => exact h

/-- **one input**: from a state satisfying (A) (every reachable state does) the lock triple moves only
by the lock moves -/
theorem step_rel {s : NodeState} (i : Input) (hi : i.notFuture s) (hA : A s) : Rel s (step c s i) :=
  (step_invariant (P := fun t => A t ∧ Rel s t) (fun _ _ hp h => ⟨A_prim hp h.1, Rel_prim hp h.1 h.2⟩)
    (fun t m rest _ h => ⟨enter_A (s := { t with queue := rest }) m.asInput h.1, enter_rel (s := { t with queue := rest }) m.asInput h.2⟩)
    s i
    (fun _ => hi) (fun h => ⟨enter_A i h.1, enter_rel i h.2⟩) ⟨hA, Rel.refl s⟩).2

end Tmv.Cons
