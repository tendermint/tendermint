import Tmv.Lemmas.BlockStorePrune
/-! `SaveBlock` and `PruneBlocks` on an audited store: every write prefix passes the audit, and
what is on disk afterwards. -/
namespace Tmv.BlockStore

/-- what consensus guarantees about the arguments of `SaveBlock` (the store checks none of it):
positive height, at least one part, the seen commit is for this block, the block's `LastCommit` is
for the stored previous block, and the block's hash is not the hash of a stored block (implied by
collision-freedom, since the height is hashed). -/
structure ValidNext (db : DB) (b : Block) (sc : Commit) : Prop where
  pos : 0 < b.height
  parts : 0 < b.total
  seen : sc = { height := b.height, blockHash := b.hash }
  last : ∀ m, 0 < (loadRange db).2 → loadMeta db (loadRange db).2 = some m →
    b.lastCommit = { height := (loadRange db).2, blockHash := m.hash }
  fresh : ∀ h m, (loadRange db).1 ≤ h → h ≤ (loadRange db).2 → loadMeta db h = some m → m.hash ≠ b.hash


/-- the writes of `SaveBlock` before the range descriptor -/
def savePre (b : Block) (sc : Commit) : List Write :=
  (List.range b.total).map (fun i => Write.set (.part b.height i) (.part b i)) ++
    [.set (.bmeta b.height) (.bmeta { height := b.height, hash := b.hash, total := b.total }),
     .set (.hashIdx b.hash) (.height b.height),
     .set (.commit (b.height - 1)) (.commit b.lastCommit),
     .set (.seen b.height) (.commit sc)]

theorem saveBlock_units (s s' : Store) (b : Block) (c : Bool) (sc : Commit) (units : List (List Write))
    (hs : saveBlock s b c sc = .ok (s', units)) :
    c = true ∧ ¬ (s.base > 0 ∧ b.height ≠ s.height + 1) ∧
    s' = { height := b.height, base := if s.base = 0 then b.height else s.base } ∧
    units.flatten = savePre b sc ++ [.set .bsState (.range s'.base s'.height)] := by
  unfold saveBlock at hs
  by_cases hg : s.base > 0 ∧ b.height ≠ s.height + 1
  · rw [if_pos hg] at hs; cases hs
  · rw [if_neg hg] at hs
    cases c with
    | false => cases hs
    | true =>
      simp only [Bool.not_true, Bool.false_eq_true, if_false] at hs
      injection hs with hs
      injection hs with h1 h2
      refine ⟨rfl, hg, h1.symm, ?_⟩
      subst h1; subst h2
      simp [savePre, ← List.flatMap_def, ← List.map_eq_flatMap]

theorem savePre_unused (db : DB) (b : Block) (sc : Commit) (B H : Int) (hn : H < b.height)
    (fresh : ∀ h m, B ≤ h → h ≤ H → loadMeta db h = some m → m.hash ≠ b.hash) :
    ∀ w ∈ savePre b sc, Unused db B H w := by
  intro w hw
  simp only [savePre, List.mem_append, List.mem_map, List.mem_range, List.mem_cons, List.mem_nil_iff,
    or_false] at hw
  refine ⟨by rcases hw with ⟨i, _, rfl⟩ | rfl | rfl | rfl | rfl <;> simp [Write.key], ?_⟩
  intro h hB hH hu
  -- the parts, the meta, the hash index entry, the commit of the previous height, the seen commit
  rcases hw with ⟨i, _, rfl⟩ | rfl | rfl | rfl | rfl
  · rw [Write.key, usedAt_part] at hu; omega
  · rw [Write.key, usedAt_bmeta] at hu; omega
  · rw [Write.key, usedAt_hashIdx] at hu
    obtain ⟨m, hm, e⟩ := hu
    exact fresh h m hB hH hm e.symm
  · rw [Write.key, usedAt_commit] at hu; omega
  · rw [Write.key, usedAt_seen] at hu; omega

theorem savePre_loads (db : DB) (b : Block) (sc : Commit) (hparts : 0 < b.total) :
    loadMeta (applyAll db (savePre b sc)) b.height =
      some { height := b.height, hash := b.hash, total := b.total } ∧
    loadBlock (applyAll db (savePre b sc)) b.height = some b ∧
    loadHeightByHash (applyAll db (savePre b sc)) b.hash = some b.height ∧
    loadCommit (applyAll db (savePre b sc)) (b.height - 1) = some b.lastCommit ∧
    loadSeen (applyAll db (savePre b sc)) b.height = some sc := by
  have gparts : ∀ i, i < b.total →
      get (applyAll db (savePre b sc)) (.part b.height i) = some (.part b i) := by
    intro i hi
    simp [savePre, applyAll_append, applyAll_cons, applyAll_nil, get_set,
      get_partsWrites db b.height b b.total i hi]
  have gmeta : loadMeta (applyAll db (savePre b sc)) b.height =
      some { height := b.height, hash := b.hash, total := b.total } := by
    simp [loadMeta, savePre, applyAll_append, applyAll_cons, applyAll_nil, get_set]
  refine ⟨gmeta, ?_, ?_, ?_, ?_⟩
  · have hall : (List.range b.total).all (partIs (applyAll db (savePre b sc)) b.height b) = true := by
      simp only [List.all_eq_true, List.mem_range, partIs, beq_iff_eq]
      exact gparts
    simp only [loadBlock, gmeta, gparts 0 hparts, hall, if_true]
  · simp [loadHeightByHash, savePre, applyAll_append, applyAll_cons, applyAll_nil, get_set]
  · simp [loadCommit, savePre, applyAll_append, applyAll_cons, applyAll_nil, get_set]
  · simp [loadSeen, savePre, applyAll_append, applyAll_cons, applyAll_nil, get_set]

/-- The tip moves from `H` to `H + 1`: the audit of the old tip now reads its commit (stored with
the new block) instead of its seen commit; the lower heights are audited as before. -/
theorem goodFrom_raise_tip (db : DB) (B H : Int) (c : Commit) (hG : GoodFrom db B H)
    (hc : loadCommit db H = some c) (hch : c.height = H)
    (hcm : ∀ m, loadMeta db H = some m → c.blockHash = m.hash)
    (hn : checkAt db (H + 1) (H + 1) = none) : GoodFrom db B (H + 1) := by
  intro h h1 h2
  by_cases htip : h = H + 1
  · rw [htip]; exact hn
  · by_cases hH : h = H
    · subst hH
      obtain ⟨m, blk, _, ok⟩ := (checkAt_none_iff db h h).1 (hG h h1 (Int.le_refl _))
      exact (checkAt_none_iff db (h + 1) h).2 ⟨m, blk, c, ok.hmeta, ok.metaHeight, ok.block, ok.blockHash,
        ok.blockHeight, ok.blockTotal, ok.hashIdx, by rw [if_pos (Int.lt_succ h)]; exact hc, hch,
        hcm m ok.hmeta⟩
    · have hlt : h < H := by omega
      rw [checkAt_below_tip db H (H + 1) h hlt (by omega)]
      exact hG h h1 (by omega)

/-- The crash states of `SaveBlock`: before the descriptor is written the old range with all it
reads, afterwards the final database. -/
theorem saveBlock_spec (db : DB) (b : Block) (sc : Commit) (s' : Store)
    (units : List (List Write)) (hG : Good db) (hv : ValidNext db b sc)
    (hs : saveBlock (openStore db) b true sc = .ok (s', units)) :
    AllPrefix apply (fun d => Shows db (loadRange db).1 (loadRange db).2 d ∨ d = applyAll db units.flatten)
      db units.flatten ∧
    Good (applyAll db units.flatten) ∧
    loadRange (applyAll db units.flatten) =
      ((if (loadRange db).1 = 0 then b.height else (loadRange db).1), b.height) ∧
    s' = openStore (applyAll db units.flatten) ∧
    loadMeta (applyAll db units.flatten) b.height =
      some { height := b.height, hash := b.hash, total := b.total } := by
  obtain ⟨_, hguard, hs', hunits⟩ := saveBlock_units _ _ _ _ _ _ hs
  have hpos := hv.pos
  have hfresh := hv.fresh
  have hlast := hv.last
  simp only [openStore] at hguard hs'
  rw [good_iff] at hG
  obtain ⟨B, hB⟩ : ∃ B, (loadRange db).1 = B := ⟨_, rfl⟩
  obtain ⟨H, hH⟩ : ∃ H, (loadRange db).2 = H := ⟨_, rfl⟩
  have hr : loadRange db = (B, H) := by rw [← hB, ← hH]
  simp only [hB, hH] at hguard hs' hG hfresh hlast ⊢
  have hn : H < b.height := by omega
  have hun : ∀ w ∈ savePre b sc, Unused db B H w := savePre_unused db b sc B H hn hfresh
  have s1 : Shows db B H (applyAll db (savePre b sc)) := (Shows.rfl' hr).unused hun
  obtain ⟨gmeta, gblock, gidx, gcommit, gseen⟩ := savePre_loads db b sc hv.parts
  have hTip : checkAt (applyAll db (savePre b sc)) b.height b.height = none :=
    (checkAt_none_iff _ _ _).2 ⟨_, b, sc, gmeta, rfl, gblock, rfl, rfl, rfl, gidx,
      by rw [if_neg (Int.lt_irrefl _)]; exact gseen, by rw [hv.seen], by rw [hv.seen]⟩
  -- before the descriptor is written, the new range `[B',height]` already passes the audit
  obtain ⟨B', hB', h1, h2, hGF'⟩ : ∃ B', (if B = 0 then b.height else B) = B' ∧ 0 < B' ∧ B' ≤ b.height ∧
      GoodFrom (applyAll db (savePre b sc)) B' b.height := by
    rcases hG with ⟨hB0, _⟩ | ⟨hBpos, hBH, hGF⟩
    · -- empty store: the range is the new block alone
      refine ⟨b.height, if_pos hB0, hpos, Int.le_refl _, fun h h1 h2 => ?_⟩
      rw [Int.le_antisymm h2 h1]; exact hTip
    · -- the block is the next height: the old tip's commit is the one stored with it
      have hHpos : 0 < H := Int.lt_of_lt_of_le hBpos hBH
      have hnH : b.height = H + 1 := by omega
      refine ⟨B, if_neg (Int.ne_of_gt hBpos), hBpos, by omega, ?_⟩
      rw [hnH] at gcommit hTip ⊢
      rw [Int.add_sub_cancel] at gcommit
      obtain ⟨m, _, _, ok⟩ := (checkAt_none_iff db H H).1 (hGF H hBH (Int.le_refl _))
      refine goodFrom_raise_tip _ B H b.lastCommit (s1.goodFrom hGF) gcommit
        (by rw [hlast m hHpos ok.hmeta]) ?_ hTip
      intro m' hm'
      rw [s1.loadMeta hBH (Int.le_refl _)] at hm'
      rw [hlast m' hHpos hm']
  rw [hB'] at hs' ⊢
  have hrf : loadRange (applyAll db (savePre b sc ++ [.set .bsState (.range B' b.height)])) = (B', b.height) := by
    rw [applyAll_append]; exact loadRange_set _ _ _ (by omega)
  rw [hunits, hs']
  refine ⟨.snoc (((Shows.rfl' hr).allPrefix hun).imp fun _ => .inl) (.inr rfl), ?_, hrf, ?_, ?_⟩
  · rw [applyAll_append]; exact (Shows.desc (B := B') (H := b.height) _ (by omega)).good h1 h2 hGF'
  · rw [openStore, hrf]
  · rw [applyAll_append, ← gmeta]
    exact loadMeta_congr (get_set_bsState _ _ _ (by simp))

/-- what `PruneBlocks(retain)` did, with writes `ws`, on an audited store of range `[B,H]` -/
structure Pruned (db : DB) (retain : Int) (s' : Store) (n : Nat) (ws : List Write) (B H : Int) : Prop where
  range : loadRange db = (B, H)
  basePos : 0 < B
  baseLe : B ≤ retain
  leTip : retain ≤ H
  good : GoodFrom db B H
  store : s' = { base := retain, height := H }
  count : (n : Int) = retain - B
  prefixes : AllPrefix apply (fun d => ∃ b', B ≤ b' ∧ b' ≤ retain ∧ Shows db b' H d) db ws
  after : Shows db retain H (applyAll db ws)
  shape : ∀ w ∈ ws, (∃ k, w = .del k) ∨ w.key = .bsState
  dels : ∀ k, Write.del k ∈ ws ↔ ∃ a, B ≤ a ∧ a < retain ∧ OwnedBy db a k

theorem pruneBlocks_spec (db : DB) (retain : Int) (s' : Store) (n : Nat) (units : List (List Write))
    (hG : Good db) (hp : pruneBlocks (openStore db) db retain = .ok (s', n, units)) :
    ∃ B H, Pruned db retain s' n units.flatten B H := by
  rcases hr : loadRange db with ⟨B, H⟩
  -- the three guards of `PruneBlocks`, then the loop
  unfold pruneBlocks at hp
  simp only [openStore, hr] at hp
  by_cases h1 : retain ≤ 0
  · rw [if_pos h1] at hp; cases hp
  by_cases h2 : retain > H
  · rw [if_neg h1, if_pos h2] at hp; cases hp
  by_cases h3 : retain < B
  · rw [if_neg h1, if_neg h2, if_pos h3] at hp; cases hp
  rw [if_neg h1, if_neg h2, if_neg h3] at hp
  injection hp with hp
  injection hp with h4 hp
  injection hp with h5 h6
  have hBr : B ≤ retain := Int.not_lt.1 h3
  have hrH : retain ≤ H := Int.not_lt.1 h2
  obtain ⟨hB, _, hGF⟩ := hG.goodFrom hr (Int.lt_of_lt_of_le (Int.not_le.1 h1) hrH)
  obtain ⟨s1, s2, s3, s4, s5⟩ := pruneLoop_spec db B H retain hB hrH hGF (retain - B).toNat B db [] 0 B
    (by rw [Int.toNat_of_nonneg (Int.sub_nonneg.2 hBr)]; omega)
    (Int.le_refl _) (Int.le_refl _) (.rfl' hr) (fun w hw => by cases hw) (fun w hw => by cases hw)
  rw [h6] at s1 s2 s3 s4
  rw [h5] at s5
  exact ⟨B, H, hr, hB, hBr, hrH, hGF, h4.symm, by omega, s1, s2, s3,
    by simpa only [List.not_mem_nil, false_or] using s4⟩

namespace Pruned
variable {db : DB} {retain : Int} {s' : Store} {n : Nat} {ws : List Write} {B H : Int}

theorem allGood (p : Pruned db retain s' n ws B H) : AllPrefixGood db ws :=
  allPrefixGood_iff.2 <| p.prefixes.imp fun _ ⟨_, h1, h2, s⟩ =>
    s.good (Int.lt_of_lt_of_le p.basePos h1) (Int.le_trans h2 p.leTip) fun a ha => p.good a (Int.le_trans h1 ha)

theorem get_gone (p : Pruned db retain s' n ws B H) (a : Int) (k : Key) (ha : B ≤ a) (har : a < retain)
    (ho : OwnedBy db a k) : get (applyAll db ws) k = none := by
  rw [get_applyAll_dels ws db k ho.ne_bsState p.shape, if_pos ((p.dels k).2 ⟨a, ha, har, ho⟩)]

theorem get_kept (p : Pruned db retain s' n ws B H) (k : Key) (hk : k ≠ .bsState)
    (hno : ∀ a, B ≤ a → a < retain → ¬ OwnedBy db a k) : get (applyAll db ws) k = get db k := by
  rw [get_applyAll_dels ws db k hk p.shape, if_neg]
  intro hmem
  obtain ⟨a, ha, har, ho⟩ := (p.dels k).1 hmem
  exact hno a ha har ho

end Pruned

/-- the head that the audit of the block store and that of both stores share -/
theorem auditHead_none_iff {α : Type} (B H : Int) (x : α) (rest : Option α) :
    (if H = 0 ∧ B = 0 then none else if B ≤ 0 ∨ B > H then some x else rest) = none ↔
      (B = 0 ∧ H = 0) ∨ (0 < B ∧ B ≤ H ∧ rest = none) := by
  by_cases h0 : H = 0 ∧ B = 0
  · rw [if_pos h0]; exact iff_of_true rfl (Or.inl ⟨h0.2, h0.1⟩)
  · rw [if_neg h0]
    by_cases h1 : B ≤ 0 ∨ B > H
    · rw [if_pos h1]
      refine iff_of_false (fun e => by cases e) ?_
      rintro (⟨e1, e2⟩ | ⟨e1, e2, _⟩) <;> omega
    · rw [if_neg h1]
      constructor
      · exact fun e => Or.inr ⟨by omega, by omega, e⟩
      · rintro (⟨e1, e2⟩ | ⟨_, _, e⟩)
        · exact absurd ⟨e2, e1⟩ h0
        · exact e

theorem auditFrom_none_iff (db : DB) (H : Int) (fuel : Nat) (h : Int) :
    auditFrom db H fuel h = none ↔ ∀ a, h ≤ a → a < h + fuel → checkAt db H a = none := by
  induction fuel generalizing h with
  | zero =>
    simp only [auditFrom, true_iff]
    intro a h1 h2; omega
  | succ fuel ih =>
    unfold auditFrom
    cases hc : checkAt db H h with
    | some f =>
      simp only [false_iff, reduceCtorEq]
      intro hall
      have := hall h (Int.le_refl _) (by omega)
      rw [hc] at this; cases this
    | none =>
      simp only [ih]
      constructor
      · intro hall a h1 h2
        by_cases e : a = h
        · subst e; exact hc
        · exact hall a (by omega) (by omega)
      · intro hall a h1 h2
        exact hall a (by omega) (by omega)

end Tmv.BlockStore
