import Tmv.Model.Sync
import Tmv.Lemmas.SyncNode
import Tmv.Lemmas.Star
/-! Every schedule of `Tmv.Sync` (deliveries, claims, timeouts, faulty messages, closures, the
synchronous suffix) is a sequence (`Moves` = `Star Move`) of a few elementary moves (`Move`), each of
which changes at most one node, by one `Cons.step`. So every relation between node states that the
receive routine respects (`StepRel`) holds between the nodes before and after a schedule (`NetLater`),
in particular decisions are final; and no move touches the `Frame`: the log only grows, position by
position the nodes stay the same validators. `Reach`: the nets some sequence of moves makes of
`Net.init`; what holds of the initial node state and is kept by the receive routine holds of all their
nodes (`Reach.allNodes`). -/
namespace Tmv.Sync
open Tmv.Cons

/-- what the node at position `i` has decided -/
def Net.decidedAt (net : Net) (i : Nat) : Option (Nat × Int) := (net.nodes[i]?).bind (·.s.decided)

inductive Move (c : SCfg) : Net → Net → Prop
  | deliver {n : Net} {i k : Nat} {nd : Node} {m : Msg} : n.nodes[i]? = some nd → n.log[k]? = some m →
      m.own nd.idx = false → Move c n (n.input c i m.toInput)
  | claim (n : Net) (i r : Nat) (t : VType) (peer : Peer) (b : Bid) : Move c n (n.input c i (.peerMaj23 r t peer b))
  | timeout {n : Net} {i : Nat} {nd : Node} {r : Nat} {st : Step} {e : Nat} : n.nodes[i]? = some nd →
      nd.tick.pending = some (r, st, e) →
      Move c n ({ n with nodes := setNode n.nodes i { nd with tick := { nd.tick with pending := none } },
                          now := max n.now e }.input c i (.timeout r st))
  /-- a message that carries no correct node's signature is logged -/
  | byz {n : Net} {m : Msg} : (∀ v, m.signer = some v → ∀ nd ∈ n.nodes, nd.idx ≠ v) →
      Move c n { n with log := logAdd n.log m, closed := false }
  /-- the flags take ANY values, on purpose: the moves over-approximate the schedules. `Net.op` reads the
  flags (`fireAllowed`) only to decide WHETHER a timeout fires; nothing proved along `Moves` reads them, so
  `closed`/`synced` of a net known only to be reachable carry no information. -/
  | flags (n : Net) (cl sy : Bool) : Move c n { n with closed := cl, synced := sy }

abbrev Moves (c : SCfg) : Net → Net → Prop := Star (Move c)

theorem Move.moves {c : SCfg} {a b : Net} (h : Move c a b) : Moves c a b := Star.single h

theorem Moves.foldl {c : SCfg} {α} (f : Net → α → Net) (h : ∀ a n, Moves c n (f n a)) (l : List α) (n : Net) :
    Moves c n (l.foldl f n) :=
  List.foldlRecOn (motive := Moves c n) l f .refl fun m hm a _ => hm.trans (h a m)

theorem Moves.foldl_through {c : SCfg} {α} (f : Net → α → Net) (h : ∀ a n, Moves c n (f n a)) (l : List α) (a : α)
    (ha : a ∈ l) (n : Net) : ∃ m, Moves c n m ∧ Moves c (f m a) (l.foldl f n) := by
  induction l generalizing n with
  | nil => cases ha
  | cons x l ih =>
    rcases List.mem_cons.1 ha with e | ha
    · subst e; exact ⟨n, .refl, Moves.foldl f h l _⟩
    · obtain ⟨m, h1, h2⟩ := ih ha (f n x)
      exact ⟨m, (h x n).trans h1, h2⟩

theorem deliver_moves (c : SCfg) (i k : Nat) (n : Net) : Moves c n (n.deliver c i k) := by
  unfold Net.deliver
  split
  · rename_i nd m hi hk
    split
    · exact .refl
    · rename_i hown
      exact (Move.deliver hi hk (by simpa using hown)).moves
  · exact .refl

theorem claim_moves (c : SCfg) (i j : Nat) (n : Net) : Moves c n (n.claim c i j) := by
  unfold Net.claim
  split
  · exact .refl
  · split
    · exact .refl
    · rename_i p _ _
      exact Moves.foldl (fun net (x : Nat × VType × Bid) => net.input c i (.peerMaj23 x.1 x.2.1 (1 + p.idx) x.2.2))
        (fun x n => (Move.claim n i x.1 x.2.1 _ x.2.2).moves) _ n

theorem passNode_moves (c : SCfg) (i : Nat) (n : Net) : Moves c n (n.passNode c i) :=
  (Moves.foldl (fun net j => net.claim c i j) (claim_moves c i) _ n).trans
    (Moves.foldl (fun net k => net.deliver c i k) (deliver_moves c i) _ _)

theorem pass_moves (c : SCfg) (n : Net) : Moves c n (n.pass c) :=
  Moves.foldl (fun net i => net.passNode c i) (passNode_moves c) _ n

theorem closureLoop_moves (c : SCfg) (fuel : Nat) (n : Net) : Moves c n (closureLoop c fuel n) := by
  induction fuel generalizing n with
  | zero => exact .refl
  | succ f ih =>
    unfold closureLoop
    dsimp only
    split
    · exact pass_moves c n
    · exact (pass_moves c n).trans (ih _)

theorem closure_moves (c : SCfg) (n : Net) : Moves c n (n.closure c) :=
  (closureLoop_moves c closureFuel n).trans (Move.flags _ true _).moves

theorem fire_moves (c : SCfg) (i : Nat) (n : Net) : Moves c n (n.fire c i) := by
  unfold Net.fire
  split
  · exact .refl
  · rename_i nd hi
    split
    · exact .refl
    · rename_i r st e hp
      exact (Move.timeout hi hp).moves

theorem byz_moves (c : SCfg) (m : Msg) (n : Net) : Moves c n ((n.byz m).getD n) := by
  unfold Net.byz
  cases hs : m.signer with
  | none => exact (Move.byz (fun v hv => by rw [hs] at hv; cases hv)).moves
  | some v =>
    dsimp only
    split
    · rename_i hok
      refine (Move.byz ?_).moves
      intro w hw nd hnd e
      rw [hs] at hw; cases hw
      have : (n.nodes.any fun nd => decide (nd.idx = v)) = true := List.any_eq_true.2 ⟨nd, hnd, by simp [e]⟩
      simp [this] at hok
    · exact .refl

theorem op_moves (c : SCfg) (op : Op) (n : Net) : Moves c n (n.op c op) := by
  cases op with
  | dl i k => exact (deliver_moves c i k n).trans (Move.flags _ false _).moves
  | byz m => exact byz_moves c m n
  | claim i j => exact (claim_moves c i j n).trans (Move.flags _ false _).moves
  | byzclaim i r t peer b =>
    show Moves c n (if n.faultyPeer c peer then n.input c i (.peerMaj23 r t peer b) else n)
    split
    · exact (Move.claim n i r t peer b).moves
    · exact .refl
  | fire i =>
    show Moves c n (if n.synced ∧ !n.closed then n else if n.fireAllowed c i then n.fire c i else n)
    split
    · exact .refl
    · split
      · exact fire_moves c i n
      · exact .refl
  | closure => exact closure_moves c n
  | sync => exact (Move.flags n n.closed true).moves

theorem run_moves (c : SCfg) (ops : List Op) (n : Net) : Moves c n (n.run c ops) :=
  Moves.foldl (Net.op c) (op_moves c) ops n

theorem syncRun_moves (c : SCfg) (moves : List Op) (n : Net) : Moves c n (syncRun c n moves) :=
  ((Move.flags n n.closed true).moves.trans (closure_moves c _)).trans
    (Moves.foldl (fun net mv => (net.op c mv).closure c) (fun mv n => (op_moves c mv n).trans (closure_moves c _)) moves _)

structure StepRel (c : SCfg) (S : Node → Node → Prop) : Prop where
  same : ∀ {a b : Node}, b.idx = a.idx → b.s = a.s → S a b
  trans : ∀ {a b d : Node}, S a b → S b d → S a d
  step : ∀ {a b : Node} (inp : Input), b.idx = a.idx → b.s = Cons.step (nodeCfg c.cfg a.idx) a.s inp → S a b

def NetLater (S : Node → Node → Prop) (n n' : Net) : Prop :=
  ∀ (i : Nat) (nd nd' : Node), n.nodes[i]? = some nd → n'.nodes[i]? = some nd' → S nd nd'

def Frame (n n' : Net) : Prop :=
  (∃ ext, n'.log = n.log ++ ext) ∧ n'.nodes.map (·.idx) = n.nodes.map (·.idx)

theorem getElem?_some_of_length_eq {α} {l l' : List α} (h : l'.length = l.length) {i : Nat} {x : α}
    (hx : l[i]? = some x) : ∃ y, l'[i]? = some y :=
  have hlt := (List.getElem?_eq_some_iff.1 hx).1
  ⟨l'[i]'(by omega), List.getElem?_eq_getElem (by omega)⟩

theorem logAdd_ext (l : List Msg) (m : Msg) : ∃ ext, logAdd l m = l ++ ext := by
  unfold logAdd; split
  · exact ⟨[], by simp⟩
  · exact ⟨[m], rfl⟩

theorem harvestOne_ext (tmo : Timeouts) (now idx : Nat) (acc : List Msg × Ticker) (o : Output) :
    ∃ ext, (harvestOne tmo now idx acc o).1 = acc.1 ++ ext := by
  unfold harvestOne
  split
  · obtain ⟨e₁, h₁⟩ := logAdd_ext acc.1 (.proposal ⟨_, _, _, idx⟩)
    obtain ⟨e₂, h₂⟩ := logAdd_ext (logAdd acc.1 (.proposal ⟨_, _, _, idx⟩)) (.block _)
    exact ⟨e₁ ++ e₂, by simp only; rw [h₂, h₁, List.append_assoc]⟩
  · exact logAdd_ext _ _
  · exact ⟨[], by simp⟩
  · exact ⟨[], by simp⟩

theorem harvest_fold_ext (tmo : Timeouts) (now idx : Nat) (os : List Output) (acc : List Msg × Ticker) :
    ∃ ext, (os.foldl (harvestOne tmo now idx) acc).1 = acc.1 ++ ext := by
  induction os generalizing acc with
  | nil => exact ⟨[], by simp⟩
  | cons o os ih =>
    obtain ⟨e₁, h₁⟩ := harvestOne_ext tmo now idx acc o
    obtain ⟨e₂, h₂⟩ := ih (harvestOne tmo now idx acc o)
    exact ⟨e₁ ++ e₂, by simp only [List.foldl]; rw [h₂, h₁, List.append_assoc]⟩

theorem mem_logAdd {l : List Msg} {m m' : Msg} : m' ∈ logAdd l m ↔ m' ∈ l ∨ m' = m := by
  unfold logAdd
  split
  · rename_i hc
    constructor
    · exact Or.inl
    · rintro (h | h)
      · exact h
      · subst h; simpa using hc
  · simp [List.mem_append]

theorem schedule_pending (t : Ticker) (e r : Nat) (st : Step) (r' : Nat) (st' : Step) (e' : Nat)
    (h : (t.schedule e r st).pending = some (r', st', e')) :
    t.pending = some (r', st', e') ∨ (r' = r ∧ st' = st) := by
  unfold Ticker.schedule at h
  split at h
  · split at h
    · exact Or.inl h
    · split at h
      · exact Or.inl h
      · simp only [Option.some.injEq, Prod.mk.injEq] at h; exact Or.inr ⟨h.1.symm, h.2.1.symm⟩
  · simp only [Option.some.injEq, Prod.mk.injEq] at h; exact Or.inr ⟨h.1.symm, h.2.1.symm⟩

theorem harvestOne_spec (tmo : Timeouts) (now idx : Nat) (acc : List Msg × Ticker) (o : Output) :
    (∀ v, Msg.vote v ∈ (harvestOne tmo now idx acc o).1 → Msg.vote v ∈ acc.1 ∨
      ∃ t rr b, v = ⟨t, rr, b, idx, true, idx, idx⟩ ∧ o = Output.signVote t rr b) ∧
    (∀ rr st e, (harvestOne tmo now idx acc o).2.pending = some (rr, st, e) →
      acc.2.pending = some (rr, st, e) ∨ o = Output.schedule rr st) := by
  unfold harvestOne
  split
  · refine ⟨?_, fun _ _ _ h => Or.inl h⟩
    intro v hv
    rcases mem_logAdd.1 hv with h | h
    · rcases mem_logAdd.1 h with h | h
      · exact Or.inl h
      · cases h
    · cases h
  · rename_i t r b
    refine ⟨?_, fun _ _ _ h => Or.inl h⟩
    intro v hv
    rcases mem_logAdd.1 hv with h | h
    · exact Or.inl h
    · exact Or.inr ⟨t, r, b, by cases h; rfl, rfl⟩
  · rename_i r st
    refine ⟨fun _ h => Or.inl h, ?_⟩
    intro rr st' e h
    rcases schedule_pending _ _ _ _ _ _ _ h with h | ⟨h1, h2⟩
    · exact Or.inl h
    · exact Or.inr (by rw [h1, h2])
  · exact ⟨fun _ h => Or.inl h, fun _ _ _ h => Or.inl h⟩

theorem harvest_fold_spec (tmo : Timeouts) (now idx : Nat) (os : List Output) (acc : List Msg × Ticker) :
    (∀ v, Msg.vote v ∈ (os.foldl (harvestOne tmo now idx) acc).1 → Msg.vote v ∈ acc.1 ∨
      ∃ t rr b, v = ⟨t, rr, b, idx, true, idx, idx⟩ ∧ Output.signVote t rr b ∈ os) ∧
    (∀ rr st e, (os.foldl (harvestOne tmo now idx) acc).2.pending = some (rr, st, e) →
      acc.2.pending = some (rr, st, e) ∨ Output.schedule rr st ∈ os) := by
  induction os generalizing acc with
  | nil => exact ⟨fun _ h => Or.inl h, fun _ _ _ h => Or.inl h⟩
  | cons o os ih =>
    simp only [List.foldl]
    obtain ⟨a1, a3⟩ := ih (harvestOne tmo now idx acc o)
    obtain ⟨b1, b3⟩ := harvestOne_spec tmo now idx acc o
    refine ⟨?_, ?_⟩
    · intro v hv
      rcases a1 v hv with h | ⟨t, rr, b, e, hm⟩
      · rcases b1 v h with h | ⟨t, rr, b, e, ho⟩
        · exact Or.inl h
        · exact Or.inr ⟨t, rr, b, e, by rw [ho]; exact List.mem_cons_self ..⟩
      · exact Or.inr ⟨t, rr, b, e, List.mem_cons_of_mem _ hm⟩
    · intro rr st e h
      rcases a3 rr st e h with h | h
      · rcases b3 rr st e h with h | h
        · exact Or.inl h
        · exact Or.inr (by rw [h]; exact List.mem_cons_self ..)
      · exact Or.inr (List.mem_cons_of_mem _ h)

theorem input_none {c : SCfg} {net : Net} {i : Nat} {inp : Input} (hi : net.nodes[i]? = none) :
    net.input c i inp = net := by
  unfold Net.input; rw [hi]

theorem input_spec (c : SCfg) (net : Net) (i : Nat) (inp : Input) (nd : Node) (hi : net.nodes[i]? = some nd) :
    ∃ nd', (net.input c i inp).nodes = net.nodes.set i nd' ∧ nd'.idx = nd.idx ∧
      nd'.s = Cons.step (nodeCfg c.cfg nd.idx) nd.s inp ∧
      (∃ ext, (net.input c i inp).log = net.log ++ ext) ∧
      (∀ v, Msg.vote v ∈ (net.input c i inp).log → Msg.vote v ∈ net.log ∨
        (v.val = nd.idx ∧ Output.signVote v.typ v.round v.bid ∈ nd'.s.out)) ∧
      (∀ r st e, nd'.tick.pending = some (r, st, e) →
        nd.tick.pending = some (r, st, e) ∨ Output.schedule r st ∈ nd'.s.out) := by
  unfold Net.input
  rw [hi]
  obtain ⟨h1, h2⟩ := harvest_fold_spec c.tmo net.now nd.idx
    ((Cons.step (nodeCfg c.cfg nd.idx) nd.s inp).out.drop nd.shown) (net.log, nd.tick)
  refine ⟨_, rfl, rfl, rfl, harvest_fold_ext _ _ _ _ _, ?_, ?_⟩
  · intro v hv
    rcases h1 v hv with h | ⟨t, rr, b, e, ho⟩
    · exact Or.inl h
    · subst e; exact Or.inr ⟨rfl, List.mem_of_mem_drop ho⟩
  · intro r st e hp
    exact (h2 r st e hp).imp_right List.mem_of_mem_drop

theorem Frame.trans {a b d : Net} (h₁ : Frame a b) (h₂ : Frame b d) : Frame a d := by
  obtain ⟨⟨e₁, l₁⟩, i₁⟩ := h₁
  obtain ⟨⟨e₂, l₂⟩, i₂⟩ := h₂
  exact ⟨⟨e₁ ++ e₂, by rw [l₂, l₁, List.append_assoc]⟩, i₂.trans i₁⟩

theorem map_idx_set {l : List Node} {i : Nat} {nd nd' : Node} (hi : l[i]? = some nd) (hidx : nd'.idx = nd.idx) :
    (l.set i nd').map (·.idx) = l.map (·.idx) := by
  have e : (l.map (·.idx))[i]? = some nd.idx := by rw [List.getElem?_map, hi]; rfl
  obtain ⟨hlt, e⟩ := List.getElem?_eq_some_iff.1 e
  rw [List.map_set, hidx, ← e, List.set_getElem_self]

theorem input_frame (c : SCfg) (n : Net) (i : Nat) (inp : Input) : Frame n (n.input c i inp) := by
  cases hi : n.nodes[i]? with
  | none => rw [input_none hi]; exact ⟨⟨[], by simp⟩, rfl⟩
  | some nd =>
    obtain ⟨nd', hn, hidx, _, hl, _⟩ := input_spec c n i inp nd hi
    exact ⟨hl, by rw [hn, map_idx_set hi hidx]⟩

theorem Move.frame {c : SCfg} {n n' : Net} (h : Move c n n') : Frame n n' := by
  cases h with
  | deliver => exact input_frame ..
  | claim => exact input_frame ..
  | @timeout i nd r st e hi hp =>
    exact Frame.trans ⟨⟨[], by simp⟩, by exact map_idx_set hi rfl⟩ (input_frame ..)
  | @byz m _ => exact ⟨logAdd_ext n.log m, rfl⟩
  | flags => exact ⟨⟨[], by simp⟩, rfl⟩

theorem Moves.frame {c : SCfg} {n n' : Net} (h : Moves c n n') : Frame n n' :=
  Star.inv (P := Frame n) (fun _ _ m hf => hf.trans m.frame) h ⟨⟨[], by simp⟩, rfl⟩

theorem Moves.log_ext {c : SCfg} {n n' : Net} (h : Moves c n n') : ∃ ext, n'.log = n.log ++ ext := h.frame.1

theorem Moves.length_eq {c : SCfg} {n n' : Net} (h : Moves c n n') : n'.nodes.length = n.nodes.length := by
  simpa using congrArg List.length h.frame.2

theorem Moves.idx_at {c : SCfg} {n n' : Net} (h : Moves c n n') {i : Nat} {nd nd' : Node}
    (hi : n.nodes[i]? = some nd) (hi' : n'.nodes[i]? = some nd') : nd'.idx = nd.idx := by
  have := congrArg (·[i]?) h.frame.2
  simpa [hi, hi'] using this

section
variable {c : SCfg} {S : Node → Node → Prop} (hS : StepRel c S)
include hS

theorem NetLater.refl (n : Net) : NetLater S n n :=
  fun _ nd nd' h h' => by rw [h] at h'; cases h'; exact hS.same rfl rfl

theorem NetLater.trans {a b d : Net} (hlen : b.nodes.length = a.nodes.length) (h₁ : NetLater S a b)
    (h₂ : NetLater S b d) : NetLater S a d := by
  intro i nd nd' h h'
  obtain ⟨ndb, hb⟩ := getElem?_some_of_length_eq hlen h
  exact hS.trans (h₁ i nd ndb h hb) (h₂ i ndb nd' hb h')

theorem NetLater.of_set {n n' : Net} {i : Nat} {nd nd' : Node} (hi : n.nodes[i]? = some nd)
    (hn : n'.nodes = n.nodes.set i nd') (hrel : S nd nd') : NetLater S n n' := by
  intro j x x' h h'
  rw [hn] at h'
  by_cases hij : i = j
  · subst hij
    rw [List.getElem?_set_self (List.getElem?_eq_some_iff.1 hi).1] at h'
    rw [hi] at h
    cases h; cases h'; exact hrel
  · rw [List.getElem?_set_ne hij, h] at h'
    cases h'; exact hS.same rfl rfl

theorem input_netLater (n : Net) (i : Nat) (inp : Input) : NetLater S n (n.input c i inp) := by
  cases hi : n.nodes[i]? with
  | none =>
    rw [input_none hi]; exact NetLater.refl hS n
  | some nd =>
    obtain ⟨nd', hn, hidx, hs, _⟩ := input_spec c n i inp nd hi
    exact NetLater.of_set hS hi hn (hS.step inp hidx hs)

theorem Move.netLater {n n' : Net} (h : Move c n n') : NetLater S n n' := by
  cases h with
  | deliver => exact input_netLater hS _ _ _
  | claim => exact input_netLater hS _ _ _
  | @timeout i nd r st e hi hp =>
    refine NetLater.trans hS ?_ ?_ (input_netLater hS _ _ _)
    · exact List.length_set ..
    · exact NetLater.of_set hS hi rfl (hS.same rfl rfl)
  | byz => exact NetLater.refl hS n
  | flags => exact NetLater.refl hS n

theorem Moves.netLater {n n' : Net} (h : Moves c n n') : NetLater S n n' := by
  induction h with
  | refl => exact NetLater.refl hS _
  | head m _ ih => exact NetLater.trans hS m.moves.length_eq (m.netLater hS) ih

end

/-- a node that has decided ignores every further input -/
theorem stepRel_decided (c : SCfg) : StepRel c (fun a b => ∀ d, a.s.decided = some d → b.s.decided = some d) where
  same := fun _ hs d h => by rw [hs]; exact h
  trans := fun h₁ h₂ d h => h₂ d (h₁ d h)
  step := fun inp _ hs d h => by rw [hs, step_of_not_live _ _ _ (NodeState.not_live_of_decided h)]; exact h

theorem Moves.decidedAt {c : SCfg} {n n' : Net} (h : Moves c n n') {i : Nat} {d : Nat × Int}
    (hi : n.decidedAt i = some d) : n'.decidedAt i = some d := by
  unfold Net.decidedAt at hi ⊢
  cases hnd : n.nodes[i]? with
  | none => rw [hnd] at hi; cases hi
  | some nd =>
    obtain ⟨nd', hnd'⟩ := getElem?_some_of_length_eq h.length_eq hnd
    rw [hnd] at hi
    rw [hnd']
    exact h.netLater (stepRel_decided c) i nd nd' hnd hnd' d hi

/-- the state of the node that handles an input is what `Cons.step` yields -/
theorem input_decidedAt (c : SCfg) (net : Net) (i : Nat) (inp : Input) (nd : Node)
    (hi : net.nodes[i]? = some nd) :
    (net.input c i inp).decidedAt i = (step (nodeCfg c.cfg nd.idx) nd.s inp).decided := by
  obtain ⟨nd', hn, _, hs, _⟩ := input_spec c net i inp nd hi
  unfold Net.decidedAt
  rw [hn, List.getElem?_set_self (List.getElem?_eq_some_iff.1 hi).1, ← hs]
  rfl

/-! ### per-node invariants lift to every schedule -/

/-- every node of the net satisfies `P` (which may depend on the node's validator index) -/
def AllNodes (P : Nat → NodeState → Prop) (net : Net) : Prop := ∀ nd ∈ net.nodes, P nd.idx nd.s

/-- `f` keeps `AllNodes P` -/
def Keeps (P : Nat → NodeState → Prop) (f : Net → Net) : Prop := ∀ n, AllNodes P n → AllNodes P (f n)

section
variable {P : Nat → NodeState → Prop} (c : SCfg)
  (hstep : ∀ idx s inp, P idx s → P idx (Cons.step (nodeCfg c.cfg idx) s inp))
include hstep

/-- **a property of single nodes that every input of the receive routine keeps holds of every node
of the net along every sequence of moves**. (A property that is kept only under what the net guarantees of
the inputs cannot go this way, the guarantee being an invariant of the whole net: `KeptByInputs`,
`Moves.logInv_allNodes` in Lemmas/SyncLog.lean.) -/
theorem Moves.allNodes {n n' : Net} (h : Moves c n n') (hn : AllNodes P n) : AllNodes P n' := by
  have hS : StepRel c (fun a b => P a.idx a.s → P b.idx b.s) :=
    ⟨fun hi hs h => by rw [hi, hs]; exact h, fun h₁ h₂ h => h₂ (h₁ h),
     fun inp hi hs h => by rw [hi, hs]; exact hstep _ _ inp h⟩
  intro nd' hm
  obtain ⟨i, hi'⟩ := List.getElem?_of_mem hm
  obtain ⟨nd, hi⟩ := getElem?_some_of_length_eq h.length_eq.symm hi'
  exact h.netLater hS i nd nd' hi hi' (hn nd (List.mem_of_getElem? hi))

theorem syncRun_keeps (moves : List Op) : Keeps P (fun n => syncRun c n moves) :=
  fun n => (syncRun_moves c moves n).allNodes c hstep

end

def Reach (c : SCfg) (correct : List Nat) (net : Net) : Prop := Moves c (Net.init correct) net

theorem reach_run (c : SCfg) (correct : List Nat) (ops : List Op) : Reach c correct ((Net.init correct).run c ops) :=
  run_moves c ops _

theorem allNodes_init {P : Nat → NodeState → Prop} (correct : List Nat) (h : ∀ i, P i .init) :
    AllNodes P (Net.init correct) := by
  intro nd hm
  obtain ⟨i, _, e⟩ := List.mem_map.1 hm
  subst e
  exact h i

section
variable {c : SCfg} {correct : List Nat} {net : Net} (h : Reach c correct net)
include h

theorem Reach.closure : Reach c correct (net.closure c) := Star.trans h (closure_moves c net)

theorem Reach.allNodes {P : Nat → NodeState → Prop} (h0 : ∀ i, P i .init)
    (hstep : ∀ idx s inp, P idx s → P idx (Cons.step (nodeCfg c.cfg idx) s inp)) : AllNodes P net :=
  Moves.allNodes c hstep h (allNodes_init correct h0)

theorem Reach.idx : net.nodes.map (·.idx) = correct := by
  rw [(Moves.frame h).2]
  simp [Net.init, List.map_map, Function.comp_def]

end

/-- every node of a reachable net is the node model run on SOME input list: all the single-node
theorems (`Tmv.Cons`, C02, the vote arithmetic, the commit invariants) apply to it -/
theorem Reach.runs {c : SCfg} {correct : List Nat} {net : Net} (h : Reach c correct net) :
    AllNodes (fun idx s => ∃ is, s = Cons.run (nodeCfg c.cfg idx) .init is) net := by
  refine h.allNodes (fun _ => ⟨[], rfl⟩) ?_
  intro idx s inp ⟨is, e⟩
  exact ⟨is ++ [inp], by rw [e, run_append]; rfl⟩

theorem nodes_are_runs (c : SCfg) (correct : List Nat) (ops : List Op) :
    AllNodes (fun idx s => ∃ is, s = Cons.run (nodeCfg c.cfg idx) .init is) ((Net.init correct).run c ops) :=
  (reach_run c correct ops).runs

end Tmv.Sync
