import Tmv.Lemmas.NetVoteSet
import Tmv.Lemmas.Agreement
/-! Vote-set arithmetic for C03 (termination): votes carrying at least the quorum for one value,
delivered in ANY order to a vote set that may also hold conflicting votes of other validators and
catch-up junk, yield the recorded +2/3 majority for that value; and votes of more than 2/3 of the
power for anything yield `hasTwoThirdsAny`. Everything is stated over a well-formedness invariant
`VoteSet.WF` that holds of every vote set built from `VoteSet.empty` by `addVote` / `setPeerMaj23`
(reusing C01's bucket-membership invariant `MSv` and C02's `Qv`). -/
namespace Tmv.Cons

/-- a nodup list contained in another list weighs at most as much -/
theorem sum_map_le_of_subset (f : Nat → Nat) (Q L : List Nat) (hq : Q.Nodup) (hs : ∀ v ∈ Q, v ∈ L) :
    (Q.map f).sum ≤ (L.map f).sum := by
  induction Q generalizing L with
  | nil => simp
  | cons a Q ih =>
    have ha : a ∈ L := hs a (List.mem_cons_self ..)
    rw [sum_map_perm f (List.perm_cons_erase ha)]
    simp only [List.map_cons, List.sum_cons]
    have hq' := List.nodup_cons.mp hq
    have := ih (L.erase a) hq'.2 (by
      intro v hv
      have hne : v ≠ a := by intro e; subst e; exact hq'.1 hv
      exact (List.mem_erase_of_ne hne).mpr (hs v (List.mem_cons_of_mem _ hv)))
    omega

/-- validator `v` has a recorded vote for `key` in `vs` (it is listed in the bucket of `key`) -/
def VoteSet.has (vs : VoteSet) (key : Bid) (v : Nat) : Prop :=
  ∃ bv, alookup vs.byBlock key = some bv ∧ v ∈ bv.voted

/-- every recorded vote of `v` in `vs` is for `key` -/
def VoteSet.only (vs : VoteSet) (key : Bid) (v : Nat) : Prop := ∀ k, vs.has k v → k = key

/-- what `VoteSet.addVote` checks before `addVerified`: index in range, address and signature belong
to the validator at that index -/
def Vote.wellSigned (c : Cfg) (v : Vote) : Prop :=
  v.val < c.n ∧ v.addr = v.val ∧ v.sigOK = true ∧ v.signer = v.val

theorem Vote.honest_wellSigned {c : Cfg} (t : VType) (r : Nat) (b : Bid) {u : Nat} (h : u < c.n) :
    (Vote.honest t r b u).wellSigned c := ⟨h, rfl, rfl, rfl⟩

/-- invariant of every vote set reachable from `VoteSet.empty` -/
structure VoteSet.WF (c : Cfg) (vs : VoteSet) : Prop where
  ms : MSv c (fun _ _ => true) vs
  q : Qv c vs
  cross : ∀ k, c.quorum ≤ vs.blockSum k → vs.maj23.isSome = true
  keys : (vs.votes.map (·.1)).Nodup
  keysLt : ∀ p ∈ vs.votes, p.1 < c.n
  sum : vs.sum = ((vs.votes.map (·.1)).map c.power).sum
  slot : ∀ k v, vs.has k v → (alookup vs.votes v).isSome = true
  slotHas : ∀ v k, alookup vs.votes v = some k → ∃ k', vs.has k' v

theorem VoteSet.has_iff (vs : VoteSet) (k : Bid) (v : Nat) : vs.has k v ↔ v ∈ (vs.bucket k).voted := by
  unfold VoteSet.has VoteSet.bucket
  cases alookup vs.byBlock k with
  | none => exact ⟨fun ⟨_, e, _⟩ => (nomatch e), fun h => (nomatch h)⟩
  | some bv => exact ⟨fun ⟨_, e, h⟩ => Option.some.inj e ▸ h, fun h => ⟨bv, rfl, h⟩⟩

/-- how `recordVote` and `addVerified` change the slot list: validator `idx` gets a slot at the end if it has none, and
`sum` its power; no other slot comes or goes. (The VALUES in the slots may change; `WF` does not read them.) -/
def VoteSet.Slotted (c : Cfg) (idx : Nat) (vs vs' : VoteSet) : Prop :=
  (idx ∈ vs.votes.map (·.1) ∧ vs'.votes.map (·.1) = vs.votes.map (·.1) ∧ vs'.sum = vs.sum) ∨
  (idx ∉ vs.votes.map (·.1) ∧ vs'.votes.map (·.1) = vs.votes.map (·.1) ++ [idx] ∧ vs'.sum = vs.sum + c.power idx)

theorem VoteSet.Slotted.mem {c : Cfg} {idx : Nat} {vs vs' : VoteSet} (h : VoteSet.Slotted c idx vs vs') (v : Nat) :
    v ∈ vs'.votes.map (·.1) ↔ v ∈ vs.votes.map (·.1) ∨ v = idx := by
  rcases h with ⟨hi, e, _⟩ | ⟨_, e, _⟩ <;> rw [e]
  · exact ⟨Or.inl, fun h => h.elim id (· ▸ hi)⟩
  · rw [List.mem_append, List.mem_singleton]

/-- the part of `WF` that reads the slot list alone -/
theorem VoteSet.Slotted.keeps {c : Cfg} {idx : Nat} {vs vs' : VoteSet} (h : VoteSet.Slotted c idx vs vs')
    (hi : idx < c.n) (hn : (vs.votes.map (·.1)).Nodup) (hl : ∀ p ∈ vs.votes, p.1 < c.n)
    (hs : vs.sum = ((vs.votes.map (·.1)).map c.power).sum) :
    (vs'.votes.map (·.1)).Nodup ∧ (∀ p ∈ vs'.votes, p.1 < c.n) ∧
      vs'.sum = ((vs'.votes.map (·.1)).map c.power).sum := by
  have hl' : ∀ p ∈ vs'.votes, p.1 < c.n := by
    intro p hp
    rcases (h.mem p.1).1 (List.mem_map_of_mem hp) with h1 | h1
    · obtain ⟨q, hq, e⟩ := List.mem_map.1 h1
      rw [← e]; exact hl q hq
    · rw [h1]; exact hi
  rcases h with ⟨_, e, es⟩ | ⟨hni, e, es⟩
  · exact ⟨e ▸ hn, hl', by rw [e, es]; exact hs⟩
  · refine ⟨e ▸ nodup_concat hn hni, hl', ?_⟩
    rw [e, es, List.map_append, List.sum_append, ← hs]; simp

theorem VoteSet.recordVote_slotted (c : Cfg) (vs : VoteSet) (idx : Nat) (key : Bid) :
    VoteSet.Slotted c idx vs (vs.recordVote c idx key) := by
  rcases VoteSet.recordVote_cases c vs idx key with ⟨hs, _, e⟩ | ⟨hs, _, e⟩ | ⟨hn, e⟩ <;> rw [e]
  · exact .inl ⟨(alookup_isSome_iff _ _).1 hs, rfl, rfl⟩
  · exact .inl ⟨(alookup_isSome_iff _ _).1 hs, aset_keys_some _ _ _ hs, rfl⟩
  · exact .inr ⟨(alookup_none_iff _ _).1 hn, aset_keys_none _ _ _ hn, rfl⟩

/-- `finish` changes the slots only when a bucket crosses the quorum, and then only the values of slots that exist:
its members have slots (`hslot`), and so has `idx` after `recordVote` -/
theorem VoteSet.addVerified_slotted (c : Cfg) (vs : VoteSet) (idx : Nat) (key : Bid)
    (hslot : ∀ v, vs.has key v → v ∈ vs.votes.map (·.1)) :
    VoteSet.Slotted c idx vs (vs.addVerified c idx key).1 := by
  have hr := VoteSet.recordVote_slotted c vs idx key
  rw [VoteSet.addVerified_eq]
  split
  · exact hr
  · obtain ⟨_, hs, hvt⟩ := VoteSet.finish_cases c (vs.recordVote c idx key) idx key (vs.bucket key)
    have hk : (VoteSet.finish c (vs.recordVote c idx key) idx key (vs.bucket key)).1.votes.map (·.1) =
        (vs.recordVote c idx key).votes.map (·.1) := by
      rcases hvt with ⟨_, hv, _⟩ | ⟨_, _, _, _, hv⟩ <;> rw [hv]
      refine foldl_aset_keys _ key _ fun i hi => ?_
      rw [BlockVotes.mem_add, ← VoteSet.has_iff] at hi
      rw [alookup_isSome_iff, hr.mem]
      exact hi.imp_left (hslot i)
    unfold VoteSet.Slotted
    rw [hk, hs]
    exact hr

theorem VoteSet.addVerified_new (c : Cfg) (vs : VoteSet) (idx : Nat) (key : Bid) (h : alookup vs.votes idx = none) :
    (vs.addVerified c idx key).2 = true := by
  rw [VoteSet.addVerified_eq, if_neg (fun x => by rw [h] at x; cases x.1)]
  rfl

/-- the recorded votes after `addVerified`: those there were, and the new one if it was added -/
theorem VoteSet.addVerified_has (c : Cfg) (vs : VoteSet) (idx : Nat) (key : Bid) (k : Bid) (u : Nat) :
    (vs.addVerified c idx key).1.has k u ↔
      vs.has k u ∨ ((vs.addVerified c idx key).2 = true ∧ k = key ∧ u = idx) := by
  have eb := (VoteSet.recordVote_fields c vs idx key).2
  rw [VoteSet.has_iff, VoteSet.has_iff, VoteSet.addVerified_eq]
  split
  · rw [VoteSet.bucket_congr eb]
    exact ⟨Or.inl, fun h => h.elim id fun h => nomatch h.1⟩
  · rw [VoteSet.bucket_aset (VoteSet.finish_cases ..).1, VoteSet.bucket_congr eb]
    by_cases e : k = key
    · subst e
      rw [if_pos rfl, BlockVotes.mem_add]
      exact ⟨Or.imp_right fun h => ⟨rfl, rfl, h⟩, Or.imp_right fun h => h.2.2⟩
    · rw [if_neg e]
      exact ⟨Or.inl, fun h => h.elim id fun h => absurd h.2.1 e⟩

theorem VoteSet.finish_cross (c : Cfg) (vs : VoteSet) (idx : Nat) (key : Bid)
    (hc : ∀ k, c.quorum ≤ vs.blockSum k → vs.maj23.isSome = true) (k : Bid)
    (hk : c.quorum ≤ (VoteSet.finish c vs idx key (vs.bucket key)).1.blockSum k) :
    (VoteSet.finish c vs idx key (vs.bucket key)).1.maj23.isSome = true := by
  obtain ⟨eb, _, hcs⟩ := VoteSet.finish_cases c vs idx key (vs.bucket key)
  rw [VoteSet.blockSum_eq, VoteSet.bucket_aset eb] at hk
  rcases hcs with ⟨em, _, hn⟩ | ⟨_, _, _, em, _⟩ <;> rw [em]
  · by_cases e : k = key
    · rw [if_pos e] at hk
      by_cases ho : c.quorum ≤ (vs.bucket key).sum
      · exact hc key (by rw [VoteSet.blockSum_eq]; exact ho)
      · cases hm : vs.maj23 with
        | some x => rfl
        | none => exact absurd ⟨Nat.lt_of_not_le ho, hk, hm⟩ hn
    · rw [if_neg e, ← VoteSet.blockSum_eq] at hk; exact hc k hk
  · rfl

theorem VoteSet.addVerified_cross (c : Cfg) (vs : VoteSet) (idx : Nat) (key : Bid)
    (hc : ∀ k, c.quorum ≤ vs.blockSum k → vs.maj23.isSome = true) (k : Bid)
    (hk : c.quorum ≤ (vs.addVerified c idx key).1.blockSum k) : (vs.addVerified c idx key).1.maj23.isSome = true := by
  obtain ⟨em, eb⟩ := VoteSet.recordVote_fields c vs idx key
  have hc1 : ∀ k, c.quorum ≤ (vs.recordVote c idx key).blockSum k →
      (vs.recordVote c idx key).maj23.isSome = true := by
    intro k
    rw [em, VoteSet.blockSum_eq, VoteSet.bucket_congr eb, ← VoteSet.blockSum_eq]
    exact hc k
  rw [VoteSet.addVerified_eq] at hk ⊢
  by_cases hcnd : (alookup vs.votes idx).isSome = true ∧ (vs.bucket key).peerMaj23 = false
  · rw [if_pos hcnd] at hk ⊢
    exact hc1 k hk
  · rw [if_neg hcnd, ← VoteSet.bucket_congr eb key] at hk ⊢
    exact VoteSet.finish_cross c _ idx key hc1 k hk

theorem VoteSet.addVote_has (c : Cfg) (vs : VoteSet) (v : Vote) (k : Bid) (u : Nat) :
    ((vs.addVote c v).1.has k u → vs.has k u ∨ (k = v.bid ∧ u = v.val)) ∧
    (vs.has k u → (vs.addVote c v).1.has k u) := by
  rcases VoteSet.addVote_cases c vs v with e | ⟨_, _, _, _, _, e⟩ <;> rw [e]
  · exact ⟨Or.inl, id⟩
  · rw [VoteSet.addVerified_has]
    exact ⟨Or.imp_right And.right, Or.inl⟩

theorem VoteSet.setPeerMaj23_bucket (vs : VoteSet) (peer : Peer) (key : Bid) (k : Bid) :
    ((vs.setPeerMaj23 peer key).blockSum k = vs.blockSum k) ∧
    (∀ u, (vs.setPeerMaj23 peer key).has k u ↔ vs.has k u) := by
  obtain ⟨e1, e2⟩ := VoteSet.bucket_setPeerMaj23 vs peer key k
  exact ⟨by rw [VoteSet.blockSum_eq, VoteSet.blockSum_eq, e2], fun u => by rw [VoteSet.has_iff, VoteSet.has_iff, e1]⟩

theorem VoteSet.empty_has (k : Bid) (u : Nat) : ¬ VoteSet.empty.has k u := by
  rw [VoteSet.has_iff]; exact List.not_mem_nil

theorem VoteSet.WF.empty (c : Cfg) : VoteSet.WF c VoteSet.empty := by
  refine ⟨MSv.empty c _, Qv.empty c, ?_, ?_, ?_, ?_, ?_, ?_⟩
  · intro k hk
    have : VoteSet.empty.blockSum k = 0 := by simp [VoteSet.blockSum, VoteSet.empty, alookup]
    rw [this] at hk
    unfold Cfg.quorum at hk; omega
  · simp [VoteSet.empty]
  · intro p hp; simp [VoteSet.empty] at hp
  · simp [VoteSet.empty]
  · intro k v h; exact absurd h (VoteSet.empty_has k v)
  · intro v k h; simp [VoteSet.empty, alookup] at h

theorem VoteSet.WF.addVote {c : Cfg} {vs : VoteSet} (h : vs.WF c) (v : Vote) : (vs.addVote c v).1.WF c := by
  have hm := VoteSet.addVote_MS c (fun _ _ => true) vs v h.ms (fun _ _ => rfl)
  have hq := VoteSet.addVote_Q c vs v h.q
  rcases VoteSet.addVote_cases c vs v with e | ⟨hlt, _, _, _, _, e⟩
  · rw [e]; exact h
  rw [e] at hm hq ⊢
  have hsl := VoteSet.addVerified_slotted c vs v.val v.bid fun u hu => (alookup_isSome_iff _ _).1 (h.slot _ u hu)
  have hhas := VoteSet.addVerified_has c vs v.val v.bid
  obtain ⟨hn, hl, hs⟩ := hsl.keeps hlt h.keys h.keysLt h.sum
  refine ⟨hm, hq, VoteSet.addVerified_cross c vs v.val v.bid h.cross, hn, hl, hs, ?_, ?_⟩
  · intro k u hu
    rw [alookup_isSome_iff, hsl.mem]
    exact ((hhas k u).1 hu).imp (fun h1 => (alookup_isSome_iff _ _).1 (h.slot k u h1)) (·.2.2)
  · intro u k hu
    -- who had a slot had a bucket; the validator whose slot is new has just been added to one
    cases hb : alookup vs.votes u with
    | some b =>
      obtain ⟨k', hk'⟩ := h.slotHas u b hb
      exact ⟨k', (hhas k' u).2 (.inl hk')⟩
    | none =>
      have e : u = v.val := ((hsl.mem u).1 ((alookup_isSome_iff _ _).1 (by rw [hu]; rfl))).resolve_left
        ((alookup_none_iff _ _).1 hb)
      subst e
      exact ⟨v.bid, (hhas _ _).2 (.inr ⟨VoteSet.addVerified_new c vs _ _ hb, rfl, rfl⟩)⟩

theorem VoteSet.WF.setPeerMaj23 {c : Cfg} {vs : VoteSet} (h : vs.WF c) (peer : Peer) (key : Bid) :
    (vs.setPeerMaj23 peer key).WF c := by
  obtain ⟨ev, es, em⟩ := VoteSet.setPeerMaj23_fields vs peer key
  have hb := VoteSet.setPeerMaj23_bucket vs peer key
  refine ⟨VoteSet.setPeerMaj23_MS c _ vs peer key h.ms, VoteSet.setPeerMaj23_Q c vs peer key h.q,
    ?_, ?_, ?_, ?_, ?_, ?_⟩
  · intro k hk
    rw [(hb k).1] at hk; rw [em]; exact h.cross k hk
  · rw [ev]; exact h.keys
  · rw [ev]; exact h.keysLt
  · rw [ev, es]; exact h.sum
  · intro k v hv
    rw [ev]; exact h.slot k v (((hb k).2 v).mp hv)
  · intro v k hv
    rw [ev] at hv
    obtain ⟨k', hk'⟩ := h.slotHas v k hv
    exact ⟨k', ((hb k').2 v).mpr hk'⟩

/-- recorded votes are never removed -/
theorem VoteSet.has_addVote {c : Cfg} {vs : VoteSet} {k : Bid} {u : Nat} (v : Vote) (h : vs.has k u) :
    (vs.addVote c v).1.has k u :=
  (VoteSet.addVote_has c vs v k u).2 h

theorem VoteSet.has_setPeerMaj23 {vs : VoteSet} {k : Bid} {u : Nat} (peer : Peer) (key : Bid) (h : vs.has k u) :
    (vs.setPeerMaj23 peer key).has k u :=
  ((VoteSet.setPeerMaj23_bucket vs peer key k).2 u).mpr h

/-- what `addVote` takes for a duplicate: the canonical vote of the validator, or a vote in the bucket of the value -/
theorem VoteSet.getVote_iff (vs : VoteSet) (idx : Nat) (key : Bid) :
    vs.getVote idx key = true ↔ alookup vs.votes idx = some key ∨ vs.has key idx := by
  unfold VoteSet.getVote VoteSet.has
  cases alookup vs.votes idx <;> cases alookup vs.byBlock key <;> simp

/-- **a well-signed vote of a validator with no conflicting vote in the set is recorded**: it is a
duplicate and the set stays as it is, or it is added -/
theorem VoteSet.addVote_dup_or_new {c : Cfg} {vs : VoteSet} (h : vs.WF c) (v : Vote) (hv : v.wellSigned c)
    (ho : vs.only v.bid v.val) :
    (vs.addVote c v = (vs, false) ∧ vs.has v.bid v.val) ∨
    ((vs.addVote c v).2 = true ∧ (vs.addVote c v).1.has v.bid v.val) := by
  obtain ⟨hlt, haddr, hsig, hsigner⟩ := hv
  unfold VoteSet.addVote
  rw [if_neg (Nat.not_le.2 hlt), if_neg (fun x => x haddr)]
  by_cases hhas : vs.has v.bid v.val
  · rw [if_pos ((VoteSet.getVote_iff ..).2 (.inr hhas))]
    exact .inl ⟨rfl, hhas⟩
  · -- a canonical slot would mean the vote is already in the bucket of `v.bid`
    have hnone : alookup vs.votes v.val = none := by
      cases hl : alookup vs.votes v.val with
      | none => rfl
      | some b =>
        obtain ⟨k', hk'⟩ := h.slotHas v.val b hl
        exact absurd (ho k' hk' ▸ hk') hhas
    have hget : ¬ vs.getVote v.val v.bid = true := fun hg =>
      ((VoteSet.getVote_iff ..).1 hg).elim (fun e => by rw [hnone] at e; cases e) hhas
    rw [if_neg hget]
    simp only [hsig, hsigner, decide_true, Bool.and_self, Bool.not_true, if_false, Bool.false_eq_true]
    have ha := VoteSet.addVerified_new c vs v.val v.bid hnone
    exact .inr ⟨ha, (VoteSet.addVerified_has ..).2 (.inr ⟨ha, rfl, rfl⟩)⟩

theorem VoteSet.addVote_records {c : Cfg} {vs : VoteSet} (h : vs.WF c) (v : Vote) (hv : v.wellSigned c)
    (ho : vs.only v.bid v.val) : (vs.addVote c v).1.has v.bid v.val := by
  rcases VoteSet.addVote_dup_or_new h v hv ho with ⟨e, hh⟩ | ⟨_, hh⟩
  · rw [e]; exact hh
  · exact hh

/-- a vote of another validator, or for the same value, keeps `only` -/
theorem VoteSet.only_addVote {c : Cfg} {vs : VoteSet} {key : Bid} {u : Nat} (v : Vote)
    (ho : vs.only key u) (hv : v.val ≠ u ∨ v.bid = key) : (vs.addVote c v).1.only key u := by
  intro k hk
  rcases (VoteSet.addVote_has c vs v k u).1 hk with h1 | ⟨h1, h2⟩
  · exact ho k h1
  · rcases hv with hv | hv
    · exact absurd h2.symm hv
    · rw [h1, hv]

theorem VoteSet.only_setPeerMaj23 {vs : VoteSet} {key : Bid} {u : Nat} (peer : Peer) (k : Bid)
    (ho : vs.only key u) : (vs.setPeerMaj23 peer k).only key u := by
  intro k' hk'
  exact ho k' (((VoteSet.setPeerMaj23_bucket vs peer k k').2 u).mp hk')

/-- the empty set: nobody has voted -/
theorem VoteSet.only_empty (key : Bid) (u : Nat) : VoteSet.empty.only key u :=
  fun k h => absurd h (VoteSet.empty_has k u)

/-- validators carrying the quorum that have no vote for anything but `b` (they need not be recorded
yet): no other value can hold the recorded majority — two sets of more than two thirds of the power meet
(`wtUpTo_inter`), and a common member of `Q` and of the majority bucket has voted for the majority value -/
theorem VoteSet.majority_unique {c : Cfg} {vs : VoteSet} (h : vs.WF c) (b : Bid) (Q : List Nat)
    (hn : Q.Nodup) (hq : ∀ v ∈ Q, v < c.n ∧ vs.only b v)
    (hp : c.quorum ≤ (Q.map c.power).sum) (k : Bid) (hm : vs.maj23 = some k) : k = b := by
  have hqk := h.q k hm
  rw [VoteSet.blockSum_eq] at hqk
  obtain ⟨hknd, hksum, hklt⟩ := h.ms.bucket k
  have h1 := sum_le_wtUpTo c.power (fun v => Q.contains v) c.n Q hn
    (fun v hv => ⟨(hq v hv).1, by simpa using hv⟩)
  have h2 := sum_le_wtUpTo c.power (fun v => (vs.bucket k).voted.contains v) c.n _ hknd
    (fun v hv => ⟨(hklt v hv).1, by simpa using hv⟩)
  have h3 := VoteLog.wtUpTo_inter c.power (fun v => Q.contains v) (fun v => (vs.bucket k).voted.contains v) c.n
  rw [← total_eq_wt] at h3
  obtain ⟨v, _, hv⟩ := VoteLog.wtUpTo_pos c.power (fun v => Q.contains v && (vs.bucket k).voted.contains v) c.n
    (by unfold Cfg.quorum at hp hqk; omega)
  simp only [Bool.and_eq_true, List.contains_iff_mem] at hv
  exact (hq v hv.1).2 k ((VoteSet.has_iff vs k v).2 hv.2)

/-- **votes of validators carrying the quorum, all recorded for `b` and for nothing else, give the
recorded majority `b`** — whatever else the set holds (votes of other validators for other values,
including a bucket that crossed nothing) and in whatever order everything arrived. -/
theorem VoteSet.quorum_majority {c : Cfg} {vs : VoteSet} (h : vs.WF c) (b : Bid) (Q : List Nat)
    (hn : Q.Nodup) (hq : ∀ v ∈ Q, v < c.n ∧ vs.has b v ∧ vs.only b v)
    (hp : c.quorum ≤ (Q.map c.power).sum) : vs.maj23 = some b := by
  have hq1 : 1 ≤ c.quorum := by unfold Cfg.quorum; omega
  have ⟨a, ha⟩ : ∃ a, a ∈ Q := by
    cases Q with
    | nil => simp at hp; omega
    | cons a _ => exact ⟨a, List.mem_cons_self ..⟩
  obtain ⟨_, ⟨bvb, hbb, _⟩, _⟩ := hq a ha
  have hsub : ∀ v ∈ Q, v ∈ bvb.voted := by
    intro v hv
    obtain ⟨_, ⟨bv, hb, hm⟩, _⟩ := hq v hv
    rw [hbb] at hb; cases hb; exact hm
  obtain ⟨_, hbsum, _⟩ := h.ms b bvb hbb
  have hge : c.quorum ≤ vs.blockSum b := by
    unfold VoteSet.blockSum; rw [hbb]
    show c.quorum ≤ bvb.sum
    rw [hbsum]
    exact Nat.le_trans hp (sum_map_le_of_subset c.power Q bvb.voted hn hsub)
  have hsome := h.cross b hge
  cases hm : vs.maj23 with
  | none => rw [hm] at hsome; cases hsome
  | some k =>
    rw [VoteSet.majority_unique h b Q hn (fun v hv => ⟨(hq v hv).1, (hq v hv).2.2⟩) hp k hm]

/-- **recorded votes (for anything) of validators carrying more than 2/3 of the power give
`hasTwoThirdsAny`** -/
theorem VoteSet.any_of_members {c : Cfg} {vs : VoteSet} (h : vs.WF c) (R : List Nat)
    (hn : R.Nodup) (hr : ∀ v ∈ R, v < c.n ∧ ∃ k, vs.has k v)
    (hp : c.total * 2 / 3 < (R.map c.power).sum) : vs.hasTwoThirdsAny c = true := by
  have hsub : ∀ v ∈ R, v ∈ vs.votes.map (·.1) := by
    intro v hv
    obtain ⟨_, k, hk⟩ := hr v hv
    exact (alookup_isSome_iff _ _).mp (h.slot k v hk)
  have hle := sum_map_le_of_subset c.power R _ hn hsub
  rw [← h.sum] at hle
  unfold VoteSet.hasTwoThirdsAny
  simp only [gt_iff_lt, decide_eq_true_eq]
  omega

end Tmv.Cons
