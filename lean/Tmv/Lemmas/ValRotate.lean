import Tmv.Lemmas.ValSetWF
/-! Rotation arithmetic for C08: under `total ≤ MaxTotalVotingPower` and bounded priorities no
clamp (`safeAddClip/safeSubClip`) and no int64 wrap is ever taken; rescaling brings the spread
into the window `2·total`; centring and rotation keep the sum of priorities in `[0, n)`. -/
namespace Tmv.ValSet

theorem tdiv_spread (a b r D : Int) (hr : 1 ≤ r) (hD : 0 ≤ D) (hab : a - b ≤ r * D) :
    Int.tdiv a r - Int.tdiv b r ≤ D := by
  have hr0 : 0 < r := by omega
  have ea := Int.mul_tdiv_add_tmod a r
  have eb := Int.mul_tdiv_add_tmod b r
  apply Classical.byContradiction
  intro hcon
  have hk : D + 1 ≤ Int.tdiv a r - Int.tdiv b r := by omega
  have hmul := Int.mul_le_mul_of_nonneg_left hk (by omega : (0:Int) ≤ r)
  rw [Int.mul_sub, Int.mul_add, Int.mul_one] at hmul
  have ha1 : Int.tmod a r < r := Int.tmod_lt_of_pos a hr0
  have hb1 : Int.tmod b r < r := Int.tmod_lt_of_pos b hr0
  have ha2 : -r < Int.tmod a r := by
    have := Int.tmod_lt_of_pos (-a) hr0
    rw [Int.neg_tmod] at this; omega
  have hb2 : -r < Int.tmod b r := by
    have := Int.tmod_lt_of_pos (-b) hr0
    rw [Int.neg_tmod] at this; omega
  -- rb - ra ≥ r
  have hrr : r ≤ Int.tmod b r - Int.tmod a r := by omega
  have hbpos : 0 < Int.tmod b r := by omega
  have haneg : Int.tmod a r < 0 := by omega
  have hb0 : 0 < b := by
    apply Classical.byContradiction; intro h
    have : Int.tmod b r ≤ 0 := by
      have := Int.tmod_nonneg r (by omega : 0 ≤ -b)
      rw [Int.neg_tmod] at this; omega
    omega
  have ha0 : a < 0 := by
    apply Classical.byContradiction; intro h
    have := Int.tmod_nonneg r (by omega : 0 ≤ a)
    omega
  have hqb : 0 ≤ Int.tdiv b r := Int.tdiv_nonneg (by omega) (by omega)
  have hqa : Int.tdiv a r ≤ 0 := by
    have := Int.tdiv_nonneg (by omega : 0 ≤ -a) (by omega : 0 ≤ r)
    rw [Int.neg_tdiv] at this; omega
  omega

theorem wrap64_id (x : Int) (h1 : -9223372036854775808 ≤ x) (h2 : x ≤ 9223372036854775807) :
    wrap64 x = x := by
  unfold wrap64; omega

theorem tdiv_between (a r lo hi : Int) (hr : 1 ≤ r) (hlo : lo ≤ 0) (hhi : 0 ≤ hi)
    (h1 : lo ≤ a) (h2 : a ≤ hi) : lo ≤ Int.tdiv a r ∧ Int.tdiv a r ≤ hi := by
  have hr0 : 0 < r := by omega
  have ea := Int.mul_tdiv_add_tmod a r
  by_cases ha : 0 ≤ a
  · have q0 : 0 ≤ Int.tdiv a r := Int.tdiv_nonneg ha (by omega)
    have r0 := Int.tmod_nonneg r ha
    have : Int.tdiv a r ≤ r * Int.tdiv a r := by
      have := Int.mul_le_mul_of_nonneg_right hr q0
      rw [Int.one_mul] at this; exact this
    omega
  · have hna : 0 ≤ -a := by omega
    have q0 : 0 ≤ Int.tdiv (-a) r := Int.tdiv_nonneg hna (by omega)
    have r0 := Int.tmod_nonneg r hna
    rw [Int.neg_tdiv] at q0
    rw [Int.neg_tmod] at r0
    have : -(Int.tdiv a r) ≤ r * -(Int.tdiv a r) := by
      have := Int.mul_le_mul_of_nonneg_right hr q0
      rw [Int.one_mul] at this; exact this
    rw [Int.mul_neg] at this
    omega

theorem maxPrioFrom_ge (l : List Val) (m : Int) :
    m ≤ maxPrioFrom m l ∧ ∀ v ∈ l, v.prio ≤ maxPrioFrom m l := by
  induction l generalizing m with
  | nil => simp [maxPrioFrom]
  | cons v r ih =>
    unfold maxPrioFrom
    have hm : m ≤ (if v.prio > m then v.prio else m) ∧ v.prio ≤ (if v.prio > m then v.prio else m) := by
      split <;> omega
    generalize (if v.prio > m then v.prio else m) = m' at hm ⊢
    obtain ⟨h1, h2⟩ := ih m'
    refine ⟨by omega, fun w hw => ?_⟩
    rcases List.mem_cons.mp hw with e | hw'
    · rw [e]; omega
    · exact h2 w hw'

theorem maxPrioFrom_le (l : List Val) (m hi : Int) (hm : m ≤ hi) (hl : ∀ v ∈ l, v.prio ≤ hi) :
    maxPrioFrom m l ≤ hi := by
  induction l generalizing m with
  | nil => simpa [maxPrioFrom] using hm
  | cons v r ih =>
    unfold maxPrioFrom
    apply ih
    · have := hl v List.mem_cons_self; split <;> omega
    · intro w hw; exact hl w (List.mem_cons_of_mem _ hw)

theorem minPrioFrom_le (l : List Val) (m : Int) :
    minPrioFrom m l ≤ m ∧ ∀ v ∈ l, minPrioFrom m l ≤ v.prio := by
  induction l generalizing m with
  | nil => simp [minPrioFrom]
  | cons v r ih =>
    unfold minPrioFrom
    have hm : (if v.prio < m then v.prio else m) ≤ m ∧ (if v.prio < m then v.prio else m) ≤ v.prio := by
      split <;> omega
    generalize (if v.prio < m then v.prio else m) = m' at hm ⊢
    obtain ⟨h1, h2⟩ := ih m'
    refine ⟨by omega, fun w hw => ?_⟩
    rcases List.mem_cons.mp hw with e | hw'
    · rw [e]; omega
    · exact h2 w hw'

theorem minPrioFrom_ge (l : List Val) (m lo : Int) (hm : lo ≤ m) (hl : ∀ v ∈ l, lo ≤ v.prio) :
    lo ≤ minPrioFrom m l := by
  induction l generalizing m with
  | nil => simpa [minPrioFrom] using hm
  | cons v r ih =>
    unfold minPrioFrom
    apply ih
    · have := hl v List.mem_cons_self; split <;> omega
    · intro w hw; exact hl w (List.mem_cons_of_mem _ hw)

def PBound (P : Int) (l : List Val) : Prop := ∀ v ∈ l, -P ≤ v.prio ∧ v.prio ≤ P
def Spread (D : Int) (l : List Val) : Prop := ∀ v ∈ l, ∀ w ∈ l, v.prio - w.prio ≤ D

/-- `computeMaxMinPriorityDiff` does not wrap and bounds every pairwise difference -/
theorem prioDiff_spec (l : List Val) (P : Int) (hne : l ≠ []) (hP : 0 ≤ P)
    (hP2 : 2 * P ≤ maxI64) (hb : PBound P l) :
    0 ≤ prioDiff l ∧ prioDiff l ≤ 2 * P ∧ Spread (prioDiff l) l ∧
    prioDiff l = maxPrioFrom minI64 l - minPrioFrom maxI64 l := by
  unfold maxI64 at hP2
  obtain ⟨v0, hv0⟩ := List.exists_mem_of_ne_nil l hne
  have hmx1 := maxPrioFrom_ge l minI64
  have hmx2 := maxPrioFrom_le l minI64 P (by unfold minI64; omega) (fun v hv => (hb v hv).2)
  have hmn1 := minPrioFrom_le l maxI64
  have hmn2 := minPrioFrom_ge l maxI64 (-P) (by unfold maxI64; omega) (fun v hv => (hb v hv).1)
  have h0a := hmx1.2 v0 hv0
  have h0b := hmn1.2 v0 hv0
  have hd : prioDiff l = maxPrioFrom minI64 l - minPrioFrom maxI64 l := by
    unfold prioDiff
    simp only
    rw [wrap64_id _ (by omega) (by omega)]
    split
    · omega
    · rfl
  refine ⟨by omega, by omega, ?_, hd⟩
  intro v hv w hw
  have := hmx1.2 v hv
  have := hmn1.2 w hw
  omega

theorem mem_map_setPrio {l : List Val} {f : Val → Int} {x : Val}
    (hx : x ∈ l.map (fun v => setPrio v (f v))) : ∃ v ∈ l, x = setPrio v (f v) := by
  obtain ⟨v, hv, e⟩ := List.mem_map.mp hx
  exact ⟨v, hv, e.symm⟩

/-- the ratio of `RescalePriorities` is the ceiling of `D / W`: at least one, and `r` windows cover `D` -/
theorem ceilDiv_spec {D W : Int} (hW : 0 < W) (hD : W < D) :
    1 ≤ (D + W - 1) / W ∧ D ≤ (D + W - 1) / W * W := by
  have e1 := Int.mul_ediv_add_emod (D + W - 1) W
  have e2 := Int.emod_lt_of_pos (D + W - 1) hW
  refine ⟨Int.le_ediv_of_mul_le hW (by omega), ?_⟩
  rw [Int.mul_comm]; omega

/-- `RescalePriorities(2·T)`: afterwards the spread is within the window, bounds are kept -/
theorem rescale_spec (l : List Val) (P T : Int) (hne : l ≠ []) (hP : 0 ≤ P) (hT : 0 < T)
    (hPT : 2 * P + 2 * T ≤ maxI64) (hb : PBound P l) :
    PBound P (rescale l (2 * T)) ∧ Spread (2 * T) (rescale l (2 * T)) := by
  obtain ⟨d0, d1, d2, _⟩ := prioDiff_spec l P hne hP (by omega) hb
  unfold maxI64 at hPT
  unfold rescale
  have hdm : ¬ 2 * T ≤ 0 := by omega
  simp only [hdm, if_false]
  by_cases hgt : prioDiff l > 2 * T
  · simp only [hgt, if_true]
    rw [wrap64_id (prioDiff l + 2 * T) (by omega) (by omega),
      wrap64_id (prioDiff l + 2 * T - 1) (by omega) (by omega),
      Int.tdiv_eq_ediv_of_nonneg (by omega)]
    obtain ⟨hr1, hcov⟩ := ceilDiv_spec (by omega : 0 < 2 * T) hgt
    generalize (prioDiff l + 2 * T - 1) / (2 * T) = r at hr1 hcov
    constructor
    · intro x hx
      obtain ⟨v, hv, e⟩ := mem_map_setPrio hx
      rw [e]; simp only [setPrio]
      have := hb v hv
      exact tdiv_between v.prio r (-P) P hr1 (by omega) hP this.1 this.2
    · intro x hx y hy
      obtain ⟨v, hv, e⟩ := mem_map_setPrio hx
      obtain ⟨w, hw, e'⟩ := mem_map_setPrio hy
      rw [e, e']; simp only [setPrio]
      exact tdiv_spread _ _ r (2 * T) hr1 (by omega) (Int.le_trans (d2 v hv w hw) hcov)
  · simp only [hgt, if_false]
    refine ⟨hb, ?_⟩
    intro v hv w hw
    have := d2 v hv w hw; omega

theorem prioSum_ge (l : List Val) (lo : Int) (h : ∀ v ∈ l, lo ≤ v.prio) :
    lo * (l.length : Int) ≤ prioSum l := by
  induction l with
  | nil => simp [prioSum]
  | cons v r ih =>
    have hv := h v List.mem_cons_self
    have := ih (fun w hw => h w (List.mem_cons_of_mem _ hw))
    simp only [prioSum, List.length_cons, Int.natCast_succ, Int.mul_add, Int.mul_one]
    omega

theorem prioSum_le (l : List Val) (hi : Int) (h : ∀ v ∈ l, v.prio ≤ hi) :
    prioSum l ≤ hi * (l.length : Int) := by
  induction l with
  | nil => simp [prioSum]
  | cons v r ih =>
    have hv := h v List.mem_cons_self
    have := ih (fun w hw => h w (List.mem_cons_of_mem _ hw))
    simp only [prioSum, List.length_cons, Int.natCast_succ, Int.mul_add, Int.mul_one]
    omega

theorem natCast_length_pos {l : List Val} (hne : l ≠ []) : 0 < (l.length : Int) :=
  Int.natCast_pos.mpr (List.length_pos_iff.mpr hne)

theorem avgPrio_bounds (l : List Val) (lo hi : Int) (hne : l ≠ [])
    (h : ∀ v ∈ l, lo ≤ v.prio ∧ v.prio ≤ hi) : lo ≤ avgPrio l ∧ avgPrio l ≤ hi := by
  have hn := natCast_length_pos hne
  unfold avgPrio
  exact ⟨Int.le_ediv_of_mul_le hn (prioSum_ge l lo fun v hv => (h v hv).1),
    Int.ediv_le_of_le_mul hn (prioSum_le l hi fun v hv => (h v hv).2)⟩

theorem prioSum_map_sub (l : List Val) (a : Int) :
    prioSum (l.map (fun v => setPrio v (v.prio - a))) = prioSum l - a * (l.length : Int) := by
  induction l with
  | nil => simp [prioSum]
  | cons v r ih =>
    simp only [List.map_cons, prioSum, List.length_cons, Int.natCast_succ, Int.mul_add,
      Int.mul_one]
    rw [ih]
    simp only [setPrio]
    omega

/-- what centring (subtracting the floor-average) leaves, and a rotation keeps -/
def Centred (l : List Val) : Prop := 0 ≤ prioSum l ∧ prioSum l < (l.length : Int)

theorem Centred.avg {l : List Val} (h : Centred l) : avgPrio l = 0 :=
  Int.ediv_eq_zero_of_lt h.1 h.2

/-- `shiftByAvgProposerPriority` never clamps, leaves everybody within the spread and the sum
of priorities in `[0, n)` -/
theorem shift_spec (l : List Val) (P D : Int) (hne : l ≠ []) (hP : 0 ≤ P)
    (hP2 : 2 * P ≤ maxI64) (hb : PBound P l) (hs : Spread D l) :
    shiftByAvg l = l.map (fun v => setPrio v (v.prio - avgPrio l)) ∧
    PBound D (shiftByAvg l) ∧
    0 ≤ prioSum (shiftByAvg l) ∧ prioSum (shiftByAvg l) < (l.length : Int) := by
  unfold maxI64 at hP2
  have hn := natCast_length_pos hne
  obtain ⟨a1, a2⟩ := avgPrio_bounds l (-P) P hne hb
  have heq : shiftByAvg l = l.map (fun v => setPrio v (v.prio - avgPrio l)) := by
    unfold shiftByAvg
    simp only
    apply List.map_congr_left
    intro v hv
    have := hb v hv
    congr 1
    exact safeSubClip_eq (by omega) (by omega)
  refine ⟨heq, ?_, ?_⟩
  · rw [heq]
    intro x hx
    obtain ⟨v, hv, e⟩ := mem_map_setPrio hx
    rw [e]; simp only [setPrio]
    -- the average lies within D of v
    obtain ⟨b1, b2⟩ := avgPrio_bounds l (v.prio - D) (v.prio + D) hne (by
      intro w hw
      have := hs v hv w hw
      have := hs w hw v hv
      omega)
    omega
  · rw [heq, prioSum_map_sub]
    unfold avgPrio
    have e1 := Int.mul_ediv_add_emod (prioSum l) (l.length : Int)
    have e2 := Int.emod_lt_of_pos (prioSum l) hn
    have e3 := Int.emod_nonneg (prioSum l) (by omega : (l.length : Int) ≠ 0)
    rw [Int.mul_comm] at e1
    omega

theorem cmpPrio_some (y v : Val) :
    (cmpPrio (some y) v = y ∧ v.prio ≤ y.prio) ∨ (cmpPrio (some y) v = v ∧ y.prio ≤ v.prio) := by
  unfold cmpPrio
  simp only
  by_cases h1 : y.prio > v.prio
  · rw [if_pos h1]; exact .inl ⟨rfl, by omega⟩
  rw [if_neg h1]
  by_cases h2 : y.prio < v.prio
  · rw [if_pos h2]; exact .inr ⟨rfl, by omega⟩
  rw [if_neg h2]
  by_cases h3 : y.addr < v.addr
  · rw [if_pos h3]; exact .inl ⟨rfl, by omega⟩
  rw [if_neg h3]
  by_cases h4 : y.addr > v.addr
  · rw [if_pos h4]; exact .inr ⟨rfl, by omega⟩
  · rw [if_neg h4]; exact .inl ⟨rfl, by omega⟩

theorem mostFrom_spec (l : List Val) (res : Option Val) (m : Val) (h : mostFrom res l = some m) :
    (m ∈ l ∨ res = some m) ∧ (∀ v ∈ l, v.prio ≤ m.prio) ∧ ∀ x, res = some x → x.prio ≤ m.prio := by
  induction l generalizing res with
  | nil =>
    simp only [mostFrom] at h
    exact ⟨.inr h, fun v hv => (by cases hv), fun x hx => by rw [h] at hx; cases hx; exact Int.le_refl _⟩
  | cons v r ih =>
    unfold mostFrom at h
    obtain ⟨i1, i2, i3⟩ := ih _ h
    have hm := i3 _ rfl
    have hc : (cmpPrio res v = v ∨ res = some (cmpPrio res v)) ∧ v.prio ≤ (cmpPrio res v).prio ∧
        ∀ x, res = some x → x.prio ≤ (cmpPrio res v).prio := by
      cases res with
      | none => exact ⟨.inl rfl, Int.le_refl _, fun x hx => by cases hx⟩
      | some y =>
        rcases cmpPrio_some y v with ⟨e, h⟩ | ⟨e, h⟩
        · rw [e]; exact ⟨.inr rfl, h, fun x hx => by cases hx; exact Int.le_refl _⟩
        · rw [e]; exact ⟨.inl rfl, Int.le_refl _, fun x hx => by cases hx; exact h⟩
    refine ⟨?_, fun w hw => ?_, fun x hx => Int.le_trans (hc.2.2 x hx) hm⟩
    · rcases i1 with h1 | h1
      · exact .inl (List.mem_cons_of_mem _ h1)
      · rcases hc.1 with e | e
        · rw [e] at h1; cases h1; exact .inl List.mem_cons_self
        · exact .inr (e.trans h1)
    · rcases List.mem_cons.mp hw with rfl | hw'
      · exact Int.le_trans hc.2.1 hm
      · exact i2 w hw'

theorem mostPrio_spec {l : List Val} (hne : l ≠ []) :
    ∃ m ∈ l, mostPrio l = some m ∧ ∀ v ∈ l, v.prio ≤ m.prio := by
  cases l with
  | nil => exact absurd rfl hne
  | cons v r =>
    have hsome : ∀ (r : List Val) (x : Val), ∃ m, mostFrom (some x) r = some m := by
      intro r
      induction r with
      | nil => exact fun x => ⟨x, rfl⟩
      | cons w t ih => exact fun x => ih _
    obtain ⟨m, hm⟩ := hsome r (cmpPrio none v)
    obtain ⟨h1, h2, _⟩ := mostFrom_spec (v :: r) none m hm
    exact ⟨m, h1.resolve_right (fun e => by cases e), hm, h2⟩

theorem prioSum_map_add (l : List Val) :
    prioSum (l.map (fun v => setPrio v (v.prio + v.power))) = prioSum l + sumPower l := by
  induction l with
  | nil => simp [prioSum, sumPower]
  | cons v r ih =>
    simp only [List.map_cons, prioSum, sumPower, List.sum_cons]
    rw [ih]
    simp only [setPrio, sumPower]
    omega

/-- the closed form of one rotation in which `m` proposes -/
def rotate (l : List Val) (m : Val) (T : Int) : List Val :=
  l.map (fun v => setPrio v (v.prio + v.power - (if v.addr = m.addr then T else 0)))

theorem rotate_sameAP (l : List Val) (m : Val) (T : Int) : SameAP (rotate l m T) l :=
  sameAP_map_setPrio l _

theorem mem_rotate_self {l : List Val} {m : Val} (T : Int) (hm : m ∈ l) :
    setPrio m (m.prio + m.power - T) ∈ rotate l m T :=
  List.mem_map.mpr ⟨m, hm, by rw [if_pos rfl]⟩

theorem prioSum_rotate (l : List Val) (m : Val) (T : Int) (hnd : (l.map (·.addr)).Nodup) :
    prioSum (rotate l m T) =
      prioSum l + sumPower l - (if m.addr ∈ l.map (·.addr) then T else 0) := by
  induction l with
  | nil => rfl
  | cons v r ih =>
    rw [List.map_cons, List.nodup_cons] at hnd
    have := ih hnd.2
    simp only [rotate, List.map_cons, prioSum, sumPower, List.sum_cons, setPrio, List.mem_cons] at this ⊢
    rw [this]
    by_cases hv : v.addr = m.addr
    · have hm : m.addr ∉ r.map (·.addr) := hv ▸ hnd.1
      simp only [hv, hm, if_true, if_false, true_or] at *
      omega
    · have hv' : ¬ m.addr = v.addr := fun e => hv e.symm
      simp only [hv, hv', if_false, false_or]
      omega

theorem rotate_bound {l : List Val} {T B : Int} (m : Val) (hT : 0 ≤ T)
    (hpow : ∀ v ∈ l, 0 ≤ v.power ∧ v.power ≤ T) (hb : PBound B l) : PBound (B + T) (rotate l m T) := by
  intro x hx
  obtain ⟨v, hv, rfl⟩ := mem_map_setPrio hx
  have := hb v hv; have := hpow v hv
  simp only [setPrio]
  split <;> omega

/-- the two passes of `incrementProposerPriority()` — everybody gains its power, then the entry with
the proposer's address is replaced — are `rotate` -/
theorem replace_eq_rotate (l : List Val) (m : Val) (T : Int) (hnd : (l.map (·.addr)).Nodup)
    (hm : m ∈ l) :
    (l.map (fun v => setPrio v (v.prio + v.power))).map
      (fun v => if v.addr = m.addr then setPrio m (m.prio + m.power - T) else v) = rotate l m T := by
  unfold rotate
  rw [List.map_map]
  apply List.map_congr_left
  intro v hv
  show (if v.addr = m.addr then _ else _) = _
  by_cases hvm : v.addr = m.addr
  · rw [eq_of_addr_eq l hnd v m hv hm hvm, if_pos rfl, if_pos rfl]
  · rw [if_neg hvm, if_neg hvm, Int.sub_zero]

/-- what one `incrementProposerPriority()` does when nothing clamps, in the form in which
`Props.C08.priorities_no_clip` states it; the proofs use `Rotated`, and `Rotated.incrOut` joins the two -/
structure IncrOut (l : List Val) (T : Int) (out : List Val × Option Val) : Prop where
  sameAP : SameAP out.1 l
  prop : ∃ p, out.2 = some p ∧ p ∈ out.1
  sum : prioSum out.1 = prioSum l + sumPower l - T
  exact : ∃ m, m ∈ l.map (fun v => setPrio v (v.prio + v.power)) ∧
    mostPrio (l.map (fun v => setPrio v (v.prio + v.power))) = some m ∧
    out.1 = (l.map (fun v => setPrio v (v.prio + v.power))).map
      (fun v => if v.addr = m.addr then setPrio m (m.prio - T) else v) ∧
    out.2 = some (setPrio m (m.prio - T))

theorem incrOnce_spec (l : List Val) (T B : Int) (hne : l ≠ []) (hnd : (l.map (·.addr)).Nodup)
    (hBT : B + T ≤ maxI64)
    (hpow : ∀ v ∈ l, 0 ≤ v.power ∧ v.power ≤ T) (hb : PBound B l) :
    ∃ m ∈ l,
      mostPrio (l.map (fun v => setPrio v (v.prio + v.power))) = some (setPrio m (m.prio + m.power)) ∧
      (∀ v ∈ l, v.prio + v.power ≤ m.prio + m.power) ∧
      incrOnce l T = (rotate l m T, some (setPrio m (m.prio + m.power - T))) := by
  unfold maxI64 at hBT
  have hl1 : l.map (fun v => setPrio v (safeAddClip v.prio v.power)) =
      l.map (fun v => setPrio v (v.prio + v.power)) := by
    apply List.map_congr_left
    intro v hv
    have := hb v hv; have := hpow v hv
    congr 1
    exact safeAddClip_eq (by omega) (by omega)
  obtain ⟨m1, hmem1, hm, hmax⟩ :=
    mostPrio_spec (l := l.map (fun v => setPrio v (v.prio + v.power))) (by simpa using hne)
  obtain ⟨m, hmem, rfl⟩ := mem_map_setPrio hmem1
  have := hb m hmem; have := hpow m hmem
  have hsub : safeSubClip (m.prio + m.power) T = m.prio + m.power - T :=
    safeSubClip_eq (by omega) (by omega)
  refine ⟨m, hmem, hm, fun v hv => hmax _ (List.mem_map.mpr ⟨v, hv, rfl⟩), ?_⟩
  unfold incrOnce
  simp only [hl1, hm]
  rw [← replace_eq_rotate l m T hnd hmem]
  simp only [setPrio, hsub]

theorem power_le_sum (l : List Val) (hp : ∀ v ∈ l, 0 ≤ v.power) : ∀ v ∈ l, v.power ≤ sumPower l := by
  induction l with
  | nil => intro v hv; cases hv
  | cons w r ih =>
    have hr : ∀ x ∈ r, 0 ≤ x.power := fun x hx => hp x (List.mem_cons_of_mem _ hx)
    have hrs : 0 ≤ sumPower r := sumPower_nonneg r hr
    intro v hv
    simp only [sumPower, List.map_cons, List.sum_cons]
    simp only [sumPower] at hrs
    rcases List.mem_cons.mp hv with e | hv'
    · rw [e]; omega
    · have h3 := ih hr v hv'
      have h4 := hp w List.mem_cons_self
      simp only [sumPower] at h3; omega

/-- the constant bound on priorities of reachable sets: `3 · MaxTotalVotingPower` -/
def prioCap : Int := 3458764513820540925

/-- what the normalisation prefix of `IncrementProposerPriority` (rescaling to the window `2·T`, then
centring) yields when no clamp or wrap is taken -/
structure Normalized (l : List Val) : Prop where
  eq : normalize l = shiftByAvg (rescale l (2 * sumPower l))
  centre : shiftByAvg (rescale l (2 * sumPower l)) =
    (rescale l (2 * sumPower l)).map
      (fun v => setPrio v (v.prio - avgPrio (rescale l (2 * sumPower l))))
  bound : PBound (2 * sumPower l) (normalize l)
  centred : Centred (normalize l)

/-- on a set with priorities within `prioCap` and total within `MaxTotalVotingPower` the spread is
at most `2·prioCap`, and `2·prioCap + 2·total ≤ 8·MaxTotalVotingPower ≤ MaxInt64` -/
theorem normalize_spec (l : List Val) (hne : l ≠ []) (hT1 : 0 < sumPower l)
    (hT2 : sumPower l ≤ 1152921504606846975) (htot : totalPower l = sumPower l)
    (hb : PBound prioCap l) : Normalized l := by
  have hcap : 0 ≤ prioCap ∧ 2 * prioCap + 2 * sumPower l ≤ maxI64 := by
    unfold prioCap maxI64; omega
  obtain ⟨r1, r2⟩ := rescale_spec l prioCap (sumPower l) hne hcap.1 hT1 hcap.2 hb
  have hrap := rescale_sameAP l (2 * sumPower l)
  obtain ⟨s1, s2, s3, s4⟩ := shift_spec _ prioCap (2 * sumPower l) (hrap.ne_nil hne) hcap.1
    (by omega) r1 r2
  have hnorm : normalize l = shiftByAvg (rescale l (2 * sumPower l)) := by
    unfold normalize; rw [windowFactor_eq, htot]
  rw [← hnorm] at s2 s3 s4
  exact ⟨hnorm, s1, s2, s3, by rw [(normalize_sameAP l).length, ← hrap.length]; exact s4⟩

theorem increment_one_eq (s : VSet) (hne : s.vals ≠ []) (htot : totalPower s.vals = sumPower s.vals) :
    increment s 1 = some ⟨(incrOnce (normalize s.vals) (sumPower s.vals)).1,
      (incrOnce (normalize s.vals) (sumPower s.vals)).2⟩ := by
  unfold increment
  have h1 : ¬ ((1 : Int) ≤ 0) := by omega
  have h2 : (1 : Int).toNat = 1 := rfl
  simp only [hne, if_false, h1, h2, htot, incrLoop]

theorem WF.arith {l : List Val} (h : WF l) :
    0 < sumPower l ∧ sumPower l ≤ 1152921504606846975 ∧ totalPower l = sumPower l ∧
    ∀ v ∈ l, 0 ≤ v.power ∧ v.power ≤ sumPower l := by
  have hpos : ∀ v ∈ l, 0 ≤ v.power := fun v hv => by have := h.pos v hv; omega
  exact ⟨h.total_pos, by have := h.total_le; rw [maxTotal_eq] at this; exact this, h.total_eq,
    fun v hv => ⟨hpos v hv, power_le_sum l hpos v hv⟩⟩

/-- "reachable" as a static over-approximation: well-formed, priorities within
`3·MaxTotalVotingPower`. Every set a chain holds satisfies it (`Props.C08.chain_reach`) and every
update and rotation keeps it; nothing says that a set satisfying it is produced by some history. -/
structure Reach (l : List Val) : Prop where
  wf : WF l
  bound : PBound prioCap l

theorem Reach.normalized {l : List Val} (hr : Reach l) : Normalized l := by
  obtain ⟨hT1, hT2, htot, _⟩ := hr.wf.arith
  exact normalize_spec l hr.wf.ne hT1 hT2 htot hr.bound

/-- `s'` is `s` after one rotation in which `m` proposes -/
structure Rotated (s s' : VSet) (m : Val) : Prop where
  mem : m ∈ normalize s.vals
  most : mostPrio ((normalize s.vals).map (fun v => setPrio v (v.prio + v.power))) =
    some (setPrio m (m.prio + m.power))
  vals : s'.vals = rotate (normalize s.vals) m (sumPower s.vals)
  proposer : s'.proposer = some (setPrio m (m.prio + m.power - sumPower s.vals))
  once : incrOnce (normalize s.vals) (sumPower s.vals) = (s'.vals, s'.proposer)
  reach : Reach s'.vals
  centred : Centred s'.vals
  total : sumPower s'.vals = sumPower s.vals
  bound : PBound (3 * sumPower s.vals) s'.vals

theorem Reach.step {s : VSet} (hr : Reach s.vals) :
    ∃ s' m, increment s 1 = some s' ∧ Rotated s s' m := by
  obtain ⟨hT1, hT2, htot, hpow⟩ := hr.wf.arith
  have hn := hr.normalized
  have hnap := normalize_sameAP s.vals
  have hnnd : ((normalize s.vals).map (·.addr)).Nodup := by rw [hnap.addrs]; exact hr.wf.nodup
  have hnpow : ∀ v ∈ normalize s.vals, 0 ≤ v.power ∧ v.power ≤ sumPower s.vals :=
    hnap.powers_of (P := fun p => 0 ≤ p ∧ p ≤ sumPower s.vals) hpow
  obtain ⟨m, hm, hmost, _, hout⟩ := incrOnce_spec (normalize s.vals) (sumPower s.vals)
    (2 * sumPower s.vals) (hnap.ne_nil hr.wf.ne) hnnd (by unfold maxI64; omega) hnpow hn.bound
  have hb3 : PBound (3 * sumPower s.vals) (rotate (normalize s.vals) m (sumPower s.vals)) := fun v hv => by
    have := rotate_bound m (by omega) hnpow hn.bound v hv; omega
  have hap := (rotate_sameAP (normalize s.vals) m (sumPower s.vals)).trans hnap
  refine ⟨⟨rotate (normalize s.vals) m (sumPower s.vals),
      some (setPrio m (m.prio + m.power - sumPower s.vals))⟩, m, ?_, hm, hmost, rfl, rfl, hout,
    ⟨WF.of_sameAP hap hr.wf, fun v hv => ?_⟩, ?_, hap.sumPower, hb3⟩
  · rw [increment_one_eq s hr.wf.ne htot, hout]
  · have := hb3 v hv; unfold prioCap; omega
  · -- the sum changes by `total − total`
    show 0 ≤ prioSum (rotate _ m _) ∧ prioSum (rotate _ m _) < ((rotate _ m _).length : Int)
    rw [prioSum_rotate _ _ _ hnnd, if_pos (List.mem_map.mpr ⟨m, hm, rfl⟩), hnap.sumPower,
      (rotate_sameAP _ _ _).length]
    exact ⟨by have := hn.centred.1; omega, by have := hn.centred.2; omega⟩

theorem Rotated.incrOut {s s' : VSet} {m : Val} (hr : Reach s.vals) (h : Rotated s s' m) :
    IncrOut (normalize s.vals) (sumPower s.vals) (incrOnce (normalize s.vals) (sumPower s.vals)) := by
  have hnnd : ((normalize s.vals).map (·.addr)).Nodup := by
    rw [(normalize_sameAP s.vals).addrs]; exact hr.wf.nodup
  rw [h.once, h.vals, h.proposer]
  exact ⟨rotate_sameAP _ _ _, ⟨_, rfl, mem_rotate_self _ h.mem⟩,
    by rw [prioSum_rotate _ _ _ hnnd, if_pos (List.mem_map.mpr ⟨m, h.mem, rfl⟩)],
    ⟨_, List.mem_map.mpr ⟨m, h.mem, rfl⟩, h.most, (replace_eq_rotate _ m _ hnnd h.mem).symm, rfl⟩⟩

end Tmv.ValSet
