import Tmv.Lemmas.LightReach
/-! The public calls of the client (`verifyLightBlock`, `VerifyLightBlockAtHeight`, `Update`,
`NewClient`): what each does to the trusted store. -/
namespace Tmv.Light

/-- what `verifyLightBlock` has established when it stores `new`; going backwards from the first
stored block it asks no provider to confirm -/
structure Accepted (c : Client) (new : LightBlock) (now : Int) : Prop where
  reach : ∃ t, Trusted c t ∧ Leads c.cfg t new
  confirmed : (∃ latest, c.latest = some latest ∧ new.height < latest.height ∧
    new.height < c.store.firstHeight) ∨ Confirmed c new.hash
  fresh : ∀ latest, c.latest = some latest → new.height ≥ latest.height →
    now < latest.time + c.cfg.period

theorem verifyLightBlock_spec {c : Client} {new : LightBlock} {now : Int} {c' : Client}
    {r : Except Err Unit} (e : verifyLightBlock c new now = (c', r)) :
    ∃ c1, Keeps c c1 ∧
      ((c' = c1 ∧ r ≠ .ok ()) ∨
       (c' = updateTrustedLightBlock c1 new ∧ r = .ok () ∧ Accepted c new now)) := by
  unfold verifyLightBlock at e
  split at e
  · obtain ⟨rfl, rfl⟩ := Prod.mk.inj e
    exact ⟨c, Keeps.refl c, Or.inl ⟨rfl, fun h => by cases h⟩⟩
  · rename_i latest hl
    simp only at e
    -- which trusted block the verification starts from, and by which procedure
    generalize hp : ite (new.height ≥ latest.height) _ _ = p at e
    obtain ⟨c1, r1⟩ := p
    have forward : ∀ t, Trusted c t → (new.height ≥ latest.height → t = latest) →
        (r1 = .ok () → Confirmed c new.hash ∧ now < t.time + c.cfg.period ∧ Leads c.cfg t new) →
        r1 = .ok () → Accepted c new now := by
      intro t ht hfw h hr
      obtain ⟨hw, hfresh, hreach⟩ := h hr
      refine ⟨⟨t, ht, hreach⟩, Or.inr hw, fun l' hl' hge => ?_⟩
      obtain rfl : latest = l' := Option.some.inj (hl.symm.trans hl')
      exact hfw hge ▸ hfresh
    have key : Keeps c c1 ∧ (r1 = .ok () → Accepted c new now) := by
      by_cases hge : new.height ≥ latest.height
      · rw [if_pos hge] at hp
        split at hp
        · have h := verifySequential_spec hp
          exact ⟨h.1, forward latest (Or.inr hl) (fun _ => rfl) h.2⟩
        · have h := verifySkippingAgainstPrimary_spec now latest _ _ _ _ _ hp
          exact ⟨h.1, forward latest (Or.inr hl) (fun _ => rfl) h.2⟩
      · rw [if_neg hge] at hp
        by_cases hlt : new.height < c.store.firstHeight
        · rw [if_pos hlt] at hp
          split at hp
          · obtain ⟨rfl, rfl⟩ := Prod.mk.inj hp
            exact ⟨Keeps.refl c, fun h => by cases h⟩
          · rename_i fb hfb
            have h := backwards_spec c.cfg _ _ _ _ _ _ hp
            refine ⟨h.1, fun hr => ?_⟩
            exact ⟨⟨fb, Or.inl (store_get_mem hfb), h.2 hr⟩,
              Or.inl ⟨latest, hl, by omega, hlt⟩, fun l' hl' hge' => by
                obtain rfl : latest = l' := Option.some.inj (hl.symm.trans hl'); exact absurd hge' hge⟩
        · rw [if_neg hlt] at hp
          split at hp
          · obtain ⟨rfl, rfl⟩ := Prod.mk.inj hp
            exact ⟨Keeps.refl c, fun h => by cases h⟩
          · rename_i cb hcb
            have hm : Trusted c cb := Or.inl (store_before_mem hcb)
            split at hp
            · have h := verifySequential_spec hp
              exact ⟨h.1, forward cb hm (fun h => absurd h hge) h.2⟩
            · have h := verifySkippingAgainstPrimary_spec now cb _ _ _ _ _ hp
              exact ⟨h.1, forward cb hm (fun h => absurd h hge) h.2⟩
    refine ⟨c1, key.1, ?_⟩
    simp only at e
    split at e
    · obtain ⟨rfl, rfl⟩ := Prod.mk.inj e
      exact Or.inl ⟨rfl, fun h => by cases h⟩
    · obtain ⟨rfl, rfl⟩ := Prod.mk.inj e
      exact Or.inr ⟨rfl, rfl, key.2 rfl⟩

/-- where a block trusted after a public call comes from; of the second case `Inv` uses `Leads`,
`CInv` uses `FromProv` -/
def Admits (c : Client) (b : LightBlock) : Prop :=
  Trusted c b ∨ (FromProv c b ∧ ∃ t, Trusted c t ∧ Leads c.cfg t b)

theorem Admits.of_keeps {c c1 : Client} {b : LightBlock} (hk : Keeps c c1) (h : Admits c1 b) :
    Admits c b := by
  rcases h with h | ⟨⟨p, hp, hs⟩, t, ht, hr⟩
  · exact Or.inl (h.of_same hk.same)
  · exact Or.inr ⟨⟨p, hk.provs p hp, hs⟩, t, ht.of_same hk.same, hk.same.1 ▸ hr⟩

/-- what a public call (`VerifyLightBlockAtHeight`, `Update`, `VerifyHeader`) does to the client, said
without reference to any invariant; `Inv.evolves` and `CInv.evolves` read their invariants off it -/
structure Evolves (c c' : Client) : Prop where
  cfg : c'.cfg = c.cfg
  provs : ∀ p, IsProv c' p → IsProv c p
  trusted : ∀ b, Trusted c' b → Admits c b

theorem Keeps.evolves {c c' : Client} (h : Keeps c c') : Evolves c c' :=
  ⟨h.same.1, h.provs, fun _ hb => Or.inl (hb.of_same h.same)⟩

theorem Evolves.of_keeps {c c1 c' : Client} (hk : Keeps c c1) (h : Evolves c1 c') : Evolves c c' :=
  ⟨h.cfg.trans hk.same.1, fun p hp => hk.provs p (h.provs p hp), fun b hb => (h.trusted b hb).of_keeps hk⟩

theorem Inv.admits {cfg : Config} {root : Hash → Prop} {c : Client} {b : LightBlock}
    (h : Inv cfg root c) (a : Admits c b) : Reach cfg root b := by
  rcases a with hb | ⟨_, t, ht, hr⟩
  · exact h.trusted hb
  · exact h.cfg_eq ▸ hr root (h.cfg_eq ▸ h.trusted ht)

theorem Inv.evolves {cfg : Config} {root : Hash → Prop} {c c' : Client} (h : Inv cfg root c)
    (e : Evolves c c') : Inv cfg root c' :=
  Inv.of_trusted (e.cfg.trans h.cfg_eq) fun b hb => h.admits (e.trusted b hb)

theorem fetch_verify_evolves {c c1 c' : Client} {height now : Int} {l : LightBlock} {r : Except Err Unit}
    (hl : lightBlockFromPrimary c height = (c1, .ok l)) (hv : verifyLightBlock c1 l now = (c', r)) :
    Evolves c c' ∧ (r = .ok () → Admits c l) := by
  obtain ⟨hk, hfrom⟩ := lightBlockFromPrimary_keeps hl
  obtain ⟨c2, hk2, ⟨rfl, hr⟩ | ⟨rfl, _, ha⟩⟩ := verifyLightBlock_spec hv
  · exact ⟨(hk.trans hk2).evolves, fun h => absurd h hr⟩
  · obtain ⟨t, ht, hreach⟩ := ha.reach
    have hadm : Admits c l := Or.inr ⟨hfrom l rfl, t, ht.of_same hk.same, hk.same.1 ▸ hreach⟩
    have hk' := hk.trans hk2
    exact ⟨⟨hk'.same.1, hk'.provs, fun b hb => (updateTrusted_trusted hb).elim (fun h => h ▸ hadm)
      fun h => Or.inl (h.of_same hk'.same)⟩, fun _ => hadm⟩

theorem verifyLightBlockAtHeight_evolves {c : Client} {height now : Int} {c' : Client}
    {r : Except Err LightBlock} (e : verifyLightBlockAtHeight c height now = (c', r)) :
    Evolves c c' ∧ ∀ l, r = .ok l → Admits c l := by
  unfold verifyLightBlockAtHeight at e
  split at e
  · obtain ⟨rfl, rfl⟩ := Prod.mk.inj e; exact ⟨(Keeps.refl c).evolves, fun l hl => by cases hl⟩
  · simp only at e
    split at e
    · rename_i b hb
      obtain ⟨rfl, rfl⟩ := Prod.mk.inj e
      refine ⟨(Keeps.refl c).evolves, fun l hl => ?_⟩
      obtain rfl : b = l := Except.ok.inj hl
      have hget : c.store.get height = some b := by
        split at hb
        · cases hb
        · split at hb
          · cases hb
          · exact hb
      exact Or.inl (Or.inl (store_get_mem hget))
    · split at e
      · rename_i c1 _ hl
        obtain ⟨rfl, rfl⟩ := Prod.mk.inj e
        exact ⟨(lightBlockFromPrimary_keeps hl).1.evolves, fun l hl => by cases hl⟩
      · rename_i c1 l hl
        split at e
        · rename_i c2 _ hv
          obtain ⟨rfl, rfl⟩ := Prod.mk.inj e
          exact ⟨(fetch_verify_evolves hl hv).1, fun l hl => by cases hl⟩
        · rename_i c2 _ hv
          obtain ⟨rfl, rfl⟩ := Prod.mk.inj e
          have h := fetch_verify_evolves hl hv
          exact ⟨h.1, fun l' hl' => Except.ok.inj hl' ▸ h.2 rfl⟩

theorem update_evolves {c : Client} {now : Int} {c' : Client} {r : Except Err (Option LightBlock)}
    (e : update c now = (c', r)) : Evolves c c' := by
  unfold update at e
  simp only at e
  split at e
  · obtain ⟨rfl, _⟩ := Prod.mk.inj e; exact (Keeps.refl c).evolves
  · split at e
    · rename_i c1 _ hl
      obtain ⟨rfl, _⟩ := Prod.mk.inj e
      exact (lightBlockFromPrimary_keeps hl).1.evolves
    · rename_i c1 l hl
      split at e
      · split at e
        · rename_i c2 _ hv
          obtain ⟨rfl, _⟩ := Prod.mk.inj e
          exact (fetch_verify_evolves hl hv).1
        · rename_i c2 _ hv
          obtain ⟨rfl, _⟩ := Prod.mk.inj e
          exact (fetch_verify_evolves hl hv).1
      · obtain ⟨rfl, _⟩ := Prod.mk.inj e
        exact (lightBlockFromPrimary_keeps hl).1.evolves

theorem initialize_cases (c : Client) (height : Int) (hash : Hash) :
    ((initializeWithOptions c height hash).2 ≠ none ∧ Keeps c (initializeWithOptions c height hash).1) ∨
    ((initializeWithOptions c height hash).2 = none ∧ ∃ c2 l, Keeps c c2 ∧ FromProv c l ∧ l.hash = hash ∧
      (initializeWithOptions c height hash).1 = updateTrustedLightBlock c2 l) := by
  unfold initializeWithOptions
  cases hl : lightBlockFromPrimary c height with
  | mk c1 rl =>
    obtain ⟨hk1, hfrom⟩ := lightBlockFromPrimary_keeps hl
    cases rl with
    | error er => exact Or.inl ⟨Option.some_ne_none _, hk1⟩
    | ok l =>
      dsimp only
      by_cases g1 : (!lightBlockBasic l c1.cfg.chain) = true
      · rw [if_pos g1]; exact Or.inl ⟨Option.some_ne_none _, hk1⟩
      by_cases hh : l.hash ≠ hash
      · rw [if_neg g1, if_pos hh]; exact Or.inl ⟨Option.some_ne_none _, hk1⟩
      by_cases g3 : (!commitLightOK c1.cfg.sigOK c1.cfg.chain l) = true
      · rw [if_neg g1, if_neg hh, if_pos g3]; exact Or.inl ⟨Option.some_ne_none _, hk1⟩
      rw [if_neg g1, if_neg hh, if_neg g3]
      cases hc : compareFirstHeaderWithWitnesses c1 l with
      | mk c2 r2 =>
        have hk := hk1.trans (compareFirst_keeps hc)
        cases r2 with
        | error er => exact Or.inl ⟨Option.some_ne_none _, hk⟩
        | ok u => exact Or.inr ⟨rfl, c2, l, hk, hfrom l rfl, Decidable.of_not_not hh, rfl⟩

theorem newClient_ok {cfg : Config} {primary : Prov} {witnesses : List Prov}
    {sched : List Prov → List Nat} {period height : Int} {root : Hash} {c : Client}
    (e : newClient cfg primary witnesses sched period height root = .ok c) :
    ∃ c0, c0.cfg = cfg ∧ c0.primary = primary ∧ c0.witnesses = witnesses ∧
      c0.store.blocks = [] ∧ c0.latest = none ∧ initializeWithOptions c0 height root = (c, none) := by
  unfold newClient at e
  by_cases h1 : period ≤ 0 ∨ height ≤ 0
  · rw [if_pos h1] at e; cases e
  by_cases h2 : witnesses.isEmpty
  · rw [if_neg h1, if_pos h2] at e; cases e
  by_cases h3 : witnesses.any (fun w => w.chain != cfg.chain)
  · rw [if_neg h1, if_neg h2, if_pos h3] at e; cases e
  by_cases h4 : (!validateTrustLevel cfg.level) = true
  · rw [if_neg h1, if_neg h2, if_neg h3, if_pos h4] at e; cases e
  rw [if_neg h1, if_neg h2, if_neg h3, if_neg h4] at e
  dsimp only at e
  -- the literal initial client is large: name it before looking at the calls made on it
  generalize hc0 : Client.mk cfg primary witnesses _ _ none _ sched = c0 at e
  have hcfg : c0.cfg = cfg := hc0 ▸ rfl
  refine ⟨c0, hcfg, hc0 ▸ rfl, hc0 ▸ rfl, hc0 ▸ rfl, hc0 ▸ rfl, ?_⟩
  -- the two ladders agree guard by guard: the fetch keeps the configuration
  unfold initializeWithOptions
  cases hl : lightBlockFromPrimary c0 height with
  | mk c1 r =>
    rw [hl] at e
    cases r with
    | error er => cases e
    | ok l =>
      dsimp only at e ⊢
      rw [(lightBlockFromPrimary_keeps hl).1.same.1.trans hcfg]
      by_cases g1 : (!lightBlockBasic l cfg.chain) = true
      · rw [if_pos g1] at e; cases e
      by_cases hh : l.hash ≠ root
      · rw [if_neg g1, if_pos hh] at e; cases e
      by_cases g3 : (!commitLightOK cfg.sigOK cfg.chain l) = true
      · rw [if_neg g1, if_neg hh, if_pos g3] at e; cases e
      rw [if_neg g1, if_neg hh, if_neg g3] at e ⊢
      cases hc : compareFirstHeaderWithWitnesses c1 l with
      | mk c2 r2 =>
        rw [hc] at e
        cases r2 with
        | error er => cases e
        | ok u => cases e; rfl

theorem newClient_trusted {cfg : Config} {primary : Prov} {witnesses : List Prov}
    {sched : List Prov → List Nat} {period height : Int} {root : Hash} {c : Client}
    (e : newClient cfg primary witnesses sched period height root = .ok c) :
    c.cfg = cfg ∧ (∀ p, IsProv c p → p = primary ∨ p ∈ witnesses) ∧
    ∀ b, Trusted c b → b.hash = root ∧ ∃ p, (p = primary ∨ p ∈ witnesses) ∧ ∃ n ht, p.script n ht = .ok b := by
  obtain ⟨c0, hcfg, hpr, hws, hst, hlat, hi⟩ := newClient_ok e
  have hcases := initialize_cases c0 height root
  rw [hi] at hcases
  rcases hcases with ⟨hne, _⟩ | ⟨_, c2, l, hk, ⟨p, hpp, hs⟩, hroot, rfl⟩
  · exact absurd rfl hne
  have hp : ∀ p, IsProv c0 p → p = primary ∨ p ∈ witnesses := fun p h => hpr ▸ hws ▸ h
  refine ⟨hk.same.1.trans hcfg, fun p h => hp p (hk.provs p h), fun b hb => ?_⟩
  rcases updateTrusted_trusted hb with rfl | hb
  · exact ⟨hroot, p, hp p hpp, hs⟩
  · rcases hb.of_same hk.same with h | h
    · rw [hst] at h; cases h
    · rw [hlat] at h; cases h

theorem newClient_inv {cfg : Config} {primary : Prov} {witnesses : List Prov}
    {sched : List Prov → List Nat} {period height : Int} {root : Hash} {c : Client}
    (e : newClient cfg primary witnesses sched period height root = .ok c) : Inv cfg (· = root) c :=
  have h := newClient_trusted e
  Inv.of_trusted h.1 fun b hb => Reach.root b (h.2.2 b hb).1

end Tmv.Light
