import Tmv.Model.Validate
import Tmv.Lemmas.InsertSort
import Tmv.Lemmas.ListFacts
/-! Helper lemmas for C06: guard lists, weighted median, proto size bounds. -/
namespace Tmv.Validate
open Tmv.ProtoSize

theorem firstErr_ok_iff (l : List (Bool × Err)) :
    firstErr l = .ok () ↔ ∀ p ∈ l, p.1 = false := by
  induction l with
  | nil => simp [firstErr]
  | cons p r ih =>
    obtain ⟨c, e⟩ := p
    cases c <;> simp [firstErr, ih]

theorem firstErr_error_mem (l : List (Bool × Err)) (e : Err) (h : firstErr l = .error e) :
    (true, e) ∈ l := by
  induction l with
  | nil => simp [firstErr] at h
  | cons p r ih =>
    obtain ⟨c, e'⟩ := p
    cases c
    · simp [firstErr] at h; exact List.mem_cons_of_mem _ (ih h)
    · simp [firstErr] at h; subst h; exact List.mem_cons_self

/-- `validateBlock` accepts iff no guard fires -/
theorem validateBlock_ok_iff (env : Env) (st : State) (b : Block) :
    validateBlock env st b = .ok () ↔
      (∀ p ∈ headerGuards b.header, p.1 = false) ∧
      ∃ c, b.lastCommit = some c ∧
        (∀ p ∈ ([ (badCommit c, Err.lastCommitBasic),
            (b.header.lastCommitHash != env.hCommit c, .lastCommitHash),
            (b.header.dataHash != env.hData b.txs, .dataHash),
            (b.evidence.any (fun e => !e.basic), .evidenceBasic),
            (b.header.evidenceHash != env.hEv b.evidence, .evidenceHash) ]
          ++ stateGuards env st b c
          ++ [ (!env.evAdmissible st b.evidence, .evidenceCheck) ]), p.1 = false) := by
  unfold validateBlock
  cases hh : firstErr (headerGuards b.header) with
  | error e =>
    simp only [reduceCtorEq, false_iff]
    intro ⟨h1, _⟩
    rw [(firstErr_ok_iff _).mpr h1] at hh
    cases hh
  | ok u =>
    have h1 := (firstErr_ok_iff _).mp (by cases u; exact hh)
    cases hc : b.lastCommit with
    | none => simp
    | some c =>
      simp only [Option.some.injEq, exists_eq_left']
      rw [firstErr_ok_iff]
      exact ⟨fun h => ⟨h1, h⟩, fun h => h.2⟩

theorem firstErr_append (l r : List (Bool × Err)) :
    firstErr (l ++ r) = (firstErr l).bind fun _ => firstErr r := by
  induction l with
  | nil => rfl
  | cons p l ih =>
    obtain ⟨c, e⟩ := p
    cases c
    · exact ih
    · rfl

/-- the evidence pool is consulted last; the checks before it are what `ApplyBlock` runs -/
theorem validateBlock_pool_last (env : Env) (st : State) (b : Block) :
    validateBlock env st b =
      (validateBlock { env with evAdmissible := fun _ _ => true } st b).bind fun _ =>
        if env.evAdmissible st b.evidence then .ok () else .error .evidenceCheck := by
  unfold validateBlock
  cases firstErr (headerGuards b.header) with
  | error e => rfl
  | ok u =>
    cases b.lastCommit with
    | none => rfl
    | some c =>
      simp only [firstErr_append (_ ++ _)]
      -- `stateGuards` does not read `evAdmissible`
      show (firstErr (_ ++ stateGuards env st b c)).bind _ =
        ((firstErr (_ ++ stateGuards env st b c)).bind _).bind _
      cases firstErr (_ ++ stateGuards env st b c) with
      | error e => rfl
      | ok u => cases env.evAdmissible st b.evidence <;> rfl

/-- one rung of an `if` ladder: either its condition holds and the value is this rung's, or the
value is that of the rest of the ladder -/
theorem ite_rung {c : Prop} [Decidable c] {a b s : Nat} {P Q : Prop} (hs : ite c a b = s)
    (hp : c → s = a → P) (hq : ¬c → b = s → Q) : P ∨ Q :=
  if h : c then .inl (hp h ((if_pos h).symm.trans hs).symm)
  else .inr (hq h ((if_neg h).symm.trans hs))

/-- `sov n = k` exactly on `128^(k-1) ≤ n < 128^k` (`k = 10` from `2^63` on). In this form `omega`
derives any bound on `sov n` from a bound on `n`. -/
theorem sov_eq (n : Nat) :
    n < 128 ∧ sov n = 1 ∨ 128 ≤ n ∧ n < 16384 ∧ sov n = 2 ∨ 16384 ≤ n ∧ n < 2097152 ∧ sov n = 3 ∨
    2097152 ≤ n ∧ n < 268435456 ∧ sov n = 4 ∨ 268435456 ≤ n ∧ n < 34359738368 ∧ sov n = 5 ∨
    34359738368 ≤ n ∧ n < 4398046511104 ∧ sov n = 6 ∨
    4398046511104 ≤ n ∧ n < 562949953421312 ∧ sov n = 7 ∨
    562949953421312 ≤ n ∧ n < 72057594037927936 ∧ sov n = 8 ∨
    72057594037927936 ≤ n ∧ n < 9223372036854775808 ∧ sov n = 9 ∨
    9223372036854775808 ≤ n ∧ sov n = 10 := by
  generalize hs : sov n = s
  unfold sov at hs
  refine ite_rung hs (fun h e => ⟨h, e⟩) fun h hs => ?_
  iterate 8 (refine ite_rung hs (fun h' e => ⟨Nat.le_of_not_lt h, h', e⟩) fun h hs => ?_)
  exact ⟨Nat.le_of_not_lt h, hs.symm⟩

theorem sov_pos (n : Nat) : 1 ≤ sov n := by have := sov_eq n; omega
theorem sov_le_10 (n : Nat) : sov n ≤ 10 := by have := sov_eq n; omega
theorem sov_lt7 {n : Nat} (h : n < 128) : sov n = 1 := by have := sov_eq n; omega
theorem sov_lt14 {n : Nat} (h : n < 16384) : sov n ≤ 2 := by have := sov_eq n; omega
theorem sov_lt28 {n : Nat} (h : n < 268435456) : sov n ≤ 4 := by have := sov_eq n; omega
theorem sov_lt35 {n : Nat} (h : n < 34359738368) : sov n ≤ 5 := by have := sov_eq n; omega
theorem sov_lt63 {n : Nat} (h : n < 9223372036854775808) : sov n ≤ 9 := by have := sov_eq n; omega

/-- a non-negative scalar field: one tag byte and the varint -/
theorem fVar_le {x : Int} {k : Nat} (h0 : 0 ≤ x) (h : sov x.toNat ≤ k) : fVar x ≤ k + 1 := by
  unfold fVar sovInt
  split
  · omega
  · rw [if_neg (by omega)]; omega

theorem fVar_le_11 (x : Int) : fVar x ≤ 11 := by
  unfold fVar sovInt
  have := sov_le_10 x.toNat
  split <;> (try split) <;> omega

theorem fBytes_le {n k : Nat} (h : n ≤ k) (hk : k < 128) : fBytes n ≤ k + 2 := by
  unfold fBytes; have := @sov_lt7 n (by omega); split <;> omega
theorem fBytes_le2 {n k : Nat} (h : n ≤ k) (hk : k < 16384) : fBytes n ≤ k + 3 := by
  unfold fBytes; have := @sov_lt14 n (by omega); split <;> omega
theorem fMsg_lt7 {n : Nat} (h : n < 128) : fMsg n = n + 2 := by
  unfold fMsg; have := sov_lt7 h; omega

theorem timeSize_le (t : Time) : timeSize t ≤ 17 := by
  unfold timeSize
  have h1 := fVar_le_11 (secOf t)
  have h2 : fVar (nanosOf t) ≤ 6 := by
    unfold nanosOf
    exact fVar_le (by omega) (sov_lt35 (by omega))
  omega

theorem commitSigSize_le (s : CommitSig) (h : badCommitSig s = false) : commitSigSize s ≤ 109 := by
  unfold badCommitSig at h
  have ht := timeSize_le s.ts
  have hm : fMsg (timeSize s.ts) ≤ 19 := by rw [fMsg_lt7 (by omega)]; omega
  unfold commitSigSize
  split at h
  · cases h
  · rename_i hf
    simp only [bne_iff_ne, ne_eq, Bool.and_eq_true, not_and, Decidable.not_not] at hf
    have hflag : s.flag = 1 ∨ s.flag = 2 ∨ s.flag = 3 := by
      unfold flagAbsent flagCommit flagNil at hf
      omega
    have hfv : fVar (s.flag : Int) ≤ 2 := fVar_le (by omega) (Nat.le_of_eq (sov_lt7 (by omega)))
    split at h
    · simp only [Bool.or_eq_false_iff, bne_eq_false_iff_eq] at h
      have ha := @fBytes_le s.addr.length 20 (by omega) (by omega)
      have hs := @fBytes_le s.sig.length 64 (by omega) (by omega)
      omega
    · simp only [Bool.or_eq_false_iff, bne_eq_false_iff_eq, beq_eq_false_iff_ne, ne_eq,
        decide_eq_false_iff_not, Nat.not_lt] at h
      have ha := @fBytes_le s.addr.length 20 (by unfold addressSize at h; simp [Facts.c06_AddressSize] at h; omega) (by omega)
      have hs := @fBytes_le s.sig.length 64 (by unfold maxSignatureSize at h; omega) (by omega)
      omega

theorem sigsSize_le (l : List CommitSig) (h : ∀ s ∈ l, badCommitSig s = false) :
    sigsSize l ≤ 111 * l.length := by
  induction l with
  | nil => simp [sigsSize]
  | cons s r ih =>
    have h1 := commitSigSize_le s (h s List.mem_cons_self)
    have h2 := ih (fun x hx => h x (List.mem_cons_of_mem _ hx))
    simp only [sigsSize, List.length_cons]
    rw [fMsg_lt7 (by omega)]
    omega

theorem blockIDSize_le (b : BlockID) (h1 : b.hash.length ≤ 32) (h2 : b.psHash.length ≤ 32)
    (h3 : b.total < 4294967296) : blockIDSize b ≤ 76 := by
  unfold blockIDSize pshSize
  have a := @fBytes_le b.hash.length 32 h1 (by omega)
  have c := @fBytes_le b.psHash.length 32 h2 (by omega)
  have d : fVar (b.total : Int) ≤ 6 := fVar_le (by omega) (sov_lt35 (by omega))
  rw [fMsg_lt7 (by omega)]
  omega

theorem commitSize_le (c : Commit) (n : Nat) (hs : ∀ s ∈ c.sigs, badCommitSig s = false)
    (hn : c.sigs.length ≤ n) (hh : 0 ≤ c.height ∧ c.height < 9223372036854775808)
    (hr : 0 ≤ c.round ∧ c.round < 2147483648)
    (hb : c.blockID.hash.length ≤ 32 ∧ c.blockID.psHash.length ≤ 32 ∧ c.blockID.total < 4294967296) :
    commitSize c ≤ 94 + 111 * n := by
  unfold commitSize
  have h1 := sigsSize_le c.sigs hs
  have h2 := blockIDSize_le c.blockID hb.1 hb.2.1 hb.2.2
  have h3 : fVar c.height ≤ 10 := fVar_le hh.1 (sov_lt63 (by omega))
  have h4 : fVar c.round ≤ 6 := fVar_le hr.1 (sov_lt35 (by omega))
  rw [fMsg_lt7 (by omega)]
  have : 111 * c.sigs.length ≤ 111 * n := Nat.mul_le_mul_left _ hn
  omega

/-- field bounds of a header a node can hold: a one-byte block protocol version (it is 11), chain
id within `MaxChainIDLen`, int64 height, hashes of at most `tmhash.Size` bytes, a 20-byte proposer
address; the application hash may be up to 182 bytes (then the header is at most 619 = 626 - 7) -/
structure HeaderBounds (h : Header) : Prop where
  vb : h.versionBlock < 128
  chain : h.chainID.length ≤ 50
  height : 0 ≤ h.height ∧ h.height < 9223372036854775808
  lbid : h.lastBlockID.hash.length ≤ 32 ∧ h.lastBlockID.psHash.length ≤ 32 ∧ h.lastBlockID.total < 4294967296
  lch : h.lastCommitHash.length ≤ 32
  dh : h.dataHash.length ≤ 32
  vh : h.valsHash.length ≤ 32
  nvh : h.nextValsHash.length ≤ 32
  ch : h.consensusHash.length ≤ 32
  lrh : h.lastResultsHash.length ≤ 32
  eh : h.evidenceHash.length ≤ 32
  prop : h.proposer.length ≤ 20
  app : h.appHash.length ≤ 182

theorem headerSize_le (h : Header) (b : HeaderBounds h) : headerSize h + 7 ≤ 626 := by
  unfold headerSize versionSize
  have v1 : fVar (h.versionBlock : Int) ≤ 2 :=
    fVar_le (by omega) (Nat.le_of_eq (sov_lt7 (by have := b.vb; omega)))
  have v2 := fVar_le_11 (h.versionApp : Int)
  have t := timeSize_le h.time
  have l := blockIDSize_le h.lastBlockID b.lbid.1 b.lbid.2.1 b.lbid.2.2
  have c := @fBytes_le h.chainID.length 50 b.chain (by omega)
  have hh : fVar h.height ≤ 10 := fVar_le b.height.1 (sov_lt63 (by have := b.height; omega))
  have a1 := @fBytes_le h.lastCommitHash.length 32 b.lch (by omega)
  have a2 := @fBytes_le h.dataHash.length 32 b.dh (by omega)
  have a3 := @fBytes_le h.valsHash.length 32 b.vh (by omega)
  have a4 := @fBytes_le h.nextValsHash.length 32 b.nvh (by omega)
  have a5 := @fBytes_le h.consensusHash.length 32 b.ch (by omega)
  have a6 := @fBytes_le h.lastResultsHash.length 32 b.lrh (by omega)
  have a7 := @fBytes_le h.evidenceHash.length 32 b.eh (by omega)
  have a8 := @fBytes_le h.proposer.length 20 b.prop (by omega)
  have a9 := @fBytes_le2 h.appHash.length 182 b.app (by omega)
  rw [fMsg_lt7 (by omega), fMsg_lt7 (by omega), fMsg_lt7 (by omega)]
  omega

theorem maxDataBytes_some {M e n d : Int} (h : maxDataBytes M e n = some d) :
    d = M - 11 - 626 - (94 + 111 * n) - e ∧ 0 ≤ d := by
  have e1 : maxOverheadForBlock = 11 := rfl
  have e2 : maxHeaderBytes = 626 := rfl
  have e3 : maxCommitOverheadBytes = 94 := rfl
  have e4 : maxCommitSigBytes = 109 := rfl
  unfold maxDataBytes at h
  simp only at h
  split at h
  · cases h
  · rename_i hr
    simp only [Option.some.injEq] at h
    unfold maxCommitBytes at h hr
    rw [e1, e2, e3, e4] at h hr
    constructor <;> omega

/-- the arithmetic of `MaxDataBytes`: header, commit, evidence and data within their budgeted
parts ⇒ the marshalled block is within `maxBytes` (all four length prefixes included) -/
theorem blockSize_le (b : Block) (c : Commit) (hc : b.lastCommit = some c) (M : Int)
    (hM : M ≤ maxBlockSizeBytes) (hh : headerSize b.header + 7 ≤ 626) (n : Nat)
    (hcs : commitSize c ≤ 94 + 111 * n) (d : Int)
    (hd : maxDataBytes M (evListSize b.evidence : Nat) n = some d) (hds : (dataSize b.txs : Int) ≤ d) :
    (blockSize b : Int) ≤ M := by
  have e5 : maxBlockSizeBytes = 104857600 := rfl
  rw [e5] at hM
  obtain ⟨hd1, hd2⟩ := maxDataBytes_some hd
  unfold blockSize
  rw [hc]
  simp only
  have s1 := @sov_lt28 (dataSize b.txs) (by omega)
  have s2 := @sov_lt28 (evListSize b.evidence) (by omega)
  have s3 := @sov_lt28 (commitSize c) (by omega)
  have s4 := @sov_lt14 (headerSize b.header) (by omega)
  unfold fMsg
  omega

theorem totalWeight_cons (x : Time × Int) (l : List (Time × Int)) :
    totalWeight (x :: l) = x.2 + totalWeight l := by simp [totalWeight]

theorem lowWeight_cons (L : Time) (x : Time × Int) (l : List (Time × Int)) :
    lowWeight L (x :: l) = (if x.1 ≤ L then x.2 else 0) + lowWeight L l := by
  unfold lowWeight
  by_cases h : x.1 ≤ L <;> simp [h]

theorem sorts : InsertionSort (fun x y : Time × Int => x.1 < y.1) insertByTime sortByTime :=
  ⟨fun _ => rfl, fun _ _ _ => rfl, rfl, fun _ _ => rfl⟩

theorem sorted_sort (l : List (Time × Int)) : (sortByTime l).Pairwise (fun x y => x.1 ≤ y.1) :=
  sorts.pairwise (R := fun x y => x.1 ≤ y.1) (fun _ _ _ => Int.le_trans)
    (List.pairwise_of_forall fun _ _ => ⟨Int.le_of_lt, Int.not_lt.1⟩)

theorem perm_weights (L : Time) {l l' : List (Time × Int)} (h : l.Perm l') :
    totalWeight l = totalWeight l' ∧ lowWeight L l = lowWeight L l' :=
  ⟨perm_sum_int (h.map _), perm_sum_int ((h.filter _).map _)⟩

theorem lowWeight_eq (L : Time) (l : List (Time × Int)) :
    lowWeight L l = totalWeight (l.filter fun p => p.1 ≤ L) := rfl

theorem totalWeight_nonneg (l : List (Time × Int)) (hw : ∀ y ∈ l, 0 ≤ y.2) : 0 ≤ totalWeight l := by
  induction l with
  | nil => exact Int.le_refl 0
  | cons x r ih =>
    rw [totalWeight_cons]
    exact Int.add_nonneg (hw x List.mem_cons_self) (ih fun y hy => hw y (List.mem_cons_of_mem _ hy))

theorem totalWeight_eq_zero {l : List (Time × Int)} (hpos : ∀ y ∈ l, 0 < y.2) (h : totalWeight l = 0) :
    l = [] := by
  cases l with
  | nil => rfl
  | cons x r =>
    rw [totalWeight_cons] at h
    have := totalWeight_nonneg r fun y hy => Int.le_of_lt (hpos y (List.mem_cons_of_mem _ hy))
    have := hpos x List.mem_cons_self
    omega

theorem lowWeight_nonneg (L : Time) (l : List (Time × Int)) (hw : ∀ y ∈ l, 0 ≤ y.2) :
    0 ≤ lowWeight L l :=
  totalWeight_nonneg _ fun y hy => hw y (List.mem_filter.1 hy).1

theorem lowWeight_zero_of_all_gt (L : Time) (l : List (Time × Int)) (h : ∀ y ∈ l, L < y.1) :
    lowWeight L l = 0 := by
  rw [lowWeight_eq, List.filter_eq_nil_iff.2 fun y hy => by simpa using h y hy]
  rfl

theorem lowWeight_zero_no_early (L : Time) (l : List (Time × Int)) (hpos : ∀ y ∈ l, 0 < y.2)
    (h : lowWeight L l = 0) : ∀ y ∈ l, L < y.1 := by
  intro y hy
  simpa using List.filter_eq_nil_iff.1
    (totalWeight_eq_zero (fun z hz => hpos z (List.mem_filter.1 hz).1) h) y hy

theorem lowWeight_le_total (L : Time) (l : List (Time × Int)) (hw : ∀ y ∈ l, 0 ≤ y.2) :
    lowWeight L l ≤ totalWeight l := by
  induction l with
  | nil => simp [lowWeight, totalWeight]
  | cons x r ih =>
    rw [lowWeight_cons, totalWeight_cons]
    have := ih (fun y hy => hw y (List.mem_cons_of_mem _ hy))
    have := hw x List.mem_cons_self
    split <;> omega

/-- **The selection loop**, on a non-empty time-sorted list with non-negative weights, started at
`m ≤ total`: it stops later than `L` exactly when the weight stamped at or before `L` stays below
`m`, or nothing is stamped that early (the loop then stops at the first entry even for `m ≤ 0`). -/
theorem pick_gt_iff (L : Time) (l : List (Time × Int)) (m : Int)
    (hs : l.Pairwise (fun x y => x.1 ≤ y.1))
    (hw : ∀ y ∈ l, 0 ≤ y.2) (hne : l ≠ []) (hm : m ≤ totalWeight l) :
    L < pick l m ↔ lowWeight L l < m ∨ ∀ y ∈ l, L < y.1 := by
  induction l generalizing m with
  | nil => exact absurd rfl hne
  | cons x r ih =>
    obtain ⟨t, w⟩ := x
    have hw0 : 0 ≤ w := hw (t, w) List.mem_cons_self
    have hwr : ∀ y ∈ r, 0 ≤ y.2 := fun y hy => hw y (List.mem_cons_of_mem _ hy)
    have hlr := lowWeight_nonneg L r hwr
    rw [totalWeight_cons] at hm
    rw [lowWeight_cons, List.forall_mem_cons]
    simp only at hm ⊢
    have rest : w < m → (L < pick r (m - w) ↔ lowWeight L r < m - w ∨ ∀ y ∈ r, L < y.1) := by
      intro hwm
      have hr : r ≠ [] := by rintro rfl; simp [totalWeight] at hm; omega
      exact ih (m - w) hs.of_cons hwr hr (by omega)
    unfold pick
    by_cases ht : t ≤ L
    · -- the head is stamped early: it counts, and not everything is later than `L`
      have hnt : ¬ L < t := Int.not_lt.mpr ht
      simp only [if_pos ht, hnt, false_and, or_false]
      by_cases hmw : m ≤ w
      · rw [if_pos hmw]
        exact iff_of_false hnt (by omega)
      · rw [if_neg hmw, rest (by omega)]
        constructor
        · rintro (h | h)
          · omega
          · rw [lowWeight_zero_of_all_gt L r h]; omega
        · intro h; left; omega
    · -- the head, hence (sorted) every entry, is later than `L`
      have hlt : L < t := Int.not_le.mp ht
      have hall : ∀ y ∈ r, L < y.1 := fun y hy => Int.lt_of_lt_of_le hlt (List.rel_of_pairwise_cons hs hy)
      refine iff_of_true ?_ (Or.inr ⟨hlt, hall⟩)
      by_cases hmw : m ≤ w
      · rw [if_pos hmw]; exact hlt
      · rw [if_neg hmw, rest (by omega)]; exact Or.inr hall

/-- `pick_gt_iff` on the sorted list at the threshold `floor(total/2)` where `WeightedMedian` starts -/
theorem weightedMedian_gt_iff_of_nonneg (L : Time) (l : List (Time × Int)) (hw : ∀ y ∈ l, 0 ≤ y.2)
    (hne : l ≠ []) :
    L < weightedMedian l (totalWeight l) ↔
      lowWeight L l < totalWeight l / 2 ∨ ∀ y ∈ l, L < y.1 := by
  have hT := totalWeight_nonneg l hw
  have hp := sorts.perm l
  have ⟨eT, eL⟩ := perm_weights L hp
  unfold weightedMedian
  rw [pick_gt_iff L _ _ (sorted_sort l) (fun y hy => hw y (hp.mem_iff.1 hy)) (mt sorts.eq_nil_iff.1 hne)
    (by rw [eT, Int.tdiv_eq_ediv_of_nonneg hT]; omega), eL, Int.tdiv_eq_ediv_of_nonneg hT]
  simp only [hp.mem_iff]

/-- `WeightedMedian` is later than `L` when the votes stamped at or before `L` weigh strictly
less than `floor(total/2)` -/
theorem weightedMedian_gt (L : Time) (l : List (Time × Int)) (hw : ∀ y ∈ l, 0 ≤ y.2)
    (hlow : 2 * lowWeight L l + 2 ≤ totalWeight l) : L < weightedMedian l (totalWeight l) := by
  have hlow0 := lowWeight_nonneg L l hw
  have hne : l ≠ [] := by rintro rfl; simp [totalWeight] at hlow; omega
  rw [weightedMedian_gt_iff_of_nonneg L l hw hne]
  left; omega

/-- upper half: the median is not later than `hi` when the votes stamped `≤ hi` weigh at least
`floor(total/2)` -/
theorem weightedMedian_le (hi : Time) (l : List (Time × Int)) (hw : ∀ y ∈ l, 0 ≤ y.2)
    (hex : ∃ y ∈ l, y.1 ≤ hi) (hlow : totalWeight l / 2 ≤ lowWeight hi l) :
    weightedMedian l (totalWeight l) ≤ hi := by
  obtain ⟨y, hy, hyl⟩ := hex
  have hne : l ≠ [] := by rintro rfl; cases hy
  apply Int.not_lt.mp
  rw [weightedMedian_gt_iff_of_nonneg hi l hw hne]
  rintro (h | h)
  · omega
  · exact absurd (h y hy) (Int.not_lt.mpr hyl)

/-- **Exactly when the weighted median is later than `L`** (positive weights; `F` = weight
stamped at or before `L`, `T` = total weight): iff `2F + 2 ≤ T`, or nobody stamped that early,
(or there is no vote at all and `L` precedes Go's zero time, which `WeightedMedian` then returns).
So `F < floor(T/2)` is the exact tolerance of the `floor(T/2)` / `median <= weight` rule. -/
theorem weightedMedian_gt_iff (L : Time) (l : List (Time × Int)) (hpos : ∀ y ∈ l, 0 < y.2) :
    L < weightedMedian l (totalWeight l) ↔
      (2 * lowWeight L l + 2 ≤ totalWeight l ∨ (lowWeight L l = 0 ∧ l ≠ []) ∨ (l = [] ∧ L < zeroTime)) := by
  have hw : ∀ y ∈ l, 0 ≤ y.2 := fun y hy => Int.le_of_lt (hpos y hy)
  by_cases hl : l = []
  · subst hl
    simp [weightedMedian, sortByTime, pick, lowWeight, totalWeight]
  · rw [weightedMedian_gt_iff_of_nonneg L l hw hl]
    constructor
    · rintro (h | h)
      · left; omega
      · right; left; exact ⟨lowWeight_zero_of_all_gt L l h, hl⟩
    · rintro (h | ⟨h0, _⟩ | ⟨h, _⟩)
      · left; omega
      · right; exact lowWeight_zero_no_early L l hpos h0
      · exact absurd h hl

/-- **median between correct** (both halves, exact tolerances of the `floor(T/2)` rule): let the
correct voters' timestamps lie in `[lo, hi]` (at least one of them is in the commit). If the weight
stamped before `lo` is below `floor(T/2)` (or nil) and the weight stamped after `hi` is at most
`ceil(T/2)`, the median lies in `[lo, hi]`. The rule is asymmetric: it tolerates `ceil(T/2)` late
weight but only `floor(T/2) - 1` early weight. -/
theorem median_between_correct (l : List (Time × Int)) (lo hi : Time) (hpos : ∀ y ∈ l, 0 < y.2)
    (hcorrect : ∃ y ∈ l, lo ≤ y.1 ∧ y.1 ≤ hi)
    (hearly : 2 * lowWeight (lo - 1) l + 2 ≤ totalWeight l ∨ lowWeight (lo - 1) l = 0)
    (hlate : 2 * (totalWeight l - lowWeight hi l) ≤ totalWeight l + 1) :
    lo ≤ weightedMedian l (totalWeight l) ∧ weightedMedian l (totalWeight l) ≤ hi := by
  have hw : ∀ y ∈ l, 0 ≤ y.2 := fun y hy => Int.le_of_lt (hpos y hy)
  obtain ⟨y, hy, hylo, hyhi⟩ := hcorrect
  have hne : l ≠ [] := by intro h; subst h; cases hy
  constructor
  · have : lo - 1 < weightedMedian l (totalWeight l) := by
      rw [weightedMedian_gt_iff (lo - 1) l hpos]
      rcases hearly with h | h
      · exact Or.inl h
      · exact Or.inr (Or.inl ⟨h, hne⟩)
    have h := Int.add_one_le_of_lt this
    rwa [Int.sub_add_cancel] at h
  · apply weightedMedian_le hi l hw ⟨y, hy, hyhi⟩
    omega

end Tmv.Validate
