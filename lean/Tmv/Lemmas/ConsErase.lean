import Tmv.Lemmas.ConsCore
/-! The round state of the consensus model does not depend on the signer's answers: erasing what
the signer and the own-message plumbing write (`lss`, `out`, `queue`) is a congruence for every
handler. Each handler reads only round-state fields in its conditions, and the primitives that write
the erased fields (`emit`, `sign`, `signAddVote`, `decideProposal`) leave the round state alone, so
the congruence is proved stage by stage along the handler's own `let`s: the two sides are made to branch
on the same conditions, and in each branch the new state is a round-state update of the old one
(`er_upd`) or the result of a function whose congruence is already there.
`er` is `Core` of Lemmas/ConsCore.lean with `halted` kept (`er_iff_core`): a handler reads
`halted`, and a panic changes it, so for a congruence it belongs to what must agree. -/
namespace Tmv.Cons

/-- the round state `Core` and `halted`: everything except last sign state, output list and internal queue -/
def er (s : NodeState) : NodeState := { s with lss := none, out := [], queue := [] }

theorem er_mix (x : NodeState) (l : Option (Nat × Nat × Payload)) (o : List Output) (q : List Internal) :
    er { x with lss := l, out := o, queue := q } = er x := rfl

theorem er_round {a b : NodeState} (h : er a = er b) : a.round = b.round := (congrArg NodeState.round h : (er a).round = (er b).round)
theorem er_step {a b : NodeState} (h : er a = er b) : a.step = b.step := (congrArg NodeState.step h : (er a).step = (er b).step)
theorem er_lockedRound {a b : NodeState} (h : er a = er b) : a.lockedRound = b.lockedRound := (congrArg NodeState.lockedRound h : (er a).lockedRound = (er b).lockedRound)
theorem er_lockedBlock {a b : NodeState} (h : er a = er b) : a.lockedBlock = b.lockedBlock := (congrArg NodeState.lockedBlock h : (er a).lockedBlock = (er b).lockedBlock)
theorem er_validRound {a b : NodeState} (h : er a = er b) : a.validRound = b.validRound := (congrArg NodeState.validRound h : (er a).validRound = (er b).validRound)
theorem er_validBlock {a b : NodeState} (h : er a = er b) : a.validBlock = b.validBlock := (congrArg NodeState.validBlock h : (er a).validBlock = (er b).validBlock)
theorem er_proposal {a b : NodeState} (h : er a = er b) : a.proposal = b.proposal := (congrArg NodeState.proposal h : (er a).proposal = (er b).proposal)
theorem er_proposalBlock {a b : NodeState} (h : er a = er b) : a.proposalBlock = b.proposalBlock := (congrArg NodeState.proposalBlock h : (er a).proposalBlock = (er b).proposalBlock)
theorem er_proposalParts {a b : NodeState} (h : er a = er b) : a.proposalParts = b.proposalParts := (congrArg NodeState.proposalParts h : (er a).proposalParts = (er b).proposalParts)
theorem er_partsDone {a b : NodeState} (h : er a = er b) : a.partsDone = b.partsDone := (congrArg NodeState.partsDone h : (er a).partsDone = (er b).partsDone)
theorem er_commitRound {a b : NodeState} (h : er a = er b) : a.commitRound = b.commitRound := (congrArg NodeState.commitRound h : (er a).commitRound = (er b).commitRound)
theorem er_triggered {a b : NodeState} (h : er a = er b) : a.triggered = b.triggered := (congrArg NodeState.triggered h : (er a).triggered = (er b).triggered)
theorem er_votes {a b : NodeState} (h : er a = er b) : a.votes = b.votes := (congrArg NodeState.votes h : (er a).votes = (er b).votes)
theorem er_valRound {a b : NodeState} (h : er a = er b) : a.valRound = b.valRound := (congrArg NodeState.valRound h : (er a).valRound = (er b).valRound)
theorem er_decided {a b : NodeState} (h : er a = er b) : a.decided = b.decided := (congrArg NodeState.decided h : (er a).decided = (er b).decided)
theorem er_halted {a b : NodeState} (h : er a = er b) : a.halted = b.halted := (congrArg NodeState.halted h : (er a).halted = (er b).halted)

theorem er_ext {a b : NodeState}
    (h_round : a.round = b.round)
    (h_step : a.step = b.step)
    (h_lockedRound : a.lockedRound = b.lockedRound)
    (h_lockedBlock : a.lockedBlock = b.lockedBlock)
    (h_validRound : a.validRound = b.validRound)
    (h_validBlock : a.validBlock = b.validBlock)
    (h_proposal : a.proposal = b.proposal)
    (h_proposalBlock : a.proposalBlock = b.proposalBlock)
    (h_proposalParts : a.proposalParts = b.proposalParts)
    (h_partsDone : a.partsDone = b.partsDone)
    (h_commitRound : a.commitRound = b.commitRound)
    (h_triggered : a.triggered = b.triggered)
    (h_votes : a.votes = b.votes)
    (h_valRound : a.valRound = b.valRound)
    (h_decided : a.decided = b.decided)
    (h_halted : a.halted = b.halted)
    : er a = er b := by
  cases a; cases b
  simp only [er, NodeState.mk.injEq]
  simp only at *
  simp [*]

theorem er_iff_core {a b : NodeState} : er a = er b ↔ Core a = Core b ∧ a.halted = b.halted :=
  ⟨fun h => ⟨congrArg (fun x => ({ x with halted := false } : NodeState)) h, er_halted h⟩,
   fun ⟨h, hh⟩ => er_ext (core_round h) (core_step h) (core_lockedRound h) (core_lockedBlock h) (core_validRound h)
     (core_validBlock h) (core_proposal h) (core_proposalBlock h) (core_proposalParts h) (core_partsDone h)
     (core_commitRound h) (core_triggered h) (core_votes h) (core_valRound h) (core_decided h) hh⟩

/-- `er_cong` closes, or reduces by one rule, a goal `er (f a …) = er (f b …)` or `a.x = b.x` given `h : er a = er b`.
The rules are the alternatives of this `macro_rules` tactic; Lean tries the one registered last first and falls back
on failure. So, in the order tried: `apply f_cong` for every function whose congruence is proved already (each
`f_cong` below registers itself in the line after it), `er_ext` (field by field), the field readings `er_x`, `rfl`,
`assumption`. `er_chain` repeats it on the goals that are left. -/
syntax "er_cong" : tactic
macro_rules | `(tactic| er_cong) => `(tactic| assumption)
macro_rules | `(tactic| er_cong) => `(tactic| rfl)
macro_rules | `(tactic| er_cong) => `(tactic| apply er_round)
macro_rules | `(tactic| er_cong) => `(tactic| apply er_step)
macro_rules | `(tactic| er_cong) => `(tactic| apply er_lockedRound)
macro_rules | `(tactic| er_cong) => `(tactic| apply er_lockedBlock)
macro_rules | `(tactic| er_cong) => `(tactic| apply er_validRound)
macro_rules | `(tactic| er_cong) => `(tactic| apply er_validBlock)
macro_rules | `(tactic| er_cong) => `(tactic| apply er_proposal)
macro_rules | `(tactic| er_cong) => `(tactic| apply er_proposalBlock)
macro_rules | `(tactic| er_cong) => `(tactic| apply er_proposalParts)
macro_rules | `(tactic| er_cong) => `(tactic| apply er_partsDone)
macro_rules | `(tactic| er_cong) => `(tactic| apply er_commitRound)
macro_rules | `(tactic| er_cong) => `(tactic| apply er_triggered)
macro_rules | `(tactic| er_cong) => `(tactic| apply er_votes)
macro_rules | `(tactic| er_cong) => `(tactic| apply er_valRound)
macro_rules | `(tactic| er_cong) => `(tactic| apply er_decided)
macro_rules | `(tactic| er_cong) => `(tactic| apply er_halted)
macro_rules | `(tactic| er_cong) => `(tactic| (apply er_ext <;> dsimp only))
macro "er_chain" : tactic => `(tactic| repeat' (first | er_cong | (dsimp only; er_cong)))

/-- turn every round-state field read of `a` into the same read of `b` (`h : er a = er b`): both sides
of a congruence goal then branch on the same conditions, and `split` splits them together. The field
values inside an unfolded record literal `{ a with … }` are rewritten too, so afterwards a state on
the left is the state on the right up to the erased fields, and `er _ = er _` between them is `rfl`.
(Where only some fields are to be rewritten and a literal over `a` is in sight, rewrite the whole
condition, `rw [show hashesTo a.lockedBlock bid = hashesTo b.lockedBlock bid by rw [er_lockedBlock h]]`:
a half-rewritten literal is neither `a`'s nor `b`'s.) -/
macro "er_rw " h:term : tactic =>
  `(tactic| simp only [er_round $h, er_step $h, er_lockedRound $h, er_lockedBlock $h, er_validRound $h,
      er_validBlock $h, er_proposal $h, er_proposalBlock $h, er_proposalParts $h, er_partsDone $h,
      er_commitRound $h, er_triggered $h, er_votes $h, er_valRound $h, er_decided $h, er_halted $h])

/- With the handlers irreducible `apply f_cong` fails at once on a goal about another function (it would otherwise
unfold both to compare them), and the `dsimp only` of `er_chain` leaves calls of handlers as they are. -/
attribute [local irreducible] sign signAddVote decideProposal doPrevote enterPrevote enterPropose
  enterNewRound enterPrevoteWait enterPrecommit enterPrecommitWait finalizeCommit tryFinalizeCommit
  enterCommit setProposal handleCompleteProposal addBlockPart addVote prevoteTransitions afterPrevote afterPrecommit
  handleInternal handleTimeout handleTxsAvailable handleInput HVS.addVote HVS.setRound HVS.setPeerMaj23
  HVS.polRound maj23Of hasAnyOf hashesTo hasHeader

variable {c : Cfg} {a b : NodeState}

theorem emit_cong (o : Output) (h : er a = er b) : er (emit a o) = er (emit b o) := by
  unfold emit
  rw [er_halted h]
  split
  · exact h
  · er_chain
macro_rules | `(tactic| er_cong) => `(tactic| apply emit_cong)

theorem panicWith_cong (w : String) (h : er a = er b) : er (panicWith a w) = er (panicWith b w) := by
  unfold panicWith
  rw [er_halted h]
  split
  · exact h
  · er_chain
macro_rules | `(tactic| er_cong) => `(tactic| apply panicWith_cong)

/-! what the signer-facing functions do to the round state: nothing -/

theorem er_emit (s : NodeState) (o : Output) : er (emit s o) = er s :=
  er_iff_core.2 ⟨emit_core s o, halted_emit s o⟩

theorem er_sign {s s' : NodeState} {r cd : Nat} {p : Payload} (h : sign c s r cd p = some s') : er s' = er s :=
  er_iff_core.2 ⟨sign_core h, (sign_out h).2⟩

theorem signAddVote_er (s : NodeState) (t : VType) (bid : Bid) : er (signAddVote c s t bid) = er s :=
  er_iff_core.2 ⟨signAddVote_core c s t bid, halted_signAddVote c s t bid⟩

theorem decideProposal_er (s : NodeState) (round me : Nat) : er (decideProposal c s round me) = er s :=
  er_iff_core.2 ⟨decideProposal_core c s round me, halted_decideProposal c s round me⟩

theorem signAddVote_cong (t : VType) (bid : Bid) (h : er a = er b) :
    er (signAddVote c a t bid) = er (signAddVote c b t bid) := by
  rw [signAddVote_er, signAddVote_er, h]
macro_rules | `(tactic| er_cong) => `(tactic| apply signAddVote_cong)

theorem decideProposal_cong (round me : Nat) (h : er a = er b) :
    er (decideProposal c a round me) = er (decideProposal c b round me) := by
  rw [decideProposal_er, decideProposal_er, h]
macro_rules | `(tactic| er_cong) => `(tactic| apply decideProposal_cong)

theorem isProposalComplete_cong (h : er a = er b) : isProposalComplete a = isProposalComplete b := by
  unfold isProposalComplete
  rw [er_proposal h, er_proposalBlock h, er_votes h]

/-- a function of the state that commutes with erasing is a congruence; for a record update `F` that
sets and reads round-state fields only, `hF` is `fun _ => rfl` -/
theorem er_upd (F : NodeState → NodeState) (hF : ∀ x, er (F x) = F (er x)) (h : er a = er b) : er (F a) = er (F b) := by
  rw [hF a, hF b, h]

theorem doPrevote_cong (h : er a = er b) : er (doPrevote c a) = er (doPrevote c b) := by
  unfold doPrevote
  er_rw h
  repeat' split
  all_goals er_chain
macro_rules | `(tactic| er_cong) => `(tactic| apply doPrevote_cong)

theorem enterPrevote_cong (r : Nat) (h : er a = er b) : er (enterPrevote c a r) = er (enterPrevote c b r) := by
  unfold enterPrevote
  er_rw h
  repeat' split
  all_goals er_chain
macro_rules | `(tactic| er_cong) => `(tactic| apply enterPrevote_cong)

theorem enterPropose_cong (r : Nat) (h : er a = er b) : er (enterPropose c a r) = er (enterPropose c b r) := by
  unfold enterPropose
  rw [er_halted h, er_round h, er_step h]
  split
  · exact h
  split
  · exact h
  extract_lets a1 a2 a3 b1 b2 b3
  have h1 : er a1 = er b1 := emit_cong _ h
  have h2 : er a2 = er b2 := by
    simp only [a2, b2, er_valRound h1]
    repeat' split
    all_goals er_chain
  have h3 : er a3 = er b3 := by simp only [a3, b3]; er_chain
  rw [isProposalComplete_cong h3, er_round h3]
  split
  · exact enterPrevote_cong _ h3
  · exact h3
macro_rules | `(tactic| er_cong) => `(tactic| apply enterPropose_cong)

theorem newRoundReset_cong (r : Nat) (h : er a = er b) : er (newRoundReset a r) = er (newRoundReset b r) := by
  refine er_upd (fun s => newRoundReset s r) (fun x => ?_) h
  unfold newRoundReset
  dsimp only
  split <;> rfl
macro_rules | `(tactic| er_cong) => `(tactic| apply newRoundReset_cong)

theorem enterNewRound_cong (r : Nat) (h : er a = er b) : er (enterNewRound c a r) = er (enterNewRound c b r) := by
  unfold enterNewRound
  rw [er_halted h, er_round h, er_step h]
  by_cases hh : b.halted = true
  · rw [if_pos hh, if_pos hh]; exact h
  rw [if_neg hh, if_neg hh]
  by_cases hg : r < b.round ∨ (b.round = r ∧ b.step ≠ .newHeight)
  · rw [if_pos hg, if_pos hg]; exact h
  rw [if_neg hg, if_neg hg]
  extract_lets a1 b1
  have h1 : er a1 = er b1 := newRoundReset_cong r h
  rw [er_votes h1]
  split
  · exact panicWith_cong _ h1
  · rename_i hv _
    have h2 := er_upd (fun s => { s with votes := hv, triggered := false }) (fun _ => rfl) h1
    dsimp only
    split
    · split
      · exact emit_cong _ h2
      · exact h2
    · exact enterPropose_cong _ h2
macro_rules | `(tactic| er_cong) => `(tactic| apply enterNewRound_cong)

theorem enterPrevoteWait_cong (r : Nat) (h : er a = er b) :
    er (enterPrevoteWait c a r) = er (enterPrevoteWait c b r) := by
  unfold enterPrevoteWait
  er_rw h
  repeat' split
  all_goals first
    | exact h
    | exact panicWith_cong _ h
    | exact er_upd (fun s => { s with round := r, step := .prevoteWait }) (fun _ => rfl) (emit_cong _ h)
macro_rules | `(tactic| er_cong) => `(tactic| apply enterPrevoteWait_cong)

theorem unlock_cong (h : er a = er b) : er (unlock a) = er (unlock b) := by
  exact er_upd unlock (fun _ => rfl) h
macro_rules | `(tactic| er_cong) => `(tactic| apply unlock_cong)

theorem enterPrecommit_cong (r : Nat) (h : er a = er b) : er (enterPrecommit c a r) = er (enterPrecommit c b r) := by
  -- every branch signs a precommit in a state `x` whose round state was updated, and enters the step
  have sv : ∀ {x y : NodeState} (bid : Bid), er x = er y →
      er { signAddVote c x .precommit bid with round := r, step := .precommit } =
      er { signAddVote c y .precommit bid with round := r, step := .precommit } := fun bid hxy =>
    er_upd (fun s => { s with round := r, step := .precommit }) (fun _ => rfl) (signAddVote_cong _ bid hxy)
  unfold enterPrecommit unlock
  -- after `er_rw` the states on the left are those on the right up to the erased fields
  er_rw h
  by_cases hh : b.halted = true
  · rw [if_pos hh, if_pos hh]; exact h
  rw [if_neg hh, if_neg hh]
  by_cases hg : r < b.round ∨ (b.round = r ∧ Step.precommit.rank ≤ b.step.rank)
  · rw [if_pos hg, if_pos hg]; exact h
  rw [if_neg hg, if_neg hg]
  repeat' split
  all_goals first | exact sv _ h | exact sv _ rfl | exact panicWith_cong _ h
macro_rules | `(tactic| er_cong) => `(tactic| apply enterPrecommit_cong)

theorem enterPrecommitWait_cong (r : Nat) (h : er a = er b) :
    er (enterPrecommitWait c a r) = er (enterPrecommitWait c b r) := by
  unfold enterPrecommitWait
  er_rw h
  repeat' split
  all_goals first
    | exact h
    | exact panicWith_cong _ h
    | exact er_upd (fun s => { s with triggered := true }) (fun _ => rfl) (emit_cong _ h)
macro_rules | `(tactic| er_cong) => `(tactic| apply enterPrecommitWait_cong)

theorem finalizeCommit_cong (h : er a = er b) : er (finalizeCommit c a) = er (finalizeCommit c b) := by
  unfold finalizeCommit
  rw [er_halted h, er_step h, er_votes h, er_commitRound h, er_proposalParts h, er_proposalBlock h]
  by_cases hh : b.halted = true
  · rw [if_pos hh, if_pos hh]; exact h
  rw [if_neg hh, if_neg hh]
  by_cases hst : b.step ≠ .commit
  · rw [if_pos hst, if_pos hst]; exact h
  rw [if_neg hst, if_neg hst]
  repeat' split
  all_goals first | exact panicWith_cong _ h | skip
  exact er_upd (fun s => { s with decided := some (_, s.commitRound) }) (fun _ => rfl) (emit_cong _ h)
macro_rules | `(tactic| er_cong) => `(tactic| apply finalizeCommit_cong)

theorem tryFinalizeCommit_cong (h : er a = er b) : er (tryFinalizeCommit c a) = er (tryFinalizeCommit c b) := by
  unfold tryFinalizeCommit
  er_rw h
  repeat' split
  all_goals er_chain
macro_rules | `(tactic| er_cong) => `(tactic| apply tryFinalizeCommit_cong)

theorem enterCommit_cong (r : Nat) (h : er a = er b) : er (enterCommit c a r) = er (enterCommit c b r) := by
  unfold enterCommit
  by_cases hh : b.halted = true
  · rw [if_pos hh, if_pos ((er_halted h).trans hh)]; exact h
  rw [if_neg hh, if_neg (fun e => hh ((er_halted h).symm.trans e))]
  by_cases hg : Step.commit.rank ≤ b.step.rank
  · rw [if_pos hg, if_pos (er_step h ▸ hg)]; exact h
  rw [if_neg hg, if_neg (er_step h ▸ hg)]
  rw [show maj23Of (a.votes.precommits r) = maj23Of (b.votes.precommits r) by rw [er_votes h]]
  split
  · exact panicWith_cong _ h
  rename_i bid _
  extract_lets a1 a2 a3 b1 b2 b3
  have h1 : er a1 = er b1 := by
    unfold a1 b1
    rw [show hashesTo a.lockedBlock bid = hashesTo b.lockedBlock bid by rw [er_lockedBlock h]]
    split
    · exact er_upd (fun s => { s with proposalBlock := s.lockedBlock, proposalParts := s.lockedBlock, partsDone := true })
        (fun _ => rfl) h
    · exact h
  have h2 : er a2 = er b2 := by
    unfold a2 b2
    rw [show hashesTo a1.proposalBlock bid = hashesTo b1.proposalBlock bid by rw [er_proposalBlock h1],
      show hasHeader a1.proposalParts bid = hasHeader b1.proposalParts bid by rw [er_proposalParts h1]]
    split
    · split
      · exact er_upd (fun s => { s with proposalBlock := none, proposalParts := bid, partsDone := false }) (fun _ => rfl) h1
      · exact h1
    · exact h1
  exact tryFinalizeCommit_cong
    (er_upd (fun s => { s with step := .commit, commitRound := r }) (fun _ => rfl) h2)
macro_rules | `(tactic| er_cong) => `(tactic| apply enterCommit_cong)

theorem setProposal_cong (p : Proposal) (h : er a = er b) : er (setProposal c a p) = er (setProposal c b p) := by
  unfold setProposal
  er_rw h
  repeat' split
  all_goals first | exact h | rfl
macro_rules | `(tactic| er_cong) => `(tactic| apply setProposal_cong)

theorem handleCompleteProposal_cong (h : er a = er b) :
    er (handleCompleteProposal c a) = er (handleCompleteProposal c b) := by
  unfold handleCompleteProposal
  rw [er_votes h, er_round h, er_validRound h, er_proposalBlock h]
  extract_lets m a1 a2 b1 b2
  have h1 : er a1 = er b1 := by
    clear_value m
    simp only [a1, b1]
    repeat' split
    all_goals er_chain
  rw [er_step h1, isProposalComplete_cong h1]
  split
  · have h2 : er a2 = er b2 := by simp only [a2, b2, er_round h1]; exact enterPrevote_cong _ h1
    rw [er_round h2]
    split
    · exact enterPrecommit_cong _ h2
    · exact h2
  · split
    · exact tryFinalizeCommit_cong h1
    · exact h1
macro_rules | `(tactic| er_cong) => `(tactic| apply handleCompleteProposal_cong)

theorem addBlockPart_cong (bid : Nat) (h : er a = er b) : er (addBlockPart c a bid) = er (addBlockPart c b bid) := by
  unfold addBlockPart
  er_rw h
  repeat' split
  all_goals er_chain
macro_rules | `(tactic| er_cong) => `(tactic| apply addBlockPart_cong)

theorem onPolka_cong (vr : Nat) (bid : Bid) (h : er a = er b) : er (onPolka a vr bid) = er (onPolka b vr bid) := by
  unfold onPolka
  rw [er_lockedBlock h, er_lockedRound h, er_round h]
  extract_lets a1 a2 b1 b2
  have h1 : er a1 = er b1 := by
    unfold a1 b1
    split
    · exact unlock_cong h
    · exact h
  have h2 : er a2 = er b2 := by
    unfold a2 b2
    rw [show hashesTo a1.proposalBlock bid = hashesTo b1.proposalBlock bid by rw [er_proposalBlock h1]]
    split
    · exact er_upd (fun s => { s with validRound := vr, validBlock := s.proposalBlock }) (fun _ => rfl) h1
    · exact er_upd (fun s => { s with proposalBlock := none }) (fun _ => rfl) h1
  rw [er_validRound h1, er_round h1, er_proposalParts h2]
  split
  · split
    · exact er_upd (fun s => { s with proposalParts := bid, partsDone := false }) (fun _ => rfl) h2
    · exact h2
  · exact h1
macro_rules | `(tactic| er_cong) => `(tactic| apply onPolka_cong)

theorem prevoteTransitions_cong (vr : Nat) (h : er a = er b) :
    er (prevoteTransitions c a vr) = er (prevoteTransitions c b vr) := by
  unfold prevoteTransitions
  er_rw h
  rw [isProposalComplete_cong h]
  repeat' split
  all_goals er_chain
macro_rules | `(tactic| er_cong) => `(tactic| apply prevoteTransitions_cong)

theorem afterPrevote_cong (vr : Nat) (h : er a = er b) : er (afterPrevote c a vr) = er (afterPrevote c b vr) := by
  unfold afterPrevote
  er_rw h
  repeat' split
  all_goals er_chain
macro_rules | `(tactic| er_cong) => `(tactic| apply afterPrevote_cong)

theorem afterPrecommit_cong (vr : Nat) (h : er a = er b) : er (afterPrecommit c a vr) = er (afterPrecommit c b vr) := by
  unfold afterPrecommit
  er_rw h
  repeat' split
  all_goals er_chain
macro_rules | `(tactic| er_cong) => `(tactic| apply afterPrecommit_cong)

theorem addVote_cong (v : Vote) (peer : Peer) (h : er a = er b) : er (addVote c a v peer) = er (addVote c b v peer) := by
  unfold addVote
  er_rw h
  repeat' split
  all_goals er_chain
macro_rules | `(tactic| er_cong) => `(tactic| apply addVote_cong)

theorem er_handleInternal (m : Internal) (h : er a = er b) :
    er (handleInternal c a m) = er (handleInternal c b m) := by
  unfold handleInternal
  repeat' split
  all_goals er_chain

theorem handleInternal_cong (m : Internal) (m' : Internal) (h : er a = er b) (e_m : m = m') :
    er (handleInternal c a m) = er (handleInternal c b m') :=
  e_m ▸ er_handleInternal m h

theorem handleTimeout_cong (r : Nat) (st : Step) (h : er a = er b) :
    er (handleTimeout c a r st) = er (handleTimeout c b r st) := by
  unfold handleTimeout
  er_rw h
  repeat' split
  all_goals er_chain
macro_rules | `(tactic| er_cong) => `(tactic| apply handleTimeout_cong)

theorem handleTxsAvailable_cong (h : er a = er b) : er (handleTxsAvailable c a) = er (handleTxsAvailable c b) := by
  unfold handleTxsAvailable
  er_rw h
  repeat' split
  all_goals er_chain
macro_rules | `(tactic| er_cong) => `(tactic| apply handleTxsAvailable_cong)

theorem er_handleInput (i : Input) (h : er a = er b) : er (handleInput c a i) = er (handleInput c b i) := by
  unfold handleInput
  er_rw h
  repeat' split
  all_goals er_chain

theorem handleInput_cong (i : Input) (i' : Input) (h : er a = er b) (e_i : i = i') :
    er (handleInput c a i) = er (handleInput c b i') :=
  e_i ▸ er_handleInput i h

end Tmv.Cons
