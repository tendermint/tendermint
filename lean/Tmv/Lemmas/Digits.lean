import Tmv.Util
/-! Base-256 digit strings: the `k` low digits of a number, least significant first, and the value of
a digit string. The fixed-width integer fields of the models (little- or big-endian) are instances. -/
namespace Tmv.Digits
open Tmv

def le (k n : Nat) : Bytes := (List.range k).map fun i => UInt8.ofNat (n / 256 ^ i % 256)

def val : Bytes → Nat
  | [] => 0
  | b :: r => b.toNat + 256 * val r

theorem le_length (k n : Nat) : (le k n).length = k := by simp [le]

theorem le_succ (k n : Nat) : le (k + 1) n = UInt8.ofNat (n % 256) :: le k (n / 256) := by
  simp only [le, List.range_succ_eq_map, List.map_cons, List.map_map, Nat.pow_zero, Nat.div_one,
    List.cons.injEq, true_and]
  refine List.map_congr_left fun i _ => ?_
  simp only [Function.comp, Nat.pow_succ, Nat.mul_comm _ 256, Nat.div_div_eq_div_mul]

theorem val_le : ∀ k n : Nat, val (le k n) = n % 256 ^ k
  | 0, n => by simp [le, val, Nat.mod_one]
  | k + 1, n => by
    rw [le_succ, val, val_le k, Nat.pow_succ', Nat.mod_mul]
    simp only [UInt8.toNat_ofNat', Nat.reducePow, Nat.mod_mod]

theorem le_val : ∀ b : Bytes, le b.length (val b) = b
  | [] => rfl
  | x :: r => by
    have h := x.toNat_lt
    rw [List.length_cons, le_succ, val, Nat.add_mul_mod_self_left, Nat.mod_eq_of_lt h, UInt8.ofNat_toNat,
      Nat.add_mul_div_left _ _ (by decide : 0 < 256), Nat.div_eq_of_lt h, Nat.zero_add, le_val r]

end Tmv.Digits
