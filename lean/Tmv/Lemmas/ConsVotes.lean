import Tmv.Model.Cons
/-! An invariant of vote sets is proved from the case lemmas of the operations (`addVote_cases`, `addVerified_eq`,
`recordVote_cases`, `finish_cases`, `setPeerMaj23_fields`, `bucket_setPeerMaj23`) and from nothing else of their bodies.
Every set of a later `HVS` comes from the set of the earlier one (from the empty set, for a round not tracked before)
by adding votes and recording majority claims (`VReach`, `HExt`), so what these two keep (`VoteSet.Kept`) holds of
every set a node ever has (`HExt.all`; `Prim.votes`, `enter_votes` in Lemmas/ConsPrim.lean). A +2/3 majority, once
recorded, never changes ("first maj23 wins": `VoteSet.addVote_maj23`, `Stable`). -/
namespace Tmv.Cons

theorem alookup_cons {α β} [DecidableEq α] (p : α × β) (l : List (α × β)) (k : α) :
    alookup (p :: l) k = if p.1 = k then some p.2 else alookup l k := by
  unfold alookup
  rw [List.find?_cons]
  by_cases h : p.1 = k <;> simp [h]

theorem alookup_append {α β} [DecidableEq α] (l : List (α × β)) (k k' : α) (v : β) :
    alookup (l ++ [(k, v)]) k' = match alookup l k' with
      | some x => some x
      | none => if k' = k then some v else none := by
  induction l with
  | nil =>
    show alookup [(k, v)] k' = if k' = k then some v else none
    rw [alookup_cons]
    by_cases h : k' = k
    · rw [if_pos h, if_pos h.symm]
    · rw [if_neg h, if_neg (Ne.symm h)]; rfl
  | cons p l ih =>
    rw [List.cons_append, alookup_cons, alookup_cons]
    split
    · rfl
    · exact ih

theorem alookup_any {α β} [DecidableEq α] (l : List (α × β)) (k : α) :
    (l.any fun p => p.1 = k) = (alookup l k).isSome := by
  induction l with
  | nil => rfl
  | cons p l ih =>
    rw [List.any_cons, alookup_cons, ih]
    by_cases h : p.1 = k <;> simp [h]

theorem alookup_map_set {α β} [DecidableEq α] (l : List (α × β)) (k k' : α) (v : β) :
    alookup (l.map (fun p => if p.1 = k then (k, v) else p)) k' =
      if k' = k then (alookup l k').map (fun _ => v) else alookup l k' := by
  induction l with
  | nil => simp [alookup]
  | cons p l ih =>
    rw [List.map_cons, alookup_cons, alookup_cons, ih]
    by_cases hk : k' = k
    · subst hk; by_cases hp : p.1 = k' <;> simp [hp]
    · by_cases hp : p.1 = k
      · have : ¬ k = k' := Ne.symm hk
        have : ¬ p.1 = k' := hp ▸ this
        simp [*]
      · simp [hp, hk]

theorem alookup_aset {α β} [DecidableEq α] (l : List (α × β)) (k k' : α) (v : β) :
    alookup (aset l k v) k' = if k' = k then some v else alookup l k' := by
  unfold aset
  split
  · rename_i h
    rw [alookup_any] at h
    rw [alookup_map_set]
    split
    · rename_i e; subst e
      cases hl : alookup l k' with
      | some x => rfl
      | none => simp [hl] at h
    · rfl
  · rename_i h
    rw [alookup_any] at h
    rw [alookup_append]
    cases hl : alookup l k' with
    | some x =>
      have : k' ≠ k := by rintro rfl; simp [hl] at h
      simp [this]
    | none => rfl

theorem alookup_isSome_iff {α β} [DecidableEq α] (l : List (α × β)) (k : α) :
    (alookup l k).isSome = true ↔ k ∈ l.map (·.1) := by
  rw [← alookup_any]
  simp only [List.any_eq_true, List.mem_map, decide_eq_true_eq]

theorem alookup_none_iff {α β} [DecidableEq α] (l : List (α × β)) (k : α) :
    alookup l k = none ↔ k ∉ l.map (·.1) := by
  rw [← alookup_isSome_iff]
  cases alookup l k <;> simp

theorem aset_keys_some {α β} [DecidableEq α] (l : List (α × β)) (k : α) (v : β)
    (h : (alookup l k).isSome = true) : (aset l k v).map (·.1) = l.map (·.1) := by
  unfold aset
  rw [alookup_any, h]
  simp only [if_true, List.map_map]
  apply List.map_congr_left
  intro p _
  simp only [Function.comp]
  split
  · rename_i e; exact e.symm
  · rfl

theorem aset_keys_none {α β} [DecidableEq α] (l : List (α × β)) (k : α) (v : β)
    (h : alookup l k = none) : (aset l k v).map (·.1) = l.map (·.1) ++ [k] := by
  unfold aset
  rw [alookup_any, h]
  simp

theorem foldl_aset_keys {β} (L : List Nat) (key : β) (vv : List (Nat × β))
    (h : ∀ i ∈ L, (alookup vv i).isSome = true) :
    (L.foldl (fun vv i => aset vv i key) vv).map (·.1) = vv.map (·.1) := by
  induction L generalizing vv with
  | nil => rfl
  | cons a L ih =>
    simp only [List.foldl]
    have ha := aset_keys_some vv a key (h a (List.mem_cons_self ..))
    rw [ih, ha]
    intro i hi
    rw [alookup_isSome_iff, ha, ← alookup_isSome_iff]
    exact h i (List.mem_cons_of_mem _ hi)

theorem alookup_foldl_aset {β} (key : β) (l : List Nat) (acc : List (Nat × β)) (i : Nat) :
    alookup (l.foldl (fun vv j => aset vv j key) acc) i = if i ∈ l then some key else alookup acc i := by
  induction l generalizing acc with
  | nil => simp
  | cons a l ih =>
    simp only [List.foldl]
    rw [ih, alookup_aset]
    by_cases h1 : i ∈ l
    · simp [h1]
    · by_cases h2 : i = a
      · simp [h2]
      · simp [h1, h2]

theorem BlockVotes.add_sum_ge (bv : BlockVotes) (idx p : Nat) : bv.sum ≤ (bv.add idx p).sum := by
  unfold BlockVotes.add; split <;> simp

theorem BlockVotes.mem_add (bv : BlockVotes) (idx p v : Nat) :
    v ∈ (bv.add idx p).voted ↔ v ∈ bv.voted ∨ v = idx := by
  unfold BlockVotes.add
  split
  · rename_i h
    have : idx ∈ bv.voted := by simpa using h
    constructor
    · exact Or.inl
    · rintro (h | h)
      · exact h
      · subst h; exact this
  · simp

theorem VoteSet.addVote_cases (c : Cfg) (vs : VoteSet) (v : Vote) :
    vs.addVote c v = (vs, false) ∨
    (v.val < c.n ∧ v.addr = v.val ∧ vs.getVote v.val v.bid = false ∧ v.sigOK = true ∧ v.signer = v.val ∧
      vs.addVote c v = vs.addVerified c v.val v.bid) := by
  unfold VoteSet.addVote
  by_cases h1 : v.val ≥ c.n
  · rw [if_pos h1]; exact Or.inl rfl
  by_cases h2 : v.addr ≠ v.val
  · rw [if_neg h1, if_pos h2]; exact Or.inl rfl
  by_cases h3 : vs.getVote v.val v.bid = true
  · rw [if_neg h1, if_neg h2, if_pos h3]; exact Or.inl rfl
  by_cases h4 : (!(v.sigOK && v.signer = v.val)) = true
  · rw [if_neg h1, if_neg h2, if_neg h3, if_pos h4]; exact Or.inl rfl
  · rw [if_neg h1, if_neg h2, if_neg h3, if_neg h4]
    simp only [Bool.not_eq_true', Bool.not_eq_false, Bool.and_eq_true, decide_eq_true_eq] at h4
    exact Or.inr ⟨Nat.lt_of_not_ge h1, Decidable.not_not.1 h2, by simpa using h3, h4.1, h4.2, rfl⟩

/-- the bucket `addVerified` adds a vote for `key` to: the one there is, or a fresh empty one. `blockSum`, `has` and
the bucket invariants read `byBlock` through it, so that "no bucket yet" is not a case of its own. -/
def VoteSet.bucket (vs : VoteSet) (key : Bid) : BlockVotes := (alookup vs.byBlock key).getD ⟨false, [], 0⟩

theorem VoteSet.blockSum_eq (vs : VoteSet) (key : Bid) : vs.blockSum key = (vs.bucket key).sum := by
  unfold VoteSet.blockSum VoteSet.bucket; cases alookup vs.byBlock key <;> rfl

theorem VoteSet.bucket_of_some {vs : VoteSet} {key : Bid} {bv : BlockVotes} (h : alookup vs.byBlock key = some bv) :
    vs.bucket key = bv := by unfold VoteSet.bucket; rw [h]; rfl

theorem VoteSet.bucket_congr {vs vs' : VoteSet} (e : vs'.byBlock = vs.byBlock) (k : Bid) : vs'.bucket k = vs.bucket k := by
  unfold VoteSet.bucket; rw [e]

theorem VoteSet.bucket_aset {vs vs' : VoteSet} {key : Bid} {bv : BlockVotes}
    (e : vs'.byBlock = aset vs.byBlock key bv) (k : Bid) : vs'.bucket k = if k = key then bv else vs.bucket k := by
  unfold VoteSet.bucket
  rw [e, alookup_aset]
  by_cases hk : k = key
  · rw [if_pos hk, if_pos hk]; rfl
  · rw [if_neg hk, if_neg hk]

theorem VoteSet.recordVote_cases (c : Cfg) (vs : VoteSet) (idx : Nat) (key : Bid) :
    ((alookup vs.votes idx).isSome = true ∧ vs.maj23 ≠ some key ∧ vs.recordVote c idx key = vs) ∨
    ((alookup vs.votes idx).isSome = true ∧ vs.maj23 = some key ∧
      vs.recordVote c idx key = { vs with votes := aset vs.votes idx key }) ∨
    (alookup vs.votes idx = none ∧
      vs.recordVote c idx key = { vs with votes := aset vs.votes idx key, sum := vs.sum + c.power idx }) := by
  unfold VoteSet.recordVote
  cases alookup vs.votes idx with
  | none => exact .inr (.inr ⟨rfl, rfl⟩)
  | some x =>
    dsimp only
    by_cases hm : vs.maj23 = some key
    · rw [if_pos hm]; exact .inr (.inl ⟨rfl, hm, rfl⟩)
    · rw [if_neg hm]; exact .inl ⟨rfl, hm, rfl⟩

theorem VoteSet.recordVote_fields (c : Cfg) (vs : VoteSet) (idx : Nat) (key : Bid) :
    (vs.recordVote c idx key).maj23 = vs.maj23 ∧ (vs.recordVote c idx key).byBlock = vs.byBlock := by
  rcases VoteSet.recordVote_cases c vs idx key with ⟨_, _, e⟩ | ⟨_, _, e⟩ | ⟨_, e⟩ <;> rw [e] <;> exact ⟨rfl, rfl⟩

theorem VoteSet.finish_cases (c : Cfg) (vs : VoteSet) (idx : Nat) (key : Bid) (bv : BlockVotes) :
    (VoteSet.finish c vs idx key bv).1.byBlock = aset vs.byBlock key (bv.add idx (c.power idx)) ∧
    (VoteSet.finish c vs idx key bv).1.sum = vs.sum ∧
    (((VoteSet.finish c vs idx key bv).1.maj23 = vs.maj23 ∧ (VoteSet.finish c vs idx key bv).1.votes = vs.votes ∧
        ¬ (bv.sum < c.quorum ∧ c.quorum ≤ (bv.add idx (c.power idx)).sum ∧ vs.maj23 = none)) ∨
     (bv.sum < c.quorum ∧ c.quorum ≤ (bv.add idx (c.power idx)).sum ∧ vs.maj23 = none ∧
        (VoteSet.finish c vs idx key bv).1.maj23 = some key ∧
        (VoteSet.finish c vs idx key bv).1.votes =
          (bv.add idx (c.power idx)).voted.foldl (fun vv i => aset vv i key) vs.votes)) := by
  unfold VoteSet.finish
  dsimp only
  by_cases hq : bv.sum < c.quorum ∧ c.quorum ≤ (bv.add idx (c.power idx)).sum
  · rw [if_pos hq]
    cases hm : vs.maj23 with
    | none => exact ⟨rfl, rfl, .inr ⟨hq.1, hq.2, rfl, rfl, rfl⟩⟩
    | some x => exact ⟨rfl, rfl, .inl ⟨rfl, rfl, fun h => nomatch h.2.2⟩⟩
  · rw [if_neg hq]; exact ⟨rfl, rfl, .inl ⟨rfl, rfl, fun h => hq ⟨h.1, h.2.1⟩⟩⟩

theorem VoteSet.addVerified_eq (c : Cfg) (vs : VoteSet) (idx : Nat) (key : Bid) :
    vs.addVerified c idx key =
      if (alookup vs.votes idx).isSome = true ∧ (vs.bucket key).peerMaj23 = false then (vs.recordVote c idx key, false)
      else VoteSet.finish c (vs.recordVote c idx key) idx key (vs.bucket key) := by
  unfold VoteSet.addVerified VoteSet.bucket
  dsimp only
  rw [(VoteSet.recordVote_fields c vs idx key).2]
  cases alookup vs.byBlock key with
  | some bv => cases (alookup vs.votes idx).isSome <;> cases h : bv.peerMaj23 <;> simp [h]
  | none => cases (alookup vs.votes idx).isSome <;> rfl

theorem VoteSet.setPeerMaj23_fields (vs : VoteSet) (peer : Peer) (key : Bid) :
    (vs.setPeerMaj23 peer key).votes = vs.votes ∧ (vs.setPeerMaj23 peer key).sum = vs.sum ∧
      (vs.setPeerMaj23 peer key).maj23 = vs.maj23 := by
  unfold VoteSet.setPeerMaj23
  simp only []
  repeat' split
  all_goals exact ⟨rfl, rfl, rfl⟩

/-- under `setPeerMaj23` every bucket keeps its members and its sum (a bucket may appear, empty) -/
theorem VoteSet.bucket_setPeerMaj23 (vs : VoteSet) (peer : Peer) (key k : Bid) :
    ((vs.setPeerMaj23 peer key).bucket k).voted = (vs.bucket k).voted ∧
    ((vs.setPeerMaj23 peer key).bucket k).sum = (vs.bucket k).sum := by
  unfold VoteSet.setPeerMaj23 VoteSet.bucket
  dsimp only
  cases alookup vs.peerMaj23s peer with
  | some _ => exact ⟨rfl, rfl⟩
  | none =>
    dsimp only
    cases hb : alookup vs.byBlock key with
    | some bv =>
      dsimp only
      by_cases hp : bv.peerMaj23 = true
      · rw [if_pos hp]; exact ⟨rfl, rfl⟩
      · rw [if_neg hp]; dsimp only; rw [alookup_aset]
        by_cases hk : k = key
        · rw [if_pos hk, hk, hb]; exact ⟨rfl, rfl⟩
        · rw [if_neg hk]; exact ⟨rfl, rfl⟩
    | none =>
      dsimp only
      rw [alookup_append]
      cases alookup vs.byBlock k with
      | some x => exact ⟨rfl, rfl⟩
      | none => dsimp only; split <;> exact ⟨rfl, rfl⟩

theorem VoteSet.finish_maj23 (c : Cfg) (vs : VoteSet) (idx : Nat) (key : Bid) (bv : BlockVotes) (x : Bid)
    (h : vs.maj23 = some x) : (VoteSet.finish c vs idx key bv).1.maj23 = some x := by
  rcases (VoteSet.finish_cases c vs idx key bv).2.2 with ⟨e, _⟩ | ⟨_, _, hn, _⟩
  · rw [e]; exact h
  · rw [h] at hn; cases hn

theorem VoteSet.addVote_maj23 (c : Cfg) (vs : VoteSet) (v : Vote) (x : Bid)
    (h : vs.maj23 = some x) : (vs.addVote c v).1.maj23 = some x := by
  rcases VoteSet.addVote_cases c vs v with e | ⟨_, _, _, _, _, e⟩ <;> rw [e]
  · exact h
  · have h1 := (VoteSet.recordVote_fields c vs v.val v.bid).1.trans h
    rw [VoteSet.addVerified_eq]
    split
    · exact h1
    · exact VoteSet.finish_maj23 _ _ _ _ _ _ h1

theorem VoteSet.addVerified_not_added (c : Cfg) (vs : VoteSet) (i : Nat) (k : Bid)
    (h : (vs.addVerified c i k).2 = false) : (vs.addVerified c i k).1.maj23 = vs.maj23 := by
  rw [VoteSet.addVerified_eq] at h ⊢
  by_cases hc : (alookup vs.votes i).isSome = true ∧ (vs.bucket k).peerMaj23 = false
  · rw [if_pos hc]; exact (VoteSet.recordVote_fields c vs i k).1
  · rw [if_neg hc] at h
    -- `finish` reports the vote as added
    exact Bool.noConfusion (h : true = false)

theorem VoteSet.addVote_not_added (c : Cfg) (vs : VoteSet) (v : Vote) (h : (vs.addVote c v).2 = false) :
    (vs.addVote c v).1.maj23 = vs.maj23 := by
  rcases VoteSet.addVote_cases c vs v with e | ⟨_, _, _, _, _, e⟩ <;> rw [e] at h ⊢
  exact VoteSet.addVerified_not_added c vs _ _ h

theorem VoteSet.setPeerMaj23_maj23 (vs : VoteSet) (peer : Peer) (key : Bid) :
    (vs.setPeerMaj23 peer key).maj23 = vs.maj23 := (VoteSet.setPeerMaj23_fields vs peer key).2.2

/-- every recorded prevote majority of `h` is still recorded in `h'`: all of `HExt` (`HExt.stable`) that the lock
invariants need -/
def Stable (h h' : HVS) : Prop :=
  ∀ (r : Int) (x : Bid), maj23Of (h.prevotes r) = some x → maj23Of (h'.prevotes r) = some x

theorem Stable.refl (h : HVS) : Stable h h := fun _ _ hx => hx
theorem Stable.trans {a b c : HVS} (h₁ : Stable a b) (h₂ : Stable b c) : Stable a c :=
  fun r x hx => h₂ r x (h₁ r x hx)
theorem HVS.addRound_getVoteSet (h : HVS) (r r' : Int) (t : VType) :
    (h.addRound r).getVoteSet r' t = match h.getVoteSet r' t with
      | some vs => some vs
      | none => if r' = r then some .empty else none := by
  unfold HVS.getVoteSet HVS.getRound HVS.addRound
  simp only []
  rw [alookup_append]
  cases alookup h.sets r' with
  | some rvs => rfl
  | none =>
    show Option.map _ (if r' = r then _ else none) = if r' = r then _ else none
    by_cases e : r' = r
    · rw [if_pos e, if_pos e]; cases t <;> rfl
    · rw [if_neg e, if_neg e]; rfl

theorem HVS.putVoteSet_getVoteSet (h : HVS) (r r' : Int) (t t' : VType) (vs : VoteSet) :
    (h.putVoteSet r t vs).getVoteSet r' t' =
      if r' = r ∧ t' = t then (h.getVoteSet r t).map fun _ => vs else h.getVoteSet r' t' := by
  unfold HVS.putVoteSet
  cases hg : h.getRound r with
  | none =>
    simp only []
    split
    · rename_i e; rw [e.1, e.2]; unfold HVS.getVoteSet; rw [hg]; rfl
    · rfl
  | some rvs =>
    unfold HVS.getVoteSet
    rw [hg]
    unfold HVS.getRound
    simp only []
    rw [alookup_aset]
    by_cases hr : r' = r
    · subst hr
      have : alookup h.sets r' = some rvs := hg
      cases t <;> cases t' <;> simp [this]
    · simp [hr]

theorem getVoteSet_congr_sets {a b : HVS} (e : b.sets = a.sets) (r : Int) (t : VType) :
    b.getVoteSet r t = a.getVoteSet r t := by
  unfold HVS.getVoteSet HVS.getRound; rw [e]

theorem getVoteSet_init (r : Int) (t : VType) :
    HVS.init.getVoteSet r t = if r = 0 then some VoteSet.empty else none := by
  unfold HVS.getVoteSet HVS.getRound HVS.init alookup
  by_cases h : r = 0
  · subst h; cases t <;> simp [List.find?]
  · have h' : ¬ (0 : Int) = r := fun e => h e.symm
    cases t <;> simp [List.find?, h, h']

theorem HVS.setRound_none {h : HVS} {x : Int} (hs : h.setRound x = none) : x < h.round - 1 := by
  unfold HVS.setRound at hs
  simp only [] at hs
  split at hs
  · rename_i hc; exact hc.2
  · cases hs

theorem HVS.setRound_round {h h' : HVS} {x : Int} (hs : h.setRound x = some h') : h'.round = x := by
  unfold HVS.setRound at hs
  simp only [] at hs
  split at hs
  · cases hs
  · cases hs; rfl

/-- `vs'` comes from `vs` by `addVote`s of votes satisfying `B` and `setPeerMaj23`s — the only two operations a node
applies to a vote set it holds -/
inductive VReach (c : Cfg) (B : Vote → Prop) : VoteSet → VoteSet → Prop
  | refl (vs : VoteSet) : VReach c B vs vs
  | add {vs vs' : VoteSet} (v : Vote) : VReach c B vs vs' → B v → VReach c B vs (vs'.addVote c v).1
  | claim {vs vs' : VoteSet} (peer : Peer) (key : Bid) : VReach c B vs vs' →
      VReach c B vs (vs'.setPeerMaj23 peer key)

theorem VReach.inv {c : Cfg} {B : Vote → Prop} {P : VoteSet → Prop} {a b : VoteSet} (h : VReach c B a b)
    (hadd : ∀ vs v, B v → P vs → P (vs.addVote c v).1) (hclaim : ∀ vs peer key, P vs → P (vs.setPeerMaj23 peer key))
    (ha : P a) : P b := by
  induction h with
  | refl => exact ha
  | add v _ hb ih => exact hadd _ v hb ih
  | claim p k _ ih => exact hclaim _ p k ih

theorem VReach.trans {c : Cfg} {B : Vote → Prop} {a b d : VoteSet} (h₁ : VReach c B a b) (h₂ : VReach c B b d) :
    VReach c B a d :=
  h₂.inv (P := VReach c B a) (fun _ v hb ih => .add v ih hb) (fun _ p k ih => .claim p k ih) h₁

theorem VReach.mono {c : Cfg} {B B' : Vote → Prop} {a b : VoteSet} (hB : ∀ w, B w → B' w) (h : VReach c B a b) :
    VReach c B' a b :=
  h.inv (P := VReach c B' a) (fun _ v hb ih => .add v ih (hB v hb)) (fun _ p k ih => .claim p k ih) (.refl _)

theorem VReach.maj23 {c : Cfg} {B : Vote → Prop} {a b : VoteSet} (h : VReach c B a b) {x : Bid}
    (hm : a.maj23 = some x) : b.maj23 = some x :=
  h.inv (fun vs v _ => VoteSet.addVote_maj23 c vs v x) (fun vs p k e => (VoteSet.setPeerMaj23_maj23 vs p k).trans e) hm

theorem VReach.maj23_eq {c : Cfg} {a b : VoteSet} (h : VReach c (fun _ => False) a b) : b.maj23 = a.maj23 :=
  h.inv (P := fun vs => vs.maj23 = a.maj23) (fun _ _ hb => hb.elim)
    (fun vs p k e => (VoteSet.setPeerMaj23_maj23 vs p k).trans e) rfl

/-- What an invariant `P` of vote sets has to provide (`B`: a provenance of the votes, if `P` speaks of one).
`HExt.all` then gives `P` of every set of every later stage of a height vote set, hence (`Prim.votes`, `enter_votes`,
`run_votes` in Lemmas/ConsPrim.lean) of every set a node ever holds. -/
structure VoteSet.Kept (c : Cfg) (B : Vote → Prop) (P : VoteSet → Prop) : Prop where
  empty : P .empty
  add : ∀ vs v, B v → P vs → P (vs.addVote c v).1
  claim : ∀ vs peer key, P vs → P (vs.setPeerMaj23 peer key)

/-- `h'` is a later stage of `h`; `A r t` bounds the votes added to the set of (r, t). Proofs go through the
point-wise form `HExt_iff`, which has no case split on `fwd` / `bwd`. -/
structure HExt (c : Cfg) (A : Int → VType → Vote → Prop) (h h' : HVS) : Prop where
  fwd : ∀ r t vs, h.getVoteSet r t = some vs → ∃ vs', h'.getVoteSet r t = some vs' ∧ VReach c (A r t) vs vs'
  bwd : ∀ r t vs', h'.getVoteSet r t = some vs' →
      (∃ vs, h.getVoteSet r t = some vs ∧ VReach c (A r t) vs vs') ∨
      (h.getVoteSet r t = none ∧ VReach c (A r t) VoteSet.empty vs')

/-- `HExt` at one (round, type). A round that is not tracked counts as the empty set: the node reads the sets
through `maj23Of` / `hasAnyOf`, which do not tell the two apart. -/
def OExt (c : Cfg) (B : Vote → Prop) (o o' : Option VoteSet) : Prop :=
  (o.isSome = true → o'.isSome = true) ∧ VReach c B (o.getD .empty) (o'.getD .empty)

def HVS.All (P : Int → VType → VoteSet → Prop) (h : HVS) : Prop := ∀ r t vs, h.getVoteSet r t = some vs → P r t vs

theorem HVS.All.init {P : Int → VType → VoteSet → Prop} (h0 : ∀ t, P 0 t .empty) : HVS.All P .init := by
  intro r t vs hg
  rw [getVoteSet_init] at hg
  split at hg
  · cases hg; rename_i e; rw [e]; exact h0 t
  · cases hg

/-- the same by rounds, as `QH`, `MSh` are written -/
theorem HVS.all_iff {P : Int → VType → VoteSet → Prop} {h : HVS} :
    HVS.All P h ↔ ∀ r rvs, h.getRound r = some rvs → P r .prevote rvs.prevotes ∧ P r .precommit rvs.precommits := by
  constructor
  · intro ha r rvs hr
    have e : ∀ t, h.getVoteSet r t = some (match t with | .prevote => rvs.prevotes | .precommit => rvs.precommits) := by
      intro t; unfold HVS.getVoteSet; rw [hr]; rfl
    exact ⟨ha r .prevote _ (e _), ha r .precommit _ (e _)⟩
  · intro hq r t vs hg
    unfold HVS.getVoteSet at hg
    cases hr : h.getRound r with
    | none => rw [hr] at hg; cases hg
    | some rvs =>
      rw [hr] at hg
      cases t <;> cases hg
      · exact (hq r rvs hr).1
      · exact (hq r rvs hr).2

section
variable {c : Cfg} {A : Int → VType → Vote → Prop}

theorem OExt.refl (c : Cfg) (B : Vote → Prop) (o : Option VoteSet) : OExt c B o o := ⟨id, .refl _⟩

theorem OExt.trans {B : Vote → Prop} {o₁ o₂ o₃ : Option VoteSet} (h₁ : OExt c B o₁ o₂) (h₂ : OExt c B o₂ o₃) :
    OExt c B o₁ o₃ := ⟨h₂.1 ∘ h₁.1, h₁.2.trans h₂.2⟩

theorem HExt_iff {h h' : HVS} : HExt c A h h' ↔ ∀ r t, OExt c (A r t) (h.getVoteSet r t) (h'.getVoteSet r t) := by
  constructor
  · intro hx r t
    cases hg : h.getVoteSet r t with
    | some vs =>
      obtain ⟨vs', hg', hr⟩ := hx.fwd r t vs hg
      rw [hg']; exact ⟨fun _ => rfl, hr⟩
    | none =>
      refine ⟨nofun, ?_⟩
      cases hg' : h'.getVoteSet r t with
      | none => exact .refl _
      | some vs' =>
        rcases hx.bwd r t vs' hg' with ⟨vs, e, _⟩ | ⟨_, hr⟩
        · rw [hg] at e; cases e
        · exact hr
  · intro hp
    refine ⟨fun r t vs hg => ?_, fun r t vs' hg' => ?_⟩
    · have := hp r t
      rw [hg] at this
      cases hg' : h'.getVoteSet r t with
      | none => rw [hg'] at this; cases this.1 rfl
      | some vs' => rw [hg'] at this; exact ⟨vs', rfl, this.2⟩
    · have := hp r t
      rw [hg'] at this
      cases hg : h.getVoteSet r t with
      | none => rw [hg] at this; exact .inr ⟨rfl, this.2⟩
      | some vs => rw [hg] at this; exact .inl ⟨vs, rfl, this.2⟩

theorem HExt.refl (c : Cfg) (A : Int → VType → Vote → Prop) (h : HVS) : HExt c A h h :=
  HExt_iff.2 fun _ _ => .refl ..

theorem HExt.trans {a b d : HVS} (h₁ : HExt c A a b) (h₂ : HExt c A b d) : HExt c A a d :=
  HExt_iff.2 fun r t => (HExt_iff.1 h₁ r t).trans (HExt_iff.1 h₂ r t)

theorem HExt.congr_sets {a b b' : HVS} (h : HExt c A a b) (e : b'.sets = b.sets) : HExt c A a b' :=
  HExt_iff.2 fun r t => by rw [getVoteSet_congr_sets e]; exact HExt_iff.1 h r t

theorem HExt.all {P : Int → VType → VoteSet → Prop} {a b : HVS} (hx : HExt c A a b)
    (hk : ∀ r t, VoteSet.Kept c (A r t) (P r t)) (ha : HVS.All P a) : HVS.All P b := by
  intro r t vs' hg'
  have := HExt_iff.1 hx r t
  rw [hg'] at this
  refine this.2.inv (hk r t).add (hk r t).claim ?_
  cases hg : a.getVoteSet r t with
  | none => exact (hk r t).empty
  | some vs => exact ha r t vs hg

theorem maj23Of_eq (o : Option VoteSet) : maj23Of o = (o.getD .empty).maj23 := by cases o <;> rfl

theorem HExt.maj23 {a b : HVS} (h : HExt c A a b) {r : Int} {t : VType} {x : Bid}
    (hm : maj23Of (a.getVoteSet r t) = some x) : maj23Of (b.getVoteSet r t) = some x := by
  rw [maj23Of_eq] at hm ⊢
  exact (HExt_iff.1 h r t).2.maj23 hm

theorem HExt.tracked {a b : HVS} (h : HExt c A a b) {r : Int} {t : VType}
    (ht : (a.getVoteSet r t).isSome = true) : (b.getVoteSet r t).isSome = true := (HExt_iff.1 h r t).1 ht

theorem HExt.stable {a b : HVS} (h : HExt c A a b) : Stable a b := fun _ _ hm => h.maj23 hm

theorem HExt.put (h : HVS) (r : Int) (t : VType) (vs vs' : VoteSet)
    (hg : h.getVoteSet r t = some vs) (hr : VReach c (A r t) vs vs') : HExt c A h (h.putVoteSet r t vs') := by
  refine HExt_iff.2 fun r' t' => ?_
  rw [HVS.putVoteSet_getVoteSet]
  split
  · rename_i e
    obtain ⟨rfl, rfl⟩ := e
    rw [hg]; exact ⟨id, hr⟩
  · exact .refl ..

theorem HExt.addRound (c : Cfg) (A : Int → VType → Vote → Prop) (h : HVS) (r : Int) : HExt c A h (h.addRound r) := by
  refine HExt_iff.2 fun r' t' => ?_
  rw [HVS.addRound_getVoteSet]
  cases h.getVoteSet r' t' with
  | some vs => exact .refl ..
  | none => exact ⟨nofun, by dsimp only; split <;> exact .refl _⟩

theorem HExt.setPeerMaj23 (c : Cfg) (A : Int → VType → Vote → Prop) (h : HVS) (r : Nat) (t : VType) (peer : Peer)
    (key : Bid) : HExt c A h (h.setPeerMaj23 r t peer key) := by
  unfold HVS.setPeerMaj23
  split
  · rename_i vs hg
    exact .put h _ _ vs _ hg (.claim peer key (.refl vs))
  · exact .refl c A h

theorem HExt.foldl_addRound (c : Cfg) (A : Int → VType → Vote → Prop) (rs : List Int) (h : HVS) :
    HExt c A h (rs.foldl (fun h r => if (h.getRound r).isSome then h else h.addRound r) h) := by
  induction rs generalizing h with
  | nil => exact .refl c A h
  | cons a rs ih =>
    simp only [List.foldl]
    refine .trans ?_ (ih _)
    split
    · exact .refl c A h
    · exact .addRound c A h a

theorem HExt.setRound (c : Cfg) (A : Int → VType → Vote → Prop) (h h' : HVS) (round : Int)
    (hs : h.setRound round = some h') : HExt c A h h' := by
  unfold HVS.setRound at hs
  simp only [] at hs
  split at hs
  · cases hs
  · cases hs
    exact (HExt.foldl_addRound c A _ h).congr_sets rfl

end

theorem HExt.mono {c : Cfg} {A A' : Int → VType → Vote → Prop} {a b : HVS}
    (hA : ∀ r t w, A r t w → A' r t w) (h : HExt c A a b) : HExt c A' a b := by
  exact HExt_iff.2 fun r t => ⟨(HExt_iff.1 h r t).1, (HExt_iff.1 h r t).2.mono (hA r t)⟩

/-- `HeightVoteSet.AddVote`: the vote is refused (its round is not tracked and the peer has used up its catch-up
rounds), or it goes through `VoteSet.addVote` of its set `vs` in `h₁`: `h` itself, or `h` with the vote's round newly
tracked — a stage of `h` with no vote added. -/
theorem HVS.addVote_cases (c : Cfg) (h : HVS) (v : Vote) (peer : Peer) :
    h.addVote c v peer = (h, false) ∨
    ∃ h₁ vs, h.addVote c v peer = (h₁.putVoteSet v.round v.typ (vs.addVote c v).1, (vs.addVote c v).2) ∧
      h₁.getVoteSet v.round v.typ = some vs ∧ h₁.round = h.round ∧ HExt c (fun _ _ _ => False) h h₁ := by
  unfold HVS.addVote
  dsimp only
  split
  · rename_i vs hg
    exact .inr ⟨h, vs, rfl, hg, rfl, .refl ..⟩
  · rename_i hg
    split
    · refine .inr ⟨{ (h.addRound (v.round : Int)) with
        catchup := aset h.catchup peer ((alookup h.catchup peer).getD [] ++ [(v.round : Int)]) }, .empty, rfl, ?_, rfl,
        (HExt.addRound c _ h v.round).congr_sets rfl⟩
      show (h.addRound (v.round : Int)).getVoteSet v.round v.typ = _
      rw [HVS.addRound_getVoteSet, hg, if_pos rfl]
    · exact .inl rfl

theorem HExt.addVote (c : Cfg) (A : Int → VType → Vote → Prop) (h : HVS) (v : Vote) (peer : Peer)
    (ha : A (v.round : Int) v.typ v) : HExt c A h (h.addVote c v peer).1 := by
  rcases HVS.addVote_cases c h v peer with e | ⟨h₁, vs, e, hg, _, hx⟩ <;> rw [e]
  · exact .refl c A h
  · exact (hx.mono fun _ _ _ => nofun).trans (.put h₁ _ _ vs _ hg (.add v (.refl vs) ha))

theorem HExt.maj23_back {c : Cfg} {a b : HVS} (h : HExt c (fun _ _ _ => False) a b)
    {r : Int} {t : VType} {x : Bid} (hm : maj23Of (b.getVoteSet r t) = some x) :
    maj23Of (a.getVoteSet r t) = some x := by
  rw [maj23Of_eq] at hm ⊢
  rw [← (HExt_iff.1 h r t).2.maj23_eq]; exact hm

theorem HVS.addVote_maj23_new (c : Cfg) (h : HVS) (v : Vote) (peer : Peer) {r : Int} {t : VType} {x : Bid}
    (hm : maj23Of ((h.addVote c v peer).1.getVoteSet r t) = some x) :
    maj23Of (h.getVoteSet r t) = some x ∨ ((r = (v.round : Int) ∧ t = v.typ) ∧ (h.addVote c v peer).2 = true) := by
  rcases HVS.addVote_cases c h v peer with e | ⟨h₁, vs, e, hg, _, hx⟩ <;> rw [e] at hm ⊢
  · exact .inl hm
  · dsimp only at hm ⊢
    rw [HVS.putVoteSet_getVoteSet] at hm
    by_cases hc : r = (v.round : Int) ∧ t = v.typ
    · cases ha : (vs.addVote c v).2 with
      | true => exact .inr ⟨hc, rfl⟩
      | false =>
        rw [if_pos hc, hg, maj23Of_eq] at hm
        refine .inl (hx.maj23_back ?_)
        rw [hc.1, hc.2, hg, maj23Of_eq]
        exact (VoteSet.addVote_not_added c vs v ha) ▸ hm
    · rw [if_neg hc] at hm
      exact .inl (hx.maj23_back hm)

theorem maj23Of_some {o : Option VoteSet} {k : Bid} (h : maj23Of o = some k) :
    ∃ vs, o = some vs ∧ vs.maj23 = some k := by
  unfold maj23Of at h
  cases o with
  | none => simp at h
  | some vs => exact ⟨vs, rfl, by simpa using h⟩

end Tmv.Cons
