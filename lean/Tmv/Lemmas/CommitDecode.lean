import Tmv.Lemmas.CommitTally
import Tmv.Model.CommitDecode
/-! Lemmas about the decoding / ValidateBasic glue of C07 (core-only). -/
namespace Tmv.CommitVerify
section
variable {σ : Type} (sigLen : σ → Nat)

/-- what `CommitSig.ValidateBasic` guarantees about a slot -/
def SlotWF (s : CommitSig σ) : Prop :=
  (s.flag = flagAbsent ∨ s.flag = flagCommit ∨ s.flag = flagNil) ∧
  (s.flag = flagAbsent → s.addr = [] ∧ s.ts = zeroTime ∧ sigLen s.sig = 0) ∧
  (s.flag ≠ flagAbsent → s.addr.length = addressSize ∧ 0 < sigLen s.sig ∧ sigLen s.sig ≤ maxSignatureSize)

theorem sigValidateBasic_none {s : CommitSig σ} : sigValidateBasic sigLen s = none ↔ SlotWF sigLen s := by
  unfold sigValidateBasic SlotWF
  -- the guards in the function's order; `simp` closes each leaf: an error leaf is the failing clause
  -- of `SlotWF`, the two `none` leaves (absent / signing slot) have all clauses among the cases taken
  by_cases hk : s.flag = flagAbsent ∨ s.flag = flagCommit ∨ s.flag = flagNil
  · simp only [hk, not_true_eq_false, if_false, true_and]
    by_cases ha : s.flag = flagAbsent
    · simp only [ha, if_true, ne_eq, not_true_eq_false, false_implies, and_true, true_implies]
      by_cases h1 : s.addr.length = 0
      · have h1' : s.addr = [] := List.length_eq_zero_iff.mp h1
        by_cases h2 : s.ts = zeroTime
        · by_cases h3 : sigLen s.sig = 0 <;> simp [h1', h2, h3]
        · simp [h1', h2]
      · have : s.addr ≠ [] := fun h => h1 (by simp [h])
        simp [h1, this]
    · simp only [ha, if_false, false_implies, true_and, ne_eq, not_false_eq_true, true_implies]
      by_cases h1 : s.addr.length = addressSize
      · by_cases h2 : sigLen s.sig = 0
        · simp [h1, h2]
        · simp [h1, h2]; omega
      · simp [h1]
  · simp [hk]

theorem firstSigErr_none {ss : List (CommitSig σ)} :
    firstSigErr sigLen ss = none ↔ ∀ s ∈ ss, SlotWF sigLen s := by
  induction ss with
  | nil => simp [firstSigErr]
  | cons s ss ih =>
    simp only [firstSigErr, List.mem_cons, forall_eq_or_imp]
    cases h : sigValidateBasic sigLen s with
    | some e =>
      simp only [reduceCtorEq, false_iff, not_and]
      intro hw; rw [(sigValidateBasic_none sigLen).mpr hw] at h; cases h
    | none => simp only [ih]; exact ⟨fun hh => ⟨(sigValidateBasic_none sigLen).mp h, hh⟩, fun hh => hh.2⟩

/-- what a successfully decoded commit guarantees -/
def CommitWF (c : Commit σ) : Prop :=
  c.blockID.validBasic = true ∧ 0 ≤ c.height ∧ 0 ≤ c.round ∧
  (1 ≤ c.height → c.blockID.isZero = false ∧ c.sigs ≠ []) ∧
  ∀ s ∈ c.sigs, SlotWF sigLen s

theorem commitFromProto_ok {w c : Commit σ} (h : commitFromProto sigLen w = .ok c) :
    c = w ∧ CommitWF sigLen c ∧ commitValidateBasic sigLen c = none := by
  unfold commitFromProto at h
  split at h; · cases h
  rename_i hb
  split at h; · cases h
  rename_i hs
  split at h; · cases h
  rename_i hv
  injection h with h; subst h
  refine ⟨rfl, ⟨by simpa using hb, ?_, ?_, ?_, (firstSigErr_none sigLen).mp hs⟩, hv⟩
  all_goals (unfold commitValidateBasic at hv)
  · by_cases h0 : w.height < 0
    · simp [h0] at hv
    · omega
  · by_cases h0 : w.height < 0
    · simp [h0] at hv
    · by_cases h1 : w.round < 0
      · simp [h0, h1] at hv
      · omega
  · intro h1
    have h0 : ¬ w.height < 0 := by omega
    have h1' : w.height ≥ 1 := h1
    by_cases hr : w.round < 0
    · simp [h0, hr] at hv
    · simp only [h0, hr, if_false, h1', if_true] at hv
      cases hz : w.blockID.isZero
      · refine ⟨rfl, ?_⟩
        intro he; simp [hz, he] at hv
      · simp [hz] at hv

theorem firstValErr_none : ∀ (vs : List Validator) (i : Nat), firstValErr vs i = none →
    ∀ v ∈ vs, 0 ≤ v.power ∧ v.addr.length = addressSize := by
  intro vs; induction vs with
  | nil => intro i _ v hv; simp at hv
  | cons w vs ih =>
    intro i h v hv
    simp only [firstValErr] at h
    cases hw : valValidateBasic w with
    | some e => simp [hw] at h
    | none =>
      simp only [hw] at h
      rcases List.mem_cons.mp hv with rfl | hv
      · unfold valValidateBasic at hw
        by_cases h1 : v.power < 0
        · simp [h1] at hw
        · by_cases h2 : v.addr.length ≠ addressSize
          · simp [h1, h2] at hw
          · exact ⟨by omega, by simpa using h2⟩
      · exact ih (i + 1) h v hv

/-- a successfully decoded validator set: the validators as sent, all powers non-negative, all
addresses of address size, a total within bounds that is the SUM of the powers — whatever total
the wire claimed -/
theorem valSetFromProto_ok {w : WireValSet} {vs : List Validator} (h : valSetFromProto w = .ok vs) :
    vs = w.validators ∧ vs ≠ [] ∧ NonNeg vs ∧ (∀ v ∈ vs, v.addr.length = addressSize) ∧
    totalVotingPower vs = some (sumPower vs) ∧ sumPower vs ≤ maxTotalVotingPower := by
  unfold valSetFromProto at h
  split at h; · cases h
  split at h; · cases h
  rename_i T hT
  split at h; · cases h
  rename_i hv
  injection h with h; subst h
  unfold setValidateBasic at hv
  by_cases he : w.validators.length = 0
  · simp [he] at hv
  · simp only [he, if_false] at hv
    cases hf : firstValErr w.validators 0 with
    | some ie => obtain ⟨i, e⟩ := ie; simp [hf] at hv
    | none =>
      have hall := firstValErr_none w.validators 0 hf
      have hnn : NonNeg w.validators := fun v hv => (hall v hv).1
      obtain ⟨hTs, hTm⟩ := total_spec hnn hT
      refine ⟨rfl, ?_, hnn, fun v hv => (hall v hv).2, by rw [hT, hTs], hTs ▸ hTm⟩
      intro hnil; simp [hnil] at he

theorem valSetFromProto_ignores_wire_total (w : WireValSet) (t : Int) :
    valSetFromProto { w with total := t } = valSetFromProto w := rfl

end
section
variable {σ : Type} (sigOK : Nat → SignBytes → σ → Bool) (vs : List Validator) (chainID : String)
  (c : Commit σ)

def Res.isPanic (r : Res) : Prop := r = .panicFlag ∨ r = .panicBlockID ∨ r = .panicIndex

theorem voteSignBytes_ok_of_wf {s : CommitSig σ}
    (hk : s.flag = flagAbsent ∨ s.flag = flagCommit ∨ s.flag = flagNil)
    (hb : c.blockID.validBasic = true) : ∃ sb, voteSignBytes chainID c s = .ok sb := by
  unfold voteSignBytes sigBlockID
  have hz : BlockID.zero.validBasic = true := by decide
  have e1 : ¬ (flagCommit = flagAbsent) := by decide
  have e2 : ¬ (flagNil = flagAbsent) := by decide
  have e3 : ¬ (flagNil = flagCommit) := by decide
  rcases hk with h | h | h
  · simp [h, hz]
  · simp [h, e1, hb]
  · simp [h, e2, e3, hz]

/-- on a slot with a known flag of a commit with a valid block id, `checkSlot` objects only to the
signature -/
theorem checkSlot_error_wf {v : Validator} {s : CommitSig σ} {idx : Nat} {e : Res}
    (hk : s.flag = flagAbsent ∨ s.flag = flagCommit ∨ s.flag = flagNil)
    (hb : c.blockID.validBasic = true) (h : checkSlot sigOK chainID c v s idx = .error e) :
    e = .wrongSig idx := by
  rcases checkSlot_error sigOK chainID c h with h | h
  · exact h
  · obtain ⟨sb, hsb⟩ := voteSignBytes_ok_of_wf chainID c hk hb
    rw [hsb] at h; cases h

theorem Res.early.not_panic {r : Res} (h : r.early) : ¬ r.isPanic := by
  rintro (hp | hp | hp) <;> subst hp <;> exact absurd h (by simp [Res.early])

variable {sigOK chainID c} in
theorem run_not_panic {pro : Except Res Int} {exact : Bool} {P : Policy σ}
    (hpro : ∀ r, pro = .error r → r.early)
    (hk : ∀ s ∈ c.sigs, s.flag = flagAbsent ∨ s.flag = flagCommit ∨ s.flag = flagNil)
    (hb : c.blockID.validBasic = true) : ¬ (run sigOK chainID c pro exact P).isPanic := by
  have np : ∀ {r : Res}, r ≠ .panicFlag → r ≠ .panicBlockID → r ≠ .panicIndex → ¬ r.isPanic :=
    fun a b d hp => hp.elim a (fun hp => hp.elim b d)
  cases pro with
  | error r => exact (hpro r rfl).not_panic
  | ok needed =>
    show ¬ (verdict exact needed (tally sigOK chainID c P needed)).isPanic
    unfold tally
    cases hl : tallyLoop sigOK chainID c P needed c.sigs 0 ([], 0) with
    | ok st =>
      cases exact with
      | false => exact np nofun nofun nofun
      | true => rw [Except.map, verdict]; split <;> exact np nofun nofun nofun
    | error e =>
      obtain ⟨i, s, st0, hs, he⟩ := tallyLoop_error hl
      show ¬ e.isPanic
      cases he with
      | double => exact np nofun nofun nofun
      | bad _ hc =>
        rw [checkSlot_error_wf sigOK chainID c (hk s (List.mem_of_getElem? hs)) hb hc]
        exact np nofun nofun nofun
      | cross => exact np nofun nofun nofun
end
section
variable {σ : Type} (chainID : String) (c : Commit σ)

theorem voteSignBytes_invalid_bid {s : CommitSig σ} (hf : s.flag = flagCommit)
    (hb : c.blockID.validBasic = false) : voteSignBytes chainID c s = .error .panicBlockID := by
  unfold voteSignBytes sigBlockID
  have e1 : ¬ (flagCommit = flagAbsent) := by decide
  simp [hf, e1, hb]
end

end Tmv.CommitVerify
