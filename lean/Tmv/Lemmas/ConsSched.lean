import Tmv.Lemmas.ConsPrim
/-! The ticker discipline: every timeout the node asks for is for a round it has reached, so a history
in which only scheduled timeouts are delivered has no timeout for a round not yet reached. -/
namespace Tmv.Cons

/-- (S): scheduled timeouts are for rounds the node has reached -/
def SI (r : Nat) (out : List Output) : Prop := ∀ r' st, Output.schedule r' st ∈ out → r' ≤ r
abbrev S (s : NodeState) : Prop := SI s.round s.out

theorem SI.mono {r r' out} (h : SI r out) (hr : r ≤ r') : SI r' out := fun a st hm => Nat.le_trans (h a st hm) hr
theorem SI.push {r out} (h : SI r out) (o : Output) (ho : ∀ r' st, o = .schedule r' st → r' ≤ r) : SI r (out ++ [o]) := by
  intro r' st hm
  rcases List.mem_append.1 hm with a | a
  · exact h r' st a
  · simp at a; exact ho r' st a.symm

variable {c : Cfg}

theorem emit_SI {r : Nat} {s : NodeState} (o : Output) (ho : ∀ r' st, o = .schedule r' st → r' ≤ r) (h : SI r s.out) :
    SI r (emit s o).out := by
  rcases emit_out s o with e | e <;> rw [e]
  · exact h
  · exact h.push o ho

theorem panicWith_SI {r : Nat} {s : NodeState} (w : String) (h : SI r s.out) : SI r (panicWith s w).out := by
  rcases panicWith_out s w with e | e <;> rw [e]
  · exact h
  · exact h.push _ (by intro _ _ e; cases e)

theorem signAddVote_SI {r : Nat} {s : NodeState} (t : VType) (b : Bid) (h : SI r s.out) :
    SI r (signAddVote c s t b).out := by
  rcases signAddVote_out c s t b with e | e <;> rw [e]
  · exact h
  · exact h.push _ (by intro _ _ e; cases e)

theorem decideProposal_SI {r : Nat} {s : NodeState} (r' me : Nat) (h : SI r s.out) :
    SI r (decideProposal c s r' me).out := by
  rcases decideProposal_out c s r' me with e | e <;> rw [e]
  · exact h
  · exact h.push _ (by intro _ _ e; cases e)

theorem decideProposal_S {s : NodeState} (r me : Nat) (h : S s) : S (decideProposal c s r me) := by
  show SI _ _
  rw [decideProposal_round]
  exact decideProposal_SI r me h

/-- a timeout is scheduled for the round being entered, or (`precommitWait`) for a round reached -/
theorem S_prim {ok : Prop} {cm : NodeState → Prop} {s t : NodeState} (hp : Prim c ok cm s t) (h : S s) : S t := by
  cases hp with
  | panic w => show SI _ _; rw [panicWith_round]; exact panicWith_SI w h
  | schedule r st hr => show SI _ _; rw [emit_round]; exact emit_SI _ (by intro _ _ e; cases e; exact hr) h
  | precommitWait r _ _ hr => show SI _ _; rw [emit_round]; exact emit_SI _ (by intro _ _ e; cases e; exact hr) h
  | decide b => show SI _ _; rw [emit_round]; exact emit_SI _ (by intro _ _ e; cases e) h
  | newRound r _ hg =>
    have hf := newRoundReset_frame s r
    show SI _ _; rw [hf.round, hf.out]; exact h.mono (le_of_guard hg)
  | propose r _ hg | prevoteWait r _ hg =>
    exact emit_SI _ (by intro _ _ e; cases e; exact Nat.le_refl _) (h.mono (le_of_guard hg))
  | proposeOwn r me _ hg =>
    exact decideProposal_SI r me (emit_SI _ (by intro _ _ e; cases e; exact Nat.le_refl _) (h.mono (le_of_guard hg)))
  | prevote r _ _ hg => exact signAddVote_SI _ _ (h.mono (le_of_guard hg))
  | precommit r t x _ hg _ hc => exact signAddVote_SI _ _ (by rw [hc.frame.out]; exact h.mono (le_of_guard hg))
  | _ => exact h

theorem enter_S {s : NodeState} (i : Input) (h : S s) : S (enter c s i) := by
  have hf := enter_framed c s i
  show SI _ _; rw [hf.round, hf.out]; exact h

theorem step_S {s : NodeState} (i : Input) (h : S s) : S (step c s i) :=
  step_invariant (ok := False) (fun _ _ hp => S_prim hp)
    (fun s m rest _ h => enter_S (s := { s with queue := rest }) m.asInput h) s i nofun (enter_S i) h

/-- the input discipline of a faithful ticker: a delivered timeout was scheduled by the node earlier
(`schedule r st` is among its outputs so far), or is for round 0 (the start-of-height timeout
`scheduleRound0`, which is scheduled outside the state machine) -/
def TimeoutsWereScheduled (c : Cfg) : NodeState → List Input → Prop
  | _, [] => True
  | s, i :: is =>
    (match i with
     | .timeout r st => Output.schedule r st ∈ s.out ∨ r = 0
     | _ => True) ∧ TimeoutsWereScheduled c (step c s i) is

theorem scheduled_noFuture (is : List Input) {s : NodeState} (hS : S s) (h : TimeoutsWereScheduled c s is) :
    NoFutureTimeout c s is := by
  induction is generalizing s with
  | nil => trivial
  | cons i is ih =>
    refine ⟨?_, ih (step_S i hS) h.2⟩
    cases i with
    | timeout r st =>
      rcases h.1 with hm | h0
      · exact hS r st hm
      · show r ≤ s.round; omega
    | _ => trivial

theorem init_S : S NodeState.init := by intro r st h; simp [NodeState.init] at h

end Tmv.Cons
