import Tmv.Lemmas.BlockStore
/-! The loop of `PruneBlocks`: crash safety of every write prefix, and exactly which keys are gone
afterwards. -/
namespace Tmv.BlockStore

section UsedAt
variable (db : DB) (H a h : Int)

theorem usedAt_bmeta : usedAt db H a (.bmeta h) ↔ h = a := by
  simp [usedAt]

theorem usedAt_part (i : Nat) : usedAt db H a (.part h i) ↔ h = a := by
  simp [usedAt]

theorem usedAt_commit : usedAt db H a (.commit h) ↔ a < H ∧ h = a := by
  simp [usedAt]

theorem usedAt_seen : usedAt db H a (.seen h) ↔ ¬ a < H ∧ h = a := by
  simp [usedAt]

theorem usedAt_hashIdx (x : Hash) :
    usedAt db H a (.hashIdx x) ↔ ∃ m, loadMeta db a = some m ∧ x = m.hash := by
  simp [usedAt]

end UsedAt

theorem unused_mono (db : DB) (h h' H : Int) (w : Write) (hu : Unused db h H w) (hle : h ≤ h') :
    Unused db h' H w :=
  ⟨hu.1, fun a ha hH => hu.2 a (by omega) hH⟩

/-- key `k` is one of the keys `PruneBlocks` deletes for height `a` -/
def OwnedBy (db : DB) (a : Int) (k : Key) : Prop :=
  ∃ m, loadMeta db a = some m ∧ Write.del k ∈ deletesFor a m

theorem ownedBy_iff {db : DB} {a : Int} {m : Meta} (hm : loadMeta db a = some m) (k : Key) :
    OwnedBy db a k ↔ Write.del k ∈ deletesFor a m := by
  simp only [OwnedBy, hm, Option.some.injEq, exists_eq_left']

theorem mem_deletesFor (h : Int) (m : Meta) (w : Write) : w ∈ deletesFor h m ↔
    w = .del (.bmeta h) ∨ w = .del (.hashIdx m.hash) ∨ w = .del (.commit h) ∨ w = .del (.seen h) ∨
      ∃ p, p < m.total ∧ Write.del (.part h p) = w := by
  simp only [deletesFor, List.mem_append, List.mem_cons, List.mem_nil_iff, or_false, List.mem_map,
    List.mem_range, or_assoc]

theorem OwnedBy.ne_bsState {db : DB} {a : Int} {k : Key} (ho : OwnedBy db a k) : k ≠ .bsState := by
  obtain ⟨m, _, hmem⟩ := ho
  rintro rfl
  rw [mem_deletesFor] at hmem
  rcases hmem with e | e | e | e | ⟨p, _, e⟩ <;> cases e

/-- the deletes queued for an audited height are not read by any higher audited height -/
theorem deletes_unused (db : DB) (B H h : Int) (m : Meta) (hG : GoodFrom db B H)
    (hB : B ≤ h) (hH : h ≤ H) (hm : loadMeta db h = some m) :
    ∀ w ∈ deletesFor h m, Unused db (h + 1) H w := by
  intro w hw
  rw [mem_deletesFor] at hw
  refine ⟨by rcases hw with rfl | rfl | rfl | rfl | ⟨p, _, rfl⟩ <;> simp [Write.key], ?_⟩
  intro a ha haH hu
  rcases hw with rfl | rfl | rfl | rfl | ⟨p, _, rfl⟩
  · rw [Write.key, usedAt_bmeta] at hu; omega
  · -- the hash index entry: the heights `a` and `h` would share a block hash
    rw [Write.key, usedAt_hashIdx] at hu
    obtain ⟨m', hm', e⟩ := hu
    exact hash_ne_of_good db H a h m' m (hG a (by omega) haH) (hG h hB hH) hm' hm (by omega) e.symm
  · rw [Write.key, usedAt_commit] at hu; omega
  · rw [Write.key, usedAt_seen] at hu; omega
  · rw [Write.key, usedAt_part] at hu; omega

def AllDels (ws : List Write) : Prop := ∀ w ∈ ws, ∃ k, w = .del k

theorem get_applyAll_dels (ws : List Write) (db : DB) (k : Key) (hk : k ≠ .bsState)
    (hd : ∀ w ∈ ws, (∃ k', w = .del k') ∨ w.key = .bsState) :
    get (applyAll db ws) k = if Write.del k ∈ ws then none else get db k := by
  induction ws generalizing db with
  | nil => rfl
  | cons w ws ih =>
    rw [applyAll_cons, ih _ (fun w hw => hd w (List.mem_cons_of_mem _ hw))]
    by_cases hin : Write.del k ∈ ws
    · rw [if_pos hin, if_pos (List.mem_cons_of_mem _ hin)]
    · rw [if_neg hin]
      rcases hd w List.mem_cons_self with ⟨k', rfl⟩ | hw
      · rw [get_del]
        by_cases e : k' = k
        · rw [e, if_pos rfl, if_pos List.mem_cons_self]
        · rw [if_neg e, if_neg]
          intro hmem
          rcases List.mem_cons.1 hmem with e' | e'
          · exact e (Write.del.inj e').symm
          · exact hin e'
      · rw [get_apply_of_ne _ _ _ (by rw [hw]; exact hk.symm), if_neg]
        intro hmem
        rcases List.mem_cons.1 hmem with e' | e'
        · rw [← e'] at hw; exact hk hw
        · exact hin e'

theorem allDels_deletesFor (h : Int) (m : Meta) : AllDels (deletesFor h m) := by
  intro w hw
  rw [mem_deletesFor] at hw
  rcases hw with rfl | rfl | rfl | rfl | ⟨p, _, rfl⟩ <;> exact ⟨_, rfl⟩

theorem pruneLoop_zero (H retain h : Int) (db : DB) (batch : List Write) (pruned : Nat) :
    pruneLoop H retain 0 h db batch pruned = (pruned, [[.set .bsState (.range retain H)], batch]) := rfl

theorem pruneLoop_succ_flush (H retain h : Int) (fuel : Nat) (db : DB) (batch : List Write)
    (pruned : Nat) (m : Meta) (hm : loadMeta db h = some m) (hfl : (pruned + 1) % batchSize = 0) :
    pruneLoop H retain (fuel + 1) h db batch pruned =
      ((pruneLoop H retain fuel (h + 1)
          (applyAll (apply db (.set .bsState (.range (h + 1) H))) (batch ++ deletesFor h m)) []
          (pruned + 1)).1,
        [.set .bsState (.range (h + 1) H)] :: (batch ++ deletesFor h m) ::
        (pruneLoop H retain fuel (h + 1)
          (applyAll (apply db (.set .bsState (.range (h + 1) H))) (batch ++ deletesFor h m)) []
          (pruned + 1)).2) := by
  simp only [pruneLoop, hm, hfl, if_true, applyAll_cons, applyAll_nil]

theorem pruneLoop_succ_keep (H retain h : Int) (fuel : Nat) (db : DB) (batch : List Write)
    (pruned : Nat) (m : Meta) (hm : loadMeta db h = some m) (hfl : ¬ (pruned + 1) % batchSize = 0) :
    pruneLoop H retain (fuel + 1) h db batch pruned =
      pruneLoop H retain fuel (h + 1) db (batch ++ deletesFor h m) (pruned + 1) := by
  simp only [pruneLoop, hm, hfl, if_false]

theorem exists_from_iff (Q : Int → Prop) (h r : Int) (hr : h < r) :
    (∃ a, h ≤ a ∧ a < r ∧ Q a) ↔ Q h ∨ ∃ a, h + 1 ≤ a ∧ a < r ∧ Q a := by
  constructor
  · rintro ⟨a, ha, har, hq⟩
    by_cases e : a = h
    · exact Or.inl (e ▸ hq)
    · exact Or.inr ⟨a, by omega, har, hq⟩
  · rintro (hq | ⟨a, ha, har, hq⟩)
    · exact ⟨h, Int.le_refl _, hr, hq⟩
    · exact ⟨a, by omega, har, hq⟩

/-- The loop from height `h` with `batch` pending, on the database `cur` that the flushes so far
left of `db` (it shows `[b,H]`): after every write prefix the descriptor is `[b',H]` for a `b'` in
`[B,retain]`, and nothing the audit of that range reads in `db` has changed. -/
theorem pruneLoop_spec (db : DB) (B H retain : Int) (hB : 0 < B) (hrH : retain ≤ H) (hG : GoodFrom db B H) :
    ∀ (fuel : Nat) (h : Int) (cur : DB) (batch : List Write) (pruned : Nat) (b : Int),
      h + fuel = retain → B ≤ b → b ≤ h → Shows db b H cur →
      (∀ w ∈ batch, Unused db h H w) → AllDels batch →
      AllPrefix apply (fun d => ∃ b', B ≤ b' ∧ b' ≤ retain ∧ Shows db b' H d) cur
        (pruneLoop H retain fuel h cur batch pruned).2.flatten ∧
      Shows db retain H (applyAll cur (pruneLoop H retain fuel h cur batch pruned).2.flatten) ∧
      (∀ w ∈ (pruneLoop H retain fuel h cur batch pruned).2.flatten, (∃ k, w = .del k) ∨ w.key = .bsState) ∧
      (∀ k, Write.del k ∈ (pruneLoop H retain fuel h cur batch pruned).2.flatten ↔
        Write.del k ∈ batch ∨ ∃ a, h ≤ a ∧ a < retain ∧ OwnedBy db a k) ∧
      (pruneLoop H retain fuel h cur batch pruned).1 = pruned + fuel := by
  intro fuel
  induction fuel with
  | zero =>
    intro h cur batch pruned b hf hBb hbh hs hu hd
    have hh : h = retain := by omega
    subst hh
    -- the last flush: the descriptor, then deletes that the audit of `[retain,H]` does not read
    have s0 := hs.trans (Shows.desc cur (B := h) (H := H) (by omega)) hbh
    rw [pruneLoop_zero]
    simp only [List.flatten_cons, List.flatten_nil, List.append_nil, List.singleton_append]
    refine ⟨.cons ⟨b, hBb, hbh, hs⟩
        ((s0.allPrefix hu).imp fun _ s => ⟨h, Int.le_trans hBb hbh, Int.le_refl _, s⟩),
      s0.unused hu, List.forall_mem_cons.2 ⟨.inr rfl, fun w hw => .inl (hd w hw)⟩, fun k => ?_, rfl⟩
    simp only [List.mem_cons, reduceCtorEq, false_or, iff_self_or]
    rintro ⟨a, h1, h2, _⟩; omega
  | succ fuel ih =>
    intro h cur batch pruned b hf hBb hbh hs hu hd
    obtain ⟨hhr, hhH, hf', hBh, hb1, hle1⟩ : h < retain ∧ h ≤ H ∧ h + 1 + (fuel : Int) = retain ∧
        B ≤ h ∧ b ≤ h + 1 ∧ h ≤ h + 1 := by omega
    obtain ⟨m, _, _, ok⟩ := (checkAt_none_iff db H h).1 (hG h hBh hhH)
    have hm := ok.hmeta
    have hm' := (hs.loadMeta hbh hhH).trans hm
    have hu' : ∀ w ∈ batch ++ deletesFor h m, Unused db (h + 1) H w :=
      List.forall_mem_append.2 ⟨fun w e => unused_mono db h (h + 1) H w (hu w e) hle1,
        deletes_unused db B H h m hG hBh hhH hm⟩
    have hd' : AllDels (batch ++ deletesFor h m) := List.forall_mem_append.2 ⟨hd, allDels_deletesFor h m⟩
    by_cases hfl : (pruned + 1) % batchSize = 0
    · -- intermediate flush: base moves to h+1, then the batch
      rw [pruneLoop_succ_flush H retain h fuel cur batch pruned m hm' hfl]
      have s0 := hs.trans (Shows.desc cur (B := h + 1) (H := H) (by omega)) hb1
      have f2 := s0.unused hu'
      generalize hdb2 : applyAll (apply cur (.set .bsState (.range (h + 1) H)))
        (batch ++ deletesFor h m) = db2 at f2 ⊢
      obtain ⟨i1, i2, i3, i4, i5⟩ := ih (h + 1) db2 [] (pruned + 1) (h + 1)
        hf' (Int.le_trans hBh hle1) (Int.le_refl _) f2 (fun w hw => by cases hw) (fun w hw => by cases hw)
      simp only [List.flatten_cons, List.singleton_append]
      refine ⟨?_, ?_,
        List.forall_mem_cons.2 ⟨.inr rfl, List.forall_mem_append.2 ⟨fun w hw => .inl (hd' w hw), i3⟩⟩,
        fun k => ?_, by rw [i5, Nat.add_assoc, Nat.add_comm 1]⟩
      · rw [← List.cons_append]
        refine .append (.cons ⟨b, hBb, Int.le_trans hbh (Int.le_of_lt hhr), hs⟩
          ((s0.allPrefix hu').imp fun _ s => ⟨h + 1, Int.le_trans hBh hle1, hhr, s⟩)) ?_
        rw [← applyAll, applyAll_cons, hdb2]
        exact i1
      · rw [← List.cons_append, applyAll_append, applyAll_cons, hdb2]
        exact i2
      · simp only [List.mem_cons, List.mem_append, reduceCtorEq, false_or, i4, List.not_mem_nil,
          ownedBy_iff hm, exists_from_iff _ h retain hhr, or_assoc]
    · -- keep collecting
      rw [pruneLoop_succ_keep H retain h fuel cur batch pruned m hm' hfl]
      obtain ⟨i1, i2, i3, i4, i5⟩ := ih (h + 1) cur (batch ++ deletesFor h m) (pruned + 1) b
        hf' hBb hb1 hs hu' hd'
      refine ⟨i1, i2, i3, fun k => ?_, by rw [i5, Nat.add_assoc, Nat.add_comm 1]⟩
      simp only [i4, List.mem_append, ownedBy_iff hm, exists_from_iff _ h retain hhr, or_assoc]

end Tmv.BlockStore
