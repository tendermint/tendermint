import Tmv.Lemmas.LightDetect
/-! The cross-check reports a backed conflicting header whatever the arrival order of the replies. -/
namespace Tmv.Light

/-- **conflict_reported, detector level, every arrival order.** Let witness `i` be one whose reply —
whenever its turn comes, i.e. in every state that has the same providers in the same roles — is a
conflicting header that `handleConflictingHeaders` answers with the attack error (the witness backs
its header along the trace). If `i` occurs anywhere in the arrival order, then for every prefix of
earlier replies (matching, erroring, lying, other conflicts — none of them can pre-empt it) the
cross-check returns `ErrLightClientAttack`, nothing else; the evidence log has grown by an entry
addressed to a current witness, followed by at most one entry addressed to the primary. `hnp`
is meant to exclude the code's index-out-of-range corner in the handler (an empty trace needs two
different headers of equal hash); as written it asks that the handler never panics for ANY block and
witness index, and the proof uses it only at the block and index of a `.conflict` reply. -/
theorem detectLoop_conflict_any_order (trace : List LightBlock) (h : LightBlock) (now : Int)
    (c0 : Client) (i : Nat) (w : Prov) (hw : c0.witnesses[i]? = some w)
    (hconf : ∀ c, Sim c0 c →
      ∃ b idx, (compareNewHeaderWithWitness c.calls h w i).2 = .conflict b idx ∧
        (handleConflictingHeaders { c with calls := (compareNewHeaderWithWitness c.calls h w i).1 }
          trace b idx now).2 = some .attack)
    (hnp : ∀ c, Sim c0 c → ∀ b idx, (handleConflictingHeaders c trace b idx now).2 ≠ some .panic) :
    ∀ (arr : List Nat) (c : Client) (m : Bool) (rm : List Nat), Sim c0 c → i ∈ arr →
      ∃ c', detectLoop trace h now arr c m rm = (c', .error .attack) ∧
        ∃ sup ev1 rest, sup ∈ c0.witnesses ∧ c'.evidence = c.evidence ++ (sup.id, ev1) :: rest ∧
          (rest = [] ∨ ∃ ev2, rest = [(c0.primary.id, ev2)]) := by
  intro arr
  induction arr with
  | nil => intro c m rm _ hi; simp at hi
  | cons j rest ih =>
    intro c m rm hs hi
    generalize hd : detectLoop trace h now (j :: rest) c m rm = p
    obtain ⟨c', r⟩ := p
    rcases detectLoop_cons hd with ⟨k, b, idx, err, hh, rfl⟩ | ⟨c1, m1, rm1, e1, fr, hev, _, hun⟩
    · -- whatever the handler reports, for witness `i` or for an earlier one, is the attack
      have hs1 : Sim c0 { c with calls := k } := hs
      obtain ⟨_, ⟨hn, _⟩ | hp | ⟨ha, sup, ev1, rest', hsup, hev, hr⟩⟩ := handleConflicting_cases hh
      · cases hn
      · exact absurd (by rw [hh]; exact hp) (hnp _ hs1 b idx)
      · cases ha
        exact ⟨c', rfl, sup, ev1, rest', hs.2.2 ▸ List.mem_of_getElem? hsup, hev, hs.2.1 ▸ hr⟩
    · -- the loop goes on only past a reply that is not reported: not witness `i`'s
      have hij : i ≠ j := by
        rintro rfl
        obtain ⟨b, idx, h1, h2⟩ := hconf c hs
        rw [hun w (hs.2.2 ▸ hw) b idx h1] at h2
        cases h2
      obtain ⟨c'', h1, h2⟩ := ih c1 m1 rm1 (hs.trans fr.2) ((List.mem_cons.mp hi).resolve_left hij)
      cases h1.symm.trans e1
      exact ⟨c', rfl, hev ▸ h2⟩

end Tmv.Light
