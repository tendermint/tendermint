import Tmv.Lemmas.BlockSyncWF
import Tmv.Lemmas.BlockSyncPend
/-! The liveness part of C13: one uninterrupted fair-retry round with an honest peer saves a block
from any well-formed node whose pending count is within its requesters; a schedule of such rounds,
with arbitrary operations in between, reaches the tip. That whatever is saved on the way is the
canonical block is ASSUMED (`HonestChain.noFork`: no pair off the chain passes the check on a canonical
state); `canon_step` only applies that hypothesis at each `Step.advance`. -/
namespace Tmv.BlockSync
variable (sigOK : Nat → SignBytes → Nat → Bool)

theorem run_append (n : Node) (l1 l2 : List Op) :
    n.run sigOK (l1 ++ l2) = (n.run sigOK l1).run sigOK l2 := by
  unfold Node.run; rw [List.foldl_append]

def Requester.idle (r : Requester) : Prop := r.peer = none ∧ r.block = none

section
variable {h : Int} {conn : List Nat}

theorem rtimeout_at (p : Pool) (hp : ReqsWF h p.requesters) (k : Nat) (r : Requester)
    (hr : p.requesters[k]? = some r) :
    ∃ r' np, r'.idle ∧ (p.rtimeout (p.height + k)).1 =
      { p with requesters := p.requesters.set k r', numPending := np } := by
  obtain ⟨hk, hget⟩ := List.getElem?_eq_some_iff.mp hr
  rw [rtimeout_eq, req?_add, hr]
  cases hpe : r.peer with
  | none =>
    have hb : r.block = none := by
      cases hb : r.block with
      | none => rfl
      | some b => have := (hp k r b hr hb).2; rw [hpe] at this; cases this
    refine ⟨r, p.numPending, ⟨hpe, hb⟩, ?_⟩
    simp only [hpe, Option.isNone_none, if_true]
    rw [← hget, List.set_getElem_self]
  | some id =>
    refine ⟨{ r with peer := none, block := none },
      if r.block.isSome then p.numPending + 1 else p.numPending, ⟨rfl, rfl⟩, ?_⟩
    simp only [hpe, Option.isNone_some, Bool.false_eq_true, if_false, Pool.resetReq]
    exact setReq_add { p with numPending := _ } k _ hk

theorem available_of (q : Peer) (x : Int) (hn : q.numPending < maxPendingRequestsPerPeer) (hb : q.base ≤ x)
    (ht : x ≤ q.height) : q.available x = true := by
  have h1 : ¬ (q.numPending ≥ maxPendingRequestsPerPeer) := by omega
  have h2 : ¬ (x < q.base) := by omega
  have h3 : ¬ (x > q.height) := by omega
  simp [Peer.available, h1, h2, h3]

/-- what `fair_stageC` follows through pick, pick, `AddBlock`, `AddBlock`: the honest peer `w` is in the
pool as `q` but for `np` requests pending and timer state `a`, which are what those four steps change -/
structure Front (p : Pool) (x : Int) (l : List Requester) (w : Nat) (q : Peer) (np : Int) (a : Bool) :
    Prop where
  height : p.height = x
  reqs : p.requesters = l
  peer : p.peer? w = some { q with numPending := np, armed := a }

variable {p : Pool} {x y : Int} {l : List Requester} {w : Nat} {q : Peer} {np : Int} {a : Bool}

/-- `pick` of an available peer for the idle requester at offset `k` -/
theorem front_pick (hf : Front p x l w q np a) (k : Nat) (hy : y = x + k) {r : Requester}
    (hr : l[k]? = some r) (hidle : r.peer = none)
    (hav : ({ q with numPending := np, armed := a } : Peer).available y = true) :
    Front (p.pick y w).1 x (l.set k { r with peer := some w }) w q (np + 1) true := by
  obtain ⟨rfl, rfl, hq⟩ := hf
  subst hy
  have e : (p.pick (p.height + k) w).1 =
      { p with peers := p.peers.map (Peer.incrIf w),
               requesters := p.requesters.set k { r with peer := some w } } := by
    rw [pick_eq, req?_add, hr, hq]
    dsimp only
    rw [if_pos ⟨hidle, hav⟩]
    exact setReq_add { p with peers := _ } k _ (List.getElem?_eq_some_iff.mp hr).1
  rw [e]
  refine ⟨rfl, rfl, ?_⟩
  rw [peer?_map (p := p) rfl (incrIf_id w), hq]
  have hid : q.id = w := peer?_id (q := { q with numPending := np, armed := a }) hq
  simp [Peer.incrIf, hid]

/-- `AddBlock` of the expected block from the expected, armed peer -/
theorem front_addBlock (hf : Front p x l w q np true) (k : Nat) {r : Requester} (b : Block)
    (hb : b.height = x + k) (hr : l[k]? = some r) (hp : r.peer = some w) (hblk : r.block = none) :
    (p.addBlock w b).2 = .added ∧
      Front (p.addBlock w b).1 x (l.set k { r with block := some b }) w q (np - 1) true := by
  obtain ⟨rfl, rfl, hq⟩ := hf
  have hr' : p.req? b.height = some r := by rw [hb, req?_add, hr]
  have e : p.addBlock w b =
      ({ p with numPending := p.numPending - 1, peers := p.peers.map (Peer.decrIf w),
                requesters := p.requesters.set k { r with block := some b } }, .added) := by
    rcases addBlock_cases p w b with ⟨_, hg⟩ | ⟨r1, hr1, _, _, e1, e2⟩
    · rcases hg r hr' with h | h
      · rw [hblk] at h; cases h
      · exact absurd hp h
    · cases hr'.symm.trans hr1
      rw [hq] at e2
      rw [hb] at e1
      exact Prod.ext
        (e1.trans (setReq_add { p with numPending := _, peers := _ } k _ (List.getElem?_eq_some_iff.mp hr).1)) e2
  rw [e]
  refine ⟨rfl, rfl, rfl, ?_⟩
  rw [peer?_map (p := p) rfl (decrIf_id w), hq]
  have hid : q.id = w := peer?_id (q := { q with numPending := np, armed := true }) hq
  simp [Peer.decrIf, hid]

end

/-- a block as an honest peer serves it: decodes and passes `ValidateBasic` -/
def Block.wellFormed (b : Block) : Prop := b.lastCommit.basicOK = true ∧ b.malformed = false

/-- one fair-retry round for the two heights in front (`h` = the pool's height): the honest peer
`w` (re)connects and reports its range, the two requesters exist, their retry timers have fired,
both are assigned to `w`, `w` answers both requests, the processing loop runs once -/
def fairRound (h : Int) (w : Nat) (base tip : Int) (b1 b2 : Block) : List Op :=
  [.disconnect w, .connect w, .status w base tip, .mkreq, .mkreq, .rtimeout h, .rtimeout (h + 1),
   .pick h w, .pick (h + 1) w, .block w b1, .block w b2, .process]

/-- stage A: the honest peer reconnects and reports its range -/
theorem fair_stageA (n : Node) (w : Nat) (base tip : Int) (hw : WF n) (hb : 0 ≤ base)
    (hbt : base ≤ tip) :
    let n3 := n.run sigOK [.disconnect w, .connect w, .status w base tip]
    n3.st = n.st ∧ n3.store = n.store ∧ w ∈ n3.connected ∧
      n3.pool.peer? w = some ⟨w, base, tip, 0, false⟩ ∧
      tip ≤ n3.pool.maxPeerHeight ∧ n3.pool.numPending = n.pool.numPending ∧
      n3.pool.requesters.length = n.pool.requesters.length := by
  obtain ⟨n1, e1, hs1, hc1, hp1, hn1, hl1⟩ : ∃ n1, (n.disconnect w).1 = n1 ∧
      (n1.st = n.st ∧ n1.store = n.store) ∧ w ∉ n1.connected ∧
      n1.pool.peer? w = none ∧ n1.pool.numPending = n.pool.numPending ∧
      n1.pool.requesters.length = n.pool.requesters.length := by
    unfold Node.disconnect
    by_cases hc : w ∈ n.connected
    · obtain ⟨ps, mx, e, _⟩ := removePeer_eq n.pool w
      rw [if_pos hc]
      exact ⟨_, rfl, ⟨rfl, rfl⟩, by simp, removePeer_self _ _, by simp only [e],
        by simp only [e, List.length_map]⟩
    · rw [if_neg hc]
      exact ⟨n, rfl, ⟨rfl, rfl⟩, hc, (peer?_none_iff _ _).mpr fun q hq he => hc (he ▸ hw.peers q hq),
        rfl, rfl⟩
  have hval : ¬ (base < 0 ∨ tip < 0 ∨ base > tip) := by omega
  -- `connect w`, then `status w base tip` on `n1`: `w` is not in the pool, so `SetPeerRange` appends a new entry
  simp only [Node.run, List.foldl_cons, List.foldl_nil, Node.apply, e1, Node.connect, if_neg hc1,
    Node.recvStatus, List.mem_append, List.mem_singleton, or_true, not_true_eq_false, if_false, hval,
    Pool.setPeerRange, hp1, Option.isSome_none, Bool.false_eq_true]
  refine ⟨hs1.1, hs1.2, trivial, ?_, ?_, hn1, hl1⟩
  · have : n1.pool.peers.find? (fun q => decide (q.id = w)) = none := hp1
    simp [Pool.peer?, List.find?_append, this]
  · split <;> omega

theorem routineStep_spec (p : Pool) (hnp : p.numPending ≤ p.requesters.length) :
    p.routineStep.height = p.height ∧ p.routineStep.peers = p.peers ∧
    p.routineStep.maxPeerHeight = p.maxPeerHeight ∧
    p.routineStep.numPending ≤ p.routineStep.requesters.length ∧
    p.requesters.length ≤ p.routineStep.requesters.length ∧
    (p.numPending < Facts.c13_maxPendingRequests → p.requesters.length < Facts.c13_maxTotalRequesters →
      p.height + p.requesters.length ≤ p.maxPeerHeight →
      p.routineStep.requesters.length = p.requesters.length + 1) := by
  rcases routineStep_cases p with ⟨e, hg⟩ | e <;> rw [e]
  · exact ⟨rfl, rfl, rfl, hnp, Nat.le_refl _, fun h1 h2 h3 => by omega⟩
  · exact ⟨rfl, rfl, rfl, by simp; omega, by simp, fun _ _ _ => by simp⟩

include sigOK in
/-- stage B: two requesters exist and are back in the picking state -/
theorem fair_stageB (n : Node) (tip : Int) (hw : WF n) (htip : n.pool.height < tip)
    (hmax : tip ≤ n.pool.maxPeerHeight) (hnp : n.pool.numPending ≤ n.pool.requesters.length) :
    let p4 := (((n.pool.routineStep.routineStep).rtimeout n.pool.height).1.rtimeout (n.pool.height + 1)).1
    p4.height = n.pool.height ∧ p4.peers = n.pool.peers ∧
      ∃ r0 r1 rest, p4.requesters = r0 :: r1 :: rest ∧ r0.idle ∧ r1.idle := by
  obtain ⟨a1, a2, a3, a4, a5, a6⟩ := routineStep_spec n.pool hnp
  obtain ⟨b1, b2, b3, _, b5, b6⟩ := routineStep_spec n.pool.routineStep a4
  rw [a1, a3] at b6
  -- two requesters are far below the limits 600 and 600
  unfold Facts.c13_maxPendingRequests Facts.c13_maxTotalRequesters at a6 b6
  have hq : WF { n with pool := n.pool.routineStep.routineStep } :=
    hw.path ((routineStep_path (sigOK := sigOK) n).trans (routineStep_path _))
  have hqh : n.pool.height = n.pool.routineStep.routineStep.height := (b1.trans a1).symm
  have hqp := b2.trans a2
  have hlen : 2 ≤ n.pool.routineStep.routineStep.requesters.length := by omega
  intro p4
  subst p4
  rw [hqh]
  generalize n.pool.routineStep.routineStep = q at hq hqp hlen ⊢
  match hr : q.requesters, hlen with
  | x0 :: x1 :: rest, _ =>
    obtain ⟨r0, np0, hi0, e0⟩ := rtimeout_at q hq.reqsWF 0 x0 (by rw [hr]; rfl)
    rw [Int.natCast_zero, Int.add_zero] at e0
    have hq1 := hq.path (rtimeout_path (sigOK := sigOK) _ q.height)
    rw [e0] at hq1 ⊢
    obtain ⟨r1, np1, hi1, e1⟩ := rtimeout_at _ hq1.reqsWF 1 x1 (by simp only [hr]; rfl)
    rw [Int.natCast_one] at e1
    rw [e1]
    exact ⟨rfl, hqp, r0, r1, rest, by simp only [hr]; rfl, hi0, hi1⟩

/-- stage C: both requesters pick the honest peer, it answers both, the pair is processed -/
theorem fair_stageC (m : Node) (w : Nat) (q : Peer) (r0 r1 : Requester) (rest : List Requester)
    (b1 b2 : Block)
    (hreqs : m.pool.requesters = r0 :: r1 :: rest) (hi0 : r0.idle) (hi1 : r1.idle)
    (hq : m.pool.peer? w = some q) (hq0 : q.numPending = 0)
    (hbase : q.base ≤ m.pool.height) (htip : m.pool.height + 1 ≤ q.height)
    (hconn : w ∈ m.connected)
    (hb1 : b1.height = m.pool.height) (hb2 : b2.height = m.pool.height + 1)
    (hw1 : b1.wellFormed) (hw2 : b2.wellFormed)
    (hok : checkPair sigOK m.st b1 b2 = .ok ()) :
    let m' := m.run sigOK
      [.pick m.pool.height w, .pick (m.pool.height + 1) w, .block w b1, .block w b2, .process]
    m'.store = (b1, b2.lastCommit) :: m.store ∧ m'.st = applyBlock m.st b1 ∧
      m'.pool.height = m.pool.height + 1 := by
  have hh0 : m.pool.height = m.pool.height + ((0 : Nat) : Int) := by omega
  have f0 : Front m.pool m.pool.height (r0 :: r1 :: rest) w q 0 q.armed := ⟨rfl, hreqs, hq0 ▸ hq⟩
  have f1 := front_pick f0 0 hh0 (r := r0) rfl hi0.1 (available_of _ _
    (by simp [maxPendingRequestsPerPeer, Facts.c13_maxPendingRequestsPerPeer]) hbase (by simp; omega))
  generalize hP1 : (m.pool.pick m.pool.height w).1 = P1 at f1
  have f2 := front_pick f1 1 rfl (r := r1) rfl hi1.1
    (available_of _ _ (by simp [maxPendingRequestsPerPeer, Facts.c13_maxPendingRequestsPerPeer])
      (by simp; omega) (by simp; omega))
  generalize hP2 : (P1.pick (m.pool.height + 1) w).1 = P2 at f2
  obtain ⟨a3, f3⟩ := front_addBlock f2 0 (r := { r0 with peer := some w }) b1 (hb1.trans hh0) rfl rfl hi0.2
  generalize hP3 : P2.addBlock w b1 = P3 at a3 f3
  obtain ⟨a4, f4⟩ := front_addBlock f3 1 (r := { r1 with peer := some w }) b2 hb2 rfl rfl hi1.2
  generalize hP4 : P3.1.addBlock w b2 = P4 at a4 f4
  have hnc : ¬ w ∉ m.connected := not_not_intro hconn
  have hpeek : P4.1.peekTwo = (some b1, some b2) := by rw [peekTwo_eq, f4.reqs]; rfl
  obtain ⟨n', e, s1, s2, s3⟩ := processStep_saved sigOK { m with pool := P4.1 } hpeek hok
  -- the first four operations, with the intermediate pools opaque (`P1`..`P4`): both blocks are `.added`
  simp only [Node.run, List.foldl_cons, List.foldl_nil, Node.apply, hP1, hP2, Node.recvBlock, hnc, if_false,
    hw1.1, hw1.2, hw2.1, hw2.2, Bool.not_true, Bool.or_false, Bool.false_eq_true, hP3, a3, hP4, a4, e]
  exact ⟨s1, s2, s3.trans (by rw [f4.height])⟩

/-- from ANY well-formed node (with `numPending` within the number of requesters, which `PendOK`
gives), the fair round saves and executes the first of two blocks that pass the check on the
node's state, with the second's commit as seen commit -/
theorem fairRound_saves (n : Node) (hw : WF n) (hnp : n.pool.numPending ≤ n.pool.requesters.length)
    (w : Nat) (base tip : Int) (b1 b2 : Block)
    (hb0 : 0 ≤ base) (hbase : base ≤ n.pool.height) (htip : n.pool.height < tip)
    (hb1 : b1.height = n.pool.height) (hb2 : b2.height = n.pool.height + 1)
    (hw1 : b1.wellFormed) (hw2 : b2.wellFormed)
    (hok : checkPair sigOK n.st b1 b2 = .ok ()) :
    let n' := n.run sigOK (fairRound n.pool.height w base tip b1 b2)
    n'.store = (b1, b2.lastCommit) :: n.store ∧ n'.st = applyBlock n.st b1 ∧
      n'.pool.height = n.pool.height + 1 := by
  rw [show fairRound n.pool.height w base tip b1 b2 =
      [.disconnect w, .connect w, .status w base tip] ++
      ([.mkreq, .mkreq, .rtimeout n.pool.height, .rtimeout (n.pool.height + 1)] ++
      [.pick n.pool.height w, .pick (n.pool.height + 1) w, .block w b1, .block w b2, .process]) from rfl,
    run_append, run_append]
  obtain ⟨a_st, a_store, a_conn, a_peer, a_max, a_num, a_len⟩ :=
    fair_stageA sigOK n w base tip hw hb0 (by omega)
  have hw3 := wf_run sigOK n [.disconnect w, .connect w, .status w base tip] hw
  generalize n.run sigOK [.disconnect w, .connect w, .status w base tip] = n3 at *
  have hh3 : n3.pool.height = n.pool.height := by rw [hw3.height, a_st, hw.height]
  obtain ⟨hh7, b_peers, r0, r1, rest, b_reqs, hi0, hi1⟩ :=
    fair_stageB sigOK n3 tip hw3 (by omega) a_max (by omega)
  rw [hh3] at hh7 b_peers b_reqs
  have e7 : n3.run sigOK [.mkreq, .mkreq, .rtimeout n.pool.height, .rtimeout (n.pool.height + 1)] =
      { n3 with pool := ((n3.pool.routineStep.routineStep.rtimeout n.pool.height).1.rtimeout
        (n.pool.height + 1)).1 } := by
    simp only [Node.run, List.foldl_cons, List.foldl_nil, Node.apply]
  rw [e7]
  generalize ((n3.pool.routineStep.routineStep.rtimeout n.pool.height).1.rtimeout
    (n.pool.height + 1)).1 = p4 at *
  have hC := fair_stageC sigOK { n3 with pool := p4 } w ⟨w, base, tip, 0, false⟩ r0 r1 rest b1 b2
    b_reqs hi0 hi1 (by unfold Pool.peer? at a_peer ⊢; rw [b_peers]; exact a_peer) rfl
    (hh7 ▸ hbase) (by rw [hh7]; exact htip) a_conn (hh7 ▸ hb1) (hh7 ▸ hb2) hw1 hw2 (a_st ▸ hok)
  rw [← a_st, ← a_store, ← hh7]
  exact hC

/-- the state in front of block `start + k` of the chain -/
def canonSt (st0 : St) (chain : Int → Block) (start : Int) : Nat → St
  | 0 => st0
  | k + 1 => applyBlock (canonSt st0 chain start k) (chain (start + k))

/-- what is assumed of the chain the honest peer serves, and of the validators (no fork):
* `heights`, `wellFormed`: block `h` carries height `h` and decodes;
* `pairOK`: consecutive blocks pass the node's check on the canonical state (the commit in block
  `h+1` has +2/3 of the set in force at `h` for block `h`, and block `h` validates);
* `noFork`: whatever pair passes the check on a canonical state leads to the same next state — more
  than 2/3 never signed two different blocks of one height, and an id determines the block.
  Trap: in this model an id does NOT determine the block (ids are opaque values; `checkPair` never
  reads `nextVals`, `applyBlock` does), so no chain satisfies `noFork` together with `pairOK` once
  `start < tip` -/
structure HonestChain (st0 : St) (chain : Int → Block) (start tip : Int) : Prop where
  heights : ∀ h, (chain h).height = h
  wellFormed : ∀ h, (chain h).wellFormed
  pairOK : ∀ k : Nat, start + k < tip →
    checkPair sigOK (canonSt st0 chain start k) (chain (start + k)) (chain (start + k + 1)) = .ok ()
  noFork : ∀ (k : Nat) (b b' : Block), b.height = start + k →
    checkPair sigOK (canonSt st0 chain start k) b b' = .ok () →
    applyBlock (canonSt st0 chain start k) b = canonSt st0 chain start (k + 1)

def Canon (st0 : St) (chain : Int → Block) (start : Int) (k : Nat) (n : Node) : Prop :=
  n.st = canonSt st0 chain start k ∧ n.pool.height = start + k

/-- what arbitrary operations keep of `Canon … k` -/
def OnChain (st0 : St) (chain : Int → Block) (start : Int) (k : Nat) (n : Node) : Prop :=
  WF n ∧ ∃ k', k ≤ k' ∧ Canon st0 chain start k' n

/-- all but `advance` keep state and pool height; what `advance` applies passed the check on a canonical state, so
`noFork` says it is the chain's next block -/
theorem canon_step (st0 : St) (chain : Int → Block) (start tip : Int)
    (hc : HonestChain sigOK st0 chain start tip) (k : Nat) {n n' : Node} (h : Step sigOK n n')
    (hn : OnChain st0 chain start k n) : OnChain st0 chain start k n' := by
  obtain ⟨hw, k1, h1, hk⟩ := hn
  have hw' := WF.step h hw
  refine ⟨hw', ?_⟩
  rcases h.frame with ⟨hst, _⟩ | ⟨first, second, hpk, hok, hst, _, hh⟩
  · refine ⟨k1, h1, hst.trans hk.1, ?_⟩
    rw [hw'.height, hst, ← hw.height]; exact hk.2
  · refine ⟨k1 + 1, Nat.le_succ_of_le h1, ?_, by rw [hh, hk.2]; push_cast; omega⟩
    rw [hst, hk.1]
    exact hc.noFork k1 first second (by rw [hw.peek hpk, hk.2]) (hk.1 ▸ hok)

theorem canon_run (st0 : St) (chain : Int → Block) (start tip : Int)
    (hc : HonestChain sigOK st0 chain start tip) (ops : List Op) (n : Node) (k : Nat)
    (hn : OnChain st0 chain start k n) : OnChain st0 chain start k (n.run sigOK ops) :=
  (run_path sigOK n ops).inv (fun _ _ h => canon_step sigOK st0 chain start tip hc k h) hn

/-- a schedule: arbitrary segments (whatever peers send, in any order) each followed — while the
tip is not reached — by one fair-retry round for the two heights then in front -/
def fairRun (w : Nat) (base tip : Int) (chain : Int → Block) : List (List Op) → Node → Node
  | [], n => n
  | A :: rest, n =>
    let n1 := n.run sigOK A
    let n2 := if n1.pool.height < tip then
        n1.run sigOK (fairRound n1.pool.height w base tip (chain n1.pool.height) (chain (n1.pool.height + 1)))
      else n1
    fairRun w base tip chain rest n2

theorem fairRun_is_run (w : Nat) (base tip : Int) (chain : Int → Block) :
    ∀ (segs : List (List Op)) (n : Node), ∃ ops, fairRun sigOK w base tip chain segs n = n.run sigOK ops := by
  intro segs
  induction segs with
  | nil => intro n; exact ⟨[], rfl⟩
  | cons A rest ih =>
    intro n
    simp only [fairRun]
    split
    · obtain ⟨ops, h⟩ := ih ((n.run sigOK A).run sigOK (fairRound (n.run sigOK A).pool.height w base tip
        (chain (n.run sigOK A).pool.height) (chain ((n.run sigOK A).pool.height + 1))))
      exact ⟨A ++ (fairRound (n.run sigOK A).pool.height w base tip (chain (n.run sigOK A).pool.height)
        (chain ((n.run sigOK A).pool.height + 1)) ++ ops), by rw [h, run_append, run_append]⟩
    · obtain ⟨ops, h⟩ := ih (n.run sigOK A)
      exact ⟨A ++ ops, by rw [h, run_append]⟩

theorem fairRound_canon (st0 : St) (chain : Int → Block) (start tip : Int) (w : Nat) (base : Int)
    (hc : HonestChain sigOK st0 chain start tip) (hb0 : 0 ≤ base) (hbs : base ≤ start)
    (n : Node) (k : Nat) (hw : WF n) (hp : PendOK n.pool) (hk : Canon st0 chain start k n)
    (hlt : n.pool.height < tip) :
    Canon st0 chain start (k + 1) (n.run sigOK
      (fairRound n.pool.height w base tip (chain n.pool.height) (chain (n.pool.height + 1)))) := by
  obtain ⟨_, s2, s3⟩ := fairRound_saves sigOK n hw (hp ▸ waiting_le _) w base tip (chain n.pool.height)
    (chain (n.pool.height + 1)) hb0 (by rw [hk.2]; omega) hlt (hc.heights _) (hc.heights _)
    (hc.wellFormed _) (hc.wellFormed _) (by rw [hk.1, hk.2]; exact hc.pairOK k (hk.2 ▸ hlt))
  exact ⟨by rw [s2, hk.1, hk.2]; rfl, by rw [s3, hk.2]; push_cast; omega⟩

/-- induction over the segments: whatever a segment does keeps `OnChain` (`canon_run`), and the round
after it moves `k` on by one (`fairRound_canon`), so `tip - (start + k)` rounds suffice -/
theorem fairRun_reaches (st0 : St) (chain : Int → Block) (start tip : Int) (w : Nat) (base : Int)
    (hc : HonestChain sigOK st0 chain start tip) (hb0 : 0 ≤ base) (hbs : base ≤ start) :
    ∀ (segs : List (List Op)) (n : Node) (k : Nat), WF n → PendOK n.pool → Canon st0 chain start k n →
      tip - (start + k) ≤ segs.length →
      ∃ k', Canon st0 chain start k' (fairRun sigOK w base tip chain segs n) ∧ tip ≤ start + k' := by
  intro segs
  induction segs with
  | nil => exact fun n k hw hp hk hlen => ⟨k, hk, by simp at hlen; omega⟩
  | cons A rest ih =>
    intro n k hw hp hk hlen
    have hp1 := pend_run sigOK n A hp
    obtain ⟨hw1, k1, hk1, c1⟩ := canon_run sigOK st0 chain start tip hc A n k ⟨hw, k, Nat.le_refl k, hk⟩
    rw [List.length_cons] at hlen
    simp only [fairRun]
    split
    · rename_i hlt
      exact ih _ (k1 + 1) (wf_run sigOK _ _ hw1) (pend_run sigOK _ _ hp1)
        (fairRound_canon sigOK st0 chain start tip w base hc hb0 hbs _ k1 hw1 hp1 c1 hlt)
        (by push_cast; omega)
    · exact ih _ k1 hw1 hp1 c1 (by have := c1.2; omega)

end Tmv.BlockSync
