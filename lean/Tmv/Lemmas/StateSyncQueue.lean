import Tmv.Model.ChunkQueue
/-! Helper lemmas for C14: step specifications of the chunk queue and stability of a recorded
arrival under every operation that does not discard it. -/
namespace Tmv.StateSync.Thm
open Tmv Tmv.StateSync Tmv.StateSync.Queue

theorem find_range_min {n : Nat} {p : Nat → Bool} {i : Nat} (h : (List.range n).find? p = some i) :
    i < n ∧ p i = true ∧ ∀ j, j < i → p j = false := by
  rw [List.find?_range_eq_some] at h
  obtain ⟨h1, h2, h3⟩ := h
  refine ⟨by simpa using h2, h1, ?_⟩
  intro j hj
  simpa using h3 j hj

structure Handed (q : Queue) (c : Chunk) (q' : Queue) (s : Snapshot) (body : Bytes) : Prop where
  snap : q.snap = some s
  lt : c.index < s.chunks
  unreturned : q.returned c.index = false
  lowest : ∀ j, j < c.index → q.returned j = true
  files : q.files c.index = some body
  body : c.body = some body
  sender : c.sender = (q.senders c.index).getD ""
  height : c.height = s.height
  format : c.format = s.format
  queue : q' = { q with returned := upd q.returned c.index true }

theorem next_chunk_spec {q q' : Queue} {c : Chunk} (h : q.next = .chunk c q') :
    ∃ s body, Handed q c q' s body := by
  unfold Queue.next at h
  split at h
  · rename_i s i hs hi
    unfold nextUp at hi
    rw [hs] at hi
    simp only at hi
    obtain ⟨h1, h2, h3⟩ := find_range_min hi
    split at h
    · cases h
    · rename_i body hb
      injection h with hc hq
      subst hc
      exact ⟨s, body, hs, h1, by simpa using h2, fun j hj => by simpa using h3 j hj, hb, rfl, rfl, rfl, rfl,
        hq.symm⟩
  · cases h

theorem next_wait_spec {q : Queue} {i : Nat} (h : q.next = .wait i) :
    ∃ s, q.snap = some s ∧ i < s.chunks ∧ q.returned i = false ∧ (∀ j, j < i → q.returned j = true) ∧
      q.files i = none := by
  unfold Queue.next at h
  split at h
  · rename_i s i' hs hi
    unfold nextUp at hi
    rw [hs] at hi
    simp only at hi
    obtain ⟨h1, h2, h3⟩ := find_range_min hi
    split at h
    · rename_i hb
      injection h with hi'
      subst hi'
      exact ⟨s, hs, h1, by simpa using h2, fun j hj => by simpa using h3 j hj, hb⟩
    · cases h
  · cases h

theorem next_done_spec {q : Queue} (h : q.next = .done) :
    q.snap = none ∨ ∃ s, q.snap = some s ∧ ∀ j, j < s.chunks → q.returned j = true := by
  unfold Queue.next at h
  split at h
  · split at h <;> cases h
  · rename_i hno
    cases hs : q.snap with
    | none => left; rfl
    | some s =>
      right
      refine ⟨s, rfl, ?_⟩
      cases hn : nextUp q with
      | some i => exact absurd hn (hno s i hs)
      | none =>
        unfold nextUp at hn
        rw [hs] at hn
        simp only at hn
        rw [List.find?_eq_none] at hn
        intro j hj
        have := hn j (List.mem_range.mpr hj)
        simpa using this


/-- `Add` either records the chunk (for the open snapshot, in range, nothing recorded for that index
yet) or leaves the queue as it is -/
theorem add_spec {q q1 : Queue} {c : Chunk} {r : AddRes} (h : q.add c = (q1, r)) :
    (r = .added ∧ ∃ s body, c.body = some body ∧ q.snap = some s ∧ c.height = s.height ∧
      c.format = s.format ∧ c.index < s.chunks ∧ q.files c.index = none ∧
      q1 = { q with files := upd q.files c.index (some body),
                    senders := upd q.senders c.index (some c.sender) }) ∨
    (r ≠ .added ∧ q1 = q) := by
  unfold Queue.add at h
  cases hb : c.body with
  | none => rw [hb] at h; cases h; exact Or.inr ⟨nofun, rfl⟩
  | some body =>
    rw [hb] at h
    cases hs : q.snap with
    | none => rw [hs] at h; cases h; exact Or.inr ⟨nofun, rfl⟩
    | some s =>
      rw [hs] at h
      dsimp only at h
      by_cases h1 : c.height ≠ s.height
      · rw [if_pos h1] at h; cases h; exact Or.inr ⟨nofun, rfl⟩
      by_cases h2 : c.format ≠ s.format
      · rw [if_neg h1, if_pos h2] at h; cases h; exact Or.inr ⟨nofun, rfl⟩
      by_cases h3 : c.index ≥ s.chunks
      · rw [if_neg h1, if_neg h2, if_pos h3] at h; cases h; exact Or.inr ⟨nofun, rfl⟩
      by_cases h4 : (q.files c.index).isSome = true
      · rw [if_neg h1, if_neg h2, if_neg h3, if_pos h4] at h; cases h; exact Or.inr ⟨nofun, rfl⟩
      rw [if_neg h1, if_neg h2, if_neg h3, if_neg h4] at h
      cases h
      exact Or.inl ⟨rfl, s, body, rfl, rfl, Decidable.of_not_not h1, Decidable.of_not_not h2,
        Nat.lt_of_not_ge h3, by simpa using h4, rfl⟩

inductive QOp
  | add (c : Chunk) | allocate | close | discard (i : Nat) | discardSender (p : String) | next
  | retry (i : Nat) | retryAll

def qstep (q : Queue) : QOp → Queue
  | .add c => (q.add c).1
  | .allocate => q.allocate.1
  | .close => q.close
  | .discard i => q.discard i
  | .discardSender p => q.discardSender p
  | .next => match q.next with
    | .chunk _ q' => q'
    | _ => q
  | .retry i => q.retry i
  | .retryAll => q.retryAll

def qrun (q : Queue) (ops : List QOp) : Queue := ops.foldl qstep q

/-- the only operations that can remove the record of chunk `i` sent by `p` -/
def removes (i : Nat) (p : String) : QOp → Bool
  | .discard j => j = i
  | .discardSender p' => p' = p
  | _ => false

theorem record_stable_step {q : Queue} {i : Nat} {b : Bytes} {p : String} (op : QOp)
    (hf : q.files i = some b) (hs : q.senders i = some p) (hop : removes i p op = false) :
    (qstep q op).files i = some b ∧ (qstep q op).senders i = some p := by
  cases op with
  | add c =>
    simp only [qstep]
    cases hr : q.add c with
    | mk q1 r =>
      rcases add_spec hr with ⟨_, s, body, _, _, _, _, _, hnone, rfl⟩ | ⟨_, rfl⟩
      · have hne : i ≠ c.index := by intro h; subst h; rw [hf] at hnone; cases hnone
        simp [upd, hne, hf, hs]
      · exact ⟨hf, hs⟩
  | allocate =>
    simp only [qstep, Queue.allocate]
    cases q.snap with
    | none => exact ⟨hf, hs⟩
    | some s =>
      dsimp only
      by_cases hfull : allocCount q s.chunks ≥ s.chunks
      · rw [if_pos hfull]; exact ⟨hf, hs⟩
      · rw [if_neg hfull]
        cases (List.range s.chunks).find? (fun i => !q.allocated i) with
        | none => exact ⟨hf, hs⟩
        | some _ => exact ⟨hf, hs⟩
  | close => exact ⟨hf, hs⟩
  | discard j =>
    have hne : i ≠ j := by intro h; subst h; simp [removes] at hop
    simp only [qstep, Queue.discard]
    cases q.snap with
    | none => exact ⟨hf, hs⟩
    | some _ =>
      cases q.files j with
      | none => exact ⟨hf, hs⟩
      | some _ => exact ⟨by simp [upd, hne, hf], hs⟩
  | discardSender p' =>
    have hne : p' ≠ p := by intro h; subst h; simp [removes] at hop
    have hne' : ¬ p = p' := fun h => hne h.symm
    simp only [qstep, Queue.discardSender]
    split <;> simp [hs, hf, hne']
  | next =>
    simp only [qstep]
    split
    · rename_i c q' h
      obtain ⟨_, _, n⟩ := next_chunk_spec h
      rw [n.queue]
      exact ⟨hf, hs⟩
    · exact ⟨hf, hs⟩
  | retry j => exact ⟨hf, hs⟩
  | retryAll => exact ⟨hf, hs⟩


theorem record_stable {i : Nat} {b : Bytes} {p : String} (ops : List QOp) :
    ∀ (q : Queue), q.files i = some b → q.senders i = some p →
      (∀ op ∈ ops, removes i p op = false) →
      (qrun q ops).files i = some b ∧ (qrun q ops).senders i = some p := by
  induction ops with
  | nil => intro q hf hs _; exact ⟨hf, hs⟩
  | cons op rest ih =>
    intro q hf hs hall
    obtain ⟨h1, h2⟩ := record_stable_step op hf hs (hall op (by simp))
    exact ih (qstep q op) h1 h2 (fun o ho => hall o (by simp [ho]))


end Tmv.StateSync.Thm
