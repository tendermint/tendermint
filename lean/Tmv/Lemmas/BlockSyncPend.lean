import Tmv.Lemmas.BlockSyncStep
/-! `numPending` equals the number of requesters without a block — kept by each elementary change,
so an invariant of every operation (C13): the counter that gates `makeRequestersRoutine` does not drift. -/
namespace Tmv.BlockSync

def isWaiting (r : Requester) : Bool := r.block.isNone

def waiting (l : List Requester) : Int := (l.countP isWaiting : Nat)

/-- the pool's `numPending` is the number of requesters still waiting for their block -/
def PendOK (p : Pool) : Prop := p.numPending = waiting p.requesters

theorem waiting_le (l : List Requester) : waiting l ≤ l.length := by
  unfold waiting; exact_mod_cast List.countP_le_length

theorem waiting_map (l : List Requester) (g : Requester → Requester)
    (hg : ∀ r, (g r).block = r.block) : waiting (l.map g) = waiting l := by
  unfold waiting
  rw [List.countP_map]
  congr 2
  funext r
  simp only [isWaiting, Function.comp, hg]

theorem waiting_set (l : List Requester) : ∀ (k : Nat) (r r' : Requester), l[k]? = some r →
    waiting (l.set k r') + (if isWaiting r then 1 else 0) = waiting l + (if isWaiting r' then 1 else 0) := by
  induction l with
  | nil => intro k r r' h; cases h
  | cons a t ih =>
    intro k r r' h
    cases k with
    | zero =>
      cases h
      simp only [List.set_cons_zero, waiting, List.countP_cons]
      split <;> split <;> push_cast <;> omega
    | succ j =>
      have := ih j r r' h
      simp only [List.set_cons_succ, waiting, List.countP_cons] at this ⊢
      split <;> push_cast <;> omega

theorem waiting_append_fresh (l : List Requester) :
    waiting (l ++ [Requester.fresh]) = waiting l + 1 := by
  unfold waiting
  rw [List.countP_append]
  rfl

theorem pend_set {l : List Requester} {np np' : Int} (hp : np = waiting l) {k : Nat} {r r' : Requester}
    (hr : l[k]? = some r) (hn : np' + (if isWaiting r then 1 else 0) = np + (if isWaiting r' then 1 else 0)) :
    np' = waiting (l.set k r') := by
  have := waiting_set l k r r' hr
  omega

variable {sigOK : Nat → SignBytes → Nat → Bool}

theorem PendOK.step {n n' : Node} (h : Step sigOK n n') (hp : PendOK n.pool) : PendOK n'.pool := by
  cases h with
  | append => exact (congrArg (· + 1) hp).trans (waiting_append_fresh _).symm
  | assign i r w hr _ => exact pend_set hp hr rfl
  | deliver i r id b hr hb _ _ => exact pend_set hp hr (by simp [isWaiting, hb])
  | reset i r d hr => exact pend_set hp hr (by cases h : r.block <;> simp [isWaiting, h])
  | unsignal i r hr => exact pend_set hp hr rfl
  | mark id => exact hp.trans (waiting_map _ _ fun r => (redoMark_keeps id r).1.2.1).symm
  | advance first second a rest _ _ hq ha =>
    -- the popped requester has its block, so it was not counted
    unfold PendOK at hp ⊢
    rw [hq] at hp
    simpa [waiting, isWaiting, ha] using hp
  | restart => rfl
  | forget | range | connect | unplug => exact hp

variable (sigOK)

theorem pend_new (st : St) : PendOK (Node.new st).pool := rfl

theorem pend_run (n : Node) (ops : List Op) (hp : PendOK n.pool) : PendOK (n.run sigOK ops).pool :=
  (run_path sigOK n ops).inv (P := fun m => PendOK m.pool) (fun _ _ h => PendOK.step h) hp

end Tmv.BlockSync
