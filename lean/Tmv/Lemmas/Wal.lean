import Tmv.Model.Wal
import Tmv.Lemmas.Digits
/-! The WAL record framing (C15): what the two decoders do on a whole frame and on a frame cut short,
and the decoding loop on a sequence of frames followed by something that is no record.
`decodeG_short … decodeG_full` are the decoder's branch table on the raw stream; the proofs use it in the
forms `decodeG_stage2` (after the checksum) and `decodeG_header` (stream split as checksum ‖ length ‖ tail). -/
namespace Tmv.Wal
open Tmv

/-- what the theorems assume about the parameters: the checksum has 4 bytes, lengths fit the
4-byte length field, and the empty payload is not a WAL message -/
structure Good (P : Params) : Prop where
  crcLen : ∀ d, (P.crc d).length = 4
  maxLt : P.maxLen < 4294967296
  parseNil : P.parse [] = none

/-- a record the encoder accepts and the decoder can return -/
def ValidRec (P : Params) (d : Bytes) : Prop :=
  0 < d.length ∧ d.length ≤ P.maxLen ∧ (P.parse d).isSome = true

theorem be32_length (n : Nat) : (be32 n).length = 4 := rfl

theorem be32_eq (n : Nat) : be32 n = (Digits.le 4 n).reverse := by
  simp only [Digits.le, List.range_succ, List.range_zero, List.nil_append, List.cons_append, List.map_cons, List.map_nil,
    List.reverse_cons, List.reverse_nil, Nat.pow_zero, Nat.div_one, Nat.reducePow, be32]

theorem ofBe32_eq (l : Bytes) (h : l.length = 4) : ofBe32 l = Digits.val l.reverse := by
  match l, h with
  | [a, b, c, d], _ =>
    simp +arith only [ofBe32, Digits.val, List.getD_cons_zero, List.getD_cons_succ, List.reverse_cons, List.reverse_nil,
      List.nil_append, List.cons_append]

theorem ofBe32_be32 (n : Nat) (h : n < 4294967296) : ofBe32 (be32 n) = n := by
  rw [be32_eq, ofBe32_eq _ (by rw [List.length_reverse, Digits.le_length]), List.reverse_reverse, Digits.val_le]
  exact Nat.mod_eq_of_lt h

theorem be32_ofBe32 (l : Bytes) (h : l.length = 4) : be32 (ofBe32 l) = l := by
  have := Digits.le_val l.reverse
  rw [List.length_reverse, h] at this
  rw [be32_eq, ofBe32_eq l h, this, List.reverse_reverse]

theorem frame_eq (P : Params) (d : Bytes) : frame P d = P.crc d ++ (be32 d.length ++ d) :=
  List.append_assoc ..

theorem frame_length (P : Params) (G : Good P) (d : Bytes) : (frame P d).length = 8 + d.length := by
  simp [frame, G.crcLen, be32_length]; omega

theorem frame_take (P : Params) (G : Good P) (d : Bytes) (m : Nat) (hm : 8 ≤ m) :
    (frame P d).take m = P.crc d ++ (be32 d.length ++ d.take (m - 8)) := by
  rw [frame_eq, List.take_append, G.crcLen, List.take_of_length_le (by rw [G.crcLen]; omega),
    List.take_append, be32_length, List.take_of_length_le (by rw [be32_length]; omega), Nat.sub_sub]

theorem set_header {α : Type} (a b c : List α) (ha : a.length = 4) (hb : b.length = 4) (i : Nat) (x : α) :
    (a ++ (b ++ c)).set i x =
      if i < 4 then a.set i x ++ (b ++ c) else if i < 8 then a ++ (b.set (i - 4) x ++ c)
      else a ++ (b ++ c.set (i - 8) x) := by
  rw [List.set_append, ha]
  split
  · rfl
  · rw [List.set_append, hb, Nat.sub_sub]
    have : i - 4 < 4 ↔ i < 8 := by omega
    simp only [this]
    split <;> rfl

theorem frames_nil (P : Params) : frames P [] = [] := rfl

theorem frames_cons (P : Params) (d : Bytes) (ds : List Bytes) :
    frames P (d :: ds) = frame P d ++ frames P ds := by
  simp [frames]

theorem frames_append (P : Params) (a b : List Bytes) :
    frames P (a ++ b) = frames P a ++ frames P b := by
  simp [frames]

theorem length_le_frames (P : Params) (G : Good P) : ∀ ds : List Bytes, ds.length ≤ (frames P ds).length
  | [] => by simp
  | d :: ds => by
    have := length_le_frames P G ds
    rw [frames_cons]; simp [frame_length P G]; omega

theorem frames_eq_nil (P : Params) (G : Good P) {ds : List Bytes} (h : frames P ds = []) : ds = [] := by
  cases ds with
  | nil => rfl
  | cons d ds =>
    have := congrArg List.length h
    rw [frames_cons, List.length_append, frame_length P G] at this
    simp at this

theorem encode_valid (P : Params) (d : Bytes) (h : d.length ≤ P.maxLen) :
    encode P d = some (frame P d) := by
  simp [encode, frame]; omega

def DecRes.isMsg : DecRes → Bool
  | .msg _ => true
  | _ => false

theorem check_fst (P : Params) (c d rest : Bytes) :
    (check P c d rest).1 = .msg d ∨ (check P c d rest).1.isMsg = false := by
  unfold check
  split
  · right; rfl
  · split
    · right; rfl
    · left; rfl

theorem check_valid (P : Params) (d rest : Bytes) (hv : ValidRec P d) :
    check P (P.crc d) d rest = (.msg d, rest) := by
  obtain ⟨_, _, hp⟩ := hv
  unfold check
  simp only [ne_eq, not_true_eq_false, if_false]
  cases h : P.parse d with
  | none => simp [h] at hp
  | some v => rfl

theorem check_msg {P : Params} {c d rest x r : Bytes} (h : check P c d rest = (.msg x, r)) :
    x = d ∧ P.crc d = c := by
  unfold check at h
  split at h
  · cases h
  · rename_i hc
    split at h
    · cases h
    · cases h; exact ⟨rfl, Decidable.not_not.mp hc⟩

theorem check_ne_eof (P : Params) (c d rest : Bytes) : (check P c d rest).1 ≠ .eof := by
  unfold check
  split
  · nofun
  · split <;> nofun

theorem check_nil_not_msg (P : Params) (G : Good P) (c rest : Bytes) :
    (check P c [] rest).1.isMsg = false := by
  unfold check
  split
  · rfl
  · rw [G.parseNil]; rfl

theorem check_parts (P : Params) (c d rest rest' : Bytes) :
    (check P c d rest).1 = (check P c d rest').1 ∧ (check P c d rest).2 = rest := by
  unfold check
  split
  · exact ⟨rfl, rfl⟩
  · split <;> exact ⟨rfl, rfl⟩

theorem decodeG_nil (P : Params) : decodeG P [] = (.eof, []) := rfl

theorem decodeG_short (P : Params) (s : Bytes) (hne : s.isEmpty = false) (h : s.length < 4) :
    decodeG P s = (.corrupt .crcRead, []) := by
  unfold decodeG; simp only [hne, h, if_true, if_false, Bool.false_eq_true]

theorem decodeG_lenShort (P : Params) (s : Bytes) (hne : s.isEmpty = false) (h4 : ¬ s.length < 4)
    (h8 : (s.drop 4).length < 4) : decodeG P s = (.corrupt .lenRead, []) := by
  unfold decodeG; simp only [hne, h4, h8, if_true, if_false, Bool.false_eq_true]

theorem decodeG_tooBig (P : Params) (s : Bytes) (hne : s.isEmpty = false) (h4 : ¬ s.length < 4)
    (h8 : ¬ (s.drop 4).length < 4) (hb : ofBe32 ((s.drop 4).take 4) > P.maxLen) :
    decodeG P s = (.corrupt .tooBig, (s.drop 4).drop 4) := by
  unfold decodeG; simp only [hne, h4, h8, hb, if_true, if_false, Bool.false_eq_true]

theorem decodeG_zero (P : Params) (s : Bytes) (hne : s.isEmpty = false) (h4 : ¬ s.length < 4)
    (h8 : ¬ (s.drop 4).length < 4) (_hb : ¬ ofBe32 ((s.drop 4).take 4) > P.maxLen)
    (hz : ofBe32 ((s.drop 4).take 4) = 0) :
    decodeG P s = (.corrupt .dataRead, (s.drop 4).drop 4) := by
  have hb0 : ¬ 0 > P.maxLen := by omega
  unfold decodeG; simp only [hne, h4, h8, hz, hb0, if_true, if_false, Bool.false_eq_true]

theorem decodeG_dataShort (P : Params) (s : Bytes) (hne : s.isEmpty = false) (h4 : ¬ s.length < 4)
    (h8 : ¬ (s.drop 4).length < 4) (hb : ¬ ofBe32 ((s.drop 4).take 4) > P.maxLen)
    (hz : ¬ ofBe32 ((s.drop 4).take 4) = 0)
    (hs : ((s.drop 4).drop 4).length < ofBe32 ((s.drop 4).take 4)) :
    decodeG P s = (.corrupt .dataRead, []) := by
  unfold decodeG; simp only [hne, h4, h8, hb, hz, hs, if_true, if_false, Bool.false_eq_true]

theorem decodeG_full (P : Params) (s : Bytes) (hne : s.isEmpty = false) (h4 : ¬ s.length < 4)
    (h8 : ¬ (s.drop 4).length < 4) (hb : ¬ ofBe32 ((s.drop 4).take 4) > P.maxLen)
    (hz : ¬ ofBe32 ((s.drop 4).take 4) = 0)
    (hs : ¬ ((s.drop 4).drop 4).length < ofBe32 ((s.drop 4).take 4)) :
    decodeG P s = check P (s.take 4) (((s.drop 4).drop 4).take (ofBe32 ((s.drop 4).take 4)))
      (((s.drop 4).drop 4).drop (ofBe32 ((s.drop 4).take 4))) := by
  unfold decodeG; simp only [hne, h4, h8, hb, hz, hs, if_false, Bool.false_eq_true]

/-- the second and third read of `Decode` (length field, payload), as a function of the checksum
read and the stream after it -/
def stage2 (P : Params) (c s1 : Bytes) : DecRes × Bytes :=
  if s1.length < 4 then (.corrupt .lenRead, [])
  else if ofBe32 (s1.take 4) > P.maxLen then (.corrupt .tooBig, s1.drop 4)
  else if ofBe32 (s1.take 4) = 0 then (.corrupt .dataRead, s1.drop 4)
  else if (s1.drop 4).length < ofBe32 (s1.take 4) then (.corrupt .dataRead, [])
  else check P c ((s1.drop 4).take (ofBe32 (s1.take 4))) ((s1.drop 4).drop (ofBe32 (s1.take 4)))

theorem decodeG_stage2 (P : Params) (s : Bytes) (h4 : ¬ s.length < 4) :
    decodeG P s = stage2 P (s.take 4) (s.drop 4) := by
  have hne : ¬ s.isEmpty = true := by cases s <;> simp_all
  unfold decodeG stage2
  rw [if_neg hne, if_neg h4]

theorem stage2_ne_eof (P : Params) (c s1 : Bytes) : (stage2 P c s1).1 ≠ .eof := by
  unfold stage2
  by_cases h1 : s1.length < 4
  · rw [if_pos h1]; nofun
  rw [if_neg h1]
  by_cases h2 : ofBe32 (s1.take 4) > P.maxLen
  · rw [if_pos h2]; nofun
  rw [if_neg h2]
  by_cases h3 : ofBe32 (s1.take 4) = 0
  · rw [if_pos h3]; nofun
  rw [if_neg h3]
  by_cases h4 : (s1.drop 4).length < ofBe32 (s1.take 4)
  · rw [if_pos h4]; nofun
  · rw [if_neg h4]; exact check_ne_eof _ _ _ _

theorem decodeG_eof (P : Params) (s : Bytes) (h : (decodeG P s).1 = .eof) : s = [] := by
  by_cases h4 : s.length < 4
  · cases hs : s with
    | nil => rfl
    | cons a t => rw [decodeG_short P s (by simp [hs]) h4] at h; cases h
  · rw [decodeG_stage2 P s h4] at h
    exact absurd h (stage2_ne_eof _ _ _)

theorem decodeG_lt8 (P : Params) (s : Bytes) (h : s.length < 8) :
    (decodeG P s).1.isMsg = false ∧ (decodeG P s).2 = [] := by
  by_cases h4 : s.length < 4
  · cases hs : s with
    | nil => exact ⟨rfl, rfl⟩
    | cons a t => rw [← hs, decodeG_short P s (by simp [hs]) h4]; exact ⟨rfl, rfl⟩
  · rw [decodeG_stage2 P s h4, stage2, if_pos (by simp; omega)]; exact ⟨rfl, rfl⟩

theorem decodeG_header (P : Params) (c lb tail : Bytes) (hc : c.length = 4) (hl : lb.length = 4) :
    decodeG P (c ++ (lb ++ tail)) =
      if ofBe32 lb > P.maxLen then (.corrupt .tooBig, tail)
      else if ofBe32 lb = 0 then (.corrupt .dataRead, tail)
      else if tail.length < ofBe32 lb then (.corrupt .dataRead, [])
      else check P c (tail.take (ofBe32 lb)) (tail.drop (ofBe32 lb)) := by
  rw [decodeG_stage2 P _ (by simp [hc]), List.take_left' hc, List.drop_left' hc]
  unfold stage2
  rw [if_neg (by simp [hl]), List.take_left' hl, List.drop_left' hl]

/-- decoding `checksum ‖ length ‖ payload ‖ rest` for any 4 checksum bytes and a payload within
the limits comes down to the checks after the payload was read -/
theorem decodeG_parts (P : Params) (G : Good P) (c x rest : Bytes) (hc : c.length = 4)
    (h0 : 0 < x.length) (hmax : x.length ≤ P.maxLen) :
    decodeG P (c ++ (be32 x.length ++ (x ++ rest))) = check P c x rest := by
  have hlt : x.length < 4294967296 := Nat.lt_of_le_of_lt hmax G.maxLt
  rw [decodeG_header P c _ _ hc (be32_length _), ofBe32_be32 _ hlt, if_neg (by omega), if_neg (by omega),
    if_neg (by simp), List.take_left' rfl, List.drop_left' rfl]

/-- the decoder returns the record the encoder framed, and leaves the rest of the stream -/
theorem decodeG_frame (P : Params) (G : Good P) (d rest : Bytes) (hv : ValidRec P d) :
    decodeG P (frame P d ++ rest) = (.msg d, rest) := by
  rw [frame_eq, List.append_assoc, List.append_assoc,
    decodeG_parts P G _ d rest (G.crcLen d) hv.1 hv.2.1, check_valid P d rest hv]

/-- through the group reader a torn record (a proper prefix of a frame) never decodes -/
theorem decodeG_torn (P : Params) (G : Good P) (d : Bytes) (hv : ValidRec P d) (m : Nat)
    (hm : m < (frame P d).length) :
    (decodeG P ((frame P d).take m)).1.isMsg = false ∧ (decodeG P ((frame P d).take m)).2 = [] := by
  by_cases h8 : m < 8
  · exact decodeG_lt8 P _ (by rw [List.length_take]; omega)
  · have hlt : d.length < 4294967296 := Nat.lt_of_le_of_lt hv.2.1 G.maxLt
    rw [frame_length P G d] at hm
    rw [frame_take P G d m (by omega), decodeG_header P _ _ _ (G.crcLen d) (be32_length _), ofBe32_be32 _ hlt,
      if_neg (by have := hv.2.1; omega), if_neg (by have := hv.1; omega),
      if_pos (by rw [List.length_take]; omega)]
    exact ⟨rfl, rfl⟩

/-- whatever the stream: a returned record has the length the length field states and the
checksum the checksum field states -/
theorem decodeG_msg_inv (P : Params) (c lb tail x r : Bytes) (hc : c.length = 4) (hl : lb.length = 4)
    (h : decodeG P (c ++ (lb ++ tail)) = (.msg x, r)) : x.length = ofBe32 lb ∧ P.crc x = c := by
  rw [decodeG_header P c lb tail hc hl] at h
  by_cases h1 : ofBe32 lb > P.maxLen
  · rw [if_pos h1] at h; cases h
  rw [if_neg h1] at h
  by_cases h2 : ofBe32 lb = 0
  · rw [if_pos h2] at h; cases h
  rw [if_neg h2] at h
  by_cases h3 : tail.length < ofBe32 lb
  · rw [if_pos h3] at h; cases h
  rw [if_neg h3] at h
  obtain ⟨rfl, hcrc⟩ := check_msg h
  exact ⟨by rw [List.length_take]; omega, hcrc⟩

theorem padTo_full (n : Nat) (b : Bytes) (h : b.length = n) : padTo n b = b := by
  simp [padTo, h]

theorem padTo_length (n : Nat) (b : Bytes) (h : b.length ≤ n) : (padTo n b).length = n := by
  simp [padTo]; omega

theorem decodeF_nil (P : Params) : decodeF P [] = (.eof, []) := rfl

theorem decodeF_header (P : Params) (c lb tail : Bytes) (hc : c.length = 4) (hl : lb.length = 4) :
    decodeF P (c ++ (lb ++ tail)) =
      if ofBe32 lb > P.maxLen then (.corrupt .tooBig, tail)
      else if ofBe32 lb = 0 then check P c [] tail
      else if tail.isEmpty then (.corrupt .dataRead, [])
      else check P c (padTo (ofBe32 lb) (tail.take (ofBe32 lb))) (tail.drop (ofBe32 lb)) := by
  have hne : (c ++ (lb ++ tail)).isEmpty = false := by cases c <;> simp_all
  have hne2 : (lb ++ tail).isEmpty = false := by cases lb <;> simp_all
  unfold decodeF
  simp only [hne, hne2, Bool.false_eq_true, if_false, List.take_left' hc, List.drop_left' hc,
    padTo_full 4 c hc, List.take_left' hl, List.drop_left' hl]

theorem decodeF_frame (P : Params) (G : Good P) (d rest : Bytes) (hv : ValidRec P d) :
    decodeF P (frame P d ++ rest) = (.msg d, rest) := by
  have hlt : d.length < 4294967296 := Nat.lt_of_le_of_lt hv.2.1 G.maxLt
  have hne : ¬ (d ++ rest).isEmpty = true := by have := hv.1; cases d <;> simp_all
  rw [frame_eq, List.append_assoc, List.append_assoc, decodeF_header P _ _ _ (G.crcLen d) (be32_length _),
    ofBe32_be32 _ hlt, if_neg (by have := hv.2.1; omega), if_neg (by have := hv.1; omega), if_neg hne,
    List.take_left' rfl, List.drop_left' rfl, padTo_full _ _ rfl, check_valid P d rest hv]

theorem decodeF_lt8 (P : Params) (G : Good P) (s : Bytes) (h : s.length < 8) :
    (decodeF P s).1.isMsg = false := by
  have h2 : (s.drop 4).drop 4 = [] := List.drop_eq_nil_of_le (by rw [List.length_drop]; omega)
  unfold decodeF
  by_cases h0 : s.isEmpty = true
  · rw [if_pos h0]; rfl
  rw [if_neg h0]
  by_cases h1 : (s.drop 4).isEmpty = true
  · simp only [h1, if_true]; rfl
  simp only [h1, h2, Bool.false_eq_true, if_false, List.isEmpty_nil, if_true]
  by_cases hb : ofBe32 ((s.drop 4).take 4) > P.maxLen
  · rw [if_pos hb]; rfl
  rw [if_neg hb]
  by_cases hz : ofBe32 ((s.drop 4).take 4) = 0
  · rw [if_pos hz]; exact check_nil_not_msg P G _ _
  · rw [if_neg hz]; rfl

/-- two different payloads of the same length with the same checksum -/
def Collision (P : Params) : Prop := ∃ a b : Bytes, a ≠ b ∧ a.length = b.length ∧ P.crc a = P.crc b

/-- on a plain file a torn record does not decode, unless zero-filling the missing bytes gives
back the record itself (its missing tail was all zero) or a checksum collision -/
theorem decodeF_torn (P : Params) (G : Good P) (d : Bytes) (hv : ValidRec P d) (m : Nat)
    (hm : m < (frame P d).length) :
    (decodeF P ((frame P d).take m)).1.isMsg = false ∨
      decodeF P ((frame P d).take m) = (.msg d, []) ∨ Collision P := by
  by_cases h8 : m < 8
  · exact Or.inl (decodeF_lt8 P G _ (by rw [List.length_take]; omega))
  have hlt : d.length < 4294967296 := Nat.lt_of_le_of_lt hv.2.1 G.maxLt
  rw [frame_length P G d] at hm
  rw [frame_take P G d m (by omega), decodeF_header P _ _ _ (G.crcLen d) (be32_length _), ofBe32_be32 _ hlt,
    if_neg (by have := hv.2.1; omega), if_neg (by have := hv.1; omega)]
  split
  · exact Or.inl rfl
  · -- part of the payload is there; the slice it was read into is zero beyond it
    have hlen : (d.take (m - 8)).length ≤ d.length := by rw [List.length_take]; omega
    rw [List.take_of_length_le hlen, List.drop_eq_nil_of_le hlen]
    unfold check
    split
    · exact Or.inl rfl
    · rename_i hcrc
      by_cases heq : padTo d.length (d.take (m - 8)) = d
      · rw [heq]
        cases P.parse d with
        | none => exact Or.inl rfl
        | some v => exact Or.inr (Or.inl rfl)
      · exact Or.inr (Or.inr ⟨_, _, heq, padTo_length _ _ hlen, Decidable.not_not.mp hcrc⟩)

/-- number of whole frames of `ds` inside the first `n` bytes of `frames P ds` -/
def whole (P : Params) : List Bytes → Nat → Nat
  | [], _ => 0
  | d :: ds, n => if (frame P d).length ≤ n then whole P ds (n - (frame P d).length) + 1 else 0

theorem whole_le (P : Params) : ∀ (ds : List Bytes) (n : Nat), whole P ds n ≤ ds.length
  | [], _ => by simp [whole]
  | d :: ds, n => by
    unfold whole
    split
    · have := whole_le P ds (n - (frame P d).length); simp; omega
    · simp

theorem whole_mono (P : Params) : ∀ (ds : List Bytes) (n n' : Nat), n ≤ n' → whole P ds n ≤ whole P ds n'
  | [], _, _, _ => by simp [whole]
  | d :: ds, n, n', h => by
    unfold whole
    split
    · rename_i h1
      rw [if_pos (by omega)]
      have := whole_mono P ds (n - (frame P d).length) (n' - (frame P d).length) (by omega)
      omega
    · omega

theorem whole_all (P : Params) : ∀ (ds : List Bytes) (n : Nat), (frames P ds).length ≤ n →
    whole P ds n = ds.length
  | [], _, _ => by simp [whole]
  | d :: ds, n, h => by
    rw [frames_cons, List.length_append] at h
    rw [whole, if_pos (by omega), whole_all P ds _ (by omega), List.length_cons]

theorem whole_append (P : Params) : ∀ (a b : List Bytes) (n : Nat),
    whole P (a ++ b) ((frames P a).length + n) = a.length + whole P b n
  | [], b, n => by simp [frames_nil]
  | d :: a, b, n => by
    have ih := whole_append P a b n
    simp only [List.cons_append, frames_cons, List.length_append, List.length_cons]
    rw [whole, if_pos (by omega)]
    have : (frame P d).length + (frames P a).length + n - (frame P d).length = (frames P a).length + n := by omega
    rw [this, ih]; omega

/-- a tail as a crash leaves it: nothing, or a proper prefix of a valid record's frame -/
def TornTail (P : Params) (t : Bytes) : Prop :=
  t = [] ∨ ∃ d m, ValidRec P d ∧ m < (frame P d).length ∧ t = (frame P d).take m

theorem tornTail_stop (P : Params) (G : Good P) (t : Bytes) (h : TornTail P t) :
    (decodeG P t).1.isMsg = false ∧ (decodeG P t).2 = [] := by
  rcases h with rfl | ⟨d, m, hv, hm, rfl⟩
  · exact ⟨rfl, rfl⟩
  · exact decodeG_torn P G d hv m hm

/-- the tail left after the whole frames: nothing, or a proper prefix of the next frame -/
def TornAt (P : Params) (ds : List Bytes) (k : Nat) (t : Bytes) : Prop :=
  t = [] ∨ ∃ d m, ds[k]? = some d ∧ m < (frame P d).length ∧ t = (frame P d).take m

theorem TornAt.tornTail {P : Params} {ds : List Bytes} {k : Nat} {t : Bytes} (h : TornAt P ds k t)
    (hv : ∀ d ∈ ds, ValidRec P d) : TornTail P t :=
  h.imp id fun ⟨d, m, hd, hm, he⟩ => ⟨d, m, hv d (List.mem_of_getElem? hd), hm, he⟩

theorem take_frames (P : Params) : ∀ (ds : List Bytes) (n : Nat),
    ∃ t, (frames P ds).take n = frames P (ds.take (whole P ds n)) ++ t ∧ TornAt P ds (whole P ds n) t
  | [], n => ⟨[], by simp [frames_nil, whole], Or.inl rfl⟩
  | d :: ds, n => by
    unfold whole
    split
    · rename_i h
      obtain ⟨t, ht, hT⟩ := take_frames P ds (n - (frame P d).length)
      refine ⟨t, ?_, ?_⟩
      · rw [frames_cons, List.take_append, List.take_of_length_le h, ht]
        simp [frames_cons]
      · rcases hT with h0 | ⟨d', m, hd, hm, he⟩
        · exact Or.inl h0
        · exact Or.inr ⟨d', m, by simpa using hd, hm, he⟩
    · rename_i h
      refine ⟨(frame P d).take n, ?_, Or.inr ⟨d, n, by simp, by omega, rfl⟩⟩
      rw [frames_cons, List.take_append]
      have : n - (frame P d).length = 0 := by omega
      simp [this, frames_nil]

theorem decodeAll_succ_msg (dec : Bytes → DecRes × Bytes) (s : Bytes) (f : Nat) (d rest : Bytes)
    (h : dec s = (.msg d, rest)) :
    decodeAllWith dec (f + 1) s = (d :: (decodeAllWith dec f rest).1, (decodeAllWith dec f rest).2) := by
  rw [decodeAllWith]
  simp [h]

theorem decodeAll_stop (dec : Bytes → DecRes × Bytes) (t : Bytes) (fuel : Nat)
    (h : (dec t).1.isMsg = false) : decodeAllWith dec (fuel + 1) t = ([], (dec t).1) := by
  unfold decodeAllWith
  cases hd : dec t with
  | mk r rest =>
    cases r with
    | msg x => simp [hd, DecRes.isMsg] at h
    | eof => rfl
    | corrupt e => rfl

theorem decodeAll_frames_append (P : Params) (dec : Bytes → DecRes × Bytes)
    (hdec : ∀ d rest, ValidRec P d → dec (frame P d ++ rest) = (.msg d, rest)) :
    ∀ (ds : List Bytes) (fuel : Nat) (t : Bytes), (∀ d ∈ ds, ValidRec P d) →
      decodeAllWith dec (ds.length + fuel) (frames P ds ++ t) =
        (ds ++ (decodeAllWith dec fuel t).1, (decodeAllWith dec fuel t).2)
  | [], fuel, t, _ => by simp [frames_nil]
  | d :: ds, fuel, t, hv => by
    have hd : ValidRec P d := hv d (by simp)
    have ih := decodeAll_frames_append P dec hdec ds fuel t (fun x hx => hv x (by simp [hx]))
    have e : (d :: ds).length + fuel = (ds.length + fuel) + 1 := by simp; omega
    rw [e, frames_cons, List.append_assoc]
    rw [decodeAll_succ_msg dec _ _ d _ (hdec d _ hd), ih]
    simp

theorem decodeAll_frames_stop (P : Params) (dec : Bytes → DecRes × Bytes)
    (hdec : ∀ d rest, ValidRec P d → dec (frame P d ++ rest) = (.msg d, rest))
    (ds : List Bytes) (hv : ∀ d ∈ ds, ValidRec P d) (t : Bytes) (hstop : (dec t).1.isMsg = false)
    (fuel : Nat) (hf : ds.length < fuel) :
    decodeAllWith dec fuel (frames P ds ++ t) = (ds, (dec t).1) := by
  obtain ⟨k, rfl⟩ : ∃ k, fuel = ds.length + (k + 1) := ⟨fuel - ds.length - 1, by omega⟩
  rw [decodeAll_frames_append P dec hdec ds _ t hv, decodeAll_stop _ _ _ hstop, List.append_nil]

theorem decodeAll_frames_last (P : Params) (dec : Bytes → DecRes × Bytes)
    (hdec : ∀ d rest, ValidRec P d → dec (frame P d ++ rest) = (.msg d, rest))
    (ds : List Bytes) (hv : ∀ d ∈ ds, ValidRec P d) (t d : Bytes) (ht : dec t = (.msg d, []))
    (hnil : (dec []).1.isMsg = false) (fuel : Nat) (hf : ds.length + 1 < fuel) :
    (decodeAllWith dec fuel (frames P ds ++ t)).1 = ds ++ [d] := by
  obtain ⟨k, rfl⟩ : ∃ k, fuel = ds.length + (k + 1 + 1) := ⟨fuel - ds.length - 2, by omega⟩
  rw [decodeAll_frames_append P dec hdec ds _ t hv, decodeAll_succ_msg _ _ _ d [] ht,
    decodeAll_stop _ _ _ hnil]

theorem readAllG_stop (P : Params) (G : Good P) (ds : List Bytes) (hv : ∀ d ∈ ds, ValidRec P d)
    (s : Bytes) (hstop : (decodeG P s).1.isMsg = false) :
    readAllG P (frames P ds ++ s) = (ds, (decodeG P s).1) :=
  decodeAll_frames_stop P _ (decodeG_frame P G) ds hv s hstop _
    (by have := length_le_frames P G ds; rw [List.length_append]; omega)

theorem readAllG_frames (P : Params) (G : Good P) (ds : List Bytes) (hv : ∀ d ∈ ds, ValidRec P d) :
    readAllG P (frames P ds) = (ds, .eof) := by
  have := readAllG_stop P G ds hv [] rfl
  rwa [List.append_nil] at this

/-- reading a (possibly torn) prefix of a sequence of frames through the group reader returns
exactly the records whose frames are whole, in order, byte-identical, then stops -/
theorem readAllG_prefix (P : Params) (G : Good P) (ds : List Bytes) (hv : ∀ d ∈ ds, ValidRec P d)
    (n : Nat) :
    ∃ r, r.isMsg = false ∧ readAllG P ((frames P ds).take n) = (ds.take (whole P ds n), r) := by
  obtain ⟨t, ht, hT⟩ := take_frames P ds n
  have hstop := (tornTail_stop P G t (hT.tornTail hv)).1
  exact ⟨_, hstop, by rw [ht]; exact readAllG_stop P G _ (fun d hd => hv d (List.mem_of_mem_take hd)) t hstop⟩

theorem readAllF_stop (P : Params) (G : Good P) (ds : List Bytes) (hv : ∀ d ∈ ds, ValidRec P d)
    (s : Bytes) (hstop : (decodeF P s).1.isMsg = false) :
    readAllF P (frames P ds ++ s) = (ds, (decodeF P s).1) :=
  decodeAll_frames_stop P _ (decodeF_frame P G) ds hv s hstop _
    (by have := length_le_frames P G ds; rw [List.length_append]; omega)

/-- decoding a (possibly torn) prefix of a frame sequence from a plain file (what the repair
does) returns the whole records and at most the torn one completed -/
theorem readAllF_prefix (P : Params) (G : Good P) (ds : List Bytes) (hv : ∀ d ∈ ds, ValidRec P d)
    (n : Nat) :
    (∃ k, whole P ds n ≤ k ∧ k ≤ ds.length ∧ (readAllF P ((frames P ds).take n)).1 = ds.take k)
      ∨ Collision P := by
  obtain ⟨t, ht, hT⟩ := take_frames P ds n
  have hvw : ∀ d ∈ ds.take (whole P ds n), ValidRec P d := fun d hd => hv d (List.mem_of_mem_take hd)
  have stop : (decodeF P t).1.isMsg = false →
      ∃ k, whole P ds n ≤ k ∧ k ≤ ds.length ∧ (readAllF P ((frames P ds).take n)).1 = ds.take k :=
    fun h => ⟨_, Nat.le_refl _, whole_le P ds n, by rw [ht, readAllF_stop P G _ hvw t h]⟩
  rcases hT with rfl | ⟨d, m, hd, hm, rfl⟩
  · exact Or.inl (stop rfl)
  · rcases decodeF_torn P G d (hv d (List.mem_of_getElem? hd)) m hm with h | h | h
    · exact Or.inl (stop h)
    · -- zero-filling gave the torn record back: it is the next one
      refine Or.inl ⟨_, Nat.le_succ _, (List.getElem?_eq_some_iff.mp hd).1, ?_⟩
      have hlen := length_le_frames P G (ds.take (whole P ds n))
      have htne : 0 < ((frame P d).take m).length := by
        cases hq : (frame P d).take m with
        | nil => rw [hq, decodeF_nil] at h; cases h
        | cons a r => simp
      rw [ht, readAllF, decodeAll_frames_last P _ (decodeF_frame P G) _ hvw _ d h rfl _
        (by rw [List.length_append]; omega), List.take_add_one, hd]; rfl
    · exact Or.inr h

/-- hypothesis on the checksum: changing one byte of a payload changes its checksum. (True of
CRC-32C, which detects every error burst of at most 32 bits; not proved here.) -/
def DetectsByteFlips (P : Params) : Prop :=
  ∀ (d : Bytes) (i : Nat) (b : UInt8), d.set i b ≠ d → P.crc (d.set i b) ≠ P.crc d

end Tmv.Wal
