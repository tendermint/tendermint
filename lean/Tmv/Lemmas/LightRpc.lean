import Tmv.Model.LightRpc
import Tmv.Lemmas.ListFacts
/-! The verifying client by cases: what `updateLightClientIfNeededTo` returns, and, for Block, Tx,
TxSearch (per item), BlockResults, ConsensusParams and ABCIQuery, the checks an answer has passed
when the verdict is `.ok`. -/
namespace Tmv.LightRpc
open Tmv.Merkle

theorem trusted?_some (lc : LC) (h : Int) (b : LightBlock) (ht : lc.trusted? h = some b) :
    ∃ k, lc.at? k = some b := by
  unfold LC.trusted? at ht
  by_cases h1 : h > lc.latest ∨ h < 0
  · simp [h1] at ht
  · simp only [h1, if_false] at ht
    by_cases h2 : lc.stored.contains (if h = 0 then lc.latest else h) = true
    · simp only [h2, if_true] at ht
      exact ⟨_, ht⟩
    · simp at ht
      exact ⟨_, ht.2⟩

theorem LC.latest_spec (lc : LC) :
    0 ≤ lc.latest ∧ (∀ x ∈ lc.stored, x ≤ lc.latest) ∧ (lc.latest = 0 ∨ lc.latest ∈ lc.stored) := by
  suffices key : ∀ (l : List Int) (a m : Int), l.foldl (fun a b => if a < b then b else a) a = m →
      a ≤ m ∧ (∀ x ∈ l, x ≤ m) ∧ (m = a ∨ m ∈ l) from key lc.stored 0 _ rfl
  intro l
  induction l with
  | nil => intro a m h; cases h; exact ⟨Int.le_refl a, (fun _ hx => nomatch hx), Or.inl rfl⟩
  | cons y ys ih =>
    intro a m h
    obtain ⟨h1, h2, h3⟩ := ih (if a < y then y else a) m h
    by_cases c : a < y
    · rw [if_pos c] at h1 h3
      refine ⟨by omega, fun x hx => ?_,
        h3.elim (fun e => Or.inr (e ▸ List.mem_cons_self)) fun hm => Or.inr (List.mem_cons_of_mem _ hm)⟩
      rcases List.mem_cons.mp hx with rfl | hx
      · exact h1
      · exact h2 x hx
    · rw [if_neg c] at h1 h3
      refine ⟨h1, fun x hx => ?_, h3.imp_right (List.mem_cons_of_mem _)⟩
      rcases List.mem_cons.mp hx with rfl | hx
      · omega
      · exact h2 x hx

/-- whatever `updateLightClientIfNeededTo` returns is a block of the chain the providers serve, at
the requested height when one was requested; the chain itself never changes -/
theorem updateTo_ok (lc lc' : LC) (req : Option Int) (b : LightBlock)
    (h : updateTo lc req = .ok b lc') :
    lc'.chain = lc.chain ∧ (∃ k, lc.at? k = some b) ∧ (∀ k, req = some k → lc.at? k = some b) := by
  unfold updateTo at h
  cases req with
  | none =>
    simp only at h
    split at h
    · rename_i b0 lc0 hu
      injection h with e1 e2
      subst e1; subst e2
      unfold LC.update at hu
      split at hu
      · split at hu
        · rename_i b1 hat
          simp only [Option.some.injEq, Prod.mk.injEq] at hu
          obtain ⟨e1, e2⟩ := hu
          subst e1; subst e2
          exact ⟨rfl, ⟨_, hat⟩, by intro k hk; cases hk⟩
        · cases hu
      · cases hu
    · split at h
      · rename_i b0 ht
        injection h with e1 e2
        subst e1; subst e2
        exact ⟨rfl, trusted?_some lc 0 b0 ht, by intro k hk; cases hk⟩
      · cases h
  | some k =>
    simp only at h
    split at h
    · rename_i b0 lc0 hv
      injection h with e1 e2
      subst e1; subst e2
      unfold LC.verifyAt at hv
      split at hv; · cases hv
      rename_i b1 hat
      simp only [Option.some.injEq, Prod.mk.injEq] at hv
      obtain ⟨e1, e2⟩ := hv
      subst e1; subst e2
      refine ⟨?_, ⟨_, hat⟩, ?_⟩
      · split <;> rfl
      · intro k' hk'; cases hk'; exact hat
    · cases h

theorem at?_of_chain_eq (lc lc' : LC) (h : lc'.chain = lc.chain) (k : Int) : lc'.at? k = lc.at? k := by
  unfold LC.at?; rw [h]

/-- a height the providers have is always verifiable -/
theorem updateTo_some_complete (lc : LC) (k : Int) (b : LightBlock) (h : lc.at? k = some b) :
    ∃ lc', updateTo lc (some k) = .ok b lc' := by
  unfold updateTo LC.verifyAt
  simp only [h]
  exact ⟨_, rfl⟩

/-- without a height: once something is stored and every stored height is served, there is always an
answer (the newest block, or else the latest trusted one) -/
theorem updateTo_none_complete (lc : LC) (hne : lc.stored ≠ [])
    (hs : ∀ h ∈ lc.stored, ∃ b, lc.at? h = some b) : ∃ l lc', updateTo lc none = .ok l lc' := by
  unfold updateTo
  simp only
  cases hu : lc.update with
  | some p => exact ⟨p.1, p.2, rfl⟩
  | none =>
    simp only
    -- nothing newer: the latest stored height is served
    obtain ⟨hlat0, hub, hlat⟩ := lc.latest_spec
    have hmem : lc.latest ∈ lc.stored := by
      refine hlat.resolve_left fun h0 => ?_
      -- a stored height is served, hence positive, and below the latest
      obtain ⟨x, hx⟩ := List.exists_mem_of_ne_nil _ hne
      obtain ⟨b, hb⟩ := hs x hx
      have hx0 : 0 < x := by
        unfold LC.at? at hb
        split at hb
        · cases hb
        · omega
      have := hub x hx
      omega
    obtain ⟨b, hb⟩ := hs _ hmem
    have ht : lc.trusted? 0 = some b := by
      unfold LC.trusted?
      have h1 : ¬ (0 > lc.latest ∨ (0 : Int) < 0) := by omega
      simp only [h1, if_false, if_true]
      simp [hmem, hb]
    rw [ht]
    exact ⟨b, lc, rfl⟩

/-- the light-client step of every verified route, on the `match` as it stands in their bodies -/
theorem of_upd {lc lc' : LC} {k : Int} {f : LightBlock → LC → Verdict × LC}
    (h : (match updateTo lc (some k) with
      | .err => (Verdict.errLC, lc)
      | .ok l lc1 => f l lc1) = (.ok, lc')) :
    ∃ t lc1, lc.at? k = some t ∧ lc1.chain = lc.chain ∧ f t lc1 = (.ok, lc') := by
  cases hu : updateTo lc (some k) with
  | err => rw [hu] at h; cases h
  | ok t lc1 =>
    rw [hu] at h
    obtain ⟨hc, _, hat⟩ := updateTo_ok lc lc1 _ t hu
    exact ⟨t, lc1, hat k rfl, hc, h⟩

variable (H : Bytes → Bytes)

theorem Block.validateBasic_hashes {b : Block} (h : b.validateBasic H = true) :
    b.header.lastCommitHash = commitHash H b.lastCommitSigs ∧
    b.header.dataHash = TxProof.txsHash H b.txs ∧ b.header.evidenceHash = evidenceHash H b.evidence := by
  simp only [Block.validateBasic, Bool.and_eq_true, decide_eq_true_eq] at h
  exact ⟨h.1.1.1.2, h.1.1.2, h.2⟩

theorem verifyBlock_ok {lc lc' : LC} {req : BlockReq} {res : ResultBlock}
    (h : verifyBlock H lc req res = (.ok, lc')) :
    ∃ b t, res.block = some b ∧ b.validateBasic H = true ∧ res.blockID.hash = b.header.hash H ∧
      req.matches res b = true ∧ lc.at? b.header.height = some t ∧ lc'.chain = lc.chain ∧
      b.header.hash H = t.header.hash H := by
  obtain ⟨_, h⟩ := of_ite_ne h nofun
  cases hb : res.block with
  | none => rw [hb] at h; cases h
  | some b =>
    rw [hb] at h
    dsimp only at h
    obtain ⟨h2, h⟩ := of_ite_ne h nofun
    obtain ⟨h3, h⟩ := of_ite_ne h nofun
    obtain ⟨h4, h⟩ := of_ite_ne h nofun
    obtain ⟨t, lc1, hat, hc, h⟩ := of_upd h
    obtain ⟨h5, h⟩ := of_ite_ne h nofun
    obtain rfl : lc1 = lc' := (Prod.mk.inj h).2
    exact ⟨b, t, rfl, by simpa using h2, Decidable.of_not_not h3, by simpa using h4, hat, hc,
      Decidable.of_not_not h5⟩

/-- The checks one transaction answer goes through in `Tx` and in `TxSearch` (up to the hash label). -/
theorem txChecks_ok {lc lc' : LC} {res : ResultTx} {x : LC → Verdict × LC}
    (h : (if res.height ≤ 0 then (Verdict.errHeight, lc) else
      match updateTo lc (some res.height) with
      | .err => (.errLC, lc)
      | .ok l lc1 =>
        match TxProof.validate H l.header.dataHash res.proof with
        | .error .dataHash => (.errProofDataHash, lc1)
        | .error .index => (.errProofIndex, lc1)
        | .error .total => (.errProofTotal, lc1)
        | .error .inconsistent => (.errProofInconsistent, lc1)
        | .ok _ => x lc1) = (.ok, lc')) :
    0 < res.height ∧ ∃ t lc1, lc.at? res.height = some t ∧ lc1.chain = lc.chain ∧
      TxProof.validate H t.header.dataHash res.proof = .ok () ∧ x lc1 = (.ok, lc') := by
  obtain ⟨h1, h⟩ := of_ite_ne h nofun
  obtain ⟨t, lc1, hat, hc, h⟩ := of_upd h
  cases hv : TxProof.validate H t.header.dataHash res.proof with
  | error e => rw [hv] at h; cases e <;> cases h
  | ok u => rw [hv] at h; exact ⟨by omega, t, lc1, hat, hc, hv, h⟩

theorem verifyTx_ok {lc lc' : LC} {reqHash : Bytes} {res : ResultTx}
    (h : verifyTx H lc reqHash res = (.ok, lc')) :
    0 < res.height ∧ ∃ t, lc.at? res.height = some t ∧ lc'.chain = lc.chain ∧
      TxProof.validate H t.header.dataHash res.proof = .ok () ∧ res.proof.data = res.tx ∧
      H res.tx = reqHash ∧ res.hash = reqHash := by
  obtain ⟨h0, t, lc1, hat, hc, hv, h⟩ := txChecks_ok H h
  obtain ⟨h1, h⟩ := of_ite_ne h nofun
  obtain ⟨h2, h⟩ := of_ite_ne h nofun
  obtain rfl : lc1 = lc' := (Prod.mk.inj h).2
  exact ⟨h0, t, hat, hc, hv, Decidable.of_not_not h1, by
    exact ⟨Decidable.of_not_not fun e => h2 (Or.inl e), Decidable.of_not_not fun e => h2 (Or.inr e)⟩⟩

theorem verifyTxSearch_cons_ok {lc lc' : LC} {x : Option ResultTx} {rest : List (Option ResultTx)}
    (h : verifyTxSearch H lc (x :: rest) = (.ok, lc')) :
    ∃ res t lc1, x = some res ∧ 0 < res.height ∧ lc.at? res.height = some t ∧ lc1.chain = lc.chain ∧
      TxProof.validate H t.header.dataHash res.proof = .ok () ∧ res.proof.data = res.tx ∧
      H res.tx = res.hash ∧ verifyTxSearch H lc1 rest = (.ok, lc') := by
  cases x with
  | none => cases h
  | some res =>
    rw [verifyTxSearch] at h
    obtain ⟨h0, t, lc1, hat, hc, hv, h⟩ := txChecks_ok H h
    obtain ⟨h1, h⟩ := of_ite_ne h nofun
    exact ⟨res, t, lc1, rfl, h0, hat, hc, hv, Decidable.of_not_not fun e => h1 (Or.inl e),
      Decidable.of_not_not fun e => h1 (Or.inr e), h⟩

theorem verifyBlockResults_ok {lc lc' : LC} {h resHeight : Int} {rs : List TxResult}
    (hacc : verifyBlockResults H lc h resHeight rs = (.ok, lc')) :
    0 < h ∧ resHeight = h ∧ ∃ t, lc.at? (h + 1) = some t ∧ lc'.chain = lc.chain ∧
      resultsHash H rs = t.header.lastResultsHash := by
  obtain ⟨h1, hacc⟩ := of_ite_ne hacc nofun
  obtain ⟨h2, hacc⟩ := of_ite_ne hacc nofun
  obtain ⟨t, lc1, hat, hc, hacc⟩ := of_upd hacc
  obtain ⟨h3, hacc⟩ := of_ite_ne hacc nofun
  obtain rfl : lc1 = lc' := (Prod.mk.inj hacc).2
  have h2' : resHeight = h := Decidable.of_not_not h2
  exact ⟨by omega, h2', t, hat, hc, Decidable.of_not_not h3⟩

theorem verifyParams_ok {lc lc' : LC} {req : Option Int} {blockHeight : Int} {p : Params}
    (hacc : verifyParams H lc req blockHeight p = (.ok, lc')) :
    p.validate = true ∧ (∀ k, req = some k → blockHeight = k) ∧
      ∃ t, lc.at? blockHeight = some t ∧ lc'.chain = lc.chain ∧ p.hash H = t.header.consensusHash := by
  obtain ⟨h1, hacc⟩ := of_ite_ne hacc nofun
  obtain ⟨_, hacc⟩ := of_ite_ne hacc nofun
  obtain ⟨h3, hacc⟩ := of_ite_ne hacc nofun
  obtain ⟨t, lc1, hat, hc, hacc⟩ := of_upd hacc
  obtain ⟨h4, hacc⟩ := of_ite_ne hacc nofun
  obtain rfl : lc1 = lc' := (Prod.mk.inj hacc).2
  refine ⟨by simpa using h1, ?_, t, hat, hc, Decidable.of_not_not h4⟩
  rintro k rfl
  simpa using h3

theorem verifyABCI_ok {lc lc' : LC} {store : Option Bytes} {r : ABCIResp}
    (hacc : verifyABCI H lc store r = (.ok, lc')) :
    r.code = 0 ∧ r.key ≠ [] ∧ r.ops ≠ [] ∧ 0 < r.height ∧
    ∃ (t : LightBlock) (v st s' k' : Bytes), lc.at? (r.height + 1) = some t ∧ lc'.chain = lc.chain ∧
      r.value = some v ∧ store = some st ∧ keyRoundTrip st = some s' ∧ keyRoundTrip r.key = some k' ∧
      verifyValue H r.ops t.header.appHash [s', k'] v = true := by
  obtain ⟨h1, hacc⟩ := of_ite_ne hacc nofun
  obtain ⟨h2, hacc⟩ := of_ite_ne hacc nofun
  obtain ⟨h3, hacc⟩ := of_ite_ne hacc nofun
  obtain ⟨h4, hacc⟩ := of_ite_ne hacc nofun
  obtain ⟨t, lc1, hat, hc, hacc⟩ := of_upd hacc
  cases hv : r.value with
  | none => rw [hv] at hacc; cases hacc
  | some v =>
  cases store with
  | none => rw [hv] at hacc; cases hacc
  | some st =>
  rw [hv] at hacc
  dsimp only at hacc
  cases hs : keyRoundTrip st with
  | none => rw [hs] at hacc; cases hacc
  | some s' =>
  cases hk : keyRoundTrip r.key with
  | none => rw [hs, hk] at hacc; cases hacc
  | some k' =>
  rw [hs, hk] at hacc
  dsimp only at hacc
  by_cases hvv : verifyValue H r.ops t.header.appHash [s', k'] v = true
  · rw [if_pos hvv] at hacc
    obtain rfl : lc1 = lc' := (Prod.mk.inj hacc).2
    exact ⟨Decidable.of_not_not h1, h2, fun e => h3 (Or.inr e), by omega, t, v, st, s', k', hat, hc, rfl, rfl,
      hs, rfl, hvv⟩
  · rw [if_neg hvv] at hacc; cases hacc

end Tmv.LightRpc
