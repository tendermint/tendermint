import Tmv.Lemmas.ValStore
import Tmv.Lemmas.Checkpoint
/-! The chain + store system of C08 (`Sys`), its events (blocks with update batches, prunes, rollbacks), the
recorded set in force at every height (`truth`, ghost), and the invariant that makes
`LoadValidators` exact on the retained range. `Sys`, `Ev`, `Sys.step`, `Sys.run`, `tip` and the starts
`Sys.init` / `Sys.initHandshake` (`Sys.ofBootstrap`: `ValBootstrap`) are what the historical-lookup
theorems of `Props/C08` quantify over, so they are read as part of the model although they stand here.

`Model/StateStoreRange` with `Lemmas/StateStore*` formalises the same Go store (`saveValidatorsInfo`,
`PruneStates`) at the level of key-value writes for C18, with its own `lastStoredHeightFor`, `interval`
and record-chain invariant; the two share the checkpoint arithmetic (`Checkpoint`) and nothing else:
no theorem relates the two models. -/
namespace Tmv.ValStore
open Tmv.ValSet

/-- height of the next block (`InitialHeight` for the first one) -/
def blockHeight (st : State) : Int :=
  if st.lastBlockHeight = 0 then st.initialHeight else st.lastBlockHeight + 1

/-- the highest height a validator set is known for: `NextValidators` is for `blockHeight + 1` -/
def tip (st : State) : Int := blockHeight st + 1

structure Sys where
  db : DB
  st : State
  /-- ghost: the set in force at each height, as the chain computed it -/
  truth : Int → Option VSet
  /-- lowest retained height -/
  base : Int
  /-- ghost: no `Rollback` so far (then no record exists above the tip) -/
  clean : Bool

inductive Ev
  | block (ch : List Val)
  | prune (frm to : Int)
  | rollback

/-- the first `Save` of a start state on an empty database; the recorded sets are the state's
`Validators` (initial height) and `NextValidators` (initial height + 1) -/
def Sys.ofInitial (ih : Int) (st : State) : Option Sys :=
  if st.validators.vals = [] then none else   -- a start without validators is out of scope
  match save DB.empty st with
  | none => none
  | some db =>
    some ⟨db, st, fun k => if k = ih then some st.validators
                           else if k = ih + 1 then some st.nextValidators else none, ih, true⟩

/-- genesis: `MakeGenesisState` + `Save` on an empty database -/
def Sys.init (ih : Int) (valz : List Val) : Option Sys :=
  match genesisState ih valz with
  | .error _ => none
  | .ok st => Sys.ofInitial ih st

/-- genesis through the node's handshake: `MakeGenesisState`, then `Handshaker.ReplayBlocks` with an
application whose InitChain returns the validator list `iv` (possibly empty), then `Save` -/
def Sys.initHandshake (ih : Int) (valz iv : List Val) : Option Sys :=
  match genesisState ih valz with
  | .error _ => none
  | .ok st =>
    match handshakeInit st valz iv with
    | .ok st' => Sys.ofInitial ih st'
    | _ => none

/-- `.prune a b`: `base` is raised to `b` also when `PruneStates` stops half-way (`errLoad`, `panic`):
batches flushed before the error may already have deleted heights below `b`, so only the heights
from `b` on are claimed retained (the conservative reading; `inv_prune` says nothing of lower ones) -/
def Sys.step (s : Sys) : Ev → Sys
  | .block ch =>
    match updateState s.st (blockHeight s.st) ch with
    | .ok st' =>
      match save s.db st' with
      | some db' =>
        ⟨db', st', fun k => if k = blockHeight s.st + 2 then some st'.nextValidators else s.truth k, s.base, s.clean⟩
      | none => s
    | _ => s
  | .prune a b =>
    let r := pruneStates s.db a b
    ⟨r.1, s.st, s.truth,
      if r.2 = .errArgs ∨ r.2 = .errNoVals ∨ r.2 = .errNoParams then s.base
      else if s.base ≤ b then b else s.base, s.clean⟩
  | .rollback =>
    -- `state.Rollback` with the block store at the state's height; the recorded history is kept
    -- (the rolled-back block may be re-applied with other updates later)
    match rollback s.db s.st with
    | .ok db' st' => ⟨db', st', s.truth, s.base, false⟩
    | _ => s

def Sys.run (s : Sys) (evs : List Ev) : Sys := evs.foldl Sys.step s

theorem Sys.step_block_cases (s : Sys) (ch : List Val) :
    s.step (.block ch) = s ∨
    ∃ st' db', updateState s.st (blockHeight s.st) ch = .ok st' ∧ save s.db st' = some db' ∧
      s.step (.block ch) = ⟨db', st',
        fun k => if k = blockHeight s.st + 2 then some st'.nextValidators else s.truth k,
        s.base, s.clean⟩ := by
  cases hu : updateState s.st (blockHeight s.st) ch with
  | err e => exact .inl (by simp only [Sys.step, hu])
  | panic => exact .inl (by simp only [Sys.step, hu])
  | ok st' =>
    cases hs : save s.db st' with
    | none => exact .inl (by simp only [Sys.step, hu, hs])
    | some db' => exact .inr ⟨st', db', rfl, hs, by simp only [Sys.step, hu, hs]⟩

/-! Go's `%` is `Int.tmod`; heights are never negative. `100000` is `interval` (`interval_eq`),
written out as in `GRec` and `Inv`, whose fields these lemmas are used with. -/

theorem lsf_eq {h c : Int} (hh : 0 ≤ h) :
    lastStoredHeightFor h c = Checkpoint.lastStored 100000 h c := by
  unfold lastStoredHeightFor Checkpoint.lastStored
  simp only [interval_eq, Int.tmod_eq_emod_of_nonneg hh]
  by_cases hc : h - h % 100000 ≥ c
  · rw [if_pos hc]; omega
  · rw [if_neg hc]; omega

theorem lsf_le {h c : Int} (hh : 0 ≤ h) (hc : c ≤ h) : lastStoredHeightFor h c ≤ h :=
  lsf_eq hh ▸ Checkpoint.le (by decide) hc

theorem lsf_full {h c : Int} (hh : 0 ≤ h) :
    lastStoredHeightFor h c = c ∨ lastStoredHeightFor h c % 100000 = 0 :=
  lsf_eq hh ▸ Checkpoint.full (by decide) h c

theorem lsf_self {h c : Int} (hh : 0 ≤ h) (hc : c ≤ h) (hf : h = c ∨ h % 100000 = 0) :
    lastStoredHeightFor h c = h :=
  lsf_eq hh ▸ Checkpoint.self (by decide) hc hf

theorem lsf_next {h c : Int} (hh : 0 ≤ h) (hn : ¬ (h + 1) % 100000 = 0) :
    lastStoredHeightFor (h + 1) c = lastStoredHeightFor h c := by
  rw [lsf_eq hh, lsf_eq (by omega)]
  exact Checkpoint.next (by decide) hn

theorem lsf_below {b h c : Int} (hb : 0 ≤ b) (hbh : b ≤ h) (hlt : lastStoredHeightFor h c < b) :
    lastStoredHeightFor h c = lastStoredHeightFor b c ∧ c < b ∧ ¬ (b = c ∨ b % 100000 = 0) := by
  rw [lsf_eq (by omega)] at hlt ⊢
  rw [lsf_eq hb]
  exact Checkpoint.below (by decide) hbh hlt

/-- what a record at a retained height `h` guarantees -/
structure Good (t : Tbl Info) (rec : Int → Option VSet) (h : Int) (info : Info) : Prop where
  stored : ∀ p, info.set = some p → rec h = some p ∧ Full p
  pointer : info.set = none →
    lastStoredHeightFor h info.lhc < h ∧
    ∃ i2 p2 v, t.get (lastStoredHeightFor h info.lhc) = some i2 ∧ i2.set = some p2 ∧ Full p2 ∧
      incrTimes (h - lastStoredHeightFor h info.lhc).toNat p2 = some v ∧ rec h = some v

/-- the shape `save` gives the record `info` of height `k`, among the records up to `top` (`lhc` is
Go's `LastHeightChanged`). `mono`: change heights grow with the height, and a later record whose
change height is at or below `k` has the same one, as nothing changed in between. -/
structure GRec (t : Tbl Info) (top : Int) (k : Int) (info : Info) : Prop where
  pos : 1 ≤ k
  lhc_le : info.lhc ≤ k
  set_iff : info.set.isSome ↔ (k = info.lhc ∨ k % 100000 = 0)
  mono : ∀ k2 i2, k ≤ k2 → k2 ≤ top → t.get k2 = some i2 →
    info.lhc ≤ i2.lhc ∧ (i2.lhc ≤ k → info.lhc = i2.lhc)

/-- Flat, because `Props.C08.rpc_validators_exact` takes it as its hypothesis. It is arithmetic + `Win` +
`TInv` field for field (`Inv.win`, `Inv.table`, `Inv.of_parts`), and that is how every operation
proves it. -/
structure Inv (s : Sys) : Prop where
  base_pos : 1 ≤ s.base
  base_le : s.base ≤ tip s.st
  ih_pos : 1 ≤ s.st.initialHeight
  lbh_nonneg : 0 ≤ s.st.lastBlockHeight
  next_full : Full s.st.nextValidators
  rec_tip : s.truth (tip s.st) = some s.st.nextValidators
  lhvc_tip : ∀ info, s.db.vals.get (tip s.st) = some info → info.lhc = s.st.lhvc
  good : ∀ h, s.base ≤ h → h ≤ tip s.st → ∃ info, s.db.vals.get h = some info ∧ Good s.db.vals s.truth h info
  grec : ∀ k info, k ≤ tip s.st → s.db.vals.get k = some info → GRec s.db.vals (tip s.st) k info
  above : s.clean = true → ∀ k, tip s.st < k → s.db.vals.get k = none
  cur_full : Full s.st.validators
  last_full : s.st.lastBlockHeight ≠ 0 → Full s.st.lastValidators
  cur_truth : s.base ≤ tip s.st - 1 → s.truth (tip s.st - 1) = some s.st.validators
  last_truth : s.st.lastBlockHeight ≠ 0 → s.base ≤ tip s.st - 2 →
    s.truth (tip s.st - 2) = some s.st.lastValidators

theorem blockHeight_pos (s : Sys) (hi : Inv s) : 1 ≤ blockHeight s.st := by
  unfold blockHeight
  have := hi.ih_pos; have := hi.lbh_nonneg
  split <;> omega

theorem Good.congr {t t' : Tbl Info} {rec rec' : Int → Option VSet} {h : Int} {info : Info}
    (hg : Good t rec h info) (hr : rec' h = rec h)
    (ht : info.set = none →
      t'.get (lastStoredHeightFor h info.lhc) = t.get (lastStoredHeightFor h info.lhc)) :
    Good t' rec' h info :=
  ⟨fun p hp => hr ▸ hg.stored p hp, fun hn =>
    let ⟨hlt, i2, p2, v, h1, h2, h3, h4, h5⟩ := hg.pointer hn
    ⟨hlt, i2, p2, v, (ht hn).trans h1, h2, h3, h4, hr.trans h5⟩⟩

theorem GRec.frame {t t' : Tbl Info} {top top' k : Int} {info : Info} (hG : GRec t top k info)
    (h : ∀ k2 i2, k ≤ k2 → k2 ≤ top' → t'.get k2 = some i2 →
      (k2 ≤ top ∧ t.get k2 = some i2) ∨ (info.lhc ≤ i2.lhc ∧ (i2.lhc ≤ k → info.lhc = i2.lhc))) :
    GRec t' top' k info :=
  ⟨hG.pos, hG.lhc_le, hG.set_iff, fun k2 i2 h1 h2 h3 =>
    (h k2 i2 h1 h2 h3).elim (fun ⟨a, b⟩ => hG.mono k2 i2 h1 a b) id⟩

/-- the part of `Inv` about the records: `c` is the change height of the newest one, `cl` says that
no rollback happened so far -/
structure TInv (t : Tbl Info) (rec : Int → Option VSet) (base top c : Int) (cl : Bool) : Prop where
  good : ∀ h, base ≤ h → h ≤ top → ∃ info, t.get h = some info ∧ Good t rec h info
  grec : ∀ k info, k ≤ top → t.get k = some info → GRec t top k info
  newest : ∀ info, t.get top = some info → info.lhc = c
  above : cl = true → ∀ k, top < k → t.get k = none

namespace TInv
variable {t t' : Tbl Info} {rec rec' : Int → Option VSet} {base top c : Int} {cl : Bool}

theorem target_le (hT : TInv t rec base top c cl) {k : Int} {info : Info} (hk : k ≤ top)
    (hg : t.get k = some info) : lastStoredHeightFor k info.lhc ≤ k :=
  have hG := hT.grec k info hk hg
  lsf_le (by have := hG.pos; omega) hG.lhc_le

theorem congr (hT : TInv t rec base top c cl) (ht : ∀ k, k ≤ top → t'.get k = t.get k)
    (hr : ∀ k, base ≤ k → k ≤ top → rec' k = rec k) : TInv t' rec' base top c false := by
  refine ⟨fun h h1 h2 => ?_, fun k info hk hg => ?_, fun info hg => hT.newest info (ht top (Int.le_refl _) ▸ hg),
    fun h => by cases h⟩
  · obtain ⟨info, hget, hg⟩ := hT.good h h1 h2
    exact ⟨info, (ht h h2).trans hget, hg.congr (hr h h1 h2)
      fun _ => ht _ (Int.le_trans (hT.target_le h2 hget) h2)⟩
  · rw [ht k hk] at hg
    exact (hT.grec k info hk hg).frame fun k2 i2 _ h2 h3 => .inl ⟨h2, ht k2 h2 ▸ h3⟩

/-- stored and pointer records alike: a stored record is its own target -/
theorem target (hT : TInv t rec base top c cl) {h : Int} (h1 : base ≤ h) (h2 : h ≤ top) :
    ∃ info i2 p2 v, t.get h = some info ∧ t.get (lastStoredHeightFor h info.lhc) = some i2 ∧
      i2.set = some p2 ∧ Full p2 ∧
      incrTimes (h - lastStoredHeightFor h info.lhc).toNat p2 = some v ∧ rec h = some v := by
  obtain ⟨info, hget, hg⟩ := hT.good h h1 h2
  have hG := hT.grec h info h2 hget
  cases hs : info.set with
  | some p =>
    obtain ⟨hr, hf⟩ := hg.stored p hs
    have e := lsf_self (by have := hG.pos; omega) hG.lhc_le (hG.set_iff.1 (by rw [hs]; rfl))
    exact ⟨info, info, p, p, hget, e.symm ▸ hget, hs, hf, by rw [e, Int.sub_self]; rfl, hr⟩
  | none =>
    obtain ⟨_, i2, p2, v, r⟩ := hg.pointer hs
    exact ⟨info, i2, p2, v, hget, r⟩

theorem single {k : Int} (hk : 1 ≤ k) {v : VSet} (hv : Full v) (hr : rec k = some v) :
    TInv (Tbl.put [] k ⟨k, some v⟩) rec k k k cl := by
  have hget : ∀ j info, (Tbl.put [] k (⟨k, some v⟩ : Info)).get j = some info →
      j = k ∧ info = ⟨k, some v⟩ := by
    intro j info h
    rw [Tbl.get_put] at h
    by_cases hj : j = k
    · rw [if_pos hj] at h; cases h; exact ⟨hj, rfl⟩
    · rw [if_neg hj] at h; cases h
  refine ⟨fun h h1 h2 => ?_, fun j info _ hj => ?_, fun info hg => (hget k info hg).2 ▸ rfl,
    fun _ j hj => by rw [Tbl.get_put, if_neg (by omega)]; rfl⟩
  · cases Int.le_antisymm h2 h1
    exact ⟨_, by rw [Tbl.get_put, if_pos rfl], fun p hp => by cases hp; exact ⟨hr, hv⟩, fun hn => by cases hn⟩
  · obtain ⟨rfl, rfl⟩ := hget j info hj
    refine ⟨hk, Int.le_refl _, by simp, fun k2 i2 _ _ h2 => ?_⟩
    obtain ⟨_, rfl⟩ := hget k2 i2 h2
    exact ⟨Int.le_refl _, fun _ => rfl⟩

/-- what `save` writes for the height after `top`. `hinc`: without a change `v` is one rotation after
the set of `top`, which is what `LoadValidators` rebuilds from a pointer record. -/
theorem extend (hT : TInv t rec base top c cl) (hb : base ≤ top) (htop : 1 ≤ top) {c' : Int} {v : VSet}
    (hv : Full v) (hc : c' = top + 1 ∨ c' = c)
    (hinc : c' ≠ top + 1 → ∃ p, rec top = some p ∧ increment p 1 = some v)
    (hr1 : rec' (top + 1) = some v) (hr2 : ∀ k, k ≤ top → rec' k = rec k) :
    TInv (t.put (top + 1) ⟨c', if top + 1 = c' ∨ (top + 1) % 100000 = 0 then some v else none⟩)
      rec' base (top + 1) c' cl := by
  generalize hinfo : (⟨c', if top + 1 = c' ∨ (top + 1) % 100000 = 0 then some v else none⟩ : Info) = info'
  have hlow : ∀ k, k ≤ top → (t.put (top + 1) info').get k = t.get k := fun k hk => by
    rw [Tbl.get_put, if_neg (by omega)]
  have hnew : ∀ i, (t.put (top + 1) info').get (top + 1) = some i → i = info' := fun i h => by
    rw [Tbl.get_put, if_pos rfl] at h; exact (Option.some.inj h).symm
  have old := hT.congr hlow fun k _ hk => hr2 k hk
  obtain ⟨iT, hgT, -⟩ := hT.good top hb (Int.le_refl _)
  have hGT := hT.grec top iT (Int.le_refl _) hgT
  have hcT := hT.newest iT hgT
  have hcle : c' ≤ top + 1 := by have := hGT.lhc_le; omega
  have split : ∀ a, a ≤ top + 1 → a ≤ top ∨ a = top + 1 := fun a h => by omega
  refine ⟨fun a h1 h2 => ?_, fun k info hk hg => ?_, fun i h => by rw [hnew i h, ← hinfo],
    fun hc k hk => by rw [Tbl.get_put, if_neg (by omega)]; exact hT.above hc k (by omega)⟩
  · rcases split a h2 with ha | rfl
    · exact old.good a h1 ha
    · refine ⟨info', by rw [Tbl.get_put, if_pos rfl], ?_⟩
      subst hinfo
      by_cases hcond : top + 1 = c' ∨ (top + 1) % 100000 = 0
      · simp only [if_pos hcond]
        exact ⟨fun p hp => by cases hp; exact ⟨hr1, hv⟩, fun hn => by cases hn⟩
      · -- a pointer record: it points where the record at `top` is rebuilt from
        simp only [if_neg hcond] at hlow ⊢
        have hne : c' ≠ top + 1 := fun e => hcond (.inl e.symm)
        obtain ⟨p, hrp, hip⟩ := hinc hne
        obtain ⟨i, i2, p2, w, hgi, hg2, hs2, hf2, hinc2, hrw⟩ := hT.target hb (Int.le_refl _)
        cases hgT.symm.trans hgi
        rw [hcT, ← hc.resolve_left hne] at hg2 hinc2
        have hle := lsf_le (c := c') (by omega : 0 ≤ top) (by omega)
        refine ⟨fun q hq => (by cases hq), fun _ => ?_⟩
        dsimp only
        rw [lsf_next (by omega) fun e => hcond (.inr e)]
        refine ⟨by omega, i2, p2, v, (hlow _ hle).trans hg2, hs2, hf2, ?_, hr1⟩
        rw [show (top + 1 - lastStoredHeightFor top c').toNat
          = (top - lastStoredHeightFor top c').toNat + 1 by omega, incrTimes_succ, hinc2]
        cases hrp.symm.trans hrw
        exact hip
  · rcases split k hk with hk' | rfl
    · refine (old.grec k info hk' hg).frame fun k2 i2 _ hk2 hg2 => ?_
      rcases split k2 hk2 with h | rfl
      · exact .inl ⟨h, hg2⟩
      · -- against the new record: its change height is its own, or that of the record at `top`
        right
        cases hnew i2 hg2
        subst hinfo
        have hG := hT.grec k info hk' (hlow k hk' ▸ hg)
        show info.lhc ≤ c' ∧ (c' ≤ k → info.lhc = c')
        rcases hc with h | h
        · have := hG.lhc_le
          exact ⟨by omega, fun hle => by omega⟩
        · have := hG.mono top iT hk' (Int.le_refl _) hgT
          rwa [hcT, ← h] at this
    · cases hnew info hg
      subst hinfo
      refine ⟨by omega, hcle, ?_, fun k2 i2 h1 h2 hg2 => ?_⟩
      · by_cases hcond : top + 1 = c' ∨ (top + 1) % 100000 = 0
        · simp [hcond]
        · simp [hcond]
      · cases Int.le_antisymm h2 h1
        cases hnew i2 hg2
        exact ⟨Int.le_refl _, fun _ => rfl⟩

end TInv

/-! ## the window: the three sets of the state are the recorded sets of the three newest heights -/

structure Win (rec : Int → Option VSet) (base T : Int) (last cur next : VSet) (hasLast : Prop) : Prop where
  next_full : Full next
  rec_tip : rec T = some next
  cur_full : Full cur
  last_full : hasLast → Full last
  cur_truth : base ≤ T - 1 → rec (T - 1) = some cur
  last_truth : hasLast → base ≤ T - 2 → rec (T - 2) = some last

/-- the window at `T + 1`, said without subtractions -/
theorem Win.of_top {rec : Int → Option VSet} {base T : Int} {last cur next : VSet} {hl : Prop}
    (hn : Full next) (hr : rec (T + 1) = some next) (hc : Full cur) (hlf : hl → Full last)
    (hrc : base ≤ T → rec T = some cur) (hrl : hl → base ≤ T - 1 → rec (T - 1) = some last) :
    Win rec base (T + 1) last cur next hl :=
  have e1 : T + 1 - 1 = T := by omega
  have e2 : T + 1 - 2 = T - 1 := by omega
  ⟨hn, hr, hc, hlf, fun hb => by rw [e1] at hb ⊢; exact hrc hb, fun h hb => by rw [e2] at hb ⊢; exact hrl h hb⟩

theorem Win.push {rec rec' : Int → Option VSet} {base T : Int} {last cur next nv : VSet} {hl hl' : Prop}
    (hw : Win rec base T last cur next hl) (hf : Full nv)
    (hr1 : rec' (T + 1) = some nv) (hr2 : ∀ k, k ≤ T → rec' k = rec k) :
    Win rec' base (T + 1) cur next nv hl' :=
  .of_top hf hr1 hw.next_full (fun _ => hw.cur_full) (fun _ => (hr2 T (Int.le_refl _)).trans hw.rec_tip)
    fun _ hb => (hr2 _ (by omega)).trans (hw.cur_truth hb)

theorem tip_of_pos {st : State} (h : 1 ≤ st.lastBlockHeight) : tip st = st.lastBlockHeight + 1 + 1 := by
  unfold tip blockHeight
  rw [if_neg (by omega)]


theorem Inv.win {s : Sys} (hi : Inv s) : Win s.truth s.base (tip s.st) s.st.lastValidators s.st.validators
    s.st.nextValidators (s.st.lastBlockHeight ≠ 0) :=
  ⟨hi.next_full, hi.rec_tip, hi.cur_full, hi.last_full, hi.cur_truth, hi.last_truth⟩

theorem Inv.table {s : Sys} (hi : Inv s) : TInv s.db.vals s.truth s.base (tip s.st) s.st.lhvc s.clean :=
  ⟨hi.good, hi.grec, hi.lhvc_tip, hi.above⟩

/-- `Inv` from its three parts, the top height named `T` so that the parts are stated without `tip` -/
theorem Inv.of_parts {db : DB} {st : State} {truth : Int → Option VSet} {base T : Int} {cl : Bool}
    (hT : tip st = T) (h1 : 1 ≤ base) (h2 : base ≤ T) (h3 : 1 ≤ st.initialHeight) (h4 : 0 ≤ st.lastBlockHeight)
    (hw : Win truth base T st.lastValidators st.validators st.nextValidators (st.lastBlockHeight ≠ 0))
    (ht : TInv db.vals truth base T st.lhvc cl) : Inv ⟨db, st, truth, base, cl⟩ := by
  subst hT
  exact ⟨h1, h2, h3, h4, hw.next_full, hw.rec_tip, ht.newest, ht.good, ht.grec, ht.above, hw.cur_full,
    hw.last_full, hw.cur_truth, hw.last_truth⟩

/-- the invariant gives exactness of `LoadValidators` on the retained range -/
theorem load_of_inv (s : Sys) (hi : Inv s) (h : Int) (h1 : s.base ≤ h) (h2 : h ≤ tip s.st) :
    ∃ v, s.truth h = some v ∧ loadValidators s.db.vals h = .ok v := by
  obtain ⟨info, hget, hg⟩ := hi.good h h1 h2
  unfold loadValidators
  rw [hget]
  simp only
  cases hs : info.set with
  | some p =>
    obtain ⟨ht, hf⟩ := hg.stored p hs
    exact ⟨p, ht, by simp [fromProto_full p hf]⟩
  | none =>
    obtain ⟨_, i2, p2, v, hg2, hs2, hf2, hinc, ht⟩ := hg.pointer hs
    refine ⟨v, ht, ?_⟩
    simp only [hg2, hs2, fromProto_full p2 hf2, hinc]

theorem updateState_ok (st st' : State) (H : Int) (ch : List Val) (h : updateState st H ch = .ok st') :
    ∃ nv' c, Full nv' ∧
      st' = { st with lastBlockHeight := H, nextValidators := nv', validators := st.nextValidators,
                      lastValidators := st.validators, lhvc := c } ∧
      (c = H + 1 + 1 ∨ c = st.lhvc) ∧ (c ≠ H + 1 + 1 → increment st.nextValidators 1 = some nv') := by
  unfold updateState at h
  simp only at h
  split at h
  · cases h
  · split at h
    · cases h
    · rename_i nv' hinc
      simp only [StepRes.ok.injEq] at h
      refine ⟨nv', _, increment_full _ _ _ hinc, h.symm, ?_⟩
      by_cases hch : ch ≠ []
      · rw [if_pos hch]; exact ⟨.inl rfl, fun hne => absurd rfl hne⟩
      · rw [if_neg hch] at hinc ⊢; exact ⟨.inr rfl, fun _ => hinc⟩

theorem saveValidatorsInfo_eq (t : Tbl Info) {h c : Int} (v : VSet) (h0 : 0 ≤ h) (hc : c ≤ h)
    (hf : Full v) :
    saveValidatorsInfo t h c v =
      some (t.put h ⟨c, if h = c ∨ h % 100000 = 0 then some v else none⟩) := by
  unfold saveValidatorsInfo
  rw [if_neg (by omega), interval_eq, Int.tmod_eq_emod_of_nonneg h0, toProto_full v hf]
  by_cases hcond : h = c ∨ h % 100000 = 0
  · rw [if_pos hcond, if_pos hcond]
  · rw [if_neg hcond, if_neg hcond]

theorem save_ok (db db' : DB) (st : State) (hl : 1 ≤ st.lastBlockHeight) (hf : Full st.nextValidators)
    (h : save db st = some db') :
    st.lhvc ≤ st.lastBlockHeight + 2 ∧
    db'.vals = db.vals.put (st.lastBlockHeight + 2)
      ⟨st.lhvc, if st.lastBlockHeight + 2 = st.lhvc ∨ (st.lastBlockHeight + 2) % 100000 = 0
                then some st.nextValidators else none⟩ := by
  unfold save at h
  have hne : ¬ st.lastBlockHeight + 1 = 1 := by omega
  have e1 : st.lastBlockHeight + 1 + 1 = st.lastBlockHeight + 2 := by omega
  simp only [hne, if_false, e1] at h
  by_cases hc : st.lhvc ≤ st.lastBlockHeight + 2
  · rw [saveValidatorsInfo_eq _ _ (by omega) hc hf] at h
    cases h
    exact ⟨hc, rfl⟩
  · unfold saveValidatorsInfo at h
    rw [if_pos (by omega)] at h
    cases h

theorem inv_block (s : Sys) (hi : Inv s) (ch : List Val) : Inv (s.step (.block ch)) := by
  rcases s.step_block_cases ch with e | ⟨st', db', hu, hs, e⟩
  · rw [e]; exact hi
  · have key : blockHeight s.st + 2 = tip s.st + 1 := by unfold tip; omega
    rw [e, key]
    obtain ⟨nv', c, hfull', hst', hc, hinc⟩ := updateState_ok _ _ _ _ hu
    subst hst'
    have hH := blockHeight_pos s hi
    obtain ⟨-, hdb⟩ := save_ok s.db db' _ hH hfull' hs
    simp only [key] at hdb
    have hb := hi.base_le
    have hr1 : (fun k => if k = tip s.st + 1 then some nv' else s.truth k) (tip s.st + 1) = some nv' :=
      if_pos rfl
    have hr2 : ∀ k, k ≤ tip s.st → (fun k => if k = tip s.st + 1 then some nv' else s.truth k) k = s.truth k :=
      fun k hk => if_neg (by omega)
    refine Inv.of_parts (T := tip s.st + 1) (tip_of_pos hH) hi.base_pos (by omega) hi.ih_pos
      (by show 0 ≤ blockHeight s.st; omega) (hi.win.push hfull' hr1 hr2) ?_
    show TInv db'.vals _ s.base _ c _
    rw [hdb]
    exact hi.table.extend hb (by unfold tip; omega) hfull' hc (fun hne => ⟨_, hi.rec_tip, hinc hne⟩) hr1 hr2

theorem newValidatorSet_full (valz : List Val) (vs : VSet) (h : newValidatorSet valz = .ok vs)
    (hne : vs.vals ≠ []) : Full vs := by
  unfold newValidatorSet at h
  split at h
  · cases h
  · rename_i s0 hu
    split at h
    · rename_i hv
      subst hv
      simp [updateWithChangeSet] at hu
      cases h
      rw [← hu] at hne
      exact absurd rfl hne
    · split at h
      · rename_i s' hinc
        cases h
        exact increment_full _ _ _ hinc
      · rename_i hinc
        cases h
        unfold increment at hinc
        simp [hne] at hinc

theorem genesisState_ok (ih : Int) (valz : List Val) (st : State) (h : genesisState ih valz = .ok st) :
    ∃ vs, newValidatorSet valz = .ok vs ∧
      st = { initialHeight := ih, lastBlockHeight := 0, lastValidators := VSet.empty, validators := vs,
             nextValidators := (match increment vs 1 with | some s => s | none => vs),
             lhvc := ih, lhpc := ih } := by
  unfold genesisState at h
  split at h
  · cases h
  · split at h
    · cases h
    · rename_i vs hvs
      cases h
      exact ⟨vs, hvs, rfl⟩

/-- what `load_exact` needs from a start state: height 0, last change at the initial height,
and `NextValidators` exactly ONE rotation ahead of `Validators` -/
structure Initial (ih : Int) (st : State) : Prop where
  hih : st.initialHeight = ih
  hlbh : st.lastBlockHeight = 0
  hlhvc : st.lhvc = ih
  hnext : increment st.validators 1 = some st.nextValidators

theorem Sys.ofInitial_some {ih : Int} {st : State} {s0 : Sys} (h : Sys.ofInitial ih st = some s0) :
    st.validators.vals ≠ [] ∧ ∃ db, save DB.empty st = some db ∧
      s0 = ⟨db, st, fun k => if k = ih then some st.validators
                            else if k = ih + 1 then some st.nextValidators else none, ih, true⟩ := by
  unfold Sys.ofInitial at h
  by_cases hne : st.validators.vals = []
  · rw [if_pos hne] at h; cases h
  · rw [if_neg hne] at h
    cases hs : save DB.empty st with
    | none => rw [hs] at h; cases h
    | some db => rw [hs] at h; cases h; exact ⟨hne, db, rfl, rfl⟩

theorem inv_ofInitial (ih : Int) (hih : 1 ≤ ih) (st : State) (hinit : Initial ih st)
    (hfull0 : st.validators.vals ≠ [] → Full st.validators) (s0 : Sys)
    (h : Sys.ofInitial ih st = some s0) : Inv s0 := by
  obtain ⟨hne, db, hsave, rfl⟩ := Sys.ofInitial_some h
  have hfull : Full st.validators := hfull0 hne
  obtain ⟨hIH, hLBH, hC, hnxt⟩ := hinit
  have hfulln : Full st.nextValidators := increment_full _ _ _ hnxt
  -- the saved table: a full record at `ih`, then the record `save` writes for `ih + 1`
  unfold save at hsave
  simp only [hLBH, hIH, hC, Int.zero_add, if_true] at hsave
  rw [saveValidatorsInfo_eq _ _ (by omega) (Int.le_refl _) hfull] at hsave
  simp only at hsave
  rw [saveValidatorsInfo_eq _ _ (by omega) (by omega) hfulln] at hsave
  cases hsave
  have hr0 : (fun k => if k = ih then some st.validators
      else if k = ih + 1 then some st.nextValidators else none) ih = some st.validators := if_pos rfl
  have hr1 : (fun k => if k = ih then some st.validators
      else if k = ih + 1 then some st.nextValidators else none) (ih + 1) = some st.nextValidators :=
    (if_neg (by omega)).trans (if_pos rfl)
  refine Inv.of_parts (T := ih + 1) (by simp [tip, blockHeight, hLBH, hIH]) hih (by omega) (by omega)
    (by omega) (.of_top hfulln hr1 hfull (fun h => absurd hLBH h) (fun _ => hr0) fun h => absurd hLBH h) ?_
  rw [hC]
  exact (TInv.single hih hfull hr0).extend (Int.le_refl _) hih hfulln (.inr rfl)
    (fun _ => ⟨_, hr0, hnxt⟩) hr1 fun _ _ => rfl

theorem initial_of_genesis (ih : Int) (valz : List Val) (st : State)
    (h : genesisState ih valz = .ok st) (hne : st.validators.vals ≠ []) :
    Initial ih st ∧ Full st.validators := by
  obtain ⟨vs, hvs, hst'⟩ := genesisState_ok _ _ _ h
  have hvsne : vs.vals ≠ [] := by rw [hst'] at hne; exact hne
  have hfull : Full vs := newValidatorSet_full _ _ hvs hvsne
  obtain ⟨nxt, hnxt⟩ := increment_isSome vs hvsne
  rw [hnxt] at hst'
  simp only at hst'
  subst hst'
  exact ⟨⟨rfl, rfl, rfl, hnxt⟩, hfull⟩

theorem inv_ofGenesis (ih : Int) (hih : 1 ≤ ih) (valz : List Val) (st : State)
    (hst : genesisState ih valz = .ok st) (s0 : Sys) (h : Sys.ofInitial ih st = some s0) : Inv s0 :=
  have hg := initial_of_genesis ih valz st hst (Sys.ofInitial_some h).1
  inv_ofInitial ih hih st hg.1 (fun _ => hg.2) s0 h

theorem Sys.init_some {ih : Int} {valz : List Val} {s0 : Sys} (h : Sys.init ih valz = some s0) :
    ∃ st, genesisState ih valz = .ok st ∧ Sys.ofInitial ih st = some s0 := by
  unfold Sys.init at h
  cases hg : genesisState ih valz with
  | error e => rw [hg] at h; cases h
  | ok st => rw [hg] at h; exact ⟨st, rfl, h⟩

theorem inv_init (ih : Int) (hih : 1 ≤ ih) (valz : List Val) (s0 : Sys)
    (h : Sys.init ih valz = some s0) : Inv s0 :=
  let ⟨st, hst, h0⟩ := Sys.init_some h
  inv_ofGenesis ih hih valz st hst s0 h0

theorem handshakeInit_ok (st st' : State) (gv iv : List Val) (h : handshakeInit st gv iv = .ok st') :
    (iv = [] ∧ st' = st) ∨
    (∃ vs nx, newValidatorSet iv = .ok vs ∧ increment vs 1 = some nx ∧
      st' = { st with validators := vs, nextValidators := nx }) := by
  unfold handshakeInit at h
  split at h
  · split at h
    · cases h
    · rename_i vs hvs
      split at h
      · cases h
      · rename_i nx hnx
        simp only [HsRes.ok.injEq] at h
        exact Or.inr ⟨vs, nx, hvs, hnx, h.symm⟩
  · rename_i hiv
    split at h
    · cases h
    · simp only [HsRes.ok.injEq] at h
      exact Or.inl ⟨by simpa using hiv, h.symm⟩

theorem Sys.initHandshake_some {ih : Int} {valz iv : List Val} {s0 : Sys}
    (h : Sys.initHandshake ih valz iv = some s0) :
    ∃ st st', genesisState ih valz = .ok st ∧ handshakeInit st valz iv = .ok st' ∧
      Sys.ofInitial ih st' = some s0 := by
  unfold Sys.initHandshake at h
  cases hg : genesisState ih valz with
  | error e => rw [hg] at h; cases h
  | ok st =>
    rw [hg] at h
    simp only at h
    cases hh : handshakeInit st valz iv with
    | ok st' => rw [hh] at h; exact ⟨st, st', rfl, hh, h⟩
    | panic e => rw [hh] at h; cases h
    | noValidators => rw [hh] at h; cases h

theorem inv_initHandshake (ih : Int) (hih : 1 ≤ ih) (valz iv : List Val) (s0 : Sys)
    (h : Sys.initHandshake ih valz iv = some s0) : Inv s0 := by
  obtain ⟨st, st', hst, hhs, h0⟩ := Sys.initHandshake_some h
  rcases handshakeInit_ok _ _ _ _ hhs with ⟨_, e⟩ | ⟨vs, nx, hvs, hnx, e⟩
  · subst e
    exact inv_ofGenesis ih hih valz st' hst s0 h0
  · obtain ⟨vs0, _, hst0⟩ := genesisState_ok _ _ _ hst
    subst e; subst hst0
    exact inv_ofInitial ih hih _ ⟨rfl, rfl, rfl, hnx⟩ (newValidatorSet_full _ _ hvs) s0 h0

end Tmv.ValStore
