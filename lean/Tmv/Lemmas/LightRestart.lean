import Tmv.Lemmas.LightInv
/-! Restarts over an existing trusted store (`NewClientFromTrustedStore`, `NewClient` with trust
options: rollback, cleanup, re-initialisation) and `VerifyHeader` keep the trust invariant. -/
namespace Tmv.Light

theorem Reach.mono {cfg : Config} {R R' : Hash → Prop} (hm : ∀ h, R h → R' h) {b : LightBlock}
    (h : Reach cfg R b) : Reach cfg R' b := by
  induction h with
  | root b hb => exact Reach.root b (hm _ hb)
  | fwd a b now _ hs ih => exact Reach.fwd a b now ih hs
  | back a b _ hs ih => exact Reach.back a b ih hs
  | same a b _ hs ih => exact Reach.same a b ih hs

theorem mem_delete {s : Store} {h : Int} {b : LightBlock} (hb : b ∈ (s.delete h).blocks) : b ∈ s.blocks :=
  (List.mem_filter.mp hb).1

theorem mem_cleanupAfterLoop (height : Int) :
    ∀ (f : Nat) (s : Store) (prev : Int) (b : LightBlock),
      b ∈ (cleanupAfterLoop height f s prev).blocks → b ∈ s.blocks := by
  intro f
  induction f with
  | zero => intro s prev b h; exact h
  | succ f ih =>
    intro s prev b h
    simp only [cleanupAfterLoop] at h
    split at h
    · exact h
    · split at h
      · exact h
      · exact mem_delete (ih _ _ _ h)

theorem restore_inv {cfg : Config} {R : Hash → Prop} {c : Client} (h : Inv cfg R c) :
    Inv cfg R (restore c) := by
  unfold restore
  simp only
  split
  · split
    · rename_i b hb
      exact h.sub h.cfg_eq fun x hx => hx.elim Or.inl fun hl => Or.inl (Option.some.inj hl ▸ store_get_mem hb)
    · exact h
  · exact h

theorem cleanupAfter_inv {cfg : Config} {R : Hash → Prop} {c : Client} {height : Int} (h : Inv cfg R c) :
    Inv cfg R (cleanupAfter c height) := by
  unfold cleanupAfter
  split
  · exact h
  · apply restore_inv
    exact h.sub h.cfg_eq fun b hb => hb.elim (fun hm => Or.inl (mem_cleanupAfterLoop _ _ _ _ _ hm)) fun hl => by cases hl

theorem cleanup_inv {cfg : Config} {R : Hash → Prop} {c : Client} (h : Inv cfg R c) :
    Inv cfg R (cleanup c) :=
  h.sub h.cfg_eq fun _ hb => hb.elim (fun hm => Or.inl (mem_prune hm)) fun hl => by cases hl

theorem checkTrusted_inv {cfg : Config} {R : Hash → Prop} {c : Client} {height : Int} {hash : Hash}
    (h : Inv cfg R c) : Inv cfg R (checkTrustedHeaderUsingOptions c height hash).1 := by
  unfold checkTrustedHeaderUsingOptions
  split
  · exact h
  · rename_i latest hl
    simp only
    generalize hp : (ite (height > latest.height) _ _ : Client × Except Err Hash) = p
    obtain ⟨c1, ph⟩ := p
    have h1 : Inv cfg R c1 := by
      split at hp
      · split at hp
        · rename_i c1' _ hq
          obtain ⟨rfl, _⟩ := Prod.mk.inj hp
          exact h.of_same ((lightBlockFromPrimary_keeps hq).1.same)
        · rename_i c1' _ hq
          obtain ⟨rfl, _⟩ := Prod.mk.inj hp
          exact h.of_same ((lightBlockFromPrimary_keeps hq).1.same)
      · split at hp
        · obtain ⟨rfl, _⟩ := Prod.mk.inj hp; exact h
        · obtain ⟨rfl, _⟩ := Prod.mk.inj hp; exact cleanupAfter_inv h
    simp only
    split
    · exact h1
    · split
      · exact h1
      · split
        · exact cleanup_inv h1
        · exact h1

theorem initialize_inv {cfg : Config} {R : Hash → Prop} {c : Client} {height : Int} {hash : Hash}
    (h : Inv cfg R c) (hr : R hash) : Inv cfg R (initializeWithOptions c height hash).1 := by
  rcases initialize_cases c height hash with ⟨_, hk⟩ | ⟨_, c2, l, hk, _, hroot, e⟩
  · exact h.of_same hk.same
  · rw [e]
    exact updateTrusted_inv (h.of_same hk.same) (Reach.root _ (hroot ▸ hr))

theorem newClientOn_inv {cfg : Config} {R : Hash → Prop} {base : Client} {primary : Prov}
    {witnesses : List Prov} {sched : List Prov → List Nat} {withOptions : Bool} {period height : Int}
    {hash : Hash} (hbase : Inv cfg R base) (hr : withOptions = true → R hash) :
    Inv cfg R (newClientOn base cfg primary witnesses sched withOptions period height hash).1 := by
  unfold newClientOn
  by_cases h1 : withOptions = true ∧ (period ≤ 0 ∨ height ≤ 0)
  · rw [if_pos h1]; exact hbase
  by_cases h2 : witnesses.isEmpty
  · rw [if_neg h1, if_pos h2]; exact hbase
  by_cases h3 : witnesses.any (fun w => w.chain != cfg.chain)
  · rw [if_neg h1, if_neg h2, if_pos h3]; exact hbase
  by_cases h4 : (!validateTrustLevel cfg.level) = true
  · rw [if_neg h1, if_neg h2, if_neg h3, if_pos h4]; exact hbase
  rw [if_neg h1, if_neg h2, if_neg h3, if_neg h4]
  dsimp only
  have h0 : Inv cfg R (restore (clientOn base cfg primary witnesses sched)) :=
    restore_inv (hbase.sub rfl fun _ hb => hb.elim Or.inl fun hl => by cases hl)
  generalize restore (clientOn base cfg primary witnesses sched) = c at h0 ⊢
  cases hw : withOptions with
  | false => exact h0
  | true =>
    rw [if_neg (by simp)]
    have h1 : Inv cfg R (if c.latest.isSome = true then checkTrustedHeaderUsingOptions c height hash
        else (c, none)).1 := by
      split
      · exact checkTrusted_inv h0
      · exact h0
    generalize (if c.latest.isSome = true then checkTrustedHeaderUsingOptions c height hash
        else (c, none)) = q at h1 ⊢
    obtain ⟨c1, e1⟩ := q
    cases e1 with
    | some e => exact h1
    | none =>
      dsimp only at h1 ⊢
      split
      · exact initialize_inv h1 (hr hw)
      · exact h1

theorem verifyHeader_evolves {c : Client} {hash : Hash} {height now : Int} :
    Evolves c (verifyHeader c hash height now).1 := by
  unfold verifyHeader
  split
  · exact (Keeps.refl c).evolves
  · simp only
    split
    · exact (Keeps.refl c).evolves
    · split
      · rename_i c1 _ hl
        exact (lightBlockFromPrimary_keeps hl).1.evolves
      · rename_i c1 l hl
        split
        · exact (lightBlockFromPrimary_keeps hl).1.evolves
        · exact (fetch_verify_evolves hl (Prod.ext rfl rfl)).1

end Tmv.Light
