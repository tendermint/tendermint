import Tmv.Model.MempoolV0Async
import Tmv.Lemmas.MempoolV0
/-! The v0 mempool over an asynchronous FIFO ABCI client: the phase invariant (`AIdle` / `ARecheck`)
and its preservation under the discipline `Allowed`, and the recheck result (`recheck_done`).

Three alphabets of operations: `AOpG` has everything (send, deliver, update, `RemoveTxByKey`, `Flush`),
and the theorems are proved for `Disciplined` histories over it; `AOp` (send, deliver) is what may
happen between two updates; `AOpF` (send, deliver, update) is what statements of Props/C12 speak of.
The two small ones embed in `AOpG` (`AOp.toG`, `AOpF.toG`) and their histories are always disciplined
(`arun_eq`, `arunF_eq`), so their theorems are instances. -/
namespace Tmv.Mempool.V0
open Tmv Tmv.Mempool

def Req.isFirst : Req → Bool
  | .first _ _ => true
  | .recheck _ => false

/-- no recheck in flight -/
structure AIdle (a : AState) : Prop where
  inv : Inv a.s
  cursor : a.cursor = none
  queue : ∀ r ∈ a.queue, r.isFirst = true
  ok : a.panicked = false

/-- a recheck is in flight (or has just been completed and no later response handled yet):
the pool is `kept ++ rem`, `kept` = snapshot entries already answered and accepted, `rem` = the
entries whose answers are still queued, in order, followed by the requests sent since. -/
structure ARecheck (a : AState) (kept rem : List Bytes) (firsts : List Req) : Prop where
  inv : Inv a.s
  keys : keys a.s = kept ++ rem
  kept : ∀ k ∈ kept, accepted a.s.post (a.rv k) = true
  queue : a.queue = rem.map Req.recheck ++ firsts
  firsts : ∀ r ∈ firsts, r.isFirst = true
  cursor : a.cursor = rem.head?
  endTx : rem ≠ [] → a.endTx = rem.getLast?
  ok : a.panicked = false

/-- either idle or in a recheck phase -/
def APhase (a : AState) : Prop := AIdle a ∨ ∃ kept rem firsts, ARecheck a kept rem firsts

theorem aphase_init (cfg : Cfg) (h : Int) : APhase (ainit cfg h) :=
  Or.inl ⟨inv_init cfg h, rfl, fun _ hr => (nomatch hr), rfl⟩

theorem aphase_facts {a : AState} (h : APhase a) : Inv a.s ∧ a.panicked = false := by
  rcases h with h | ⟨_, _, _, h⟩
  · exact ⟨h.inv, h.ok⟩
  · exact ⟨h.inv, h.ok⟩

theorem aidle_of_recheck_done {a : AState} {kept : List Bytes} {firsts : List Req}
    (h : ARecheck a kept [] firsts) : AIdle a :=
  ⟨h.inv, h.cursor, h.queue ▸ h.firsts, h.ok⟩

theorem aidle_of_phase_empty {a : AState} (h : APhase a) (hq : a.queue = []) : AIdle a := by
  rcases h with h | ⟨kept, rem, firsts, h⟩
  · exact h
  · cases rem with
    | nil => exact aidle_of_recheck_done h
    | cons c r => exact nomatch hq.symm.trans h.queue

theorem checkTxFront_eq (s : State) (tx : Bytes) : ∃ c, (checkTxFront s tx).1 = { s with cache := c } := by
  rcases checkTx_cases s tx {} with ⟨_, _, he, _⟩ | ⟨_, he, _⟩ | ⟨_, he, _⟩
  · exact ⟨s.cache, by rw [he]⟩
  · exact ⟨_, by rw [he]⟩
  · exact ⟨_, by rw [he]⟩

theorem asend_eq (a : AState) (tx : Bytes) (v : Verdict) :
    ∃ c q, (asend a tx v).1 = { a with s := { a.s with cache := c }, queue := q } ∧
      (q = a.queue ∨ q = a.queue ++ [.first tx v]) := by
  obtain ⟨c, hc⟩ := checkTxFront_eq a.s tx
  unfold asend
  generalize checkTxFront a.s tx = r at hc
  obtain ⟨s1, res⟩ := r
  have hc : s1 = { a.s with cache := c } := hc
  subst hc
  cases res with
  | ok => exact ⟨c, _, rfl, Or.inr rfl⟩
  | full => exact ⟨c, _, rfl, Or.inl rfl⟩
  | tooLarge => exact ⟨c, _, rfl, Or.inl rfl⟩
  | pre => exact ⟨c, _, rfl, Or.inl rfl⟩
  | inCache => exact ⟨c, _, rfl, Or.inl rfl⟩

theorem firsts_send {firsts : List Req} (h : ∀ r ∈ firsts, r.isFirst = true) (tx : Bytes) (v : Verdict) :
    ∀ r ∈ firsts ++ [.first tx v], r.isFirst = true := by
  intro r hr
  rcases List.mem_append.1 hr with hr | hr
  · exact h r hr
  · rw [List.mem_singleton.1 hr]; rfl

theorem arecheck_send {a : AState} {kept rem : List Bytes} {firsts : List Req}
    (h : ARecheck a kept rem firsts) (tx : Bytes) (v : Verdict) :
    (∃ firsts', ARecheck (asend a tx v).1 kept rem firsts') ∧
    (asend a tx v).1.rv = a.rv ∧ (asend a tx v).1.s.post = a.s.post := by
  obtain ⟨c, q, he, hq⟩ := asend_eq a tx v
  rw [he]
  refine ⟨?_, rfl, rfl⟩
  rcases hq with rfl | rfl
  · exact ⟨firsts, h.inv, h.keys, h.kept, h.queue, h.firsts, h.cursor, h.endTx, h.ok⟩
  · exact ⟨firsts ++ [.first tx v], h.inv, h.keys, h.kept,
      by show a.queue ++ _ = _; rw [h.queue, List.append_assoc],
      firsts_send h.firsts tx v, h.cursor, h.endTx, h.ok⟩

theorem aidle_deliver {a : AState} (h : AIdle a) : AIdle (adeliver a) := by
  unfold adeliver
  match hq : a.queue with
  | [] => exact h
  | r :: q =>
    simp only [h.cursor]
    have hr : r.isFirst = true := h.queue r (by rw [hq]; exact List.mem_cons_self)
    match r, hr with
    | .first tx v, _ =>
      exact ⟨stable_inv.resCbFirstTime h.inv tx v, rfl,
        fun r' hr' => h.queue r' (by rw [hq]; exact List.mem_cons_of_mem _ hr'), h.ok⟩

theorem resCbRecheckA_queue (b : AState) (c tx : Bytes) (v : Verdict) :
    (resCbRecheckA b c tx v).queue = b.queue := by
  unfold resCbRecheckA; split <;> rfl

theorem adeliver_queue (a : AState) : (adeliver a).queue = a.queue.tail := by
  obtain ⟨s, queue, cursor, endTx, rv, panicked⟩ := a
  cases queue with
  | nil => rfl
  | cons r q =>
    unfold adeliver
    cases cursor with
    | none =>
      cases r with
      | recheck tx => rfl
      | first tx v => rfl
    | some c =>
      cases r with
      | recheck tx => exact resCbRecheckA_queue _ c tx _
      | first tx v =>
        show (if (resCbRecheckA _ c tx v).cursor.isSome = true then _ else _ : AState).queue = q
        by_cases hs : (resCbRecheckA ⟨s, q, some c, endTx, rv, panicked⟩ c tx v).cursor.isSome = true
        · rw [if_pos hs]; exact resCbRecheckA_queue _ c tx v
        · rw [if_neg hs]; exact resCbRecheckA_queue _ c tx v

theorem dropWhile_split (c : Bytes) : ∀ (kept : List Bytes) (txs : List MemTx) (rem : List Bytes),
    txs.map (·.tx) = kept ++ c :: rem → c ∉ kept →
    ∃ e rest, txs.dropWhile (fun e => decide (e.tx ≠ c)) = e :: rest ∧ e.tx = c ∧
      rest.map (·.tx) = rem := by
  intro kept
  induction kept with
  | nil =>
    intro txs rem h _
    match txs, h with
    | e :: rest, h =>
      rw [List.map_cons, List.nil_append, List.cons.injEq] at h
      exact ⟨e, rest, List.dropWhile_cons_of_neg (by simp [h.1]), h.1, h.2⟩
  | cons k kept ih =>
    intro txs rem h hn
    match txs, h with
    | e :: rest, h =>
      rw [List.map_cons, List.cons_append, List.cons.injEq] at h
      have hne : e.tx ≠ c := fun heq => hn (heq ▸ h.1 ▸ List.mem_cons_self)
      obtain ⟨e', rest', h1, h2, h3⟩ := ih rest rem h.2 (fun hm => hn (List.mem_cons_of_mem _ hm))
      exact ⟨e', rest', by rw [List.dropWhile_cons_of_pos (by simpa using hne)]; exact h1, h2, h3⟩

theorem adeliver_recheck_eq {a : AState} {kept rem : List Bytes} {firsts : List Req} (c : Bytes)
    (h : ARecheck a kept (c :: rem) firsts) :
    c ∉ kept ∧ adeliver a = { a with
      queue := rem.map Req.recheck ++ firsts
      s := if accepted a.s.post (a.rv c) then a.s else removeTx a.s c (!a.s.cfg.keepInvalid)
      cursor := rem.head? } := by
  have hnd : (kept ++ c :: rem).Nodup := h.keys ▸ h.inv.nodup
  have hck : c ∉ kept := fun hm => (List.nodup_append.1 hnd).2.2 c hm c List.mem_cons_self rfl
  have hcr : c ∉ rem := (List.nodup_cons.1 (List.nodup_append.1 hnd).2.1).1
  obtain ⟨e, rest, hdw, hec, hrest⟩ := dropWhile_split c kept a.s.txs rem h.keys hck
  have hcur : a.cursor = some c := h.cursor
  have hq : a.queue = Req.recheck c :: (rem.map Req.recheck ++ firsts) := h.queue
  have hseek : seek c a.endTx (a.s.txs.dropWhile (fun e => decide (e.tx ≠ c))) = .found (rem.head?) := by
    rw [hdw, seek, if_pos hec, ← hrest, List.head?_map]
  -- the entry is the last of the snapshot exactly when nothing remains
  have hnext : (if some c = a.endTx then none else rem.head?) = rem.head? := by
    by_cases he : some c = a.endTx
    · rw [if_pos he]
      cases rem with
      | nil => rfl
      | cons r rs =>
        rw [h.endTx (List.cons_ne_nil _ _), List.getLast?_cons_cons] at he
        exact absurd (List.mem_of_getLast? he.symm) hcr
    · rw [if_neg he]
  refine ⟨hck, ?_⟩
  unfold adeliver
  rw [hq]
  simp only [hcur]
  unfold resCbRecheckA
  simp only [hseek, hnext]

theorem arecheck_deliver {a : AState} {kept rem : List Bytes} {firsts : List Req} (c : Bytes)
    (h : ARecheck a kept (c :: rem) firsts) :
    (∃ kept', ARecheck (adeliver a) kept' rem firsts) ∧
    (adeliver a).rv = a.rv ∧ (adeliver a).s.post = a.s.post := by
  obtain ⟨hck, he⟩ := adeliver_recheck_eq c h
  have hend : rem ≠ [] → a.endTx = rem.getLast? := fun hr => by
    rw [h.endTx (List.cons_ne_nil _ _)]
    cases rem with
    | nil => exact absurd rfl hr
    | cons r rs => exact List.getLast?_cons_cons
  rw [he]
  by_cases hacc : accepted a.s.post (a.rv c) = true
  · rw [if_pos hacc]
    refine ⟨⟨kept ++ [c], h.inv, by rw [h.keys, List.append_assoc]; rfl, ?_, rfl, h.firsts, rfl, hend, h.ok⟩,
      rfl, rfl⟩
    intro k hk
    rcases List.mem_append.1 hk with hk | hk
    · exact h.kept k hk
    · rw [List.mem_singleton.1 hk]; exact hacc
  · rw [if_neg hacc]
    have hcin : c ∈ keys a.s := h.keys ▸ List.mem_append_right _ List.mem_cons_self
    refine ⟨⟨kept, inv_removeTx h.inv c _ hcin, ?_, h.kept, rfl, h.firsts, rfl, hend, h.ok⟩, rfl, rfl⟩
    rw [keys_removeTx, h.keys]; exact erase_append_not_mem c kept rem hck

theorem aphase_deliver {a : AState} (h : APhase a) : APhase (adeliver a) := by
  rcases h with h | ⟨kept, rem, firsts, h⟩
  · exact Or.inl (aidle_deliver h)
  · cases rem with
    | nil => exact Or.inl (aidle_deliver (aidle_of_recheck_done h))
    | cons c rem =>
      obtain ⟨⟨kept', h'⟩, _⟩ := arecheck_deliver c h
      exact Or.inr ⟨_, _, _, h'⟩

theorem adrain_phase (n : Nat) : ∀ {a : AState}, APhase a → a.queue.length ≤ n →
    AIdle (adrain n a) ∧ (adrain n a).queue = [] := by
  induction n with
  | zero =>
    intro a h hl
    have hq : a.queue = [] := List.eq_nil_of_length_eq_zero (by omega)
    exact ⟨aidle_of_phase_empty h hq, hq⟩
  | succ n ih =>
    intro a h hl
    unfold adrain
    by_cases hq : a.queue = []
    · rw [if_pos hq]; exact ⟨aidle_of_phase_empty h hq, hq⟩
    · rw [if_neg hq]
      have : (adeliver a).queue.length = a.queue.length - 1 := by rw [adeliver_queue, List.length_tail]
      exact ih (aphase_deliver h) (by omega)

/-- `Update` first lets every pending response be handled, so it can start from any phase -/
theorem aupdate_phase {a : AState} (h : APhase a) (ht : Int) (block : List (Bytes × Nat))
    (pre post : Option Int) (rv : Bytes → Verdict) :
    AIdle (aupdate a ht block pre post rv) ∨
    ARecheck (aupdate a ht block pre post rv) [] (keys (aupdate a ht block pre post rv).s) [] := by
  obtain ⟨hd, hq⟩ := adrain_phase a.queue.length h (Nat.le_refl _)
  have hi2 : Inv (block.foldl commitOne (updHead (adrain a.queue.length a).s ht pre post)) :=
    stable_inv.commitAll (inv_updHead hd.inv ht pre post) block
  refine iteInduction (motive := fun a' : AState => AIdle a' ∨ ARecheck a' [] (keys a'.s) [])
    (fun _ => Or.inr ?_) (fun _ => Or.inl ?_)
  · refine ⟨hi2, rfl, fun _ hk => (nomatch hk), ?_, fun _ hr => (nomatch hr), ?_, fun _ => ?_, hd.ok⟩
    · show (adrain a.queue.length a).queue ++ _ = List.map Req.recheck (keys _) ++ []
      rw [hq, List.nil_append, List.append_nil, keys, List.map_map]; rfl
    · exact (List.head?_map ..).symm
    · exact (List.getLast?_map ..).symm
  · exact ⟨hi2, hd.cursor, hq ▸ fun _ hr => (nomatch hr), hd.ok⟩

theorem aupdate_spec {a : AState} (h : AIdle a) (ht : Int) (block : List (Bytes × Nat))
    (pre post : Option Int) (rv : Bytes → Verdict) :
    AIdle (aupdate a ht block pre post rv) ∨
    ARecheck (aupdate a ht block pre post rv) [] (keys (aupdate a ht block pre post rv).s) [] :=
  aupdate_phase (Or.inl h) ht block pre post rv

theorem aupdate_rv (a : AState) (ht : Int) (block : List (Bytes × Nat)) (pre post : Option Int)
    (rv : Bytes → Verdict) : (aupdate a ht block pre post rv).rv = rv :=
  iteInduction (motive := fun a' : AState => a'.rv = rv) (fun _ => rfl) (fun _ => rfl)

theorem arecheck_remove {a : AState} {kept rem : List Bytes} {firsts : List Req}
    (h : ARecheck a kept rem firsts) (tx : Bytes) (hal : ∀ r ∈ a.queue, r.isRecheckOf tx = false) :
    (∃ kept', ARecheck (aremoveByKey a tx) kept' rem firsts) ∧
    (aremoveByKey a tx).rv = a.rv ∧ (aremoveByKey a tx).s.post = a.s.post := by
  unfold aremoveByKey
  by_cases hm : tx ∈ a.s.txsMap
  · rw [if_pos hm]
    refine ⟨?_, rfl, rfl⟩
    have hnr : tx ∉ rem := fun hr => by
      have := hal _ (h.queue ▸ List.mem_append_left _ (List.mem_map_of_mem (f := Req.recheck) hr))
      simp [Req.isRecheckOf] at this
    have hk : tx ∈ keys a.s := (mem_map_iff h.inv tx).1 hm
    have hkept : tx ∈ kept := (List.mem_append.1 (h.keys ▸ hk)).resolve_right hnr
    refine ⟨kept.erase tx, inv_removeTx h.inv tx false hk, ?_, fun k hk' => h.kept k (List.mem_of_mem_erase hk'),
      h.queue, h.firsts, h.cursor, h.endTx, h.ok⟩
    show keys (removeTx a.s tx false) = kept.erase tx ++ rem
    rw [keys_removeTx, h.keys]; exact List.erase_append_left _ hkept
  · rw [if_neg hm]; exact ⟨⟨kept, h⟩, rfl, rfl⟩

theorem rem_nil_of_flush_allowed {a : AState} {kept rem : List Bytes} {firsts : List Req}
    (h : ARecheck a kept rem firsts) (hal : Allowed a .flush) : rem = [] := by
  cases rem with
  | nil => rfl
  | cons c r => exact (hal (.recheck c) (h.queue ▸ List.mem_cons_self)).elim

theorem aphase_stepG {a : AState} (h : APhase a) (op : AOpG) (hal : Allowed a op) :
    APhase (astepG a op) := by
  cases op with
  | send tx v =>
    rcases h with h | ⟨kept, rem, firsts, h⟩
    · obtain ⟨c, q, he, hq⟩ := asend_eq a tx v
      show APhase (asend a tx v).1
      rw [he]
      refine Or.inl ⟨h.inv, h.cursor, ?_, h.ok⟩
      rcases hq with rfl | rfl
      · exact h.queue
      · exact firsts_send h.queue tx v
    · obtain ⟨⟨f', h'⟩, _⟩ := arecheck_send h tx v
      exact Or.inr ⟨_, _, f', h'⟩
  | deliver => exact aphase_deliver h
  | update ht b pre post rv =>
    rcases aupdate_phase h ht b pre post rv with h' | h'
    · exact Or.inl h'
    · exact Or.inr ⟨_, _, _, h'⟩
  | removeByKey tx =>
    rcases h with h | ⟨kept, rem, firsts, h⟩
    · show APhase (if tx ∈ a.s.txsMap then _ else a)
      by_cases hm : tx ∈ a.s.txsMap
      · rw [if_pos hm]
        exact Or.inl ⟨inv_removeTx h.inv tx false ((mem_map_iff h.inv tx).1 hm), h.cursor, h.queue, h.ok⟩
      · rw [if_neg hm]; exact Or.inl h
    · obtain ⟨⟨k', h'⟩, _⟩ := arecheck_remove h tx hal
      exact Or.inr ⟨k', rem, firsts, h'⟩
  | flush =>
    -- a flush is allowed only when no recheck answer is pending: the state is idle
    have hidle : AIdle a := by
      rcases h with h | ⟨kept, rem, firsts, h⟩
      · exact h
      · have := rem_nil_of_flush_allowed h hal
        subst this
        exact aidle_of_recheck_done h
    exact Or.inl ⟨stable_inv.flush a.s hidle.inv, hidle.cursor, hidle.queue, hidle.ok⟩

theorem aphase_runG (ops : List AOpG) : ∀ {a : AState}, APhase a → Disciplined a ops →
    APhase (arunG a ops) := by
  induction ops with
  | nil => intro a h _; exact h
  | cons o r ih => intro a h hd; exact ih (aphase_stepG h o hd.1) hd.2

def AOpG.isUpdate : AOpG → Bool
  | .update _ _ _ _ _ => true
  | _ => false

def countDeliverG : List AOpG → Nat
  | [] => 0
  | .deliver :: r => countDeliverG r + 1
  | _ :: r => countDeliverG r

/-- the recheck phase under the discipline: after `n` answers the first `n` snapshot entries have
been dealt with -/
theorem arunG_recheck_phase : ∀ (ops : List AOpG) (a : AState) (kept rem : List Bytes) (firsts : List Req),
    ARecheck a kept rem firsts → Disciplined a ops → (∀ o ∈ ops, o.isUpdate = false) →
    countDeliverG ops ≤ rem.length →
    (∃ kept' firsts', ARecheck (arunG a ops) kept' (rem.drop (countDeliverG ops)) firsts') ∧
      (arunG a ops).rv = a.rv ∧ (arunG a ops).s.post = a.s.post := by
  intro ops
  induction ops with
  | nil => intro a kept rem firsts h _ _ _; exact ⟨⟨kept, firsts, h⟩, rfl, rfl⟩
  | cons o r ih =>
    intro a kept rem firsts h hd hnu hc
    have hnu' : ∀ o' ∈ r, o'.isUpdate = false := fun o' ho' => hnu o' (List.mem_cons_of_mem _ ho')
    -- a step that answers nothing: the rest of the history continues from the same `rem`
    have other : ∀ {kept' firsts'}, countDeliverG (o :: r) = countDeliverG r →
        ARecheck (astepG a o) kept' rem firsts' → (astepG a o).rv = a.rv →
        (astepG a o).s.post = a.s.post → _ := fun hn h' hrv hpost =>
      let ⟨g1, g2, g3⟩ := ih (astepG a o) _ rem _ h' hd.2 hnu' (hn ▸ hc)
      (⟨hn ▸ g1, g2.trans hrv, g3.trans hpost⟩ :
        (∃ kept' firsts', ARecheck (arunG a (o :: r)) kept' (rem.drop (countDeliverG (o :: r))) firsts') ∧
        (arunG a (o :: r)).rv = a.rv ∧ (arunG a (o :: r)).s.post = a.s.post)
    cases o with
    | send tx v =>
      obtain ⟨⟨f', h'⟩, hrv, hpost⟩ := arecheck_send h tx v
      exact other rfl h' hrv hpost
    | deliver =>
      cases rem with
      | nil => exact absurd hc (Nat.not_succ_le_zero _)
      | cons c rem =>
        obtain ⟨⟨k', h'⟩, hrv, hpost⟩ := arecheck_deliver c h
        obtain ⟨g1, g2, g3⟩ := ih (adeliver a) k' rem firsts h' hd.2 hnu' (Nat.le_of_succ_le_succ hc)
        exact ⟨g1, g2.trans hrv, g3.trans hpost⟩
    | update ht b pre post rv => exact nomatch hnu _ List.mem_cons_self
    | removeByKey tx =>
      obtain ⟨⟨k', h'⟩, hrv, hpost⟩ := arecheck_remove h tx hd.1
      exact other rfl h' hrv hpost
    | flush =>
      have hrem := rem_nil_of_flush_allowed h hd.1
      subst hrem
      have h' : ARecheck (aflush a) [] [] firsts :=
        ⟨stable_inv.flush a.s h.inv, rfl, fun _ hk => (nomatch hk), h.queue, h.firsts, h.cursor,
          fun hr => absurd rfl hr, h.ok⟩
      exact other rfl h' rfl rfl

/-- **recheck_keeps_accepted_only** under the discipline: after an `Update` that started a recheck,
once as many answers have been handled as the pool had entries, whatever permitted steps came in
between, every pooled transaction was accepted by the recheck -/
theorem recheck_done {a : AState} (hph : APhase a) (ht : Int) (block : List (Bytes × Nat))
    (pre post : Option Int) (rv : Bytes → Verdict) (between : List AOpG)
    (hcur : (aupdate a ht block pre post rv).cursor ≠ none)
    (hdb : Disciplined (aupdate a ht block pre post rv) between)
    (hnu : ∀ o ∈ between, o.isUpdate = false)
    (hcount : countDeliverG between = (keys (aupdate a ht block pre post rv).s).length) :
    ∀ k ∈ keys (arunG (aupdate a ht block pre post rv) between).s,
      accepted (aupdate a ht block pre post rv).s.post (rv k) = true := by
  intro k hk
  rcases aupdate_phase hph ht block pre post rv with hi | hr
  · exact absurd hi.cursor hcur
  · obtain ⟨⟨kept', firsts', g1⟩, g3, g4⟩ :=
      arunG_recheck_phase between _ [] _ [] hr hdb hnu (Nat.le_of_eq hcount)
    rw [hcount, List.drop_length] at g1
    have := g1.kept k (by rw [← List.append_nil kept', ← g1.keys]; exact hk)
    rwa [g3, g4, aupdate_rv] at this

/-- sends, response deliveries and updates (the model's `AOpG` without `removeByKey` and `flush`, so
every such history is `Disciplined`: `arunF_eq`) -/
inductive AOpF
  | send (tx : Bytes) (v : Verdict)
  | deliver
  | update (h : Int) (block : List (Bytes × Nat)) (pre post : Option Int) (rv : Bytes → Verdict)

def astepF (a : AState) : AOpF → AState
  | .send tx v => (asend a tx v).1
  | .deliver => adeliver a
  | .update h b pre post rv => aupdate a h b pre post rv

def arunF (a : AState) (ops : List AOpF) : AState := ops.foldl astepF a

def countDeliver : List AOp → Nat
  | [] => 0
  | .deliver :: r => countDeliver r + 1
  | .send _ _ :: r => countDeliver r

def AOpF.toG : AOpF → AOpG
  | .send tx v => .send tx v
  | .deliver => .deliver
  | .update h b pre post rv => .update h b pre post rv

def AOp.toG : AOp → AOpG
  | .send tx v => .send tx v
  | .deliver => .deliver

theorem arunF_eq (ops : List AOpF) : ∀ a, arunF a ops = arunG a (ops.map AOpF.toG) ∧
    Disciplined a (ops.map AOpF.toG) := by
  induction ops with
  | nil => intro a; exact ⟨rfl, trivial⟩
  | cons o r ih =>
    intro a
    cases o with
    | send tx v => exact ⟨(ih _).1, trivial, (ih _).2⟩
    | deliver => exact ⟨(ih _).1, trivial, (ih _).2⟩
    | update h b pre post rv => exact ⟨(ih _).1, trivial, (ih _).2⟩

theorem arun_eq (ops : List AOp) : ∀ a, arun a ops = arunG a (ops.map AOp.toG) ∧
    Disciplined a (ops.map AOp.toG) ∧ (∀ o ∈ ops.map AOp.toG, o.isUpdate = false) ∧
    countDeliverG (ops.map AOp.toG) = countDeliver ops := by
  induction ops with
  | nil => intro a; exact ⟨rfl, trivial, fun _ ho => (nomatch ho), rfl⟩
  | cons o r ih =>
    intro a
    cases o with
    | send tx v =>
      obtain ⟨h1, h2, h3, h4⟩ := ih (astep a (.send tx v))
      exact ⟨h1, ⟨trivial, h2⟩, List.forall_mem_cons.2 ⟨rfl, h3⟩, h4⟩
    | deliver =>
      obtain ⟨h1, h2, h3, h4⟩ := ih (astep a .deliver)
      exact ⟨h1, ⟨trivial, h2⟩, List.forall_mem_cons.2 ⟨rfl, h3⟩, congrArg (· + 1) h4⟩

end Tmv.Mempool.V0
