import Tmv.Model.StoreNode
import Tmv.Lemmas.BlockStoreOps
import Tmv.Lemmas.StateStoreInv
/-! The two stores together: single-write granularity over both databases, the combined invariant
`NInv`, and its preservation by every write prefix of every phase of a `finalizeCommit` step. -/
namespace Tmv.StoreNode
open Tmv

/-- one write to one of the two databases -/
inductive W where
  | b (w : BlockStore.Write)
  | s (w : StateStore.Write)

abbrev D := BlockStore.DB × StateStore.DB

def applyW (d : D) : W → D
  | .b w => (BlockStore.apply d.1 w, d.2)
  | .s w => (d.1, StateStore.apply d.2 w)

def applyWs (d : D) (ws : List W) : D := ws.foldl applyW d

def flatU : U → List W
  | .b ws => ws.map W.b
  | .s ws => ws.map W.s

/-- the crash units as the sequence of their individual writes -/
def flat (us : List U) : List W := (us.map flatU).flatten

theorem applyWs_nil (d : D) : applyWs d [] = d := rfl
theorem applyWs_append (d : D) (a b : List W) : applyWs d (a ++ b) = applyWs (applyWs d a) b :=
  List.foldl_append

theorem applyWs_map_b (ws : List BlockStore.Write) (d : D) :
    applyWs d (ws.map W.b) = (BlockStore.applyAll d.1 ws, d.2) := by
  induction ws generalizing d with
  | nil => rfl
  | cons w ws ih =>
    simp only [List.map_cons, applyWs, List.foldl_cons] at ih ⊢
    rw [ih]; rfl

theorem applyWs_map_s (ws : List StateStore.Write) (d : D) :
    applyWs d (ws.map W.s) = (d.1, StateStore.applyAll d.2 ws) := by
  induction ws generalizing d with
  | nil => rfl
  | cons w ws ih =>
    simp only [List.map_cons, applyWs, List.foldl_cons] at ih ⊢
    rw [ih]; rfl

theorem flat_nil : flat [] = [] := rfl
theorem flat_append (a b : List U) : flat (a ++ b) = flat a ++ flat b := by
  simp [flat]

theorem flat_map_b (bus : List (List BlockStore.Write)) : flat (bus.map U.b) = bus.flatten.map W.b := by
  induction bus with
  | nil => rfl
  | cons u us ih =>
    simp only [flat, List.map_cons, List.flatten_cons, flatU, List.map_append] at ih ⊢
    rw [ih]

theorem flat_map_s (sus : List (List StateStore.Write)) : flat (sus.map U.s) = sus.flatten.map W.s := by
  induction sus with
  | nil => rfl
  | cons u us ih =>
    simp only [flat, List.map_cons, List.flatten_cons, flatU, List.map_append] at ih ⊢
    rw [ih]

theorem applyUs_eq (us : List U) (d : D) : applyUs d us = applyWs d (flat us) := by
  induction us generalizing d with
  | nil => rfl
  | cons u us ih =>
    have : flat (u :: us) = flatU u ++ flat us := by simp [flat]
    rw [this, applyWs_append, ← ih]
    simp only [applyUs, List.foldl_cons]
    congr 1
    cases u with
    | b ws => simp only [applyU, flatU, applyWs_map_b]
    | s ws => simp only [applyU, flatU, applyWs_map_s]

/-- lowest height whose state-store records the block store's range needs -/
def lowOf (bdb : BlockStore.DB) (st : StateStore.St) : Int :=
  if (BlockStore.loadRange bdb).2 = 0 then st.initialHeight else (BlockStore.loadRange bdb).1

/-- how far the persisted state may be from the block store's tip: equal, or exactly one block
behind (the block is stored, `ApplyBlock` has not persisted the new state yet — the window the
handshake repairs by re-applying the stored block) -/
def Rrel (bdb : BlockStore.DB) (st : StateStore.St) : Prop :=
  ((BlockStore.loadRange bdb).2 = 0 ∧ st.lastBlockHeight = 0) ∨
  (0 < (BlockStore.loadRange bdb).2 ∧
    (st.lastBlockHeight = (BlockStore.loadRange bdb).2 ∨
     (BlockStore.loadRange bdb).2 = StateStore.saveNext st))

/-- when the state is level with the block store, its `LastBlockID` is the stored tip's id
(what lets `validateBlock` vouch for the `LastCommit` that `SaveBlock` will store) -/
def Link (bdb : BlockStore.DB) (st : StateStore.St) : Prop :=
  ∀ m, 0 < (BlockStore.loadRange bdb).2 → st.lastBlockHeight = (BlockStore.loadRange bdb).2 →
    BlockStore.loadMeta bdb (BlockStore.loadRange bdb).2 = some m → m.hash = st.lastBlockHash

/-- **the combined on-disk invariant** -/
def NInv (d : D) : Prop :=
  ∃ st, StateStore.SInv d.2 st (lowOf d.1 st) ∧ BlockStore.Good d.1 ∧ Rrel d.1 st ∧ Link d.1 st

theorem lowOf_eq_base {bdb : BlockStore.DB} (st : StateStore.St) (h : 0 < (BlockStore.loadRange bdb).2) :
    lowOf bdb st = (BlockStore.loadRange bdb).1 :=
  if_neg (Int.ne_of_gt h)

theorem saveNext_eq_succ {st : StateStore.St} {H : Int} (hL : st.lastBlockHeight = H) (hH : 0 < H) :
    StateStore.saveNext st = H + 1 := by
  rw [StateStore.saveNext, hL, if_neg (by omega)]

theorem saveNext_gt (st : StateStore.St) (h2 : 1 ≤ st.initialHeight) :
    st.lastBlockHeight < StateStore.saveNext st := by
  unfold StateStore.saveNext; split <;> omega

theorem nextHeight_eq (st : StateStore.St) : nextHeight st = StateStore.saveNext st := rfl

theorem genesis_eq (ih : Int) : genesis ih = StateStore.genesisSt ih := rfl

abbrev AllPrefixN (d : D) (ws : List W) : Prop := AllPrefix applyW NInv d ws

theorem allPrefixN_s {d : D} {Q : StateStore.DB → Prop} {ws : List StateStore.Write}
    (h : AllPrefix StateStore.apply Q d.2 ws) (hq : ∀ sdb', Q sdb' → NInv (d.1, sdb')) :
    AllPrefixN d (ws.map W.s) := by
  intro k
  rw [← List.map_take, ← applyWs, applyWs_map_s]
  exact hq _ (h k)

theorem ninv_of_base {bdb : BlockStore.DB} {sdb : StateStore.DB} {st : StateStore.St} (hG : BlockStore.Good bdb)
    (hp : 0 < (BlockStore.loadRange bdb).2) (hS : StateStore.SInv sdb st (BlockStore.loadRange bdb).1)
    (hR : Rrel bdb st) (hK : Link bdb st) : NInv (bdb, sdb) :=
  ⟨st, by rw [lowOf_eq_base st hp]; exact hS, hG, hR, hK⟩

theorem allPrefixN_b {d : D} {Q : BlockStore.DB → Prop} {ws : List BlockStore.Write}
    (h : AllPrefix BlockStore.apply Q d.1 ws) (hq : ∀ db', Q db' → NInv (db', d.2)) :
    AllPrefixN d (ws.map W.b) := by
  intro k
  rw [← List.map_take, ← applyWs, applyWs_map_b]
  exact hq _ (h k)

/-- `Rrel`, `Link` and `lowOf` read the block database through its descriptor and the meta of its
tip only: a crash state that shows the tip of `d.1` (the base possibly raised) satisfies the
invariant with the state store of `d`. -/
theorem ninv_shows {d : D} {st : StateStore.St} {B H b' : Int} {db' : BlockStore.DB}
    (hS : StateStore.SInv d.2 st (lowOf d.1 st)) (hR : Rrel d.1 st) (hLk : Link d.1 st)
    (hr : BlockStore.loadRange d.1 = (B, H)) (hb : B ≤ b') (hG : BlockStore.Good db')
    (s : BlockStore.Shows d.1 b' H db') : NInv (db', d.2) := by
  refine ⟨st, hS.mono ?_, hG, ?_, ?_⟩
  · unfold lowOf; rw [s.range, hr]
    by_cases h0 : H = 0
    · rw [if_pos h0, if_pos h0]; exact Int.le_refl _
    · rw [if_neg h0, if_neg h0]; exact hb
  · unfold Rrel at hR ⊢; rw [s.range]; rw [hr] at hR; exact hR
  · intro m hp hL hm
    rw [s.range] at hp hL hm
    rw [s.loadMeta (hG.goodFrom s.range hp).2.1 (Int.le_refl _)] at hm
    exact hLk m (by rw [hr]; exact hp) (by rw [hr]; exact hL) (by rw [hr]; exact hm)

/-- what consensus guarantees about a committed block and neither store nor `validateBlock` check:
the seen commit (the node's own +2/3 precommits) is for this block, the block has at least one part,
and its hash is not the hash of a stored block (collision-freedom).  The block's `LastCommit` is
NOT assumed honest: `finalizeCommit` validates the block before saving it. -/
structure Honest (d : D) (i : StepIn) : Prop where
  sc : i.badsc = false
  parts : 0 < i.parts
  fresh : ∀ h m, (BlockStore.loadRange d.1).1 ≤ h → h ≤ (BlockStore.loadRange d.1).2 →
    BlockStore.loadMeta d.1 h = some m → m.hash ≠ i.id

/-- on disk after phase 1: the block of the height the state waits for is stored -/
structure Window (d1 : D) (st : StateStore.St) : Prop where
  sinv : StateStore.SInv d1.2 st (BlockStore.loadRange d1.1).1
  good : BlockStore.Good d1.1
  tip : (BlockStore.loadRange d1.1).2 = StateStore.saveNext st
  basePos : 0 < (BlockStore.loadRange d1.1).1
  baseLe : (BlockStore.loadRange d1.1).1 ≤ (BlockStore.loadRange d1.1).2

/-- on disk when block store and state are level: state saved for the tip -/
structure Level (d : D) (st : StateStore.St) : Prop where
  sinv : StateStore.SInv d.2 st (BlockStore.loadRange d.1).1
  good : BlockStore.Good d.1
  basePos : 0 < (BlockStore.loadRange d.1).1
  baseLe : (BlockStore.loadRange d.1).1 ≤ (BlockStore.loadRange d.1).2
  tip : st.lastBlockHeight = (BlockStore.loadRange d.1).2
  link : Link d.1 st

theorem Window.tipPos {d1 : D} {st : StateStore.St} (hw : Window d1 st) :
    0 < (BlockStore.loadRange d1.1).2 :=
  Int.lt_of_lt_of_le hw.basePos hw.baseLe

/-- in the window the state is strictly behind the tip: the link says nothing -/
theorem Window.link {d1 : D} {st : StateStore.St} (hw : Window d1 st) : Link d1.1 st := by
  intro m _ hL _
  have := saveNext_gt st hw.sinv.ihPos
  rw [hw.tip] at hL; omega

theorem Window.ninv {d1 : D} {st : StateStore.St} (hw : Window d1 st) : NInv d1 :=
  ninv_of_base hw.good hw.tipPos hw.sinv (Or.inr ⟨hw.tipPos, Or.inr hw.tip⟩) hw.link

theorem Level.tipPos {d : D} {st : StateStore.St} (h : Level d st) : 0 < (BlockStore.loadRange d.1).2 :=
  Int.lt_of_lt_of_le h.basePos h.baseLe

theorem Level.ninv {d : D} {st : StateStore.St} (h : Level d st) : NInv d :=
  ninv_of_base h.good h.tipPos h.sinv (Or.inr ⟨h.tipPos, Or.inl h.tip⟩) h.link

theorem Rrel.tip_le {bdb : BlockStore.DB} {st : StateStore.St} (hR : Rrel bdb st)
    (hN : 1 ≤ StateStore.saveNext st) : (BlockStore.loadRange bdb).2 ≤ StateStore.saveNext st := by
  rcases hR with ⟨h0, _⟩ | ⟨hp, hL | hW⟩
  · omega
  · have := saveNext_eq_succ hL hp; omega
  · exact Int.le_of_eq hW

/-- while the tip is below the height the state waits for, state and block store are level -/
theorem Rrel.level {bdb : BlockStore.DB} {st : StateStore.St} (hR : Rrel bdb st)
    (hlt : (BlockStore.loadRange bdb).2 < StateStore.saveNext st) :
    st.lastBlockHeight = (BlockStore.loadRange bdb).2 := by
  rcases hR with ⟨h0, hL⟩ | ⟨_, hL | hW⟩
  · exact hL.trans h0.symm
  · exact hL
  · omega

/-- While the tip is below the height the state waits for, the base `SaveBlock` persists (the old
base, or the new height for an empty store) is the lowest height the state store already serves. -/
theorem newBase_eq_lowOf {bdb : BlockStore.DB} {st : StateStore.St} (hG : BlockStore.Good bdb)
    (hR : Rrel bdb st) (hih : 1 ≤ st.initialHeight)
    (hlt : (BlockStore.loadRange bdb).2 < StateStore.saveNext st) :
    (if (BlockStore.loadRange bdb).1 = 0 then StateStore.saveNext st else (BlockStore.loadRange bdb).1)
      = lowOf bdb st ∧ 0 < lowOf bdb st ∧ lowOf bdb st ≤ StateStore.saveNext st := by
  unfold lowOf
  rcases (BlockStore.good_iff _).1 hG with ⟨hB0, hH0⟩ | ⟨hB, hBH, _⟩
  · have hL : st.lastBlockHeight = 0 := (hR.level hlt).trans hH0
    have : StateStore.saveNext st = st.initialHeight := by rw [StateStore.saveNext, hL]; rfl
    rw [if_pos hB0, if_pos hH0, this]
    exact ⟨rfl, hih, Int.le_refl _⟩
  · rw [if_neg (Int.ne_of_gt hB), if_neg (Int.ne_of_gt (Int.lt_of_lt_of_le hB hBH))]
    exact ⟨rfl, hB, by omega⟩

theorem lastCommit_of_ok {st : StateStore.St} {b : BlockStore.Block}
    (hok : lastCommitOK st (StateStore.saveNext st) b = true)
    (hne : StateStore.saveNext st ≠ st.initialHeight) :
    b.lastCommit = { height := StateStore.saveNext st - 1, blockHash := st.lastBlockHash } := by
  simpa [lastCommitOK, hne] using hok

/-- phase 1 is `validateBlock`, then `SaveBlock` unless the height is already stored -/
theorem phase1_spec (d : D) (fb : StateStore.St) (i : StepIn) (st : StateStore.St)
    (hS : StateStore.SInv d.2 st (lowOf d.1 st)) (hG : BlockStore.Good d.1) (hR : Rrel d.1 st)
    (hLk : Link d.1 st)
    (hon : Honest d i) (b : BlockStore.Block) (bs1 : BlockStore.Store) (us1 : List U) (saved : String)
    (hph : phase1 (reopen d fb) i = .ok (some b, bs1, us1, saved)) :
    AllPrefixN d (flat us1) ∧ Window (applyWs d (flat us1)) st ∧ (applyWs d (flat us1)).2 = d.2 ∧
    bs1 = BlockStore.openStore (applyWs d (flat us1)).1 ∧
    (∀ m, BlockStore.loadMeta (applyWs d (flat us1)).1 (StateStore.saveNext st) = some m → m.hash = b.hash) := by
  have hst : (reopen d fb).st = st := by simp [reopen, hS.state]
  have hN := StateStore.saveNext_pos st hS.lNonneg hS.ihPos
  have hLN := saveNext_gt st hS.ihPos
  unfold phase1 at hph
  simp only [hst, nextHeight_eq] at hph
  have hbs : (reopen d fb).bs = BlockStore.openStore d.1 := rfl
  have hbdb : (reopen d fb).bdb = d.1 := rfl
  rw [hbs, hbdb] at hph
  by_cases hlt : (BlockStore.loadRange d.1).2 < StateStore.saveNext st
  · -- validate, then SaveBlock
    rw [if_pos (show (BlockStore.openStore d.1).height < _ from hlt)] at hph
    by_cases hlcok : (!lastCommitOK st (StateStore.saveNext st) (proposal (reopen d fb) i).1) = true
    · rw [if_pos hlcok] at hph; cases hph
    · rw [if_neg hlcok] at hph
      have hlc : lastCommitOK st (StateStore.saveNext st) (proposal (reopen d fb) i).1 = true := by
        simpa using hlcok
      split at hph
      · cases hph
      · cases hph
      · rename_i bs' us hsb
        simp only [Except.ok.injEq, Prod.mk.injEq, Option.some.injEq] at hph
        obtain ⟨hbeq, rfl, rfl, -⟩ := hph
        rw [(BlockStore.saveBlock_units _ _ _ _ _ _ hsb).1] at hsb
        -- the proposal is a valid next block
        obtain ⟨ph, phash, ptot, psc⟩ : (proposal (reopen d fb) i).1.height = StateStore.saveNext st ∧
            (proposal (reopen d fb) i).1.hash = i.id ∧ (proposal (reopen d fb) i).1.total = i.parts ∧
            (proposal (reopen d fb) i).2 = { height := StateStore.saveNext st, blockHash := i.id } := by
          simp [proposal, hst, nextHeight_eq, hon.sc]
        have hvalid : BlockStore.ValidNext d.1 (proposal (reopen d fb) i).1 (proposal (reopen d fb) i).2 := by
          refine { pos := by rw [ph]; omega, parts := by rw [ptot]; exact hon.parts,
                   seen := by rw [psc, ph, phash], last := ?_, fresh := ?_ }
          · -- validateBlock: the LastCommit is for the state's last block = the stored tip
            intro m hpos hm
            have hL := hR.level hlt
            have hNe := saveNext_eq_succ hL hpos
            have hnih : StateStore.saveNext st ≠ st.initialHeight := by
              have := hS.lRange; omega
            rw [lastCommit_of_ok hlc hnih, hNe, Int.add_sub_cancel, hLk m hpos hL hm]
          · intro h m h1 h2 hm
            rw [phash]; exact hon.fresh h m h1 h2 hm
        obtain ⟨hpre, hfinG, hfinR, hbs', hfinM⟩ := BlockStore.saveBlock_spec d.1 _ _ bs' us hG hvalid hsb
        rw [ph] at hfinR
        rw [flat_map_b, applyWs_map_b]
        obtain ⟨hbase, hlow2, hlow3⟩ := newBase_eq_lowOf hG hR hS.ihPos hlt
        rw [hbase] at hfinR
        have hfin1 : (BlockStore.loadRange (BlockStore.applyAll d.1 us.flatten)).1 = lowOf d.1 st := by
          rw [hfinR]
        have hfin2 : (BlockStore.loadRange (BlockStore.applyAll d.1 us.flatten)).2 = StateStore.saveNext st := by
          rw [hfinR]
        have hwin : Window (BlockStore.applyAll d.1 us.flatten, d.2) st :=
          { sinv := by rw [hfin1]; exact hS, good := hfinG,
            tip := hfin2, basePos := by rw [hfin1]; exact hlow2, baseLe := by rw [hfin1, hfin2]; exact hlow3 }
        refine ⟨allPrefixN_b hpre ?_, hwin, rfl, hbs', ?_⟩
        · -- before the descriptor is written the old tip shows, afterwards the window
          rintro db' (s | rfl)
          · exact ninv_shows hS hR hLk rfl (Int.le_refl _) (s.good_of_good rfl hG) s
          · exact hwin.ninv
        · intro m hm
          rw [ph] at hfinM
          simp only at hm
          rw [hfinM] at hm
          rw [← hbeq, ← (Option.some.inj hm)]
  · -- the height is already stored: the stored block is applied
    rw [if_neg (show ¬ (BlockStore.openStore d.1).height < _ from hlt)] at hph
    simp only [Except.ok.injEq, Prod.mk.injEq] at hph
    obtain ⟨e1, rfl, rfl, -⟩ := hph
    rw [flat_nil, applyWs_nil]
    have htip := Int.le_antisymm (hR.tip_le hN) (Int.not_lt.1 hlt)
    obtain ⟨hB, hBH, hGF⟩ := hG.goodFrom (B := (BlockStore.loadRange d.1).1)
      (H := (BlockStore.loadRange d.1).2) rfl (by omega)
    have hwin : Window d st :=
      { sinv := by rw [← lowOf_eq_base st (by omega)]; exact hS, good := hG, tip := htip,
        basePos := hB, baseLe := hBH }
    refine ⟨AllPrefix.nil hwin.ninv, hwin, rfl, rfl, ?_⟩
    intro m hm
    obtain ⟨m', blk, c, ok⟩ := (BlockStore.checkAt_none_iff d.1 _ _).1
      (hGF (StateStore.saveNext st) (by omega) (by omega))
    cases ok.meta_eq hm
    cases Option.some.inj (ok.block.symm.trans e1)
    exact ok.blockHash.symm


theorem applyBlock_spec (d1 : D) (st : StateStore.St) (hw : Window d1 st) (b : BlockStore.Block)
    (hb : ∀ m, BlockStore.loadMeta d1.1 (StateStore.saveNext st) = some m → m.hash = b.hash)
    (a : Applied) (ha : a = applyBlock d1.2 st (StateStore.saveNext st) b) :
    AllPrefixN d1 (flat a.units) ∧
    (a.verdict = "ok" → Level (applyWs d1 (flat a.units)) a.st ∧ (applyWs d1 (flat a.units)).1 = d1.1) ∧
    (a.verdict ≠ "ok" → a.units = [] ∧ a.st = st) := by
  subst ha
  unfold applyBlock
  simp only
  by_cases hlc : (!lastCommitOK st (StateStore.saveNext st) b) = true
  · rw [if_pos hlc]
    exact ⟨AllPrefix.nil hw.ninv, fun h => by simp at h, fun _ => ⟨rfl, rfl⟩⟩
  · rw [if_neg hlc]
    by_cases hlv : StateStore.saveNext st > st.initialHeight ∧
        (!StateStore.valsLoadable d1.2 (StateStore.saveNext st - 1)) = true
    · rw [if_pos hlv]
      exact ⟨AllPrefix.nil hw.ninv, fun h => by simp at h, fun _ => ⟨rfl, rfl⟩⟩
    · -- SaveABCIResponses, then Save of the updated state
      rw [if_neg hlv]
      have hA := hw.sinv.abci_prefix (StateStore.saveNext st)
      have hA' : StateStore.SInv (StateStore.applyAll d1.2 (StateStore.saveAbci (StateStore.saveNext st)).flatten)
          st (BlockStore.loadRange d1.1).1 := hA.last
      have hlo : (BlockStore.loadRange d1.1).1 ≤ StateStore.saveNext st := hw.tip ▸ hw.baseLe
      have hsv := fun j => hA'.save_step hlo b.hash b.vu b.pu j
      simp only [(hsv 0).1, Bool.not_true, Bool.false_eq_true, if_false]
      rw [flat_append, flat_map_s, flat_map_s]
      have hL2 : (StateStore.updateState st (StateStore.saveNext st) b.hash b.vu b.pu).lastBlockHeight =
          (BlockStore.loadRange d1.1).2 := hw.tip.symm
      have hK2 : Link d1.1 (StateStore.updateState st (StateStore.saveNext st) b.hash b.vu b.pu) :=
        fun m _ _ hm => hb m (hw.tip ▸ hm)
      generalize StateStore.updateState st (StateStore.saveNext st) b.hash b.vu b.pu = st' at hsv hL2 hK2 ⊢
      have hR2 : Rrel d1.1 st' := Or.inr ⟨hw.tipPos, Or.inl hL2⟩
      -- before the state key is written the window stays; with it the stores are level
      have old : ∀ sdb', StateStore.SInv sdb' st (BlockStore.loadRange d1.1).1 → NInv (d1.1, sdb') :=
        fun _ h => ninv_of_base hw.good hw.tipPos h (Or.inr ⟨hw.tipPos, Or.inr hw.tip⟩) hw.link
      have hS2 : AllPrefix StateStore.apply
          (fun s => StateStore.SInv s st (BlockStore.loadRange d1.1).1 ∨ StateStore.SInv s st' (BlockStore.loadRange d1.1).1)
          (StateStore.applyAll d1.2 (StateStore.saveAbci (StateStore.saveNext st)).flatten)
          (StateStore.save st').1.flatten := fun k => (hsv k).2.1
      refine ⟨(allPrefixN_s hA old).append ?_, fun _ => ?_, fun h => absurd rfl h⟩
      · rw [← applyWs, applyWs_map_s]
        exact allPrefixN_s (d := (d1.1, _)) hS2 fun sdb' h =>
          h.elim (old sdb') fun e => ninv_of_base hw.good hw.tipPos e hR2 hK2
      · rw [applyWs_append, applyWs_map_s, applyWs_map_s]
        exact ⟨⟨(hsv 0).2.2, hw.good, hw.basePos, hw.baseLe, hL2, hK2⟩, rfl⟩

theorem pruneGlue_spec (d3 : D) (st : StateStore.St) (hl : Level d3 st) (retain : Int)
    (p : PruneOut) (hp : p = pruneGlue d3.1 d3.2 (BlockStore.openStore d3.1) retain) :
    AllPrefixN d3 (flat p.units) ∧ p.bs = BlockStore.openStore (applyWs d3 (flat p.units)).1 ∧
    StateStore.loadState (applyWs d3 (flat p.units)).2 = some st := by
  subst hp
  unfold pruneGlue
  simp only
  split
  · exact ⟨AllPrefix.nil hl.ninv, rfl, hl.sinv.state⟩
  · split
    · exact ⟨AllPrefix.nil hl.ninv, rfl, hl.sinv.state⟩
    · rename_i bs' cnt bus hp
      obtain ⟨B, H, p⟩ := BlockStore.pruneBlocks_spec d3.1 retain bs' cnt bus hl.good hp
      have hsinv : StateStore.SInv d3.2 st B := by have := hl.sinv; rwa [p.range] at this
      have htip : st.lastBlockHeight = H := by have := hl.tip; rwa [p.range] at this
      have hHpos : 0 < H := by have := hl.tipPos; rwa [p.range] at this
      have hsn : retain ≤ StateStore.saveNext st := by
        have := saveNext_eq_succ htip hHpos; have := p.leTip; omega
      have hbase : (BlockStore.openStore d3.1).base = B := by rw [BlockStore.openStore, p.range]
      have hlow : StateStore.SInv d3.2 st (lowOf d3.1 st) := by
        rw [lowOf_eq_base st hl.tipPos]; exact hl.sinv
      have hR : Rrel d3.1 st := Or.inr ⟨hl.tipPos, Or.inl hl.tip⟩
      -- every crash state of the block store shows the old tip with the base somewhere in `[B,retain]`
      have hblock : ∀ db' b', B ≤ b' → b' ≤ retain → BlockStore.Shows d3.1 b' H db' → NInv (db', d3.2) :=
        fun db' b' h1 h2 s => ninv_shows hlow hR hl.link p.range h1
          (s.good (Int.lt_of_lt_of_le p.basePos h1) (Int.le_trans h2 p.leTip)
            fun a ha => p.good a (Int.le_trans h1 ha)) s
      obtain ⟨st', hS', hG', hR', hK'⟩ := hblock _ retain p.baseLe (Int.le_refl _) p.after
      have hst' : st' = st := Option.some.inj (hS'.state.symm.trans hsinv.state)
      subst hst'
      have hstates : AllPrefix StateStore.apply (fun s => StateStore.SInv s st' retain) d3.2
          (StateStore.pruneStates d3.2 B retain).1.flatten := fun k => hsinv.prune_prefix B retain p.baseLe hsn k
      rw [flat_append, flat_map_b, flat_map_s, applyWs_append, applyWs_map_b, applyWs_map_s, hbase]
      refine ⟨AllPrefix.append ?_ ?_, by rw [p.store, BlockStore.openStore, p.after.range], ?_⟩
      · exact allPrefixN_b p.prefixes fun db' ⟨b', h1, h2, s⟩ => hblock db' b' h1 h2 s
      · rw [← applyWs, applyWs_map_b]
        exact allPrefixN_s (d := (_, d3.2)) hstates fun _ h =>
          ninv_of_base hG' (by rw [p.after.range]; exact hHpos) (by rw [p.after.range]; exact h) hR' hK'
      · exact (AllPrefix.last hstates).state

/-- One `finalizeCommit` step run on the reopened stores leaves the node that reopening would give:
the volatile `BlockStore{base,height}` and the in-memory `State` are caches of what is on disk, so
"continue without a crash" is the `j ≥ length` case of a crash history. -/
theorem step_spec (d : D) (fb : StateStore.St) (i : StepIn) (hinv : NInv d) (hon : Honest d i) :
    AllPrefixN d (flat (step (reopen d fb) i).units) ∧
    ∀ fb', (step (reopen d fb) i).node = reopen (applyWs d (flat (step (reopen d fb) i).units)) fb' := by
  obtain ⟨st, hS, hG, hR, hLk⟩ := hinv
  have hst : (reopen d fb).st = st := by simp [reopen, hS.state]
  have hsdb : (reopen d fb).sdb = d.2 := rfl
  have hbdb : (reopen d fb).bdb = d.1 := rfl
  have hself : ∀ fb', reopen d fb = reopen d fb' := fun fb' => by simp [reopen, hS.state]
  unfold step
  simp only
  split
  · exact ⟨AllPrefix.nil ⟨st, hS, hG, hR, hLk⟩, hself⟩
  · exact ⟨AllPrefix.nil ⟨st, hS, hG, hR, hLk⟩, hself⟩
  · rename_i b bs1 us1 saved hph
    obtain ⟨p1, hw, hsame, hbs1, hbm⟩ := phase1_spec d fb i st hS hG hR hLk hon b bs1 us1 saved hph
    rw [hst, hsdb, hbdb, nextHeight_eq]
    have hd : ((d.1, d.2) : D) = d := rfl
    rw [hd, applyUs_eq us1 d]
    obtain ⟨d1, hd1⟩ : ∃ d1, d1 = applyWs d (flat us1) := ⟨_, rfl⟩
    rw [← hd1] at hw hsame hbs1 hbm ⊢
    rw [← hsame]
    obtain ⟨a, ha⟩ : ∃ a, a = applyBlock d1.2 st (StateStore.saveNext st) b := ⟨_, rfl⟩
    obtain ⟨p2, hok, hnot⟩ := applyBlock_spec d1 st hw b hbm a ha
    rw [← ha]
    have p12 : AllPrefixN d (flat us1 ++ flat a.units) :=
      p1.append (show AllPrefixN (applyWs d (flat us1)) _ from hd1 ▸ p2)
    by_cases hv : a.verdict ≠ "ok"
    · rw [if_pos hv]
      obtain ⟨e1, e2⟩ := hnot hv
      refine ⟨by rw [flat_append]; exact p12, fun fb' => ?_⟩
      simp only [e1, e2, List.append_nil, applyUs, List.foldl_nil, ← hd1]
      simp only [reopen, hbs1, hsame, hS.state, Option.getD_some]
    · rw [if_neg hv]
      obtain ⟨hlev, q3⟩ := hok (by simpa using hv)
      rw [applyUs_eq a.units d1]
      obtain ⟨d3, hd3⟩ : ∃ d3, d3 = applyWs d1 (flat a.units) := ⟨_, rfl⟩
      rw [← hd3] at hlev q3 ⊢
      by_cases hret : b.retain > 0
      · rw [if_pos hret]
        obtain ⟨p3, f1, f2⟩ := pruneGlue_spec d3 a.st hlev b.retain _ rfl
        rw [hbs1, ← q3]
        simp only [flat_append, applyWs_append, ← hd1, ← hd3]
        refine ⟨p12.append (by rw [← applyWs, applyWs_append, ← hd1, ← hd3]; exact p3), fun fb' => ?_⟩
        rw [applyUs_eq]
        simp only [reopen, f1, f2, Option.getD_some]
      · rw [if_neg hret]
        refine ⟨by rw [flat_append]; exact p12, fun fb' => ?_⟩
        rw [flat_append, applyWs_append, ← hd1, ← hd3]
        simp only [reopen, hbs1, q3, hlev.sinv.state, Option.getD_some]

theorem node_auditFrom_none (bdb : BlockStore.DB) (sdb : StateStore.DB) (H : Int) (fuel : Nat) (h : Int)
    (hall : ∀ a, h ≤ a → a < h + fuel → BlockStore.checkAt bdb H a = none ∧ StateStore.valsLoadable sdb a = true ∧
      StateStore.paramsLoadable sdb a = true) :
    auditFrom bdb sdb H fuel h = none := by
  induction fuel generalizing h with
  | zero => rfl
  | succ fuel ih =>
    unfold auditFrom
    obtain ⟨c1, c2, c3⟩ := hall h (Int.le_refl _) (by omega)
    simp only [c1, c2, c3, Bool.not_true, Bool.false_eq_true, if_false]
    exact ih (h + 1) (fun a ha hb => hall a (by omega) (by omega))

end Tmv.StoreNode
