import Tmv.Lemmas.Pipeline
/-! The crash invariant of the commit pipeline (C05) and its preservation by `finalizeCommit`,
by the handshake (including the replay of any number of blocks to an application that is behind),
and by a crash after any prefix of either. Positions are block indexes (`ht c k` = height of the
k-th block, `ht c 0 = 0`), so that a genesis `InitialHeight` above 1 is covered.

Every lemma is about one effect, or one program, run from a disk that is a variable; programs are
put together with `Run.cons` / `Run.append`. The same programs against the WAL's end-height markers and the
signer's state (`quiet`, `WInv`) and against the genesis handshake (`GenOK`) come after; `start_run : StartOK` is what
starting a node gives of all three. -/
namespace Tmv.Pipeline

/-- pruning never got ahead of what recovery needs: the block store's base is at most the block
after the application's, and the state store still has the validator sets from the application's
and the state's block on -/
def PruneOK (c : Chain) (d : Disk) (k a : Nat) : Prop :=
  d.storeBase ≤ ht c (a + 1) ∧ d.statesBase ≤ ht c a ∧ d.statesBase ≤ ht c k

theorem PruneOK.store {c : Chain} {d : Disk} {k a : Nat} (h : PruneOK c d k a) : d.storeBase ≤ ht c (a + 1) := h.1
theorem PruneOK.atApp {c : Chain} {d : Disk} {k a : Nat} (h : PruneOK c d k a) : d.statesBase ≤ ht c a := h.2.1
theorem PruneOK.atState {c : Chain} {d : Disk} {k a : Nat} (h : PruneOK c d k a) : d.statesBase ≤ ht c k := h.2.2

theorem PruneOK.appSucc {c : Chain} {d : Disk} {k a : Nat} (h : PruneOK c d k a) : PruneOK c d k (a + 1) :=
  ⟨Nat.le_trans h.store (ht_le c (by omega)), Nat.le_trans h.atApp (ht_le c (by omega)), h.atState⟩

/-- the validator set needed to execute block `a+1` on an application after `a` blocks is there -/
theorem valsOK_of {c : Chain} {d : Disk} {a : Nat} (hs : d.statesBase ≤ ht c a) :
    valsOK c d (ht c (a + 1)) = true := by
  simp only [valsOK, Bool.or_eq_true, decide_eq_true_eq]
  cases a with
  | zero => left; left; simp [ht, Chain.ih]
  | succ a' =>
    left; right
    rw [ht_succ_pred]
    exact hs

/-- state after `k` blocks (canonical app hash), block store after `st` blocks, application after
`a` blocks with open execution `p` and a journal the grammar accepts -/
structure DInv (c : Chain) (d : Disk) (k st a : Nat) (p : Option Pending) : Prop where
  stateH : d.stateH = ht c k
  stateHash : d.stateHash = histK c k
  storeH : d.storeH = ht c st
  app : AppAt c d.app a p
  pr : PruneOK c d k a

/-- all three cursors after `k` blocks, nothing open -/
def Good (c : Chain) (d : Disk) (k : Nat) : Prop := DInv c d k k k none

/-- what crashes and snapshot restores of the application can leave: the store is at the state or
one block ahead; the application is anywhere at or behind the state, or (with the store) one block
ahead of it, and then the responses of that block are the ones saved last -/
def Inv (c : Chain) (d : Disk) : Prop :=
  ∃ k, (∃ a, a ≤ k ∧ (DInv c d k k a none ∨ DInv c d k (k + 1) a none)) ∨
    (DInv c d k (k + 1) (k + 1) none ∧ d.lastResp = some (ht c (k + 1)))

/-- the predicate carried over every prefix: dying here leaves an `Inv` disk -/
def CrashOK (c : Chain) (d : Disk) : Prop := Inv c (crash d)

theorem DInv.setApp {c : Chain} {d : Disk} {k st a a' : Nat} {p p' : Option Pending} (h : DInv c d k st a p)
    {app : App} (ha : AppAt c app a' p') (hp : PruneOK c d k a') : DInv c { d with app := app } k st a' p' :=
  ⟨h.stateH, h.stateHash, h.storeH, ha, hp⟩

theorem DInv.crash {c d n st ah p} (h : DInv c d n st ah p) : DInv c (crash d) n st ah none :=
  h.setApp h.app.restart h.pr

theorem DInv.appCommit {c : Chain} {d : Disk} {k st a : Nat}
    (h : DInv c d k st a (some ⟨ht c (a + 1), c (ht c (a + 1)), true⟩)) :
    DInv c (applyEff d .appCommit) k st (a + 1) none :=
  h.setApp h.app.commit h.pr.appSucc

/-- effects that leave the three cursors, the pruning horizons and the application alone -/
def inert : Eff → Bool
  | .saveGenesis => true
  | .signVote _ _ => true
  | .pvSign _ _ => true
  | .walEnd _ => true
  | .saveResp _ => true
  | _ => false

theorem DInv.inert {c : Chain} {d : Disk} {k st a : Nat} {p : Option Pending} (h : DInv c d k st a p)
    {e : Eff} (he : inert e = true) : DInv c (applyEff d e) k st a p :=
  match e, he with
  | .saveGenesis, _ | .walEnd _, _ | .saveResp _, _ => ⟨h.stateH, h.stateHash, h.storeH, h.app, h.pr⟩
  | .signVote _ _, _ | .pvSign _ _, _ => by
    simp only [applyEff]
    split <;> exact ⟨h.stateH, h.stateHash, h.storeH, h.app, h.pr⟩

theorem DInv.signVote {c : Chain} {d : Disk} {k st a : Nat} {p : Option Pending} (h : DInv c d k st a p)
    (hh v : Nat) : DInv c (applyEff d (.signVote hh v)) k st a p :=
  h.inert rfl

theorem DInv.saveBlock {c : Chain} {d : Disk} {k st a st' : Nat} {p : Option Pending} (h : DInv c d k st a p)
    (hs : st' ≤ a + 1) : DInv c (applyEff d (.saveBlock (ht c st'))) k st' a p := by
  refine ⟨h.stateH, h.stateHash, rfl, h.app, ?_, h.pr.atApp, h.pr.atState⟩
  show (if d.storeBase = 0 then ht c st' else d.storeBase) ≤ ht c (a + 1)
  split
  · exact ht_le c hs
  · exact h.pr.store

theorem DInv.saveState {c : Chain} {d : Disk} {k st a : Nat} {p : Option Pending} (h : DInv c d k st a p) :
    DInv c (applyEff d (.saveState (ht c a))) a st a p :=
  ⟨rfl, h.app.hash, h.storeH, h.app, h.pr.store, h.pr.atApp, h.pr.atApp⟩

theorem Good.pruneBlocks {c : Chain} {d : Disk} {m : Nat} (h : Good c d m) (r : Nat) :
    Good c (applyEff d (.pruneBlocks r)) m := by
  simp only [applyEff]
  split
  · rename_i hc
    refine ⟨h.stateH, h.stateHash, h.storeH, h.app, ?_, h.pr.atApp, h.pr.atState⟩
    show r ≤ ht c (m + 1)
    have := hc.2; rw [h.storeH] at this
    exact Nat.le_trans this (ht_le c (by omega))
  · exact h

theorem Good.pruneStates {c : Chain} {d : Disk} {m : Nat} (h : Good c d m) (r kept : Nat) (hr : r ≤ ht c m) :
    Good c (applyEff d (.pruneStates r kept)) m :=
  ⟨h.stateH, h.stateHash, h.storeH, h.app, h.pr.store, hr, hr⟩

theorem inv_iff {c : Chain} {d : Disk} : Inv c d ↔ ∃ k st a, DInv c d k st a none ∧ (st = k ∨ st = k + 1) ∧
    a ≤ st ∧ (a = k + 1 → d.lastResp = some (ht c (k + 1))) := by
  constructor
  · rintro ⟨k, ⟨a, hak, h | h⟩ | ⟨h, hr⟩⟩
    · exact ⟨k, k, a, h, .inl rfl, hak, fun e => by omega⟩
    · exact ⟨k, k + 1, a, h, .inr rfl, Nat.le_succ_of_le hak, fun e => by omega⟩
    · exact ⟨k, k + 1, k + 1, h, .inr rfl, Nat.le_refl _, fun _ => hr⟩
  · rintro ⟨k, st, a, h, hst, ha, hr⟩
    by_cases hak : a ≤ k
    · rcases hst with rfl | rfl
      · exact ⟨_, .inl ⟨a, hak, .inl h⟩⟩
      · exact ⟨_, .inl ⟨a, hak, .inr h⟩⟩
    · obtain rfl : a = k + 1 := by omega
      obtain rfl : st = k + 1 := by omega
      exact ⟨k, .inr ⟨h, hr rfl⟩⟩

theorem crashOK_behind {c d k st a p} (h : DInv c d k st a p) (ha : a ≤ k) (hst : st = k ∨ st = k + 1) :
    CrashOK c d :=
  inv_iff.2 ⟨k, st, a, h.crash, hst, by omega, fun e => by omega⟩

theorem crashOK_same {c d n p} (h : DInv c d n n n p) : CrashOK c d :=
  crashOK_behind h (Nat.le_refl _) (.inl rfl)
theorem crashOK_store {c d n p} (h : DInv c d n (n + 1) n p) : CrashOK c d :=
  crashOK_behind h (Nat.le_refl _) (.inr rfl)
theorem crashOK_app {c d n} (h : DInv c d n (n + 1) (n + 1) none) (hr : d.lastResp = some (ht c (n + 1))) :
    CrashOK c d := inv_iff.2 ⟨n, n + 1, n + 1, h.crash, .inr rfl, Nat.le_refl _, fun _ => hr⟩

theorem Good.inv {c d m} (h : Good c d m) : Inv c d := ⟨m, .inl ⟨m, Nat.le_refl m, .inl h⟩⟩

theorem Good.synced {c d m} (h : Good c d m) :
    d.app.height = d.storeH ∧ d.storeH = d.stateH ∧ d.app.hash = d.stateHash :=
  ⟨by rw [h.app.height, h.storeH], by rw [h.storeH, h.stateH], by rw [h.app.hash, h.stateHash]⟩

theorem Inv.journal {c d} (h : Inv c d) : jrun c ⟨0, none⟩ d.app.journal = some ⟨d.app.height, none⟩ := by
  obtain ⟨k, st, a, h, _⟩ := inv_iff.1 h
  rw [h.app.run, h.app.height]

theorem DInv.restore {c : Chain} {d : Disk} {k st a : Nat} {p : Option Pending} (h : DInv c d k st a p) (j : Nat)
    (hb : d.storeBase ≤ nxt c (d.app.restore j).height) (hs : d.statesBase ≤ (d.app.restore j).height) :
    DInv c { d with app := d.app.restore j } k st (a - j) none := by
  have hh := (h.app.restore j).height
  rw [hh] at hs
  rw [hh, nxt_ht] at hb
  exact h.setApp (h.app.restore j) ⟨hb, hs, h.pr.atState⟩

/-- an older snapshot of the application, within the guard of `Op.rollback` -/
theorem Inv.restore {c : Chain} {d : Disk} (h : Inv c d) (j : Nat)
    (hb : d.storeBase ≤ nxt c (d.app.restore j).height) (hs : d.statesBase ≤ (d.app.restore j).height) :
    Inv c { d with app := d.app.restore j } := by
  obtain ⟨k, st, a, h, hst, ha, hr⟩ := inv_iff.1 h
  have h' := h.restore j hb hs
  clear hb hs
  -- a snapshot that is still ahead of the state is the application's present state
  exact inv_iff.2 ⟨k, st, a - j, h', hst, by omega, fun e => hr (by omega)⟩

theorem inert_run {c : Chain} {k st a : Nat} {p : Option Pending} {Q : Disk → Prop}
    (hQ : ∀ d', DInv c d' k st a p → Q d') :
    ∀ (es : List Eff) (d : Disk), (∀ e ∈ es, inert e = true) → DInv c d k st a p → Run Q (DInv c · k st a p) d es
  | [], _, _, h => .nil (hQ _ h) h
  | e :: es, _, he, h =>
    .cons (hQ _ h) (inert_run hQ es _ (fun e' he' => he e' (List.mem_cons_of_mem _ he'))
      (h.inert (he e (List.mem_cons_self ..))))

/-- the deliver loop of `execBlockOnProxyApp` (block `a+1` on an application after `a` blocks) -/
theorem deliver_run {c : Chain} {k st a : Nat} {Q : Disk → Prop} (hQ : ∀ d' p, DInv c d' k st a p → Q d') :
    ∀ (rest pre : List Tx) (d : Disk), pre ++ rest = c (ht c (a + 1)) →
      DInv c d k st a (some ⟨ht c (a + 1), pre, false⟩) →
      Run Q (DInv c · k st a (some ⟨ht c (a + 1), c (ht c (a + 1)), false⟩)) d
        (rest.map (Eff.deliver (ht c (a + 1))))
  | [], pre, d, hp, h => by
    have : pre = c (ht c (a + 1)) := by simpa using hp
    exact .nil (hQ _ _ h) (this ▸ h)
  | tx :: rest, pre, d, hp, h =>
    have hget : (c (ht c (a + 1)))[pre.length]? = some tx := by rw [← hp]; simp
    .cons (hQ _ _ h)
      (deliver_run hQ rest (pre ++ [tx]) _ (by simpa using hp) (h.setApp (h.app.deliver hget) h.pr))

/-- `execBlockOnProxyApp`: Begin, the block's txs in order, End -/
theorem exec_run {c : Chain} {d : Disk} {k st a : Nat} {Q : Disk → Prop}
    (hQ : ∀ d' p, DInv c d' k st a p → Q d') (h : DInv c d k st a none) :
    Run Q (DInv c · k st a (some ⟨ht c (a + 1), c (ht c (a + 1)), true⟩)) d (execEffs c (ht c (a + 1))) :=
  Run.append
    (.cons (hQ _ _ h) (deliver_run hQ (c (ht c (a + 1))) [] _ (List.nil_append _) (h.setApp h.app.begin h.pr)))
    fun _ h1 =>
      have h2 := h1.setApp h1.app.endBlock h1.pr
      .cons (hQ _ _ h1) (.nil (hQ _ _ h2) h2)

/-- `sm.ExecCommitBlock` of block `a+1` on an application that is behind the state -/
theorem execCommit_run {c : Chain} {d : Disk} {k st a : Nat} (ha : a + 1 ≤ k) (hst : st = k ∨ st = k + 1)
    (h : DInv c d k st a none) :
    Run (CrashOK c) (DInv c · k st (a + 1) none) d (execCommit c (ht c (a + 1))) :=
  Run.append (exec_run (fun _ _ h' => crashOK_behind h' (by omega) hst) h) fun _ h1 =>
    .cons (crashOK_behind h1 (by omega) hst) (.nil (crashOK_behind h1.appCommit ha hst) h1.appCommit)

/-- `ApplyBlock` on the real application, block already in the store -/
theorem applyBlockReal_run {c : Chain} {d : Disk} {n : Nat} (h : DInv c d n (n + 1) n none) :
    Run (CrashOK c) (Good c · (n + 1)) d (applyBlockReal c (ht c (n + 1))) :=
  Run.append (exec_run (fun _ _ h' => crashOK_store h') h) fun _ h1 =>
    have h2 := h1.inert (e := .saveResp (ht c (n + 1))) rfl
    have h3 := h2.appCommit
    .cons (crashOK_store h1) (.cons (crashOK_store h2) (.cons (crashOK_app h3 rfl)
      (.nil (crashOK_same h3.saveState) h3.saveState)))

/-- `ApplyBlock` on the mock application: the real one is not called -/
theorem applyBlockMock_run {c : Chain} {d : Disk} {n : Nat} (h : DInv c d n (n + 1) (n + 1) none)
    (hr : d.lastResp = some (ht c (n + 1))) :
    Run (CrashOK c) (Good c · (n + 1)) d (applyBlockMock (ht c (n + 1))) :=
  have h1 := h.inert (e := .saveResp (ht c (n + 1))) rfl
  .cons (crashOK_app h hr) (.cons (crashOK_app h1 rfl) (.nil (crashOK_same h1.saveState) h1.saveState))

theorem pruneList_run {c : Chain} {d : Disk} {m : Nat} (h : Good c d m) (r : Nat) :
    Run (CrashOK c) (Good c · m) d (pruneList c r (ht c m)) := by
  have h1 := h.pruneBlocks r
  unfold pruneList
  split
  · rename_i hr
    have h2 := h1.pruneStates r (c.valLHC r) hr
    exact .cons (crashOK_same h) (.cons (crashOK_same h1) (.nil (crashOK_same h2) h2))
  · exact .cons (crashOK_same h) (.nil (crashOK_same h1) h1)

/-- `cs.pruneBlocks` on a synced node; `d0` is the disk the decision to prune was taken on -/
theorem prune_run {c : Chain} {d0 d : Disk} {m : Nat} (h : Good c d m) :
    Run (CrashOK c) (Good c · m) d (pruneEffs c d0 (ht c m)) := by
  unfold pruneEffs
  split
  · exact pruneList_run h _
  · exact .nil (crashOK_same h) h

/-- `finalizeCommit(H)` after the votes, the block not yet stored; the pruning is the one decided on `d0` -/
def commitEffs (c : Chain) (d0 : Disk) (H : Nat) : List Eff :=
  .saveBlock H :: .walEnd H :: (applyBlockReal c H ++ pruneEffs c d0 H)

theorem commit_run {c : Chain} {d d0 : Disk} {n : Nat} (h : Good c d n) :
    Run (CrashOK c) (Good c · (n + 1)) d (commitEffs c d0 (ht c (n + 1))) :=
  have h1 : DInv c _ n (n + 1) n none := h.saveBlock (Nat.le_refl _)
  have h2 := h1.inert (e := .walEnd (ht c (n + 1))) rfl
  .cons (crashOK_same h) (.cons (crashOK_store h1) (Run.append (applyBlockReal_run h2) fun _ h3 => prune_run h3))

/-! ## the WAL marker / privval layer -/

/-- effects that leave block-store height, WAL marker and privval alone -/
def quiet : Eff → Bool
  | .signVote _ _ => false
  | .pvSign _ _ => false
  | .saveBlock _ => false
  | .walEnd _ => false
  | _ => true  -- incl. pruneBlocks / pruneStates: they move the store's base, not its height

/-- a vote of the height in progress (the one after the store) is only ever signed when the WAL
holds the previous height's #ENDHEIGHT, so that the vote's WAL record can be replayed -/
def WInv (c : Chain) (d : Disk) : Prop :=
  (d.pvH ≤ d.storeH ∨ d.pvH = nxt c d.storeH) ∧ (d.pvH = nxt c d.storeH → d.walEnd = d.storeH)

theorem applyEff_quiet {d : Disk} {e : Eff} (h : quiet e = true) :
    (applyEff d e).storeH = d.storeH ∧ (applyEff d e).walEnd = d.walEnd ∧ (applyEff d e).pvH = d.pvH := by
  cases e with
  | signVote _ _ | pvSign _ _ | saveBlock _ | walEnd _ => cases h
  | pruneBlocks r => simp only [applyEff]; split <;> exact ⟨rfl, rfl, rfl⟩
  | _ => exact ⟨rfl, rfl, rfl⟩

theorem applyEffs_quiet {d : Disk} {es : List Eff} (h : ∀ e ∈ es, quiet e = true) :
    (applyEffs d es).storeH = d.storeH ∧ (applyEffs d es).walEnd = d.walEnd ∧ (applyEffs d es).pvH = d.pvH := by
  induction es generalizing d with
  | nil => simp [applyEffs]
  | cons e es ih =>
    have h1 := applyEff_quiet (d := d) (h e (by simp))
    have h2 := ih (d := applyEff d e) (fun e' he' => h e' (by simp [he']))
    simp only [applyEffs, List.foldl_cons] at h2 ⊢
    exact ⟨h2.1.trans h1.1, h2.2.1.trans h1.2.1, h2.2.2.trans h1.2.2⟩

theorem WInv.congr {c : Chain} {d d' : Disk} (h : WInv c d) (h1 : d'.storeH = d.storeH) (h2 : d'.walEnd = d.walEnd)
    (h3 : d'.pvH = d.pvH) : WInv c d' := by
  unfold WInv at *; rw [h1, h2, h3]; exact h

theorem PrefAll.winv_quiet {c : Chain} {d : Disk} {es : List Eff} (h : WInv c d) (hq : ∀ e ∈ es, quiet e = true) :
    PrefAll (WInv c) d es :=
  PrefAll.of_step (fun _ e he hw => have hf := applyEff_quiet (hq e he); hw.congr hf.1 hf.2.1 hf.2.2) h

theorem lt_nxt (c : Chain) (n : Nat) : n < nxt c n := by
  unfold nxt Chain.ih; split <;> omega

/-- the last two conjuncts are the premises again, for the next vote -/
theorem WInv.signVote {c : Chain} {d : Disk} {H : Nat} (hH : H = nxt c d.storeH) (hw : d.walEnd = d.storeH)
    (v : Nat) :
    WInv c (applyEff d (.signVote H v)) ∧ (applyEff d (.signVote H v)).pvH = H ∧
      H = nxt c (applyEff d (.signVote H v)).storeH ∧
      (applyEff d (.signVote H v)).walEnd = (applyEff d (.signVote H v)).storeH := by
  have hf : (applyEff d (.signVote H v)).pvH = H ∧ (applyEff d (.signVote H v)).storeH = d.storeH ∧
      (applyEff d (.signVote H v)).walEnd = d.walEnd := by
    simp only [applyEff]; split <;> simp [*]
  unfold WInv
  rw [hf.1, hf.2.1, hf.2.2]
  exact ⟨⟨.inr hH, fun _ => hw⟩, rfl, hH, hw⟩

theorem WInv.saveBlock {c : Chain} {d : Disk} {H : Nat} (hp : d.pvH ≤ H) : WInv c (applyEff d (.saveBlock H)) :=
  ⟨.inl hp, fun e => absurd e (by have := lt_nxt c H; show d.pvH ≠ nxt c H; omega)⟩

theorem WInv.walEnd {c : Chain} {d : Disk} {x : Nat} (h : WInv c d) (hx : d.pvH = nxt c d.storeH → x = d.storeH) :
    WInv c (applyEff d (.walEnd x)) := ⟨h.1, hx⟩

theorem mem_append_quiet {es fs : List Eff} (h1 : ∀ e ∈ es, quiet e = true) (h2 : ∀ e ∈ fs, quiet e = true) :
    ∀ e ∈ es ++ fs, quiet e = true := fun e he => (List.mem_append.mp he).elim (h1 e) (h2 e)

theorem quiet_exec (c : Chain) (h : Nat) : ∀ e ∈ execEffs c h, quiet e = true := by
  intro e he
  simp only [execEffs, List.mem_append, List.mem_cons, List.mem_map, List.not_mem_nil, or_false] at he
  rcases he with (rfl | ⟨tx, _, rfl⟩) | rfl <;> rfl

theorem quiet_execCommit (c : Chain) (h : Nat) : ∀ e ∈ execCommit c h, quiet e = true := by
  intro e he
  simp only [execCommit, List.mem_append, List.mem_cons, List.not_mem_nil, or_false] at he
  rcases he with he | rfl
  · exact quiet_exec c h e he
  · rfl

theorem quiet_real (c : Chain) (h : Nat) : ∀ e ∈ applyBlockReal c h, quiet e = true := by
  intro e he
  simp only [applyBlockReal, List.mem_append, List.mem_cons, List.not_mem_nil, or_false] at he
  rcases he with he | rfl | rfl | rfl
  · exact quiet_exec c h e he
  all_goals rfl

theorem quiet_mock (h : Nat) : ∀ e ∈ applyBlockMock h, quiet e = true := by
  intro e he
  simp only [applyBlockMock, List.mem_cons, List.not_mem_nil, or_false] at he
  rcases he with rfl | rfl <;> rfl

theorem quiet_prune (c : Chain) (d : Disk) (h : Nat) : ∀ e ∈ pruneEffs c d h, quiet e = true := by
  intro e he
  unfold pruneEffs pruneList at he
  split at he
  · split at he <;> simp at he
    · rcases he with rfl | rfl <;> rfl
    · subst he; rfl
  · simp at he

theorem applyEff_gs {d : Disk} {e : Eff} (h : d.genesisSaved = true) : (applyEff d e).genesisSaved = true := by
  cases e <;> simp [applyEff, h]
  case signVote hh v => split <;> simp
  case pvSign hh v => split <;> simp
  case pruneBlocks r => split <;> simp [h]

theorem applyEffs_gs {d : Disk} {es : List Eff} (h : d.genesisSaved = true) :
    (applyEffs d es).genesisSaved = true := by
  induction es generalizing d with
  | nil => simpa [applyEffs] using h
  | cons e es ih => simpa [applyEffs] using ih (applyEff_gs (e := e) h)

theorem finalizeEffs_good {c : Chain} {d : Disk} {n : Nat} (h : Good c d n) (hgs : d.genesisSaved = true) :
    finalizeEffs c d (nxt c d.stateH) =
      some (.signVote (ht c (n + 1)) 1 :: .signVote (ht c (n + 1)) 2 :: commitEffs c d (ht c (n + 1))) := by
  have hlt : d.storeH < ht c (n + 1) := by rw [h.storeH]; exact ht_lt c (by omega)
  rw [h.stateH, nxt_ht]
  simp [finalizeEffs, commitEffs, validBlock, h.stateH, h.stateHash, hgs, nxt_ht, hist_pred_ht, hlt]

theorem finalize_winv {c : Chain} {d : Disk} {H : Nat} {qs : List Eff} (hH : H = nxt c d.storeH)
    (hw : d.walEnd = d.storeH) (hwi : WInv c d) (hq : ∀ e ∈ qs, quiet e = true) :
    Run (WInv c) (fun d' => WInv c d' ∧ d'.walEnd = H) d
      (.signVote H 1 :: .signVote H 2 :: .saveBlock H :: .walEnd H :: qs) := by
  have v1 := WInv.signVote hH hw 1
  have v2 := WInv.signVote v1.2.2.1 v1.2.2.2 2
  have tail : ∀ x, WInv c x → x.pvH = H →
      Run (WInv c) (fun d' => WInv c d' ∧ d'.walEnd = H) x (.saveBlock H :: .walEnd H :: qs) := fun x hx hp =>
    have w3 : WInv c (applyEff x (.saveBlock H)) := WInv.saveBlock (Nat.le_of_eq hp)
    have w4 := w3.walEnd (x := H) fun _ => rfl
    have hf := applyEffs_quiet (d := applyEff (applyEff x (.saveBlock H)) (.walEnd H)) hq
    .cons hx (.cons w3 ⟨PrefAll.winv_quiet w4 hq, w4.congr hf.1 hf.2.1 hf.2.2, hf.2.1⟩)
  exact .cons hwi (.cons v1.1 (tail _ v2.1 v2.2.1))

/-- deciding block `n+1` on a synced node whose WAL holds the #ENDHEIGHT of block `n`: enabled; every
crash prefix is covered and keeps the votes replayable; the complete run leaves a synced node after
`n+1` blocks with its marker -/
theorem finalize_run {c : Chain} {d : Disk} {n : Nat} (h : Good c d n) (hw : d.walEnd = d.stateH)
    (hwi : WInv c d) (hgs : d.genesisSaved = true) :
    ∃ es, finalizeEffs c d (nxt c d.stateH) = some es ∧ Run (CrashOK c) (Good c · (n + 1)) d es ∧
      Run (WInv c) (fun d' => WInv c d' ∧ d'.walEnd = ht c (n + 1)) d es :=
  ⟨_, finalizeEffs_good h hgs,
    .cons (crashOK_same h) (.cons (crashOK_same (h.signVote _ 1)) (commit_run ((h.signVote _ 1).signVote _ 2))),
    finalize_winv (by rw [h.storeH, nxt_ht]) (by rw [hw, h.stateH, h.storeH]) hwi
      (mem_append_quiet (quiet_real c _) (quiet_prune c d _))⟩

/-! ## the handshake -/

/-- heights of the blocks `a+1 .. a+m` -/
def hts (c : Chain) : Nat → Nat → List Nat
  | _, 0 => []
  | a, m + 1 => ht c (a + 1) :: hts c (a + 1) m

theorem range'_hts (c : Chain) (a m : Nat) : List.range' (ht c (a + 1)) m = hts c a m := by
  induction m generalizing a with
  | zero => rfl
  | succ m ih =>
    have : ht c (a + 1) + 1 = ht c (a + 1 + 1) := by rw [ht_succ, ht_succ]; omega
    simp [List.range'_succ, hts, this, ih]

/-- the loop of `replayBlocks`: `m` blocks executed and committed on an application that is at
least `m` blocks behind the state; never trips the app-hash assertion; every crash prefix is `Inv` -/
theorem replayLoop_run {c : Chain} {d0 : Disk} {k st : Nat} (hst : st = k ∨ st = k + 1) :
    ∀ (m a : Nat) (acc : List Eff) (appHash : Hist) (n : Nat), a + m ≤ k → d0.statesBase ≤ ht c a →
      DInv c (applyEffs d0 acc) k st a none → (appHash = [] ∨ appHash = histK c a) →
      ∃ es hash', replayLoop c d0 (hts c a m) acc appHash n = .ok (acc ++ es, hash', n + m) ∧
        (0 < m → hash' = histK c (a + m)) ∧
        PrefAll (CrashOK c) (applyEffs d0 acc) es ∧ DInv c (applyEffs d0 (acc ++ es)) k st (a + m) none ∧
        (∀ e ∈ es, quiet e = true)
  | 0, a, acc, appHash, n, _, _, h, _ => by
    refine ⟨[], appHash, by simp [hts, replayLoop], by omega, crashOK_behind h (by omega) hst, by simpa using h, by simp⟩
  | m + 1, a, acc, appHash, n, ham, hs0, h, hh => by
    have hvals : valsOK c d0 (ht c (a + 1)) = true := valsOK_of hs0
    have hx := execCommit_run (c := c) (a := a) (by omega) hst h
    have hchk : ¬ (appHash ≠ [] ∧ appHash ≠ hist c (ht c (a + 1) - 1)) := by
      rw [hist_pred_ht]
      rcases hh with e | e <;> simp [e]
    have h' : DInv c (applyEffs d0 (acc ++ execCommit c (ht c (a + 1)))) k st (a + 1) none := by
      rw [applyEffs_append]; exact hx.2
    obtain ⟨es, hash', hr, hhash, hpre, hfin, hq⟩ :=
      replayLoop_run hst m (a + 1) (acc ++ execCommit c (ht c (a + 1)))
        (applyEffs d0 (acc ++ execCommit c (ht c (a + 1)))).app.hash (n + 1) (by omega)
        (Nat.le_trans hs0 (ht_le c (by omega))) h' (.inr h'.app.hash)
    refine ⟨execCommit c (ht c (a + 1)) ++ es, hash', ?_, ?_, ?_, ?_, mem_append_quiet (quiet_execCommit c _) hq⟩
    · simp only [hts, replayLoop, hchk, if_false, hvals, Bool.not_true, Bool.false_eq_true]
      rw [hr, List.append_assoc, show n + 1 + m = n + (m + 1) by omega]
    · intro _
      by_cases hm : 0 < m
      · rw [hhash hm]; congr 1; omega
      · -- the last round: the local variable is the hash the application just returned
        have hm0 : m = 0 := by omega
        subst hm0
        have hr' := hr
        simp [hts, replayLoop] at hr'
        rw [← hr'.2, h'.app.hash]
    · refine PrefAll.append hx.1 ?_
      rw [← applyEffs_append]; exact hpre
    · rw [← List.append_assoc]
      have : a + (m + 1) = a + 1 + m := by omega
      rw [this]; exact hfin

/-- the `pre` of the handshake: InitChain iff the application reports height 0, the genesis state
completed and saved iff moreover the state is empty -/
def hsPre (d : Disk) : List Eff :=
  if d.app.height = 0 then [.initChain] ++ (if d.stateH = 0 then [.saveGenesis] else []) else []

theorem quiet_hsPre (d : Disk) : ∀ e ∈ hsPre d, quiet e = true := by
  intro e he
  simp only [hsPre] at he
  split at he
  · split at he <;> simp at he
    · rcases he with rfl | rfl <;> rfl
    · subst he; rfl
  · simp at he

/-- running `pre`: the application (which reports 0 if anything is sent) sees at most InitChain -/
theorem hsPre_run {c : Chain} {d : Disk} {k st a : Nat} {Q : Disk → Prop}
    (hQ : ∀ d', DInv c d' k st a none → Q d') (h : DInv c d k st a none) :
    Run Q (DInv c · k st a none) d (hsPre d) := by
  unfold hsPre
  split
  · rename_i h0
    obtain rfl : a = 0 := ht_inj c (h.app.height.symm.trans h0)
    have h1 : DInv c (applyEff d .initChain) k st 0 none := h.setApp h.app.initChain h.pr
    split
    · have h2 := h1.inert (e := .saveGenesis) rfl
      exact .cons (hQ _ h) (.cons (hQ _ h1) (.nil (hQ _ h2) h2))
    · exact .cons (hQ _ h) (.nil (hQ _ h1) h1)
  · exact .nil (hQ _ h) h

theorem DInv.validBlock {c : Chain} {d : Disk} {k st a : Nat} {p : Option Pending} (h : DInv c d k st a p)
    (hg : 0 < k ∨ d.genesisSaved = true) : validBlock c d (ht c (k + 1)) = true := by
  have : 0 < d.stateH ∨ d.genesisSaved = true := by
    rcases hg with hg | hg
    · left; rw [h.stateH]; exact ht_lt c hg
    · exact .inr hg
  simpa [Pipeline.validBlock, h.stateH, h.stateHash, nxt_ht, hist_pred_ht] using this

/-- what every reachable branch of the handshake is shown to be; that its effects are `quiet` is how
`WInv` and `GenOK` cross a recovery -/
def HsOK (c : Chain) (d : Disk) (r : HsResult) : Prop :=
  r.outcome = .ok ∧ Run (CrashOK c) (fun d' => ∃ m, Good c d' m) d r.effs ∧ ∀ e ∈ r.effs, quiet e = true

theorem HsOK.ok {c : Chain} {d : Disk} {r : HsResult} (h : HsOK c d r) : r.outcome = .ok := h.1
theorem HsOK.good {c : Chain} {d : Disk} {r : HsResult} (h : HsOK c d r) : ∃ m, Good c (applyEffs d r.effs) m :=
  h.2.1.2

/-- the first block `replayBlocks` replays is the one after the application's -/
theorem first_eq_nxt (c : Chain) (n : Nat) : (if n + 1 = 1 then c.ih else n + 1) = nxt c n := by
  simp [nxt]

/-- `replayBlocks` up to the end of its loop, on an application behind the state -/
theorem replay_run {c : Chain} {d : Disk} {k st a : Nat} (hst : st = k ∨ st = k + 1)
    (h : DInv c d k st a none) (ha : a < k) :
    ∃ es, replayLoop c d (List.range' (if ht c a + 1 = 1 then c.ih else ht c a + 1)
          (ht c k + 1 - (if ht c a + 1 = 1 then c.ih else ht c a + 1))) (hsPre d) [] 0 =
        .ok (hsPre d ++ es, histK c k, k - a) ∧
      Run (CrashOK c) (DInv c · k st k none) d (hsPre d ++ es) ∧ ∀ e ∈ hsPre d ++ es, quiet e = true := by
  have hp := hsPre_run (fun _ h' => crashOK_behind h' (by omega) hst) h
  obtain ⟨es, hash', hloop, hhash, hlpre, hfin, hlq⟩ :=
    replayLoop_run (c := c) (d0 := d) hst (k - a) a (hsPre d) [] 0 (by omega) h.pr.atApp hp.2 (.inl rfl)
  have hak : a + (k - a) = k := by omega
  rw [hak] at hfin hhash
  have hlen : ht c k + 1 - ht c (a + 1) = k - a := by
    obtain ⟨k', rfl⟩ : ∃ k', k = k' + 1 := ⟨k - 1, by omega⟩
    rw [ht_succ, ht_succ]; omega
  refine ⟨es, ?_, ⟨hp.1.append hlpre, hfin⟩, mem_append_quiet (quiet_hsPre d) hlq⟩
  rw [first_eq_nxt, nxt_ht, hlen, range'_hts, hloop, hhash (by omega), Nat.zero_add]

/-- `replayBlocks(..., mutateState=false)`: the application is behind a synced store/state -/
theorem replayBlocks_noMutate_run {c : Chain} {d : Disk} {k a : Nat} (br : Branch)
    (h : DInv c d k k a none) (ha : a < k) :
    HsOK c d (replayBlocks c d (hsPre d) (ht c a) (ht c k) false br) := by
  obtain ⟨es, hloop, hrun, hq⟩ := replay_run (.inl rfl) h ha
  have hres : replayBlocks c d (hsPre d) (ht c a) (ht c k) false br = ⟨hsPre d ++ es, br, .ok, k - a⟩ := by
    simp only [replayBlocks, Bool.false_eq_true, if_false, hloop, hrun.2.stateHash, if_true]
  rw [hres]
  exact ⟨rfl, hrun.imp fun _ h' => ⟨k, h'⟩, hq⟩

/-- `replayBlocks(..., mutateState=true)`: the application is behind the state, the store one ahead -/
theorem replayBlocks_mutate_run {c : Chain} {d : Disk} {k a : Nat} (br : Branch)
    (h : DInv c d k (k + 1) a none) (ha : a < k) :
    HsOK c d (replayBlocks c d (hsPre d) (ht c a) (ht c (k + 1)) true br) := by
  obtain ⟨es, hloop, hrun, hq⟩ := replay_run (.inr rfl) h ha
  have hpred : ht c (k + 1) - 1 = ht c k := by
    obtain ⟨k', rfl⟩ : ∃ k', k = k' + 1 := ⟨k - 1, by omega⟩
    exact ht_succ_pred c k'
  have hres : replayBlocks c d (hsPre d) (ht c a) (ht c (k + 1)) true br
      = ⟨hsPre d ++ es ++ applyBlockReal c (ht c (k + 1)), br, .ok, k - a + 1⟩ := by
    simp only [replayBlocks, if_true, hpred, hloop, hrun.2.validBlock (.inl (by omega)),
      valsOK_of hrun.2.pr.atState]
  rw [hres]
  exact ⟨rfl, hrun.append fun _ h' => (applyBlockReal_run h').imp fun _ hg => ⟨k + 1, hg⟩,
    mem_append_quiet hq (quiet_real c _)⟩

/-- the application is never below what the (pruned) block store can replay from -/
theorem PruneOK.notTooLow {c : Chain} {d : Disk} {k a : Nat} (h : PruneOK c d k a) :
    ¬ (a = 0 ∧ c.ih < d.storeBase) ∧ ¬ (0 < ht c a ∧ ht c a < d.storeBase - 1) := by
  have hb := h.store
  cases a with
  | zero => simp [ht, Chain.ih] at hb ⊢; omega
  | succ a' => rw [ht_succ] at hb; rw [ht_succ]; omega

theorem handshake_storeEmpty {c : Chain} {d : Disk} (h : DInv c d 0 0 0 none) :
    handshake c d = ⟨hsPre d, .storeEmpty, .ok, 0⟩ := by
  have h0 : d.storeH = 0 := h.storeH
  have hh : d.app.hash = d.stateHash := by rw [h.app.hash, h.stateHash]
  unfold handshake hsPre; simp [h0, hh]

/-- the handshake on a disk with a block in the store. Its tests on the three heights are tests on the block
indexes (`ht` is strictly monotone), so the error branches go by arithmetic and what is left is where the
application is -/
theorem handshake_ok {c : Chain} {d : Disk} {k st a : Nat} (h : DInv c d k (st + 1) a none)
    (hst : st + 1 = k ∨ st = k) (ha : a ≤ st + 1) (hr : a = k + 1 → d.lastResp = some (ht c (k + 1)))
    (hgs : d.genesisSaved = true) : HsOK c d (handshake c d) := by
  unfold handshake
  extract_lets appH storeH stateH pre appHash
  rw [show pre = hsPre d from rfl]
  simp only [appH, storeH, stateH, appHash, h.storeH, h.stateH, h.app.height, h.app.hash, h.stateHash, nxt_ht,
    ht_lt_iff, ht_eq_iff, ht_eq_zero, gt_iff_lt, Nat.add_one_ne_zero, h.pr.notTooLow.1, h.pr.notTooLow.2,
    Nat.not_lt.2 ha, if_false]
  rcases hst with rfl | rfl
  · -- store = state
    simp only [Nat.lt_irrefl, Nat.not_succ_lt_self, if_false, if_true]
    by_cases hlt : a < st + 1
    · rw [if_pos hlt]
      exact replayBlocks_noMutate_run _ h hlt
    · obtain rfl : a = st + 1 := by omega
      simp only [Nat.lt_irrefl, if_false, if_true]
      exact ⟨rfl, (hsPre_run (fun _ h' => crashOK_same h') h).imp fun _ h' => ⟨_, h'⟩, quiet_hsPre d⟩
  · -- block saved, state not advanced
    simp only [Nat.lt_irrefl, Nat.not_succ_lt_self, Nat.succ_ne_self, if_false, if_true]
    by_cases hlt : a < st
    · rw [if_pos hlt]
      exact replayBlocks_mutate_run _ h hlt
    · rw [if_neg hlt]
      by_cases hEq : a = st
      · -- the application is where the state is: `ApplyBlock` on the real application
        subst hEq
        have hp := hsPre_run (fun _ h' => crashOK_store h') h
        rw [if_pos rfl, if_pos (hp.2.validBlock (.inr (applyEffs_gs hgs))), if_pos (valsOK_of h.pr.atApp)]
        exact ⟨rfl, hp.append fun _ h' => (applyBlockReal_run h').imp fun _ hg => ⟨_, hg⟩,
          mem_append_quiet (quiet_hsPre d) (quiet_real c _)⟩
      · -- application committed, state not saved: replay with the mock application
        obtain rfl : a = st + 1 := by omega
        have hpre : hsPre d = [] := by
          have : d.app.height ≠ 0 := by rw [h.app.height]; exact Nat.pos_iff_ne_zero.mp (ht_pos c st)
          simp [hsPre, this]
        rw [if_neg hEq, if_pos rfl, if_pos (hr rfl), hpre,
          if_pos (show validBlock c (applyEffs d []) _ = true from h.validBlock (.inr hgs)),
          if_pos (valsOK_of h.pr.atState)]
        exact ⟨rfl, (applyBlockMock_run h (hr rfl)).imp fun _ hg => ⟨_, hg⟩, quiet_mock _⟩

/-- block 1 can only be in the store after the genesis state was completed and saved -/
def GenOK (d : Disk) : Prop := 0 < d.storeH → d.genesisSaved = true

theorem genOK_crash {d : Disk} (h : GenOK d) : GenOK (crash d) := h
theorem winv_crash {c : Chain} {d : Disk} (h : WInv c d) : WInv c (crash d) := h

/-- the handshake on any disk that crashes and snapshot restores of the application can leave: it
completes (`ok`), every crash prefix of the recovery leaves an `Inv` disk again, the completed
recovery leaves the three cursors equal, none of its effects touches store height, WAL marker or
privval (`quiet`), and afterwards the genesis state is saved -/
theorem handshake_run {c : Chain} {d : Disk} (h : Inv c d) (hgen : GenOK d) :
    HsOK c d (handshake c d) ∧ (applyEffs d (handshake c d).effs).genesisSaved = true := by
  obtain ⟨k, st, a, h, hst, ha, hr⟩ := inv_iff.1 h
  cases st with
  | zero =>
    obtain rfl : a = 0 := by omega
    obtain rfl : k = 0 := by omega
    have hpre : hsPre d = [.initChain, .saveGenesis] := by
      have h1 : d.app.height = 0 := h.app.height
      have h2 : d.stateH = 0 := h.stateH
      simp [hsPre, h1, h2]
    rw [handshake_storeEmpty h]
    exact ⟨⟨rfl, (hsPre_run (fun _ h' => crashOK_same h') h).imp fun _ h' => ⟨0, h'⟩, quiet_hsPre d⟩, by rw [hpre]; rfl⟩
  | succ st =>
    have hgs : d.genesisSaved = true := hgen (by rw [h.storeH]; exact ht_pos c st)
    exact ⟨handshake_ok h (by omega) ha hr hgs, applyEffs_gs hgs⟩

theorem PrefAll.gs {d : Disk} {es : List Eff} (h : d.genesisSaved = true) : PrefAll GenOK d es :=
  (PrefAll.of_step (Q := (·.genesisSaved = true)) (fun _ _ _ => applyEff_gs) h).imp fun _ hg _ => hg

theorem applyEff_storeH {d : Disk} {e : Eff} (hs : ∀ x, e ≠ .saveBlock x) : (applyEff d e).storeH = d.storeH := by
  cases e with
  | saveBlock x => exact absurd rfl (hs x)
  | signVote hh v => simp only [applyEff]; split <;> rfl
  | pvSign hh v => simp only [applyEff]; split <;> rfl
  | pruneBlocks r => simp only [applyEff]; split <;> rfl
  | _ => rfl

theorem genOK_step {d : Disk} {e : Eff} (h : GenOK d) (hs : ∀ x, e ≠ .saveBlock x) : GenOK (applyEff d e) :=
  fun hp => applyEff_gs (h (by rwa [applyEff_storeH hs] at hp))

theorem PrefAll.genOK {d : Disk} {es : List Eff} (h : GenOK d) (hs : ∀ e ∈ es, ∀ x, e ≠ .saveBlock x) :
    PrefAll GenOK d es :=
  PrefAll.of_step (fun _ e he hg => genOK_step hg (hs e he)) h

theorem startEffs_ok {c : Chain} {d : Disk} (hok : (handshake c d).outcome = .ok) :
    startEffs c d = (handshake c d).effs ++
      if (applyEffs d (handshake c d).effs).walEnd ≠ (applyEffs d (handshake c d).effs).stateH
      then [.walEnd (applyEffs d (handshake c d).effs).stateH] else [] := by
  unfold startEffs
  rw [if_pos hok]

/-- a complete (re)start (handshake, then the repaired `catchupReplay` writing a missing marker): the
handshake succeeds, every crash prefix leaves an `Inv` disk (with block 1 stored only after genesis);
run to completion the three cursors are equal and the WAL holds the marker of that height -/
structure StartOK (c : Chain) (d : Disk) : Prop where
  ok : (handshake c d).outcome = .ok
  crashes : PrefAll (CrashOK c) d (startEffs c d)
  gen : PrefAll GenOK d (startEffs c d)
  good : ∃ m, Good c (applyEffs d (startEffs c d)) m
  gs : (applyEffs d (startEffs c d)).genesisSaved = true
  marker : (applyEffs d (startEffs c d)).walEnd = (applyEffs d (startEffs c d)).stateH

/-- `Inv` and `GenOK`: any disk that crashes and snapshot restores can leave -/
theorem start_run {c : Chain} {d : Disk} (h : Inv c d) (hgen : GenOK d) : StartOK c d := by
  obtain ⟨⟨hok, hrun, hq⟩, hgs⟩ := handshake_run h hgen
  obtain ⟨m, hg⟩ := hrun.2
  have hno : ∀ e ∈ startEffs c d, ∀ x, e ≠ .saveBlock x := by
    rw [startEffs_ok hok]
    intro e he x hx
    subst hx
    rcases List.mem_append.mp he with he | he
    · exact absurd (hq _ he) (by simp [quiet])
    · split at he <;> simp at he
  have run : Run (CrashOK c) (fun d' => (∃ m, Good c d' m) ∧ d'.genesisSaved = true ∧ d'.walEnd = d'.stateH) d
      (startEffs c d) := by
    rw [startEffs_ok hok]
    split
    · -- the marker is missing: a crash may also fall before or after its write
      have hg2 := hg.inert (e := .walEnd (applyEffs d (handshake c d).effs).stateH) rfl
      exact ⟨hrun.1.append ⟨crashOK_same hg, crashOK_same hg2⟩,
        by rw [applyEffs_append]; exact ⟨⟨m, hg2⟩, applyEffs_gs hgs, rfl⟩⟩
    · rename_i hm
      rw [List.append_nil]
      exact ⟨hrun.1, ⟨m, hg⟩, hgs, Decidable.not_not.mp hm⟩
  exact ⟨hok, run.1, PrefAll.genOK hgen hno, run.2.1, run.2.2.1, run.2.2.2⟩

/-- the WAL side of the (re)start: the handshake leaves marker and privval alone, the marker write
makes whatever was signed in the height in progress replayable; the node is live -/
theorem start_winv {c : Chain} {d : Disk} (h : Inv c d) (hgen : GenOK d) (hw : WInv c d) :
    Run (WInv c) (WInv c) d (startEffs c d) ∧ liveAfter c d = true := by
  obtain ⟨⟨hok, hrun, hq⟩, _⟩ := handshake_run h hgen
  obtain ⟨m, hg⟩ := hrun.2
  have hf := applyEffs_quiet (d := d) hq
  have hw' : WInv c (applyEffs d (handshake c d).effs) := hw.congr hf.1 hf.2.1 hf.2.2
  have hss : (applyEffs d (handshake c d).effs).stateH = (applyEffs d (handshake c d).effs).storeH := by
    rw [hg.stateH, hg.storeH]
  have hw2 := hw'.walEnd (x := (applyEffs d (handshake c d).effs).stateH) fun _ => hss
  have hlive : liveAfter c d = true := by
    simp only [liveAfter, Bool.or_eq_true, decide_eq_true_eq]
    rcases hw'.1 with h1 | h1
    · right; rw [hss]; exact h1
    · left; rw [hw'.2 h1, hss]
  rw [startEffs_ok hok]
  split
  · exact ⟨⟨(PrefAll.winv_quiet hw hq).append ⟨hw', hw2⟩, by rw [applyEffs_append]; exact hw2⟩, hlive⟩
  · rw [List.append_nil]; exact ⟨⟨PrefAll.winv_quiet hw hq, hw'⟩, hlive⟩

end Tmv.Pipeline
