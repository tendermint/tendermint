import Tmv.Lemmas.ConsPrim
/-! (N): bookkeeping of a node's output list and internal queue: the outputs only grow (`base` is a
prefix), signed votes are for rounds reached and appear in non-decreasing round order, scheduled
timeouts are for rounds reached, and every vote waiting in the internal queue is the node's own,
correctly signed, and was emitted. -/
namespace Tmv.Cons

def VoteLe (o₁ o₂ : Output) : Prop :=
  ∀ t r x t' r' x', o₁ = .signVote t r x → o₂ = .signVote t' r' x' → r ≤ r'

/-- `a4` is the clause `TR.a4` of (T) (Lemmas/ConsLock) again: a new vote is for the current round, so `a4` puts it
after all earlier ones (`sorted`). `sched` is (S) of Lemmas/ConsSched.lean, `qi` is `DI.q` of Lemmas/ConsDelivered.lean
(there a Boolean `ownVote`): kept here so that (N) stands on `ConsPrim` alone. -/
structure NI (me : Nat) (base : List Output) (round : Nat) (queue : List Internal) (out : List Output) : Prop where
  ext : ∃ new, out = base ++ new
  a4 : ∀ t r x, Output.signVote t r x ∈ out → r ≤ round
  sorted : out.Pairwise VoteLe
  sched : ∀ r st, Output.schedule r st ∈ out → r ≤ round
  qi : ∀ v, Internal.vote v ∈ queue → v.val = me ∧ v.sigOK = true ∧ Output.signVote v.typ v.round v.bid ∈ out

abbrev N (me : Nat) (base : List Output) (s : NodeState) : Prop := NI me base s.round s.queue s.out

theorem NI.init (me : Nat) : NI me [] 0 [] [] :=
  ⟨⟨[], rfl⟩, by simp, List.Pairwise.nil, by simp, by simp⟩

theorem NI.rebase {me base round queue out} (h : NI me base round queue out) : NI me out round queue out :=
  ⟨⟨[], by simp⟩, h.a4, h.sorted, h.sched, h.qi⟩

theorem N.init (me : Nat) : N me [] NodeState.init := NI.init me

theorem NI.mono_round {me base r r' q out} (h : NI me base r q out) (hr : r ≤ r') : NI me base r' q out :=
  ⟨h.ext, fun t r₀ x hm => Nat.le_trans (h.a4 t r₀ x hm) hr, h.sorted,
   fun r₀ st hm => Nat.le_trans (h.sched r₀ st hm) hr, h.qi⟩

theorem NI.push {me base r q out} (h : NI me base r q out) (o : Output)
    (hv : ∀ t r' x, o = .signVote t r' x → r' = r) (hs : ∀ r' st, o = .schedule r' st → r' ≤ r) :
    NI me base r q (out ++ [o]) := by
  obtain ⟨new, e⟩ := h.ext
  refine ⟨⟨new ++ [o], by rw [e, List.append_assoc]⟩, ?_, ?_, ?_, fun v hq => (h.qi v hq).imp id (.imp id (List.mem_append_left _))⟩
  · intro t r' x hm
    rcases List.mem_append.1 hm with a | a
    · exact h.a4 t r' x a
    · exact Nat.le_of_eq (hv t r' x (List.mem_singleton.1 a).symm)
  · rw [List.pairwise_append]
    refine ⟨h.sorted, List.pairwise_singleton _ _, ?_⟩
    intro a ha b hb t r₁ x t' r₂ x' e1 e2
    rw [List.mem_singleton.1 hb] at e2
    rw [hv t' r₂ x' e2]
    exact h.a4 t r₁ x (e1 ▸ ha)
  · intro r' st hm
    rcases List.mem_append.1 hm with a | a
    · exact h.sched r' st a
    · exact hs r' st (List.mem_singleton.1 a).symm

theorem NI.push_vote {me base r q out} (h : NI me base r q out) (t : VType) (x : Bid) :
    NI me base r (q ++ [.vote (.honest t r x me)]) (out ++ [.signVote t r x]) := by
  have h' := h.push (.signVote t r x) (fun _ _ _ e => by cases e; rfl) (fun _ _ e => by cases e)
  refine ⟨h'.ext, h'.a4, h'.sorted, h'.sched, fun v hv => ?_⟩
  rcases List.mem_append.1 hv with a | a
  · exact h'.qi v a
  · cases List.mem_singleton.1 a
    exact ⟨rfl, rfl, List.mem_append_right _ (List.mem_singleton.2 rfl)⟩

theorem NI.push_queue {me base r q out} (h : NI me base r q out) (ms : List Internal)
    (hms : ∀ v, Internal.vote v ∉ ms) : NI me base r (q ++ ms) out := by
  refine ⟨h.ext, h.a4, h.sorted, h.sched, ?_⟩
  intro v hv
  rcases List.mem_append.1 hv with a | a
  · exact h.qi v a
  · exact absurd a (hms v)

theorem NI.pop {me base r m q out} (h : NI me base r (m :: q) out) : NI me base r q out :=
  ⟨h.ext, h.a4, h.sorted, h.sched, fun v hv => h.qi v (List.mem_cons_of_mem _ hv)⟩

variable {c : Cfg} {me : Nat} {base : List Output}

/-! ### every move of the node model keeps (N) -/

theorem emit_N {s : NodeState} {r : Nat} (o : Output) (hv : ∀ t r' x, o = .signVote t r' x → r' = r)
    (hs : ∀ r' st, o = .schedule r' st → r' ≤ r)
    (h : NI me base r s.queue s.out) : NI me base r (emit s o).queue (emit s o).out := by
  rcases emit_shape s o with e | e <;> rw [e]
  · exact h
  · exact h.push o hv hs

theorem panicWith_N {s : NodeState} {r : Nat} (w : String) (h : NI me base r s.queue s.out) :
    NI me base r (panicWith s w).queue (panicWith s w).out := by
  rcases panicWith_shape s w with e | e <;> rw [e]
  · exact h
  · exact h.push _ nofun nofun

/-- the vote is signed for the round the node is in, and queued as the node's own -/
theorem signAddVote_N (hc : c.self = some me) {s : NodeState} (t : VType) (b : Bid) (h : N me base s) :
    NI me base s.round (signAddVote c s t b).queue (signAddVote c s t b).out := by
  rcases signAddVote_shape c s t b with e | ⟨_, me', hme, _, _, e⟩ <;> rw [e]
  · exact h
  · rw [hc] at hme; cases hme
    exact h.push_vote t b

theorem decideProposal_N {s : NodeState} {r' : Nat} (r p : Nat) (h : NI me base r' s.queue s.out) :
    NI me base r' (decideProposal c s r p).queue (decideProposal c s r p).out := by
  rcases decideProposal_shape c s r p with e | ⟨_, o, _, ho, e⟩ <;> rw [e]
  · exact h
  · refine NI.push_queue ?_ _ (by intro v hv; simp at hv)
    rcases ho with ⟨_, rfl⟩ | ⟨_, rfl⟩
    · exact h
    · exact h.push _ nofun nofun

theorem enter_N {s : NodeState} (i : Input) (h : N me base s) : N me base (enter c s i) := by
  have hf := enter_framed c s i
  show NI _ _ _ _ _
  rw [hf.round, hf.out, hf.queue]
  exact h

/-- a timeout is scheduled, and a vote signed, for the round being entered or one reached before -/
theorem N_prim {ok : Prop} {cm : NodeState → Prop} (hc : c.self = some me) {s t : NodeState} (hp : Prim c ok cm s t) (h : N me base s) :
    N me base t := by
  cases hp with
  | panic w => show NI _ _ _ _ _; rw [panicWith_round]; exact panicWith_N w h
  | schedule r st hr =>
    show NI _ _ _ _ _; rw [emit_round]; exact emit_N _ nofun (by intro _ _ e; cases e; exact hr) h
  | precommitWait r _ _ hr =>
    show NI _ _ _ _ _; rw [emit_round]; exact emit_N _ nofun (by intro _ _ e; cases e; exact hr) h
  | decide b => show NI _ _ _ _ _; rw [emit_round]; exact emit_N _ nofun nofun h
  | newRound r _ hg =>
    show NI _ _ _ _ _
    rw [(newRoundReset_frame s r).out, (newRoundReset_frame s r).round, (newRoundReset_frame s r).queue]
    exact h.mono_round (le_of_guard hg)
  | propose r _ hg | prevoteWait r _ hg =>
    exact emit_N _ nofun (by intro _ _ e; cases e; exact Nat.le_refl _) (h.mono_round (le_of_guard hg))
  | proposeOwn r p _ hg =>
    exact decideProposal_N r p
      (emit_N _ nofun (by intro _ _ e; cases e; exact Nat.le_refl _) (h.mono_round (le_of_guard hg)))
  | prevote r _ _ hg =>
    refine NI.mono_round (signAddVote_N hc _ _ ?_) (le_of_guard hg)
    exact h
  | precommit r t x _ hg _ hp =>
    cases hp <;> (refine NI.mono_round (signAddVote_N hc _ _ ?_) (le_of_guard hg); exact h)
  | _ => exact h

/-- taking a message off the queue leaves the rest the node's own -/
theorem pop_N {s : NodeState} (m : Internal) (rest : List Internal) (hq : s.queue = m :: rest) (h : N me base s) :
    N me base (enter c { s with queue := rest } m.asInput) := by
  have h' : NI me base s.round (m :: rest) s.out := hq ▸ h
  exact enter_N (s := { s with queue := rest }) m.asInput h'.pop

theorem handleInput_N (hc : c.self = some me) {s : NodeState} (i : Input) (h : N me base s) :
    N me base (handleInput c s i) :=
  (handleInput_star (ok := False) (cm := fun _ => True) s i nofun fun _ _ => trivial).inv (fun _ _ hp => N_prim hc hp) (enter_N i h)

theorem handleInternal_N (hc : c.self = some me) {s : NodeState} (m : Internal) (h : N me base s) :
    N me base (handleInternal c s m) := by
  rw [handleInternal_eq]; exact handleInput_N hc _ h

theorem step_N (hc : c.self = some me) {s : NodeState} (i : Input) (h : N me base s) : N me base (step c s i) :=
  step_invariant (ok := False) (fun _ _ hp => N_prim hc hp) (fun _ m rest hq h => pop_N m rest hq h) s i nofun
    (enter_N i) h

end Tmv.Cons
