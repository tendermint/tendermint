import Tmv.Model.Cons
/-! Signer invariant of the node model: whatever inputs arrive, the signatures released through
`sign` (CheckHRS + same-HRS comparison) never conflict for one (round, step): the invariant `SInv` and what
keeps it; `step_inv`, `run_inv` are in Lemmas/ConsChain.lean. -/
namespace Tmv.Cons

/-- the (round, signer step, payload) a released signature stands for -/
def sigKey : Output → Option (Nat × Nat × Payload)
  | .signProposal r b pol => some (r, 1, .prop b pol)
  | .signVote t r b => some (r, t.code, .vote b)
  | _ => none

/-- `k ≤ last` in the signer's lexicographic (round, step) order, with equal payload on equality -/
def Covered (k last : Nat × Nat × Payload) : Prop :=
  k.1 < last.1 ∨ (k.1 = last.1 ∧ (k.2.1 < last.2.1 ∨ (k.2.1 = last.2.1 ∧ k.2.2 = last.2.2)))

/-- invariant on (outputs, last sign state) -/
structure SInv (out : List Output) (lss : Option (Nat × Nat × Payload)) : Prop where
  bound : ∀ o ∈ out, ∀ k, sigKey o = some k → ∃ l, lss = some l ∧ Covered k l
  uniq : ∀ o₁ ∈ out, ∀ o₂ ∈ out, ∀ r cd p₁ p₂, sigKey o₁ = some (r, cd, p₁) → sigKey o₂ = some (r, cd, p₂) → p₁ = p₂

def SignInv (s : NodeState) : Prop := SInv s.out s.lss

theorem SInv.nil : SInv [] none := ⟨by simp, by simp⟩

theorem Covered.refl (k : Nat × Nat × Payload) : Covered k k := .inr ⟨rfl, .inr ⟨rfl, rfl⟩⟩

theorem Covered.trans {k l m : Nat × Nat × Payload} (h₁ : Covered k l) (h₂ : Covered l m) : Covered k m := by
  unfold Covered at *
  rcases h₂ with g | ⟨g, g' | ⟨g', e⟩⟩
  · omega
  · omega
  · rw [← g, ← g', ← e]; exact h₁

theorem Covered.payload_eq {r cd : Nat} {q p : Payload} (h : Covered (r, cd, q) (r, cd, p)) : q = p := by
  simpa [Covered] using h

/-- The last-sign state may move up in the order `Covered`; an appended signature must be the new last-sign
state. Then the new state covers every key, and a key equal to the new one up to payload has its payload. -/
theorem SInv.push {out lss lss'} (h : SInv out lss) (o : Output)
    (hl : ∀ l, lss = some l → ∃ l', lss' = some l' ∧ Covered l l')
    (ho : ∀ k, sigKey o = some k → lss' = some k) : SInv (out ++ [o]) lss' := by
  have bound : ∀ o' ∈ out ++ [o], ∀ k, sigKey o' = some k → ∃ l, lss' = some l ∧ Covered k l := by
    intro o' ho' k hk
    rcases List.mem_append.1 ho' with h1 | h1
    · obtain ⟨l, e, hkl⟩ := h.bound o' h1 k hk
      obtain ⟨l', e', hll⟩ := hl l e
      exact ⟨l', e', hkl.trans hll⟩
    · cases List.mem_singleton.1 h1
      exact ⟨k, ho k hk, .refl k⟩
  have mixed : ∀ o' ∈ out ++ [o], ∀ r cd q p, sigKey o' = some (r, cd, q) → sigKey o = some (r, cd, p) → q = p := by
    intro o' ho' r cd q p hq hp
    obtain ⟨l, e, hcov⟩ := bound o' ho' _ hq
    cases (ho _ hp).symm.trans e
    exact hcov.payload_eq
  refine ⟨bound, fun o₁ h₁ o₂ h₂ r cd p₁ p₂ k₁ k₂ => ?_⟩
  rcases List.mem_append.1 h₂ with b | b
  · rcases List.mem_append.1 h₁ with a | a
    · exact h.uniq o₁ a o₂ b r cd p₁ p₂ k₁ k₂
    · cases List.mem_singleton.1 a
      exact (mixed o₂ h₂ r cd p₂ p₁ k₂ k₁).symm
  · cases List.mem_singleton.1 b
    exact mixed o₁ h₁ r cd p₁ p₂ k₁ k₂

/-- appending an output that is not a signature keeps the invariant -/
theorem SInv.push_other {out lss} (h : SInv out lss) (o : Output) (ho : sigKey o = none) :
    SInv (out ++ [o]) lss :=
  h.push o (fun l e => ⟨l, e, .refl l⟩) (fun k hk => by rw [ho] at hk; cases hk)

/-- what an accepting `sign` does -/
theorem sign_some {c : Cfg} (hc : c.checkHRS = true) {s s' : NodeState} {round code : Nat} {p : Payload}
    (hs : sign c s round code p = some s') :
    (s' = s ∧ s.lss = some (round, code, p)) ∨
    (s' = { s with lss := some (round, code, p) } ∧
      (s.lss = none ∨ ∃ lr lc lp, s.lss = some (lr, lc, lp) ∧ (lr < round ∨ (lr = round ∧ lc < code)))) := by
  unfold sign at hs
  simp only [hc, Bool.not_true, Bool.false_eq_true, if_false] at hs
  cases hl : s.lss with
  | none => rw [hl] at hs; cases hs; exact .inr ⟨rfl, .inl rfl⟩
  | some l =>
    obtain ⟨lr, lc, lp⟩ := l
    rw [hl] at hs
    dsimp only at hs
    -- CheckHRS: round regression, step regression, same HRS (same data or refusal), else a later HRS
    by_cases h1 : lr > round
    · rw [if_pos h1] at hs; cases hs
    rw [if_neg h1] at hs
    by_cases h2 : lr = round
    · rw [if_pos h2] at hs
      by_cases h3 : lc > code
      · rw [if_pos h3] at hs; cases hs
      rw [if_neg h3] at hs
      by_cases h4 : lc = code
      · rw [if_pos h4] at hs
        by_cases h5 : lp = p
        · rw [if_pos h5] at hs; cases hs
          exact .inl ⟨rfl, by rw [h2, h4, h5]⟩
        · rw [if_neg h5] at hs; cases hs
      · rw [if_neg h4] at hs; cases hs
        exact .inr ⟨rfl, .inr ⟨lr, lc, lp, rfl, .inr ⟨h2, by omega⟩⟩⟩
    · rw [if_neg h2] at hs; cases hs
      exact .inr ⟨rfl, .inr ⟨lr, lc, lp, rfl, .inl (by omega)⟩⟩

theorem sign_none {c : Cfg} (hc : c.checkHRS = true) {s : NodeState} {round code : Nat}
    {p : Payload} (hn : sign c s round code p = none) :
    ∃ lr lc lp, s.lss = some (lr, lc, lp) ∧
      ((round < lr ∨ (round = lr ∧ code < lc)) ∨ (lr = round ∧ lc = code ∧ lp ≠ p)) := by
  unfold sign at hn
  simp only [hc, Bool.not_true, Bool.false_eq_true, if_false] at hn
  split at hn
  · cases hn
  · rename_i lr lc lp hl
    refine ⟨lr, lc, lp, hl, ?_⟩
    by_cases h1 : lr > round
    · exact Or.inl (Or.inl h1)
    rw [if_neg h1] at hn
    by_cases h2 : lr = round
    · rw [if_pos h2] at hn
      by_cases h3 : lc > code
      · exact Or.inl (Or.inr ⟨h2.symm, h3⟩)
      rw [if_neg h3] at hn
      by_cases h4 : lc = code
      · rw [if_pos h4] at hn
        by_cases h5 : lp = p
        · rw [if_pos h5] at hn; cases hn
        · exact Or.inr ⟨h2, h4, h5⟩
      · rw [if_neg h4] at hn; cases hn
    · rw [if_neg h2] at hn; cases hn

/-- an accepting `sign` leaves `(round, code, p)` as the last-sign state, at or above what it was -/
theorem sign_covers {c : Cfg} (hc : c.checkHRS = true) {s s' : NodeState} {round code : Nat} {p : Payload}
    (hs : sign c s round code p = some s') :
    s'.out = s.out ∧ s'.lss = some (round, code, p) ∧ ∀ l, s.lss = some l → Covered l (round, code, p) := by
  rcases sign_some hc hs with ⟨rfl, hl⟩ | ⟨rfl, hl⟩
  · exact ⟨rfl, hl, fun l e => by cases hl.symm.trans e; exact .refl _⟩
  · refine ⟨rfl, rfl, fun l e => ?_⟩
    rcases hl with hn | ⟨lr, lc, lp, hl, hlt⟩
    · cases hn.symm.trans e
    · cases hl.symm.trans e
      exact hlt.imp_right fun h => ⟨h.1, .inl h.2⟩

theorem SInv.push_signed {c : Cfg} (hc : c.checkHRS = true) {s s' : NodeState} {round code : Nat} {p : Payload}
    (h : SInv s.out s.lss) (hs : sign c s round code p = some s') (o : Output)
    (ho : sigKey o = some (round, code, p)) :
    SInv (s'.out ++ [o]) s'.lss := by
  obtain ⟨eo, el, hcov⟩ := sign_covers hc hs
  rw [eo, el]
  exact h.push o (fun l e => ⟨_, rfl, hcov l e⟩) (fun k hk => by rw [← ho, hk])

end Tmv.Cons
