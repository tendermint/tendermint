import Tmv.Model.Merkle
/-! The RFC-6962 tree by cases: what `rootF` and `fromAunts` compute and which byte strings they pass
to `H`. Soundness statements exhibit a collision between two strings that were *actually hashed*
in the run: for a fixed-length `H` some collision exists by counting, so "claim ∨ a collision exists"
would be classically trivial; "claim ∨ a collision among these listed hashed inputs" is not. -/
namespace Tmv.Merkle
variable (H : Bytes → Bytes)

/-- every byte string hashed while computing `rootF fuel items` -/
def rootPre : Nat → List Bytes → List Bytes
  | 0, _ => [[]]
  | fuel+1, items =>
    match items with
    | [] => [[]]
    | [x] => [0 :: x]
    | _ =>
      let k := splitPoint items.length
      (1 :: (rootF H fuel (items.take k) ++ rootF H fuel (items.drop k))) ::
        (rootPre fuel (items.take k) ++ rootPre fuel (items.drop k))

theorem nil_mem_rootPre_nil' (f : Nat) : ([] : Bytes) ∈ rootPre H f [] := by
  cases f <;> simp [rootPre]

theorem nil_mem_rootPre_zero' (xs : List Bytes) : ([] : Bytes) ∈ rootPre H 0 xs := by
  simp [rootPre]

/-- every byte string hashed by `computeHashFromAunts` (inner nodes of the claimed path) -/
def pathPre : Nat → Nat → Nat → Bytes → List Bytes → List Bytes
  | 0, _, _, _, _ => []
  | fuel+1, index, total, lh, aunts =>
    if index ≥ total ∨ total = 0 then []
    else if total = 1 then []
    else
      match aunts.reverse with
      | [] => []
      | last :: restRev =>
        let rest := restRev.reverse
        let nl := splitPoint total
        if index < nl then
          match fromAunts H fuel index nl lh rest with
          | some l => (1 :: (l ++ last)) :: pathPre fuel index nl lh rest
          | none => pathPre fuel index nl lh rest
        else
          match fromAunts H fuel (index - nl) (total - nl) lh rest with
          | some r => (1 :: (last ++ r)) :: pathPre fuel (index - nl) (total - nl) lh rest
          | none => pathPre fuel (index - nl) (total - nl) lh rest

def CollisionIn (as bs : List Bytes) : Prop :=
  ∃ a b, a ∈ as ∧ b ∈ bs ∧ a ≠ b ∧ H a = H b

theorem CollisionIn.mono {as bs as' bs' : List Bytes} (h : CollisionIn H as bs)
    (ha : ∀ x ∈ as, x ∈ as') (hb : ∀ x ∈ bs, x ∈ bs') : CollisionIn H as' bs' := by
  obtain ⟨a, b, h1, h2, h3, h4⟩ := h
  exact ⟨a, b, ha a h1, hb b h2, h3, h4⟩

theorem CollisionIn.toCollision {as bs : List Bytes} (h : CollisionIn H as bs) :
    Nonempty (Collision H) := by
  obtain ⟨a, b, _, _, h3, h4⟩ := h
  exact ⟨⟨a, b, h3, h4⟩⟩

theorem splitPoint_spec {n : Nat} (h : 2 ≤ n) : ∃ j, splitPoint n = 2 ^ j ∧ 2 ^ j < n ∧ n ≤ 2 ^ (j + 1) := by
  have hlt : n < 2 ^ (Nat.log2 n + 1) := Nat.lt_log2_self
  have hle : 2 ^ Nat.log2 n ≤ n := Nat.log2_self_le (by omega)
  unfold splitPoint
  simp only
  split
  · rename_i heq
    obtain ⟨j, hj⟩ : ∃ j, Nat.log2 n = j + 1 := by
      cases hl : Nat.log2 n with
      | zero => rw [hl] at heq; omega
      | succ j => exact ⟨j, rfl⟩
    rw [hj, Nat.pow_succ] at heq ⊢
    have : 0 < 2 ^ j := Nat.pow_pos (by decide)
    exact ⟨j, by omega, by omega, by rw [Nat.pow_succ]; omega⟩
  · exact ⟨Nat.log2 n, rfl, by omega, by omega⟩

theorem splitPoint_lt {n : Nat} (h : 2 ≤ n) : 0 < splitPoint n ∧ splitPoint n < n := by
  obtain ⟨j, hj, h1, _⟩ := splitPoint_spec h
  rw [hj]
  exact ⟨Nat.pow_pos (by decide), h1⟩

theorem rootF_cases (fuel : Nat) (items : List Bytes) :
    ((fuel = 0 ∨ items = []) ∧ rootF H fuel items = H [] ∧ rootPre H fuel items = [[]]) ∨
    (∃ x, fuel ≠ 0 ∧ items = [x] ∧ rootF H fuel items = H (0 :: x) ∧ rootPre H fuel items = [0 :: x]) ∨
    (∃ f k, fuel = f + 1 ∧ k = splitPoint items.length ∧ 0 < k ∧ k < items.length ∧
      rootF H fuel items = H (1 :: (rootF H f (items.take k) ++ rootF H f (items.drop k))) ∧
      rootPre H fuel items = (1 :: (rootF H f (items.take k) ++ rootF H f (items.drop k))) ::
        (rootPre H f (items.take k) ++ rootPre H f (items.drop k))) := by
  match fuel, items with
  | 0, _ => exact Or.inl ⟨Or.inl rfl, rfl, rfl⟩
  | f+1, [] => exact Or.inl ⟨Or.inr rfl, rfl, rfl⟩
  | f+1, [x] => exact Or.inr (Or.inl ⟨x, Nat.succ_ne_zero f, rfl, rfl, rfl⟩)
  | f+1, a :: b :: c =>
    obtain ⟨h0, h1⟩ := splitPoint_lt (n := (a :: b :: c).length) (by simp)
    exact Or.inr (Or.inr ⟨f, _, rfl, rfl, h0, h1, rfl, rfl⟩)

theorem rootF_len (L : Nat) (hlen : ∀ x, (H x).length = L) (fuel : Nat) (items : List Bytes) :
    (rootF H fuel items).length = L := by
  rcases rootF_cases H fuel items with ⟨_, h, _⟩ | ⟨_, _, _, h, _⟩ | ⟨_, _, _, _, _, _, h, _⟩
  all_goals rw [h]; exact hlen _

theorem rootF_fuel : ∀ (f g : Nat) (items : List Bytes), items.length ≤ f → items.length ≤ g →
    rootF H f items = rootF H g items ∧ rootPre H f items = rootPre H g items
  | 0, 0, _, _, _ => ⟨rfl, rfl⟩
  | 0, _+1, [], _, _ => ⟨rfl, rfl⟩
  | _+1, 0, [], _, _ => ⟨rfl, rfl⟩
  | _+1, _+1, [], _, _ => ⟨rfl, rfl⟩
  | _+1, _+1, [_], _, _ => ⟨rfl, rfl⟩
  | f+1, g+1, a :: b :: c, hf, hg => by
    obtain ⟨_, h1⟩ := splitPoint_lt (n := (a :: b :: c).length) (by simp)
    have ht := rootF_fuel f g ((a :: b :: c).take (splitPoint (a :: b :: c).length))
      (by rw [List.length_take]; omega) (by rw [List.length_take]; omega)
    have hd := rootF_fuel f g ((a :: b :: c).drop (splitPoint (a :: b :: c).length))
      (by rw [List.length_drop]; omega) (by rw [List.length_drop]; omega)
    simp only [rootF, rootPre, ht.1, ht.2, hd.1, hd.2, and_self]
  | 0, _+1, _ :: _, hf, _ => absurd hf (by simp)
  | _+1, 0, _ :: _, _, hg => absurd hg (by simp)

theorem rootF_node (f : Nat) {items : List Bytes} (h : 2 ≤ items.length) :
    rootF H (f + 1) items = innerHash H (rootF H f (items.take (splitPoint items.length)))
      (rootF H f (items.drop (splitPoint items.length))) := by
  match items, h with
  | _ :: _ :: _, _ => rfl

theorem auntsF_node (f : Nat) {items : List Bytes} (h : 2 ≤ items.length) (i : Nat) :
    auntsF H (f + 1) items i =
      if i < splitPoint items.length then
        auntsF H f (items.take (splitPoint items.length)) i ++ [rootF H f (items.drop (splitPoint items.length))]
      else auntsF H f (items.drop (splitPoint items.length)) (i - splitPoint items.length)
             ++ [rootF H f (items.take (splitPoint items.length))] := by
  match items, h with
  | _ :: _ :: _, _ => rfl

theorem auntsF_leaf (fuel : Nat) {items : List Bytes} (h : items.length < 2) (i : Nat) :
    auntsF H fuel items i = [] := by
  match fuel, items, h with
  | 0, _, _ => rfl
  | _+1, [], _ => rfl
  | _+1, [_], _ => rfl
  | _+1, _ :: _ :: _, h => exact absurd h (by simp)

theorem fromAunts_cases {g idx total : Nat} {lh out : Bytes} {aunts : List Bytes}
    (h : fromAunts H g idx total lh aunts = some out) :
    (total = 1 ∧ idx = 0 ∧ aunts = [] ∧ out = lh ∧ pathPre H g idx total lh aunts = []) ∨
    (∃ f rest last sub, g = f + 1 ∧ 2 ≤ total ∧ idx < total ∧ aunts = rest ++ [last] ∧
      ((idx < splitPoint total ∧ fromAunts H f idx (splitPoint total) lh rest = some sub ∧
          out = H (1 :: (sub ++ last)) ∧
          pathPre H g idx total lh aunts =
            (1 :: (sub ++ last)) :: pathPre H f idx (splitPoint total) lh rest) ∨
       (splitPoint total ≤ idx ∧
          fromAunts H f (idx - splitPoint total) (total - splitPoint total) lh rest = some sub ∧
          out = H (1 :: (last ++ sub)) ∧
          pathPre H g idx total lh aunts =
            (1 :: (last ++ sub)) ::
              pathPre H f (idx - splitPoint total) (total - splitPoint total) lh rest))) := by
  cases g with
  | zero => cases h
  | succ f =>
    rw [fromAunts] at h
    rw [pathPre]
    by_cases h0 : idx ≥ total ∨ total = 0
    · rw [if_pos h0] at h; cases h
    rw [if_neg h0] at h ⊢
    by_cases h1 : total = 1
    · rw [if_pos h1] at h ⊢
      by_cases ha : aunts = []
      · rw [if_pos ha] at h
        exact Or.inl ⟨h1, by omega, ha, (Option.some.inj h).symm, rfl⟩
      · rw [if_neg ha] at h; cases h
    rw [if_neg h1] at h ⊢
    rcases List.eq_nil_or_concat aunts with rfl | ⟨rest, last, rfl⟩
    · cases h
    have hrev : (rest.concat last).reverse = last :: rest.reverse := by simp
    rw [hrev] at h ⊢
    simp only [List.reverse_reverse] at h ⊢
    right
    by_cases hlt : idx < splitPoint total
    · rw [if_pos hlt] at h ⊢
      obtain ⟨sub, hs, rfl⟩ := Option.map_eq_some_iff.mp h
      rw [hs]
      exact ⟨f, rest, last, sub, rfl, by omega, by omega, by simp, Or.inl ⟨hlt, hs, rfl, rfl⟩⟩
    · rw [if_neg hlt] at h ⊢
      obtain ⟨sub, hs, rfl⟩ := Option.map_eq_some_iff.mp h
      rw [hs]
      exact ⟨f, rest, last, sub, rfl, by omega, by omega, by simp, Or.inr ⟨by omega, hs, rfl, rfl⟩⟩

theorem fromAunts_len (L : Nat) (hlen : ∀ x, (H x).length = L) {fuel idx total : Nat} {lh out : Bytes}
    {aunts : List Bytes} (hl : lh.length = L) (h : fromAunts H fuel idx total lh aunts = some out) :
    out.length = L := by
  rcases fromAunts_cases H h with ⟨_, _, _, rfl, _⟩ |
    ⟨_, _, _, _, _, _, _, _, ⟨_, _, rfl, _⟩ | ⟨_, _, rfl, _⟩⟩
  · exact hl
  · exact hlen _
  · exact hlen _

theorem computeRoot_eq_some {p : Proof} {r : Bytes} :
    computeRoot H p = some r ↔ 0 ≤ p.index ∧ 0 < p.total ∧
      fromAunts H p.total.toNat p.index.toNat p.total.toNat p.leafHash p.aunts = some r := by
  unfold computeRoot
  by_cases h : p.index < 0 ∨ p.total ≤ 0
  · rw [if_pos h]
    constructor
    · intro e; cases e
    · intro e; omega
  · rw [if_neg h]
    constructor
    · intro e; exact ⟨by omega, by omega, e⟩
    · intro e; exact e.2.2

theorem verify_ok {r leaf : Bytes} {p : Proof} :
    verify H r leaf p = .ok () ↔ p.leafHash = leafHash H leaf ∧ computeRoot H p = some r := by
  unfold verify
  by_cases h1 : p.total < 0
  · have : computeRoot H p ≠ some r := fun e => by have := (computeRoot_eq_some H).mp e; omega
    simp [h1, this]
  by_cases h2 : p.index < 0
  · have : computeRoot H p ≠ some r := fun e => by have := (computeRoot_eq_some H).mp e; omega
    simp [h1, h2, this]
  by_cases h3 : p.leafHash = leafHash H leaf
  · rw [if_neg h1, if_neg h2, if_neg (fun hn => hn h3)]
    cases computeRoot H p with
    | none => simp
    | some h => by_cases e : h = r <;> simp [e, h3]
  · simp [h1, h2, h3]

end Tmv.Merkle
