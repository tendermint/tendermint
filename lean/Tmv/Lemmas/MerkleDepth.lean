import Tmv.Lemmas.Merkle
/-! The aunts list of an honest proof is short: at most `d` aunts for a tree of at most `2 ^ d` leaves
(`MaxAunts` is 100: up to 2^100 leaves) — honest proofs pass `Proof.ValidateBasic`. -/
namespace Tmv.Merkle
variable (H : Bytes → Bytes)

/-- With less fuel the path is cut short, never longer: no hypothesis on `fuel`. -/
theorem auntsF_length_le (fuel : Nat) : ∀ (items : List Bytes) (i d : Nat), items.length ≤ 2 ^ d →
    (auntsF H fuel items i).length ≤ d := by
  induction fuel with
  | zero => exact fun _ _ _ _ => Nat.zero_le _
  | succ f ih =>
    intro items i d hd
    by_cases h2 : 2 ≤ items.length
    · -- both halves have at most `2 ^ j` leaves, and `2 ^ j < items.length ≤ 2 ^ d`
      obtain ⟨j, hj, hlt, hle⟩ := splitPoint_spec h2
      obtain ⟨e, rfl⟩ : ∃ e, d = e + 1 := Nat.exists_eq_succ_of_ne_zero (by rintro rfl; omega)
      have hje : 2 ^ j ≤ 2 ^ e := Nat.pow_le_pow_right (by decide) (Nat.lt_succ_iff.mp
        ((Nat.pow_lt_pow_iff_right (by decide : 1 < 2)).mp (Nat.lt_of_lt_of_le hlt hd)))
      rw [Nat.pow_succ] at hle
      rw [auntsF_node H f h2, hj]
      split
      · rw [List.length_append]
        exact Nat.succ_le_succ (ih _ _ e (by rw [List.length_take]; omega))
      · rw [List.length_append]
        exact Nat.succ_le_succ (ih _ _ e (by rw [List.length_drop]; omega))
    · rw [auntsF_leaf H _ (by omega)]; exact Nat.zero_le _
theorem aunts_len_hash (L : Nat) (hlen : ∀ x, (H x).length = L) :
    ∀ (fuel : Nat) (items : List Bytes) (i : Nat), ∀ a ∈ auntsF H fuel items i, a.length = L := by
  intro fuel
  induction fuel with
  | zero => intro items i a ha; cases ha
  | succ f ih =>
    intro items i a ha
    by_cases h2 : 2 ≤ items.length
    · rw [auntsF_node H f h2] at ha
      split at ha
      all_goals
        rcases List.mem_append.mp ha with ha | ha
        · exact ih _ _ a ha
        · rw [List.mem_singleton.mp ha]; exact rootF_len H L hlen _ _
    · rw [auntsF_leaf H _ (by omega)] at ha
      cases ha

end Tmv.Merkle
