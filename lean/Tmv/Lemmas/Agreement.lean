import Tmv.Model.VoteLog
/-! The abstract argument of C01 on a vote log alone (no node model): in a `Behaved` log with less than one
third of the power faulty at most one block is `decidable`, from `quorum_intersection`
and `locked_quorum_stays`. Of `Behaved` the argument uses `onePrecommit`, `justified` and `lockRule`; `order` is
not needed for it (the lift proves it all the same). Core Lean only. -/
namespace Tmv.VoteLog

theorem wtUpTo_inter (power : Nat → Nat) (p q : Nat → Bool) (k : Nat) :
    wtUpTo power p k + wtUpTo power q k ≤
      wtUpTo power (fun _ => true) k + wtUpTo power (fun v => p v && q v) k := by
  induction k with
  | zero => simp [wtUpTo]
  | succ k ih =>
    simp only [wtUpTo]
    by_cases hp : p k = true <;> by_cases hq : q k = true <;> simp [hp, hq] <;> omega

theorem wtUpTo_split (power : Nat → Nat) (p f : Nat → Bool) (k : Nat) :
    wtUpTo power p k ≤ wtUpTo power (fun v => p v && !f v) k + wtUpTo power f k := by
  induction k with
  | zero => simp [wtUpTo]
  | succ k ih =>
    simp only [wtUpTo]
    by_cases hp : p k = true <;> by_cases hf : f k = true <;> simp [hp, hf] <;> omega

theorem wtUpTo_mono (power : Nat → Nat) (p q : Nat → Bool) (n : Nat) (h : ∀ v, p v = true → q v = true) :
    wtUpTo power p n ≤ wtUpTo power q n := by
  induction n with
  | zero => exact Nat.le_refl _
  | succ n ih =>
    unfold wtUpTo
    cases hp : p n with
    | false => simp only [Bool.false_eq_true, if_false]; omega
    | true => rw [h n hp]; simp only [if_true]; omega

theorem wtUpTo_pos (power : Nat → Nat) (p : Nat → Bool) (k : Nat)
    (h : 0 < wtUpTo power p k) : ∃ v, v < k ∧ p v = true := by
  induction k with
  | zero => simp [wtUpTo] at h
  | succ k ih =>
    simp only [wtUpTo] at h
    by_cases hp : p k = true
    · exact ⟨k, by omega, hp⟩
    · simp [hp] at h
      obtain ⟨v, hv, hpv⟩ := ih h
      exact ⟨v, by omega, hpv⟩

/-- Two sets each holding more than two thirds of the power share a validator outside any set
holding less than one third. -/
theorem quorum_intersection (P : Powers) (p q f : Nat → Bool)
    (hp : 3 * P.wt p > 2 * P.total) (hq : 3 * P.wt q > 2 * P.total)
    (hf : 3 * P.wt f < P.total) :
    ∃ v, v < P.n ∧ p v = true ∧ q v = true ∧ f v = false := by
  have h1 := wtUpTo_inter P.power p q P.n
  have h2 := wtUpTo_split P.power (fun v => p v && q v) f P.n
  unfold Powers.wt Powers.total Powers.wt at *
  have : 0 < wtUpTo P.power (fun v => (p v && q v) && !f v) P.n := by omega
  obtain ⟨v, hv, hpv⟩ := wtUpTo_pos _ _ _ this
  simp at hpv
  exact ⟨v, hv, hpv.1.1, hpv.1.2, hpv.2⟩

theorem voted_iff (log : Log) (pc : Bool) (r : Nat) (x : Option Nat) (v : Nat) :
    voted log pc r x v = true ↔
      ∃ i, ∃ hi : i < log.length, log[i].sender = v ∧ log[i].isPrecommit = pc ∧
        log[i].round = r ∧ log[i].value = x := by
  unfold voted
  rw [List.any_eq_true]
  constructor
  · rintro ⟨m, hm, hc⟩
    obtain ⟨i, hi, rfl⟩ := List.getElem_of_mem hm
    simp at hc
    exact ⟨i, hi, hc.1.1.1, hc.1.1.2, hc.1.2, hc.2⟩
  · rintro ⟨i, hi, h1, h2, h3, h4⟩
    exact ⟨log[i], List.getElem_mem hi, by simp [h1, h2, h3, h4]⟩

theorem voted_append (L L' : Log) (pc : Bool) (r : Nat) (x : Option Nat) (v : Nat) :
    voted (L ++ L') pc r x v = (voted L pc r x v || voted L' pc r x v) := by
  unfold voted; exact List.any_append

theorem voted_append_left (L L' : Log) (pc : Bool) (r : Nat) (x : Option Nat) (v : Nat)
    (h : voted L pc r x v = true) : voted (L ++ L') pc r x v = true := by
  rw [voted_append, h]; rfl

theorem voted_of_mem (L : Log) (m : VoteMsg) (h : m ∈ L) : voted L m.isPrecommit m.round m.value m.sender = true := by
  unfold voted; rw [List.any_eq_true]; exact ⟨m, h, by simp⟩

theorem voted_take (log : Log) (k : Nat) (pc : Bool) (r : Nat) (x : Option Nat) (v : Nat)
    (h : voted (log.take k) pc r x v = true) :
    ∃ i, ∃ hi : i < log.length, i < k ∧ log[i].sender = v ∧ log[i].isPrecommit = pc ∧
        log[i].round = r ∧ log[i].value = x := by
  obtain ⟨i, hi, h1, h2, h3, h4⟩ := (voted_iff _ _ _ _ _).mp h
  have hi' : i < k ∧ i < log.length := by
    have := hi; simp only [List.length_take] at this; omega
  simp only [List.getElem_take] at h1 h2 h3 h4
  exact ⟨i, hi'.2, hi'.1, h1, h2, h3, h4⟩

/-- Core of the safety argument: once more than two thirds precommitted `b` in round `r`, no
correct member of that quorum ever prevotes anything else in a later round. Induction on the log
position of the offending prevote ("first in time"). -/
theorem locked_quorum_stays (P : Powers) (faulty : Nat → Bool) (log : Log)
    (hb : Behaved P faulty log) (hf : 3 * P.wt faulty < P.total)
    (r b : Nat) (hdec : decidable P log r b) :
    ∀ j (hj : j < log.length), faulty log[j].sender = false →
      voted log true r (some b) log[j].sender = true → log[j].isPrecommit = false →
      r < log[j].round → log[j].value = some b := by
  intro j
  induction j using Nat.strongRecOn with
  | ind j ih =>
    intro hj hcor hq hpv hr
    apply Classical.byContradiction
    intro hne
    obtain ⟨i, hi, hs, hpc, hri, hvi⟩ := (voted_iff _ _ _ _ _).mp hq
    have hlr := hb.lockRule i j hi hj b (by rw [hs]; exact hcor) hs hpc hvi hpv (by rw [hri]; exact hr) hne
    obtain ⟨r'', y, hr1, _, hy, hpolka⟩ := hlr
    obtain ⟨v, _, hv1, hv2, hv3⟩ := quorum_intersection P _ _ faulty hpolka hdec hf
    obtain ⟨j', hj', hlt, h1, h2, h3, h4⟩ := voted_take _ _ _ _ _ _ hv1
    have := ih j' hlt hj' (by rw [h1]; exact hv3) (by rw [h1]; exact hv2) h2 (by rw [h3, ← hri]; exact hr1)
    rw [h4] at this
    exact hy this

theorem agreement_le (P : Powers) (faulty : Nat → Bool) (log : Log)
    (hb : Behaved P faulty log) (hf : 3 * P.wt faulty < P.total)
    (r b r' b' : Nat) (hle : r ≤ r')
    (h1 : decidable P log r b) (h2 : decidable P log r' b') : b = b' := by
  rcases Nat.eq_or_lt_of_le hle with heq | hlt
  · subst heq
    obtain ⟨v, _, hv1, hv2, hv3⟩ := quorum_intersection P _ _ faulty h1 h2 hf
    obtain ⟨i, hi, a1, a2, a3, a4⟩ := (voted_iff _ _ _ _ _).mp hv1
    obtain ⟨j, hj, b1, b2, b3, b4⟩ := (voted_iff _ _ _ _ _).mp hv2
    have := hb.onePrecommit i j hi hj (by rw [a1]; exact hv3) (by rw [a1, b1]) a2 b2 (by rw [a3, b3])
    rw [a4, b4] at this
    exact Option.some.inj this
  · -- a correct member of the later quorum precommitted b' at r', so a polka (r', b') precedes it
    obtain ⟨v', _, hv1, _, hv3⟩ := quorum_intersection P _ _ faulty h2 h2 hf
    obtain ⟨i', hi', a1, a2, a3, a4⟩ := (voted_iff _ _ _ _ _).mp hv1
    have hpolka := hb.justified i' hi' b' (by rw [a1]; exact hv3) a2 a4
    rw [a3] at hpolka
    obtain ⟨c, _, hc1, hc2, hc3⟩ := quorum_intersection P _ _ faulty hpolka h1 hf
    obtain ⟨j, hj, _, c1, c2, c3, c4⟩ := voted_take _ _ _ _ _ _ hc1
    have := locked_quorum_stays P faulty log hb hf r b h1 j hj (by rw [c1]; exact hc3)
      (by rw [c1]; exact hc2) c2 (by rw [c3]; exact hlt)
    rw [c4] at this
    exact (Option.some.inj this).symm

theorem decidable_unique (P : Powers) (faulty : Nat → Bool) (log : Log)
    (hb : Behaved P faulty log) (hf : 3 * P.wt faulty < P.total) {r b r' b' : Nat}
    (h1 : decidable P log r b) (h2 : decidable P log r' b') : b = b' := by
  rcases Nat.le_total r r' with hle | hle
  · exact agreement_le P faulty log hb hf r b r' b' hle h1 h2
  · exact (agreement_le P faulty log hb hf r' b' r b hle h2 h1).symm

end Tmv.VoteLog
