import Tmv.Lemmas.ConsQuorum
import Tmv.Model.VoteLog
import Tmv.Lemmas.ListFacts
/-! Vote-set membership invariant (C01): every bucket of every vote set lists distinct validators,
its power sum is the sum of their powers, and each listed validator's vote satisfies `E`
(`EL L`, "is in the network log", in NetStep; "was delivered or is the node's own" in ConsDelivered);
and the arithmetic that turns a bucket into a weight (`maj23_weight`). -/
namespace Tmv.Cons

def MSb (c : Cfg) (E : Nat → Bool) (bv : BlockVotes) : Prop :=
  bv.voted.Nodup ∧ bv.sum = (bv.voted.map c.power).sum ∧ ∀ v ∈ bv.voted, v < c.n ∧ E v = true

def MSv (c : Cfg) (E : Bid → Nat → Bool) (vs : VoteSet) : Prop :=
  ∀ key bv, alookup vs.byBlock key = some bv → MSb c (E key) bv

def MSh (c : Cfg) (E : VType → Int → Bid → Nat → Bool) (h : HVS) : Prop :=
  ∀ r rvs, h.getRound r = some rvs → MSv c (E .prevote r) rvs.prevotes ∧ MSv c (E .precommit r) rvs.precommits

theorem MSb.nil (c : Cfg) (E : Nat → Bool) (b : Bool) : MSb c E ⟨b, [], 0⟩ := by
  refine ⟨List.nodup_nil, rfl, ?_⟩
  intro v hv; cases hv

theorem MSv.empty (c : Cfg) (E : Bid → Nat → Bool) : MSv c E VoteSet.empty := by
  intro key bv h; simp [VoteSet.empty, alookup] at h

theorem MSb.add (c : Cfg) (E : Nat → Bool) (bv : BlockVotes) (idx : Nat) (hm : MSb c E bv)
    (hi : idx < c.n) (he : E idx = true) : MSb c E (bv.add idx (c.power idx)) := by
  unfold BlockVotes.add
  split
  · exact hm
  · rename_i hc
    obtain ⟨h1, h2, h3⟩ := hm
    have hni : idx ∉ bv.voted := by simpa using hc
    refine ⟨?_, ?_, ?_⟩
    · exact nodup_concat h1 hni
    · show bv.sum + c.power idx = ((bv.voted ++ [idx]).map c.power).sum
      rw [List.map_append, List.sum_append, h2]; simp
    · intro v hv
      have hv' : v ∈ bv.voted ++ [idx] := hv
      rw [List.mem_append] at hv'
      rcases hv' with hv' | hv'
      · exact h3 v hv'
      · simp at hv'; subst hv'; exact ⟨hi, he⟩

theorem VoteSet.finish_byBlock (c : Cfg) (vs : VoteSet) (idx : Nat) (key : Bid) (bv : BlockVotes) :
    (VoteSet.finish c vs idx key bv).1.byBlock = aset vs.byBlock key (bv.add idx (c.power idx)) :=
  (VoteSet.finish_cases c vs idx key bv).1

theorem MSv.bucket {c : Cfg} {E : Bid → Nat → Bool} {vs : VoteSet} (hm : MSv c E vs) (key : Bid) :
    MSb c (E key) (vs.bucket key) := by
  unfold VoteSet.bucket
  cases hb : alookup vs.byBlock key with
  | some bv => exact hm key bv hb
  | none => exact MSb.nil c _ false

theorem VoteSet.finish_MS (c : Cfg) (E : Bid → Nat → Bool) (vs : VoteSet) (idx : Nat) (key : Bid) (bv : BlockVotes)
    (hbv : MSb c (E key) bv) (hi : idx < c.n) (he : E key idx = true) (hm : MSv c E vs) :
    MSv c E (VoteSet.finish c vs idx key bv).1 := by
  intro k b hk
  rw [VoteSet.finish_byBlock, alookup_aset] at hk
  by_cases e : k = key
  · subst e
    simp only [if_true] at hk
    cases hk
    exact MSb.add c _ bv idx hbv hi he
  · simp only [e, if_false] at hk
    exact hm k b hk

theorem VoteSet.addVerified_MS (c : Cfg) (E : Bid → Nat → Bool) (vs : VoteSet) (idx : Nat) (key : Bid)
    (hi : idx < c.n) (he : E key idx = true) (hm : MSv c E vs) :
    MSv c E (vs.addVerified c idx key).1 := by
  have h1 : MSv c E (vs.recordVote c idx key) := fun k b hk =>
    hm k b ((VoteSet.recordVote_fields c vs idx key).2 ▸ hk)
  rw [VoteSet.addVerified_eq]
  split
  · exact h1
  · exact VoteSet.finish_MS c E _ idx key _ (hm.bucket key) hi he h1

/-- adding a vote: if it is really added (it passed the identity checks of `VoteSet.addVote`) its validator
must satisfy E -/
theorem VoteSet.addVote_MS' (c : Cfg) (E : Bid → Nat → Bool) (vs : VoteSet) (v : Vote) (hm : MSv c E vs)
    (hv : v.val < c.n → v.sigOK = true → v.addr = v.val → v.signer = v.val → E v.bid v.val = true) :
    MSv c E (vs.addVote c v).1 := by
  rcases VoteSet.addVote_cases c vs v with e | ⟨hlt, ha, _, hs, hk, e⟩
  · rw [e]; exact hm
  · rw [e]; exact VoteSet.addVerified_MS c E vs _ _ hlt (hv hlt hs ha hk) hm

theorem VoteSet.addVote_MS (c : Cfg) (E : Bid → Nat → Bool) (vs : VoteSet) (v : Vote) (hm : MSv c E vs)
    (hv : v.val < c.n → v.sigOK = true → E v.bid v.val = true) : MSv c E (vs.addVote c v).1 :=
  VoteSet.addVote_MS' c E vs v hm fun hlt hs _ _ => hv hlt hs

theorem VoteSet.setPeerMaj23_MS (c : Cfg) (E) (vs : VoteSet) (peer : Peer) (key : Bid) (hm : MSv c E vs) :
    MSv c E (vs.setPeerMaj23 peer key) := by
  intro k b hk
  have e := VoteSet.bucket_setPeerMaj23 vs peer key k
  rw [VoteSet.bucket_of_some hk] at e
  have := hm.bucket k
  unfold MSb at this ⊢
  rw [e.1, e.2]; exact this

theorem MSb.mono {c : Cfg} {E E' : Nat → Bool} {bv : BlockVotes}
    (hE : ∀ v, E v = true → E' v = true) (hm : MSb c E bv) : MSb c E' bv :=
  ⟨hm.1, hm.2.1, fun v hv => ⟨(hm.2.2 v hv).1, hE v (hm.2.2 v hv).2⟩⟩

theorem MSv.mono {c : Cfg} {E E' : Bid → Nat → Bool} {vs : VoteSet}
    (hE : ∀ k v, E k v = true → E' k v = true) (hm : MSv c E vs) : MSv c E' vs :=
  fun k b hk => (hm k b hk).mono (hE k)

theorem MSh.mono {c : Cfg} {E E' : VType → Int → Bid → Nat → Bool} {h : HVS}
    (hE : ∀ t r k v, E t r k v = true → E' t r k v = true) (hm : MSh c E h) : MSh c E' h :=
  fun r rvs hr => ⟨(hm r rvs hr).1.mono (hE _ _), (hm r rvs hr).2.mono (hE _ _)⟩

theorem MSh_iff {c : Cfg} {E} {h : HVS} : MSh c E h ↔ HVS.All (fun r t => MSv c (E t r)) h :=
  (HVS.all_iff (P := fun r t => MSv c (E t r))).symm

theorem MSh.init (c : Cfg) (E) : MSh c E HVS.init := MSh_iff.2 (.init fun _ => MSv.empty c _)

theorem MSh.congr_sets {c : Cfg} {E} {a b : HVS} (h : MSh c E a) (e : b.sets = a.sets) : MSh c E b :=
  MSh_iff.2 fun r t vs hg => MSh_iff.1 h r t vs ((getVoteSet_congr_sets e r t).symm.trans hg)

theorem MSh.getVoteSet {c : Cfg} {E} {h : HVS} (hq : MSh c E h) {r : Int} {t : VType} {vs : VoteSet}
    (hg : h.getVoteSet r t = some vs) : MSv c (E t r) vs := MSh_iff.1 hq r t vs hg

theorem MSv.kept (c : Cfg) (E : Bid → Nat → Bool) :
    VoteSet.Kept c (fun v => v.val < c.n → v.sigOK = true → v.addr = v.val → v.signer = v.val → E v.bid v.val = true)
      (MSv c E) :=
  ⟨MSv.empty c E, fun vs v hv hm => VoteSet.addVote_MS' c E vs v hm hv, fun vs p k => VoteSet.setPeerMaj23_MS c E vs p k⟩

theorem MSh.ext {c : Cfg} {A : Int → VType → Vote → Prop} {E : VType → Int → Bid → Nat → Bool} {a b : HVS}
    (hx : HExt c A a b)
    (hA : ∀ r t v, A r t v → v.val < c.n → v.sigOK = true → v.addr = v.val → v.signer = v.val → E t r v.bid v.val = true)
    (hm : MSh c E a) : MSh c E b :=
  MSh_iff.2 ((hx.mono hA).all (fun r t => MSv.kept c (E t r)) (MSh_iff.1 hm))

theorem HVS.addRound_MS (c : Cfg) (E) (h : HVS) (r : Int) (hq : MSh c E h) : MSh c E (h.addRound r) :=
  .ext (HExt.addRound c (fun _ _ _ => False) h r) (fun _ _ _ => nofun) hq

theorem HVS.putVoteSet_MS (c : Cfg) (E) (h : HVS) (r : Int) (t : VType) (vs : VoteSet)
    (hvs : MSv c (E t r) vs) (hq : MSh c E h) :
    MSh c E (h.putVoteSet r t vs) := by
  rw [MSh_iff] at hq ⊢
  intro r' t' vs' hv
  rw [HVS.putVoteSet_getVoteSet] at hv
  split at hv
  · rename_i e
    obtain ⟨rfl, rfl⟩ := e
    cases hg : h.getVoteSet r' t' with
    | none => rw [hg] at hv; cases hv
    | some old => rw [hg] at hv; cases hv; exact hvs
  · exact hq r' t' vs' hv

theorem HVS.addVote_MS (c : Cfg) (E : VType → Int → Bid → Nat → Bool) (h : HVS) (v : Vote) (peer : Peer)
    (hm : MSh c E h) (hv : v.val < c.n → v.sigOK = true → E v.typ (v.round : Int) v.bid v.val = true) :
    MSh c E (h.addVote c v peer).1 :=
  .ext (HExt.addVote c (fun r t w => (w.round : Int) = r ∧ w.typ = t ∧ w = v) h v peer ⟨rfl, rfl, rfl⟩)
    (fun _ _ _ ⟨e1, e2, e3⟩ => by subst e3; subst e1; subst e2; exact fun hlt hs _ _ => hv hlt hs) hm

theorem HVS.setPeerMaj23_MS (c : Cfg) (E) (h : HVS) (r : Nat) (t : VType) (peer : Peer) (key : Bid)
    (hm : MSh c E h) : MSh c E (h.setPeerMaj23 r t peer key) :=
  .ext (HExt.setPeerMaj23 c (fun _ _ _ => False) h r t peer key) (fun _ _ _ => nofun) hm

theorem HVS.setRound_MS (c : Cfg) (E) (h h' : HVS) (round : Int) (hs : h.setRound round = some h')
    (hm : MSh c E h) : MSh c E h' :=
  .ext (HExt.setRound c (fun _ _ _ => False) h h' round hs) (fun _ _ _ => nofun) hm

theorem sum_map_perm (f : Nat → Nat) {l l' : List Nat} (hp : l.Perm l') : (l.map f).sum = (l'.map f).sum :=
  (hp.map f).sum_nat

/-- the arithmetic: distinct members below n that all satisfy p weigh at most the weight of p -/
theorem sum_le_wtUpTo (power : Nat → Nat) (p : Nat → Bool) (n : Nat) (l : List Nat) (hn : l.Nodup)
    (hl : ∀ v ∈ l, v < n ∧ p v = true) : (l.map power).sum ≤ VoteLog.wtUpTo power p n := by
  induction n generalizing l with
  | zero =>
    cases l with
    | nil => simp [VoteLog.wtUpTo]
    | cons a l => have := (hl a (List.mem_cons_self ..)).1; omega
  | succ n ih =>
    unfold VoteLog.wtUpTo
    by_cases hmem : n ∈ l
    · have hperm := List.perm_cons_erase hmem
      rw [sum_map_perm power hperm]
      have hpn : p n = true := (hl n hmem).2
      have hne : (l.erase n).Nodup := hn.erase n
      have := ih (l.erase n) hne (by
        intro v hv
        have hvl : v ∈ l := List.mem_of_mem_erase hv
        have hvn : v ≠ n := by
          intro e; subst e
          exact (List.Nodup.not_mem_erase hn) hv
        have := hl v hvl
        exact ⟨by omega, this.2⟩)
      simp only [List.map_cons, List.sum_cons, hpn, if_true]
      omega
    · have := ih l hn (by
        intro v hv
        have h2 := hl v hv
        have hvn : v ≠ n := by intro e; subst e; exact hmem hv
        exact ⟨by omega, h2.2⟩)
      omega

theorem MSv.blockSum_le {c : Cfg} {E : Bid → Nat → Bool} {vs : VoteSet} (hms : MSv c E vs) (key : Bid) (p : Nat → Bool)
    (hp : ∀ bv, alookup vs.byBlock key = some bv → ∀ v ∈ bv.voted, p v = true) :
    vs.blockSum key ≤ VoteLog.wtUpTo c.power p c.n := by
  unfold VoteSet.blockSum
  cases hl : alookup vs.byBlock key with
  | none => exact Nat.zero_le _
  | some bv =>
    obtain ⟨h1, h2, h3⟩ := hms key bv hl
    show bv.sum ≤ _
    rw [h2]
    exact sum_le_wtUpTo c.power p c.n bv.voted h1 fun v hv => ⟨(h3 v hv).1, hp bv hl v hv⟩

theorem MSh.blockSum_le {c : Cfg} {E} {h : HVS} (hm : MSh c E h) {r : Int} {t : VType} {vs : VoteSet}
    (hg : h.getVoteSet r t = some vs) (key : Bid) :
    vs.blockSum key ≤ VoteLog.wtUpTo c.power (E t r key) c.n :=
  MSv.blockSum_le (hm.getVoteSet hg) key _ fun bv hl v hv => ((hm.getVoteSet hg key bv hl).2.2 v hv).2

/-- a recorded majority is carried by validators whose votes exist according to `E` -/
theorem maj23_weight {c : Cfg} {E} {h : HVS} (hq : QH c h) (hm : MSh c E h) {r : Int} {t : VType} {y : Bid}
    (h1 : maj23Of (h.getVoteSet r t) = some y) :
    2 * c.total < 3 * VoteLog.wtUpTo c.power (E t r y) c.n := by
  cases hv : h.getVoteSet r t with
  | none => rw [hv] at h1; cases h1
  | some vs =>
    rw [hv] at h1
    have := (quorum_iff c _).1 (hq.getVoteSet hv y h1)
    have := hm.blockSum_le hv y
    omega

theorem sum_range_if_eq_wt (power : Nat → Nat) (p : Nat → Bool) (n : Nat) :
    ((List.range n).map fun i => if p i = true then power i else 0).sum = VoteLog.wtUpTo power p n := by
  induction n with
  | zero => simp [VoteLog.wtUpTo]
  | succ n ih =>
    rw [List.range_succ, List.map_append, List.sum_append, ih]
    simp [VoteLog.wtUpTo]

theorem total_eq_wt (c : Cfg) : c.total = VoteLog.wtUpTo c.power (fun _ => true) c.n := by
  rw [← sum_range_if_eq_wt]; simp [Cfg.total]

end Tmv.Cons
