import Tmv.Lemmas.NetVoteSet
import Tmv.Model.Net
import Tmv.Lemmas.Agreement
import Tmv.Lemmas.ConsPrim
/-! (W): the vote sets of a node keep the quorum invariant `QH` and the membership invariant `MSh`
(relative to a fixed predicate `E` = "this validator's vote of this type/round/value exists in the
network"), and a decision is backed: the decided block is valid and the precommits for it in the
commit round that exist according to `E` carry more than two thirds of the power.
Also `stepItem_invariant`: what `step_invariant` is for `step`, for one item of the network model. -/
namespace Tmv.Cons

structure WI (c : Cfg) (E : VType → Int → Bid → Nat → Bool) (votes : HVS) (decided : Option (Nat × Int)) : Prop where
  q : QH c votes
  m : MSh c E votes
  d : ∀ b r, decided = some (b, r) → c.valid b = true ∧
        2 * c.total < 3 * VoteLog.wtUpTo c.power (E .precommit r (some b)) c.n

abbrev W (c : Cfg) (E : VType → Int → Bid → Nat → Bool) (s : NodeState) : Prop := WI c E s.votes s.decided

theorem WI.mono {c : Cfg} {E E' : VType → Int → Bid → Nat → Bool} {votes : HVS} {decided : Option (Nat × Int)}
    (hE : ∀ t r k v, E t r k v = true → E' t r k v = true)
    (h : WI c E votes decided) : WI c E' votes decided := by
  refine ⟨h.q, h.m.mono hE, ?_⟩
  intro b r hd
  have := h.d b r hd
  have hm := VoteLog.wtUpTo_mono c.power (E .precommit r (some b)) (E' .precommit r (some b)) c.n (hE _ _ _)
  exact ⟨this.1, by omega⟩

theorem W.init (c : Cfg) (E : VType → Int → Bid → Nat → Bool) : W c E NodeState.init :=
  ⟨QH.init c, MSh.init c E, fun b r hd => by cases hd⟩

/-- a recorded precommit majority for a block is backed by `E`-precommits of more than 2/3 -/
theorem WI.backed {c : Cfg} {E : VType → Int → Bid → Nat → Bool} {votes : HVS} {decided : Option (Nat × Int)}
    (h : WI c E votes decided) {r : Int} {b : Nat}
    (hm : maj23Of (votes.precommits r) = some (some b)) :
    2 * c.total < 3 * VoteLog.wtUpTo c.power (E .precommit r (some b)) c.n :=
  maj23_weight h.q h.m (t := .precommit) hm

/-! ### every move of the node model keeps `W` -/

variable {c : Cfg} {E : VType → Int → Bid → Nat → Bool}

theorem WI.ext {A : Int → VType → Vote → Prop} {votes votes' : HVS} {decided : Option (Nat × Int)}
    (h : WI c E votes decided) (hx : HExt c A votes votes')
    (hA : ∀ r t v, A r t v → v.val < c.n → v.sigOK = true → E t r v.bid v.val = true) : WI c E votes' decided :=
  ⟨.ext hx h.q, .ext hx (fun r t v ha hlt hs _ _ => hA r t v ha hlt hs) h.m, h.d⟩

/-- a vote is recorded only if it exists according to `E` -/
theorem enter_W {s : NodeState} (i : Input)
    (hv : ∀ v peer, i = .vote v peer → v.val < c.n → v.sigOK = true → E v.typ (v.round : Int) v.bid v.val = true)
    (h : W c E s) : W c E (enter c s i) := by
  show WI c E _ (enter c s i).decided
  rw [(enter_framed c s i).decided]
  exact h.ext (A := fun r t w => w.val < c.n → w.sigOK = true → E t r w.bid w.val = true) (enter_votes s i hv)
    fun _ _ _ ha => ha

/-- no move adds a vote; a decision is taken for the block with the recorded precommit majority of the commit
round, which is backed -/
theorem W_prim {ok : Prop} {cm : NodeState → Prop} {s t : NodeState} (hp : Prim c ok cm s t) (h : W c E s) : W c E t := by
  have hw : WI c E t.votes s.decided := h.ext (hp.votes (A := fun _ _ _ => False)) fun _ _ _ => nofun
  show WI c E t.votes t.decided
  rcases hp.decided_cases with e | ⟨b, _, hm, hv, e⟩ <;> rw [e]
  · exact hw
  · exact ⟨hw.q, hw.m, fun b' r' e' => by cases e'; exact ⟨hv, h.backed hm⟩⟩

open Tmv.Net in
theorem stepItem_invariant {ok : Prop} {P : NodeState → Prop}
    (hP : ∀ a b, Prim c ok (fun s => s.decided = none) a b → P a → P b) {s : NodeState} (it : Item)
    (hext : ∀ i, it = .ext i → (ok → i.notFuture s) ∧ P (enter c s i))
    (hown : ∀ k m, it = .own k → s.queue[k]? = some m → P (enter c { s with queue := s.queue.eraseIdx k } m.asInput))
    (hs : P s) : P (stepItem c s it) := by
  unfold Tmv.Net.stepItem
  split
  · exact hs
  rename_i hh
  have hcm : ∀ t : NodeState, t.decided = s.decided → t.decided = none := fun _ e => e.trans (decided_none_of_guard hh)
  cases it with
  | ext i => exact (handleInput_star s i (fun o => (hext i rfl).1 o) hcm).inv hP (hext i rfl).2
  | own k =>
    show P (handleOwn c s k)
    unfold handleOwn
    cases hq : s.queue[k]? with
    | none => exact hs
    | some m =>
      show P (handleInternal c { s with queue := s.queue.eraseIdx k } m)
      rw [handleInternal_eq]
      exact (handleInput_star { s with queue := s.queue.eraseIdx k } m.asInput (fun _ => by cases m <;> trivial)
        hcm).inv hP (hown k m rfl hq)

end Tmv.Cons
