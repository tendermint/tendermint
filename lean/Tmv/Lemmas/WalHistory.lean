import Tmv.Lemmas.WalGroup
/-! Histories of WAL operations (C15): the logs (written, durable, readable), the invariant `HInv` and
what each operation does to them, the operations and steps of a history, and the history theorem
(`history`, `readAll_inv`). -/
namespace Tmv.Wal
open Tmv

/-- records of the rotated files a reader over the whole group passes, in index order -/
def filesPart (P : Params) (g : Group) : List Bytes :=
  fileRecs P g (List.range' g.minIndex (g.maxIndex - g.minIndex))

/-- everything written and still in the group (rotated files, head file, write buffer) -/
def wlog (P : Params) (g : Group) : List Bytes := filesPart P g ++ recsOf P (g.head ++ g.buf)
/-- what is on stable storage: rotated files and the head up to the fsync watermark -/
def dlog (P : Params) (g : Group) : List Bytes :=
  filesPart P g ++ recsOf P ((g.head ++ g.buf).take g.synced)
/-- what a reader over the whole group returns now -/
def rlog (P : Params) (g : Group) : List Bytes := filesPart P g ++ recsOf P g.head

theorem recsOf_nil (P : Params) : recsOf P [] = [] := by
  simp [recsOf, readAllG, decodeAllWith, decodeG_nil]

theorem fileRecs_congr (P : Params) (g g' : Group) (l : List Nat)
    (h : ∀ j ∈ l, fileAt g' j = fileAt g j) : fileRecs P g' l = fileRecs P g l := by
  induction l with
  | nil => rfl
  | cons a l ih =>
    simp only [fileRecs, List.flatMap_cons] at ih ⊢
    rw [h a (by simp), ih (fun j hj => h j (by simp [hj]))]

theorem fileRecs_empty (P : Params) (g : Group) (l : List Nat) (h : ∀ j ∈ l, fileAt g j = []) :
    fileRecs P g l = [] := by
  induction l with
  | nil => rfl
  | cons a l ih =>
    simp only [fileRecs, List.flatMap_cons] at ih ⊢
    rw [h a (by simp), recsOf_nil, ih (fun j hj => h j (by simp [hj]))]
    rfl

/-- the records of the rotated files do not depend on the index window, as long as it covers all
non-empty files -/
theorem fileRecs_window (P : Params) (g : Group) (lo hi lo' hi' : Nat) (h1 : lo ≤ hi) (h2 : lo' ≤ hi')
    (hs : ∀ j, fileAt g j ≠ [] → lo ≤ j ∧ j < hi) (hs' : ∀ j, fileAt g j ≠ [] → lo' ≤ j ∧ j < hi') :
    fileRecs P g (List.range' lo (hi - lo)) = fileRecs P g (List.range' lo' (hi' - lo')) := by
  -- both equal the window [min lo lo', max hi hi')
  have key : ∀ (a b c d : Nat), a ≤ b → c ≤ a → b ≤ d →
      (∀ j, fileAt g j ≠ [] → a ≤ j ∧ j < b) →
      fileRecs P g (List.range' c (d - c)) = fileRecs P g (List.range' a (b - a)) := by
    intro a b c d hab hca hbd hsup
    rw [range_split c a d hca (by omega), range_split a b d hab hbd, fileRecs_append, fileRecs_append]
    -- files outside `[a, b)` are empty
    have out : ∀ lo n, (∀ j, lo ≤ j → j < lo + n → j < a ∨ b ≤ j) → fileRecs P g (List.range' lo n) = [] := by
      intro lo n h
      apply fileRecs_empty
      intro j hj
      rw [List.mem_range'_1] at hj
      apply Classical.byContradiction
      intro hne
      have := hsup j hne
      have := h j hj.1 hj.2
      omega
    have e1 := out c (a - c) (fun j _ _ => by omega)
    have e2 := out b (d - b) (fun j _ _ => by omega)
    rw [e1, e2]; simp
  rw [← key lo hi (min lo lo') (max hi hi') h1 (Nat.min_le_left _ _) (Nat.le_max_left _ _) hs,
    ← key lo' hi' (min lo lo') (max hi hi') h2 (Nat.min_le_right _ _) (Nat.le_max_right _ _) hs']

theorem SameFiles.filesPart (P : Params) {g g' : Group} (sf : SameFiles g g') :
    filesPart P g' = filesPart P g := by
  unfold Wal.filesPart
  rw [sf.minIndex, sf.maxIndex]
  exact fileRecs_congr P g g' _ (fun j _ => sf.files j)

/-- the two index windows may differ: a reopening reads the indices afresh from the directory -/
theorem filesPart_of_idxOK (P : Params) (g g' : Group) (hf : ∀ j, fileAt g' j = fileAt g j)
    (hi : IdxOK g) (hi' : IdxOK g') : filesPart P g' = filesPart P g := by
  unfold filesPart
  rw [fileRecs_congr P g g' _ (fun j _ => hf j)]
  exact fileRecs_window P g _ _ _ _ hi'.2 hi.2 (fun j hj => hi'.1 j (by rw [hf j]; exact hj)) hi.1

/-- invariant of a running group between operations: rotated files hold whole valid records,
`hs` are the records handed to the head so far (file + buffer) -/
structure HInv (P : Params) (g : Group) (hs : List Bytes) : Prop where
  filesOK : FilesOK P g
  idx : IdxOK g
  valid : ∀ d ∈ hs, ValidRec P d
  clean : g.head ++ g.buf = frames P hs
  synced : g.synced ≤ g.head.length

theorem HInv.head_take {P : Params} {g : Group} {hs : List Bytes} (h : HInv P g hs) :
    g.head = (frames P hs).take g.head.length := by
  rw [← h.clean, List.take_left]

theorem wlog_eq (P : Params) (G : Good P) (g : Group) (hs : List Bytes) (h : HInv P g hs) :
    wlog P g = filesPart P g ++ hs := by
  unfold wlog; rw [h.clean, recsOf_frames P G hs h.valid]

theorem dlog_eq (P : Params) (G : Good P) (g : Group) (hs : List Bytes) (h : HInv P g hs) :
    dlog P g = filesPart P g ++ hs.take (whole P hs g.synced) := by
  unfold dlog; rw [h.clean, recsOf_prefix P G hs h.valid]

theorem rlog_eq (P : Params) (G : Good P) (g : Group) (hs : List Bytes) (h : HInv P g hs) :
    rlog P g = filesPart P g ++ hs.take (whole P hs g.head.length) := by
  unfold rlog
  have e := congrArg (recsOf P) h.head_take
  rw [recsOf_prefix P G hs h.valid] at e
  rw [e]

/-- `b` keeps the records of `a` in order, except possibly a prefix (allowed only when `dropOK`),
and may have more at the end -/
def KeepsD (dropOK : Bool) (a b : List Bytes) : Prop :=
  ∃ dropped kept new, a = dropped ++ kept ∧ b = kept ++ new ∧ (dropOK = false → dropped = [])

theorem KeepsD.refl (a : List Bytes) : KeepsD false a a := ⟨[], a, [], by simp, by simp, fun _ => rfl⟩

theorem KeepsD.of_append (a n : List Bytes) : KeepsD false a (a ++ n) :=
  ⟨[], a, n, by simp, rfl, fun _ => rfl⟩

theorem KeepsD.mono {x : Bool} {a b : List Bytes} (h : KeepsD false a b) : KeepsD x a b := by
  obtain ⟨d, k, n, h1, h2, h3⟩ := h
  exact ⟨d, k, n, h1, h2, fun _ => h3 rfl⟩

theorem KeepsD.trans {x y : Bool} {a b c : List Bytes} (h1 : KeepsD x a b) (h2 : KeepsD y b c) :
    KeepsD (x || y) a c := by
  obtain ⟨d1, k1, n1, ha, hb, hd1⟩ := h1
  obtain ⟨d2, k2, n2, hb', hc, hd2⟩ := h2
  rw [hb] at hb'
  have hxy : (x || y) = false → d1 = [] ∧ d2 = [] := fun h =>
    ⟨hd1 (by cases x <;> simp_all), hd2 (by cases y <;> simp_all)⟩
  rcases List.append_eq_append_iff.mp hb' with ⟨m, e1, e2⟩ | ⟨m, e1, e2⟩
  · -- d2 = k1 ++ m : everything of k1 was dropped
    refine ⟨d1 ++ k1, [], c, by rw [ha]; simp, by simp, fun h => ?_⟩
    rw [(hxy h).2] at e1
    rw [(hxy h).1, (List.append_eq_nil_iff.mp e1.symm).1]; rfl
  · refine ⟨d1 ++ d2, m, n1 ++ n2, by rw [ha, e1]; simp, by rw [hc, e2]; simp, fun h => ?_⟩
    rw [(hxy h).1, (hxy h).2]; rfl

theorem KeepsD.elim {x : Bool} {a b : List Bytes} (h : KeepsD x a b) :
    ∃ dropped kept, a = dropped ++ kept ∧ (x = false → dropped = []) ∧ kept <+: b :=
  let ⟨_, k, n, h1, h2, h3⟩ := h
  ⟨_, k, h1, h3, h2 ▸ List.prefix_append k n⟩

theorem write_step (P : Params) (G : Good P) (S : Nat) (g g' : Group) (hs : List Bytes) (d : Bytes)
    (hi : HInv P g hs) (hd : ValidRec P d) (hw : write P S g d = some g') :
    HInv P g' (hs ++ [d]) ∧ dlog P g' = dlog P g ∧ wlog P g' = wlog P g ++ [d] := by
  obtain ⟨h1, h2, h3, h4, h5, x, hx⟩ := write_concat P S g g' d hd.2.1 hw
  have sf : SameFiles g g' := ⟨fileAt_congr h2, h4, h5⟩
  have hinv : HInv P g' (hs ++ [d]) := by
    refine ⟨hi.filesOK.congr sf.files, sf.idxOK hi.idx, ?_, ?_, ?_⟩
    · intro y hy
      rcases List.mem_append.mp hy with h | h
      · exact hi.valid y h
      · simp at h; subst h; exact hd
    · rw [h1, hi.clean, frames_append]; simp [frames_cons, frames_nil]
    · rw [h3, hx]; simp; have := hi.synced; omega
  refine ⟨hinv, ?_, ?_⟩
  · unfold dlog
    rw [sf.filesPart P, h1, h3]
    have : g.synced ≤ (g.head ++ g.buf).length := by
      have := hi.synced; simp; omega
    rw [List.take_append_of_le_length this]
  · rw [wlog_eq P G g' _ hinv, wlog_eq P G g hs hi, sf.filesPart P]; simp

theorem sync_step (P : Params) (G : Good P) (g : Group) (hs : List Bytes) (hi : HInv P g hs) :
    HInv P (flushAndSync g) hs ∧ dlog P (flushAndSync g) = wlog P g ∧
      wlog P (flushAndSync g) = wlog P g ∧ KeepsD false (dlog P g) (dlog P (flushAndSync g)) := by
  have hinv : HInv P (flushAndSync g) hs :=
    ⟨fun j => hi.filesOK j, hi.idx, hi.valid, by simp [flushAndSync, hi.clean], by simp [flushAndSync]⟩
  have hfp : filesPart P (flushAndSync g) = filesPart P g :=
    SameFiles.filesPart P ⟨fun _ => rfl, rfl, rfl⟩
  have hd : dlog P (flushAndSync g) = wlog P g := by
    unfold dlog wlog
    rw [hfp]
    have : List.take (g.head.length + g.buf.length) (g.head ++ g.buf) = g.head ++ g.buf :=
      List.take_of_length_le (by simp)
    simp [flushAndSync, this]
  have hw : wlog P (flushAndSync g) = wlog P g := by
    unfold wlog
    rw [hfp]
    simp [flushAndSync]
  refine ⟨hinv, hd, hw, ?_⟩
  rw [hd, dlog_eq P G g hs hi, wlog_eq P G g hs hi]
  refine ⟨[], filesPart P g ++ hs.take (whole P hs g.synced), hs.drop (whole P hs g.synced), by simp, ?_, fun _ => rfl⟩
  simp

theorem fileAt_rotate (g : Group) (j : Nat) :
    fileAt (rotateFile g) j = if j = g.maxIndex then g.head ++ g.buf else fileAt g j := by
  unfold fileAt rotateFile
  simp only [flushAndSync]
  rw [lookup_setFile]
  split <;> simp

/-- a rotation extends every window of files by one that holds what the head had and what it flushed -/
theorem flatMap_rotate {β : Type} (φ : Bytes → List β) (g : Group) (i : Nat) (h : i ≤ g.maxIndex) :
    (List.range' i (g.maxIndex + 1 - i)).flatMap (fun j => φ (fileAt (rotateFile g) j)) =
      (List.range' i (g.maxIndex - i)).flatMap (fun j => φ (fileAt g j)) ++ φ (g.head ++ g.buf) := by
  have e : g.maxIndex + 1 - i = (g.maxIndex - i) + 1 := Nat.succ_sub h
  have e' : i + (g.maxIndex - i) = g.maxIndex := Nat.add_sub_cancel' h
  rw [e, List.range'_1_concat, List.flatMap_append, e', List.flatMap_singleton, fileAt_rotate, if_pos rfl]
  congr 1
  rw [List.flatMap_def, List.flatMap_def, List.map_congr_left fun j hj => by
    rw [fileAt_rotate, if_neg (Nat.ne_of_lt (e' ▸ (List.mem_range'_1.1 hj).2))]]

theorem rotate_step (P : Params) (G : Good P) (g : Group) (hs : List Bytes) (hi : HInv P g hs) :
    HInv P (rotateFile g) [] ∧ dlog P (rotateFile g) = wlog P g ∧ wlog P (rotateFile g) = wlog P g := by
  have hmax : (rotateFile g).maxIndex = g.maxIndex + 1 := rfl
  have hmin : (rotateFile g).minIndex = g.minIndex := rfl
  have hinv : HInv P (rotateFile g) [] := by
    refine ⟨?_, ⟨?_, ?_⟩, by simp, by simp [rotateFile, flushAndSync, frames_nil], by simp [rotateFile]⟩
    · intro j
      rw [fileAt_rotate]
      split
      · exact ⟨hs, hi.valid, hi.clean⟩
      · exact hi.filesOK j
    · intro j hj
      rw [fileAt_rotate] at hj
      rw [hmax, hmin]
      split at hj
      · rename_i e; subst e; have := hi.idx.2; omega
      · have := hi.idx.1 j hj; omega
    · rw [hmax, hmin]; have := hi.idx.2; omega
  have hfp : filesPart P (rotateFile g) = filesPart P g ++ hs := by
    unfold filesPart fileRecs
    exact (flatMap_rotate (recsOf P) g _ hi.idx.2).trans (by rw [hi.clean, recsOf_frames P G hs hi.valid])
  have hw : wlog P (rotateFile g) = wlog P g := by
    rw [wlog_eq P G _ _ hinv, wlog_eq P G g hs hi, hfp]; simp
  refine ⟨hinv, ?_, hw⟩
  rw [dlog_eq P G _ _ hinv, hfp, wlog_eq P G g hs hi]; simp

theorem fileRecs_drop_below (P : Params) (g g' : Group) (m : Nat)
    (hf : ∀ j, fileAt g' j = if j < m then [] else fileAt g j) : ∀ (n lo : Nat),
    ∃ dropped, fileRecs P g (List.range' lo n) = dropped ++ fileRecs P g' (List.range' lo n)
  | 0, _ => ⟨[], rfl⟩
  | n + 1, lo => by
    by_cases hm : lo < m
    · obtain ⟨dr, hdr⟩ := fileRecs_drop_below P g g' m hf n (lo + 1)
      refine ⟨recsOf P (fileAt g lo) ++ dr, ?_⟩
      simp only [fileRecs, List.range'_succ, List.flatMap_cons] at hdr ⊢
      rw [hdr, hf lo, if_pos hm, recsOf_nil, List.append_assoc, List.nil_append]
    · exact ⟨[], (fileRecs_congr P g g' _ fun j hj => by
        rw [hf j, if_neg (by have := (List.mem_range'_1.1 hj).1; omega)]).symm⟩

/-- `checkTotalSizeLimit`: only a prefix of the logs can disappear (whole oldest files) -/
theorem prune_step (P : Params) (k : Nat) (g : Group) (hs : List Bytes) (hi : HInv P g hs) :
    HInv P (checkTotalSizeLimit k g).1 hs ∧
    ∃ dropped, dlog P g = dropped ++ dlog P (checkTotalSizeLimit k g).1 ∧
      wlog P g = dropped ++ wlog P (checkTotalSizeLimit k g).1 := by
  cases hr : checkTotalSizeLimit k g with
  | mk g' rem =>
    have hp := prune_spec k g g' rem hr
    obtain ⟨m, hf⟩ := hp.fileAt_below
    have hinv : HInv P g' hs := by
      refine ⟨fun j => ?_, ⟨fun j hj => ?_, by rw [hp.minIndex, hp.maxIndex]; exact hi.idx.2⟩, hi.valid,
        by rw [hp.head, hp.buf]; exact hi.clean, by rw [hp.head, hp.synced]; exact hi.synced⟩
      · rw [hf j]; split
        · exact ⟨[], nofun, rfl⟩
        · exact hi.filesOK j
      · rw [hp.minIndex, hp.maxIndex]
        apply hi.idx.1 j
        rw [hf j] at hj
        split at hj
        · exact absurd rfl hj
        · exact hj
    obtain ⟨dr, hdr⟩ := fileRecs_drop_below P g g' m hf (g.maxIndex - g.minIndex) g.minIndex
    have hfp : filesPart P g = dr ++ filesPart P g' := by
      unfold filesPart; rw [hp.minIndex, hp.maxIndex]; exact hdr
    refine ⟨hinv, dr, ?_, ?_⟩
    · unfold dlog; rw [hfp, hp.head, hp.buf, hp.synced]; simp
    · unfold wlog; rw [hfp, hp.head, hp.buf]; simp

/-- readers and searches (they may create empty files) -/
theorem read_step (P : Params) (g g' : Group) (hs : List Bytes) (hi : HInv P g hs) (sd : SameDisk g g') :
    HInv P g' hs ∧ dlog P g' = dlog P g ∧ wlog P g' = wlog P g := by
  have hfp := sd.sameFiles.filesPart P
  refine ⟨⟨hi.filesOK.congr sd.files, sd.sameFiles.idxOK hi.idx, hi.valid,
    by rw [sd.head, sd.buf]; exact hi.clean, by rw [sd.head, sd.synced]; exact hi.synced⟩, ?_, ?_⟩
  · unfold dlog; rw [hfp, sd.head, sd.buf, sd.synced]
  · unfold wlog; rw [hfp, sd.head, sd.buf]

/-- `whole P hs g.synced` records of the head are on stable storage (their frames end at or before
the fsync watermark); all records of rotated files are. -/
def durableHead (P : Params) (g : Group) (hs : List Bytes) : List Bytes :=
  hs.take (whole P hs g.synced)

theorem cycle_clean (P : Params) (G : Good P) (S : Nat) (g : Group) (hf : FilesOK P g)
    (hs : List Bytes) (hv : ∀ d ∈ hs, ValidRec P d) (hc : g.head ++ g.buf = frames P hs)
    (cut hl tl : Nat) (h : Int) (e0 : Bytes) (he : ValidRec P e0) (res : RecoverRes) (g' : Group)
    (dhl dtl : Nat)
    (hrec : recover P S dhl dtl (onStart P S (openGroup (crash g cut) hl tl) e0).1 h e0 = (res, g'))
    (hok : RecoveredOK res) :
    (∀ j, fileAt g' j = fileAt g j) ∧ g'.buf = [] ∧ Shape g' ∧
      ((∃ hw', (∀ d ∈ hw', ValidRec P d) ∧ g'.head = frames P hw' ∧
          durableHead P g hs <+: hw' ∧ (hw' <+: hs ∨ hw' = [e0])) ∨ Collision P) := by
  obtain ⟨keep, hkeep, hcr⟩ := crash_prefix P g hs hc cut
  have hdur : durableHead P g hs <+: hs.take (whole P hs keep) :=
    List.take_prefix_take_left (whole_mono P hs _ _ hkeep)
  obtain ⟨hfiles, hbuf, hshape, hhead⟩ := reopen_spec P S (crash g cut) hl tl e0 he.2.1 rfl
  have hf1 : FilesOK P (onStart P S (openGroup (crash g cut) hl tl) e0).1 := hf.congr (fileAt_congr hfiles)
  by_cases h0 : (crash g cut).head = []
  · -- an empty head got the marker: the recovery runs on `[e0]`; nothing of `hs` was durable
    obtain ⟨t, hr⟩ := HeadRep.of_take P (crash g cut) hs hv keep hcr
    rw [frames_eq_nil P G (List.append_eq_nil_iff.mp (hr.eq.symm.trans h0)).1] at hdur
    have he1 : frames P [e0] = frame P e0 := by simp [frames_cons, frames_nil]
    obtain ⟨c1, c2, c3, c4⟩ := recover_prefix P G S _ h e0 he hf1 [e0]
      (fun d hd => by rw [List.mem_singleton.mp hd]; exact he) (frames P [e0]).length
      (by rw [hhead, if_pos h0, List.take_length, he1]) hbuf hshape dhl dtl res g' hrec hok
    refine ⟨fun j => (c1 j).trans (fileAt_congr hfiles j), c2, c3, c4.imp_left fun ⟨hw', h1, h2, h3, h4⟩ =>
      ⟨hw', h1, h2, hdur.trans List.nil_prefix, Or.inr ?_⟩⟩
    rw [whole_all P _ _ (Nat.le_refl _), List.take_length] at h3
    exact h4.elim (fun h => h.eq_of_length_le h3.length_le) id
  · rw [if_neg h0, hcr] at hhead
    obtain ⟨c1, c2, c3, c4⟩ := recover_prefix P G S _ h e0 he hf1 hs hv keep hhead hbuf hshape dhl dtl res g'
      hrec hok
    exact ⟨fun j => (c1 j).trans (fileAt_congr hfiles j), c2, c3, c4.imp_left fun ⟨hw', h1, h2, h3, h4⟩ =>
      ⟨hw', h1, h2, hdur.trans h3, h4⟩⟩

/-- one crash / reopen / recover cycle whose catch-up reported success -/
theorem restart_step (P : Params) (G : Good P) (S dhl dtl : Nat) (g : Group) (hs : List Bytes)
    (hi : HInv P g hs) (cut hl tl : Nat) (h : Int) (e0 : Bytes) (he : ValidRec P e0)
    (res : RecoverRes) (g' : Group)
    (hrec : recover P S dhl dtl (onStart P S (openGroup (crash g cut) hl tl) e0).1 h e0 = (res, g'))
    (hok : RecoveredOK res) :
    (∃ hs', HInv P g' hs' ∧ KeepsD false (dlog P g) (dlog P g') ∧ (wlog P g').Sublist (wlog P g ++ [e0]))
      ∨ Collision P := by
  obtain ⟨c1, c2, hsh, c3⟩ := cycle_clean P G S g hi.filesOK hs hi.valid hi.clean cut hl tl h e0 he res g' dhl dtl hrec hok
  rcases c3 with ⟨hw', hv', hhead', hdur, hshape⟩ | hcol
  · left
    have hinv : HInv P g' hw' := by
      exact ⟨hi.filesOK.congr c1, hsh.1, hv', by rw [c2, hhead']; simp, by rw [hsh.2]; exact Nat.le_refl _⟩
    have hfp : filesPart P g' = filesPart P g := filesPart_of_idxOK P g g' c1 hi.idx hsh.1
    refine ⟨hw', hinv, ?_, ?_⟩
    · have hd' : dlog P g' = filesPart P g ++ hw' := by
        unfold dlog
        rw [hfp, c2, hsh.2]
        simp only [List.append_nil, List.take_length]
        rw [hhead', recsOf_frames P G hw' hv']
      have hd : dlog P g = filesPart P g ++ durableHead P g hs := dlog_eq P G g hs hi
      rw [hd, hd']
      obtain ⟨n, hn⟩ := hdur
      rw [← hn, ← List.append_assoc]
      exact KeepsD.of_append _ _
    · rw [wlog_eq P G g' hw' hinv, wlog_eq P G g hs hi, hfp, List.append_assoc]
      apply List.Sublist.append (List.Sublist.refl _)
      rcases hshape with hp | he0
      · exact (hp.sublist).trans (List.sublist_append_left _ _)
      · rw [he0]; exact List.sublist_append_right _ _
  · right; exact hcol

inductive HOp where
  | write (d : Bytes)
  | writeSync (d : Bytes)
  | sync
  | rotate
  | prune
  | read
  | restart (cut hl tl : Nat) (h : Int) (e0 : Bytes)

/-- records an operation can add to the log -/
def HOp.recs : HOp → List Bytes
  | .write d => [d]
  | .writeSync d => [d]
  | .restart _ _ _ _ e0 => [e0]
  | _ => []

def HOp.isPrune : HOp → Bool
  | .prune => true
  | _ => false

/-- one step of a history on the model. `read` stands for any reader or search (they only create
empty files); `restart` is a crash with any cut of the unsynced tail, the reopening with any
limits, `OnStart`, and a catch-up loop that reported success. -/
inductive Step (P : Params) (S dhl dtl k : Nat) : Group → HOp → Group → Prop where
  | write {g g' d} : ValidRec P d → write P S g d = some g' → Step P S dhl dtl k g (.write d) g'
  | writeSync {g g' d} : ValidRec P d → writeSync P S g d = some g' → Step P S dhl dtl k g (.writeSync d) g'
  | sync {g} : Step P S dhl dtl k g .sync (flushAndSync g)
  | rotate {g} : Step P S dhl dtl k g .rotate (checkHeadSizeLimit g).1
  | prune {g} : Step P S dhl dtl k g .prune (checkTotalSizeLimit k g).1
  | read {g g'} : SameDisk g g' → Step P S dhl dtl k g .read g'
  | restart {g g' cut hl tl h e0 res} : ValidRec P e0 →
      recover P S dhl dtl (onStart P S (openGroup (crash g cut) hl tl) e0).1 h e0 = (res, g') →
      RecoveredOK res → Step P S dhl dtl k g (.restart cut hl tl h e0) g'

inductive Steps (P : Params) (S dhl dtl k : Nat) : Group → List HOp → Group → Prop where
  | nil {g} : Steps P S dhl dtl k g [] g
  | cons {g g1 g2 op ops} : Step P S dhl dtl k g op g1 → Steps P S dhl dtl k g1 ops g2 →
      Steps P S dhl dtl k g (op :: ops) g2

theorem history_step (P : Params) (G : Good P) (S dhl dtl k : Nat) (g g' : Group) (op : HOp)
    (hs : List Bytes) (hi : HInv P g hs) (st : Step P S dhl dtl k g op g') :
    (∃ hs', HInv P g' hs' ∧ KeepsD op.isPrune (dlog P g) (dlog P g') ∧
      (wlog P g').Sublist (wlog P g ++ op.recs)) ∨ Collision P := by
  cases st with
  | write hd hw =>
    obtain ⟨h1, h2, h3⟩ := write_step P G S g g' hs _ hi hd hw
    exact Or.inl ⟨_, h1, by rw [h2]; exact KeepsD.refl _, by rw [h3]; exact List.Sublist.refl _⟩
  | @writeSync _ d hd hw =>
    obtain ⟨g1, hw1, rfl⟩ := Option.map_eq_some_iff.1 hw
    obtain ⟨h1, h2, h3⟩ := write_step P G S g g1 hs _ hi hd hw1
    obtain ⟨s1, _, s3, s4⟩ := sync_step P G g1 _ h1
    exact Or.inl ⟨_, s1, by rw [← h2]; exact s4, by rw [s3, h3]; exact List.Sublist.refl _⟩
  | sync =>
    obtain ⟨s1, s2, s3, s4⟩ := sync_step P G g hs hi
    exact Or.inl ⟨_, s1, s4, by rw [s3]; simp [HOp.recs]⟩
  | rotate =>
    unfold checkHeadSizeLimit
    split
    · exact Or.inl ⟨hs, hi, KeepsD.refl _, by simp [HOp.recs]⟩
    · split
      · obtain ⟨r1, r2, r3⟩ := rotate_step P G g hs hi
        obtain ⟨_, s2, _, s4⟩ := sync_step P G g hs hi
        refine Or.inl ⟨[], r1, ?_, by rw [r3]; simp [HOp.recs]⟩
        rw [r2, ← s2]; exact s4
      · exact Or.inl ⟨hs, hi, KeepsD.refl _, by simp [HOp.recs]⟩
  | prune =>
    obtain ⟨p1, dr, p2, p3⟩ := prune_step P k g hs hi
    refine Or.inl ⟨hs, p1, ⟨dr, _, [], p2, by simp, by simp [HOp.isPrune]⟩, ?_⟩
    rw [p3]; simp [HOp.recs]
  | read sd =>
    obtain ⟨r1, r2, r3⟩ := read_step P g g' hs hi sd
    exact Or.inl ⟨hs, r1, by rw [r2]; exact KeepsD.refl _, by rw [r3]; simp [HOp.recs]⟩
  | restart he hrec hok =>
    rcases restart_step P G S dhl dtl g hs hi _ _ _ _ _ he _ g' hrec hok with ⟨hs', a, b, c⟩ | hc
    · exact Or.inl ⟨hs', a, b, c⟩
    · exact Or.inr hc

/-- **History theorem.** After any history of writes, synced writes, syncs, rotations, prunings,
readers and crash/reopen/recover cycles: the invariant holds again, the durable log kept all its
records in order except a prefix that only prunings may remove, and the log contains nothing but
what it contained before and what the operations wrote, in that order — or a checksum collision
is exhibited. -/
theorem history (P : Params) (G : Good P) (S dhl dtl k : Nat) (ops : List HOp) :
    ∀ (g g' : Group) (hs : List Bytes), HInv P g hs → Steps P S dhl dtl k g ops g' →
    (∃ hs', HInv P g' hs' ∧ KeepsD (ops.any HOp.isPrune) (dlog P g) (dlog P g') ∧
      (wlog P g').Sublist (wlog P g ++ ops.flatMap HOp.recs)) ∨ Collision P := by
  induction ops with
  | nil =>
    intro g g' hs hi st
    cases st
    exact Or.inl ⟨hs, hi, KeepsD.refl _, by simp⟩
  | cons op ops ih =>
    intro g g' hs hi st
    cases st with
    | cons s1 srest =>
      rcases history_step P G S dhl dtl k g _ op hs hi s1 with ⟨hs1, i1, k1, w1⟩ | hc
      · rcases ih _ g' hs1 i1 srest with ⟨hs2, i2, k2, w2⟩ | hc
        · refine Or.inl ⟨hs2, i2, ?_, ?_⟩
          · simpa [List.any_cons] using KeepsD.trans k1 k2
          · simp only [List.flatMap_cons, ← List.append_assoc]
            exact w2.trans (List.Sublist.append w1 (List.Sublist.refl _))
        · exact Or.inr hc
      · exact Or.inr hc

theorem Steps.append {P : Params} {S dhl dtl k : Nat} {g g1 g2 : Group} {a b : List HOp}
    (h1 : Steps P S dhl dtl k g a g1) (h2 : Steps P S dhl dtl k g1 b g2) :
    Steps P S dhl dtl k g (a ++ b) g2 := by
  induction h1 with
  | nil => exact h2
  | cons s _ ih => exact Steps.cons s (ih h2)

/-- what a reader over the whole group returns in a state satisfying the invariant -/
theorem readAll_inv (P : Params) (G : Good P) (g : Group) (hs : List Bytes) (hi : HInv P g hs) :
    ∃ e, e.isMsg = false ∧ (readAll P g).1 = (rlog P g, e) ∧
      dlog P g <+: rlog P g ∧ rlog P g <+: wlog P g := by
  obtain ⟨e, he, hr⟩ := stream_read P G g hi.filesOK hs hi.valid g.head.length hi.head_take g.minIndex
  refine ⟨e, he, ?_, ?_, ?_⟩
  · unfold readAll
    simp only
    rw [hr, rlog_eq P G g hs hi]; rfl
  · rw [dlog_eq P G g hs hi, rlog_eq P G g hs hi]
    exact (List.prefix_append_right_inj _).mpr
      (List.take_prefix_take_left (whole_mono P hs _ _ hi.synced))
  · rw [rlog_eq P G g hs hi, wlog_eq P G g hs hi]
    exact (List.prefix_append_right_inj _).mpr (List.take_prefix _ _)

theorem reader_after_history (P : Params) (G : Good P) (S dhl dtl k : Nat) (ops : List HOp) (g g' : Group)
    (hs : List Bytes) (hi : HInv P g hs) (st : Steps P S dhl dtl k g ops g') :
    (∃ dropped kept R e, dlog P g = dropped ++ kept ∧ (ops.any HOp.isPrune = false → dropped = []) ∧
        (readAll P g').1 = (R, e) ∧ e.isMsg = false ∧ kept <+: R ∧
        R.Sublist (wlog P g ++ ops.flatMap HOp.recs))
      ∨ Collision P := by
  rcases history P G S dhl dtl k ops g g' hs hi st with ⟨hs', i', kd, w⟩ | hc
  · obtain ⟨dr, kept, e1, e3, hk⟩ := kd.elim
    obtain ⟨e, he, hr, hdr, hrw⟩ := readAll_inv P G g' hs' i'
    exact Or.inl ⟨dr, kept, rlog P g', e, e1, e3, hr, he, hk.trans hdr, hrw.sublist.trans w⟩
  · exact Or.inr hc

theorem headRep_inv (P : Params) (g : Group) (hs : List Bytes) (hi : HInv P g hs) :
    ∃ t, HeadRep P g (hs.take (whole P hs g.head.length)) t ∧ (g.buf = [] → t = []) := by
  obtain ⟨t, hr⟩ := HeadRep.of_take P g hs hi.valid g.head.length hi.head_take
  refine ⟨t, hr, fun hb => ?_⟩
  have hc := hi.clean
  rw [hb, List.append_nil] at hc
  have he := hr.eq
  rw [whole_all P hs _ (by rw [hc]; exact Nat.le_refl _), List.take_length, ← hc] at he
  exact (List.self_eq_append_right.mp he)

end Tmv.Wal

namespace Tmv.SignNode
open Tmv.Wal

/-- **C15's history theorem in the form C04 uses.** From any state satisfying the WAL invariant, after
ANY history `ops1` (writes, rotations, prunings, crash/reopen/recover cycles …) reaching `g1`, a
successful `FlushAndSync`, and ANY further history `ops2` without a pruning: a reader over the
whole group returns records of which everything the log held at the moment of the fsync is a prefix
(every synced record, in order, nothing in between) — or a checksum collision is exhibited. -/
theorem synced_log_is_prefix_of_reader (P : Params) (G : Good P) (Sz dhl dtl kk : Nat)
    (ops1 ops2 : List HOp) (g g1 g' : Group) (hs : List Bytes) (hi : HInv P g hs)
    (st1 : Steps P Sz dhl dtl kk g ops1 g1) (st2 : Steps P Sz dhl dtl kk (flushAndSync g1) ops2 g')
    (hnp : ops2.any HOp.isPrune = false) :
    (∃ R e, (readAll P g').1 = (R, e) ∧ e.isMsg = false ∧ wlog P g1 <+: R ∧
        R.Sublist (wlog P g ++ (ops1 ++ [HOp.sync] ++ ops2).flatMap HOp.recs)) ∨ Collision P := by
  rcases history P G Sz dhl dtl kk ops1 g g1 hs hi st1 with ⟨hs1, i1, _, w1⟩ | hc
  · obtain ⟨j1, hd, hw, _⟩ := sync_step P G g1 hs1 i1
    refine (reader_after_history P G Sz dhl dtl kk ops2 (flushAndSync g1) g' hs1 j1 st2).imp_left
      fun ⟨dr, kept, R, e, e1, e3, hr, he, hk, w2⟩ => ⟨R, e, hr, he, ?_, ?_⟩
    · -- the fsync made the whole log durable; without a pruning nothing of it is dropped
      rw [← hd, e1, e3 hnp]; exact hk
    · rw [hw] at w2
      rw [List.flatMap_append, List.flatMap_append, show [HOp.sync].flatMap HOp.recs = [] from rfl,
        List.append_nil, ← List.append_assoc]
      exact w2.trans (List.Sublist.append w1 (List.Sublist.refl _))
  · exact Or.inr hc

end Tmv.SignNode
