/-! `lastStoredHeightFor` of `state/store.go`: the later of a record's change height `c` and the last
checkpoint (multiple of the interval `n`) at or below the height `h`, with the facts the store
invariants of C08 (`ValChain`) and C18 (`StateStoreRange`, as `Ptr`) need of it. -/
namespace Tmv.Checkpoint

def lastStored (n h c : Int) : Int := max (h - h % n) c

variable {n h c : Int}

theorem emod_between {x q : Int} (h1 : n * q ≤ x) (h2 : x < n * q + n) :
    x % n = x - n * q := by
  have e : x % n = (x - n * q + n * q) % n := by congr 1; omega
  rw [e, Int.add_mul_emod_self_left, Int.emod_eq_of_lt (by omega) (by omega)]

/-- what `omega` is given about `h % n` and `h / n` (it takes `%` and `/` by literals only) -/
theorem bracket (hn : 0 < n) (h : Int) : n * (h / n) = h - h % n ∧ 0 ≤ h % n ∧ h % n < n :=
  ⟨by have := Int.emod_def h n; omega, Int.emod_nonneg h (Int.ne_of_gt hn), Int.emod_lt_of_pos h hn⟩

theorem le (hn : 0 < n) (hc : c ≤ h) : lastStored n h c ≤ h := by
  have := bracket hn h
  unfold lastStored; omega

/-- the target is itself a height at which a record of change height `c` carries its value -/
theorem full (hn : 0 < n) (h c : Int) : lastStored n h c = c ∨ lastStored n h c % n = 0 := by
  unfold lastStored
  by_cases hc : h - h % n ≤ c
  · exact .inl (Int.max_eq_right hc)
  · rw [Int.max_eq_left (by omega), ← (bracket hn h).1]
    exact .inr (Int.mul_emod_right _ _)

theorem self (hn : 0 < n) (hc : c ≤ h) (hf : h = c ∨ h % n = 0) : lastStored n h c = h := by
  have := bracket hn h
  unfold lastStored; omega

theorem next (hn : 0 < n) (hm : ¬ (h + 1) % n = 0) : lastStored n (h + 1) c = lastStored n h c := by
  obtain ⟨e, h0, h1⟩ := bracket hn h
  by_cases hr : h % n + 1 < n
  · unfold lastStored
    rw [emod_between (n := n) (x := h + 1) (q := h / n) (by omega) (by omega)]
    congr 1; omega
  · have : h + 1 = n * (h / n + 1) := by rw [Int.mul_add, Int.mul_one]; omega
    rw [this] at hm
    exact absurd (Int.mul_emod_right _ _) hm

theorem below {b : Int} (hn : 0 < n) (hb : b ≤ h) (hlt : lastStored n h c < b) :
    lastStored n h c = lastStored n b c ∧ c < b ∧ ¬ (b = c ∨ b % n = 0) := by
  obtain ⟨e, h0, h1⟩ := bracket hn h
  unfold lastStored at hlt ⊢
  -- `b` lies between the checkpoint of `h` and `h`, so that is its checkpoint too
  have eb := emod_between (n := n) (x := b) (q := h / n) (by omega) (by omega)
  omega

end Tmv.Checkpoint
