import Tmv.Lemmas.ConsPrim
import Tmv.Lemmas.NetVoteSet
/-! Vote sets vs. the history: the only votes ever added to a vote set are well-formed votes (own index, own
address, an intact signature by its own key) that were delivered to the node as an input, or the node's own signed
votes. So every entry of every bucket is a distinct validator with such a vote. -/
namespace Tmv.Cons

/-- validator `v`'s well-formed vote `(t, r, bid)` is among the inputs `past` -/
def deliveredBy (past : List Input) (t : VType) (r : Int) (bid : Bid) (v : Nat) : Bool :=
  past.any fun i => match i with
    | .vote w _ => decide (w.typ = t ∧ (w.round : Int) = r ∧ w.bid = bid ∧ w.val = v) && w.sigOK &&
        decide (w.addr = v) && decide (w.signer = v)
    | _ => false

/-- the node is validator `v` and has signed the vote `(t, r, bid)` -/
def ownVote (c : Cfg) (out : List Output) (t : VType) (r : Int) (bid : Bid) (v : Nat) : Bool :=
  decide (c.self = some v) && out.any fun o => match o with
    | .signVote t' r' b' => decide (t' = t ∧ (r' : Int) = r ∧ b' = bid)
    | _ => false

/-- evidence for validator `v`'s vote: it was delivered well-formed, or it is the node's own signed vote -/
def Ev (c : Cfg) (past : List Input) (out : List Output) (t : VType) (r : Int) (bid : Bid) (v : Nat) : Bool :=
  deliveredBy past t r bid v || ownVote c out t r bid v

theorem ownVote_mono {c : Cfg} {out : List Output} (o : Output) {t r bid v} (h : ownVote c out t r bid v = true) :
    ownVote c (out ++ [o]) t r bid v = true := by
  unfold ownVote at h ⊢
  simp only [Bool.and_eq_true, List.any_append, Bool.or_eq_true] at h ⊢
  exact ⟨h.1, Or.inl h.2⟩

theorem deliveredBy_mono {past : List Input} (i : Input) {t r bid v} (h : deliveredBy past t r bid v = true) :
    deliveredBy (past ++ [i]) t r bid v = true := by
  unfold deliveredBy at h ⊢
  simp only [List.any_append, Bool.or_eq_true] at h ⊢
  exact Or.inl h

theorem Ev_mono_out {c : Cfg} {past : List Input} {out : List Output} (o : Output) {t r bid v}
    (h : Ev c past out t r bid v = true) : Ev c past (out ++ [o]) t r bid v = true := by
  unfold Ev at h ⊢
  simp only [Bool.or_eq_true] at h ⊢
  exact h.imp id (ownVote_mono o)

theorem Ev_mono_past {c : Cfg} {past : List Input} {out : List Output} (i : Input) {t r bid v}
    (h : Ev c past out t r bid v = true) : Ev c (past ++ [i]) out t r bid v = true := by
  unfold Ev at h ⊢
  simp only [Bool.or_eq_true] at h ⊢
  exact h.imp (deliveredBy_mono i) id

theorem Ev_own {c : Cfg} {past : List Input} {out : List Output} {t r bid v} (h : ownVote c out t r bid v = true) :
    Ev c past out t r bid v = true := by
  unfold Ev; rw [h]; exact Bool.or_true _

/-- a well-formed vote that is the input just taken is delivered -/
theorem Ev_last {c : Cfg} {past : List Input} {out : List Output} {i : Input} {v : Vote} {peer : Peer}
    (e : i = .vote v peer) (hs : v.sigOK = true) (ha : v.addr = v.val) (hk : v.signer = v.val) :
    Ev c (past ++ [i]) out v.typ (v.round : Int) v.bid v.val = true := by
  unfold Ev deliveredBy
  simp [e, hs, ha, hk]

/-- `Ev` as the bound on the votes added to the set of (r, t), in the form `HExt` takes -/
def AEv (c : Cfg) (past : List Input) (out : List Output) : Int → VType → Vote → Prop :=
  fun r t w => w.val < c.n → w.sigOK = true → w.addr = w.val → w.signer = w.val → Ev c past out t r w.bid w.val = true

/-- (D): the vote sets grew from the initial ones by delivered-or-own votes only (`x`); queued own votes are signed
votes (`q`). For the buckets this gives `DI.ms`, for the canonical slots `DI.vd` (Lemmas/ConsCommit.lean). -/
structure DI (c : Cfg) (past : List Input) (votes : HVS) (out : List Output) (queue : List Internal) : Prop where
  x : HExt c (AEv c past out) HVS.init votes
  q : ∀ w, Internal.vote w ∈ queue → ownVote c out w.typ (w.round : Int) w.bid w.val = true

abbrev D (c : Cfg) (past : List Input) (s : NodeState) : Prop := DI c past s.votes s.out s.queue

theorem DI.ms {c past votes out queue} (h : DI c past votes out queue) : MSh c (Ev c past out) votes :=
  .ext h.x (fun _ _ _ => id) (MSh.init c _)

theorem DI.push_out {c past votes out queue} (h : DI c past votes out queue) (o : Output) :
    DI c past votes (out ++ [o]) queue :=
  ⟨h.x.mono fun _ _ _ ha a b d e => Ev_mono_out o (ha a b d e), fun w hw => ownVote_mono o (h.q w hw)⟩

theorem DI.mono_past {c past votes out queue} (h : DI c past votes out queue) (i : Input) :
    DI c (past ++ [i]) votes out queue :=
  ⟨h.x.mono fun _ _ _ ha a b d e => Ev_mono_past i (ha a b d e), h.q⟩

variable {c : Cfg} {past : List Input}

theorem emit_D {s : NodeState} (o : Output) (h : D c past s) : D c past (emit s o) := by
  rcases emit_shape s o with e | e <;> rw [e]
  · exact h
  · exact h.push_out o

theorem panicWith_D {s : NodeState} (w : String) (h : D c past s) : D c past (panicWith s w) := by
  rcases panicWith_shape s w with e | e <;> rw [e]
  · exact h
  · exact h.push_out _

theorem signAddVote_D {s : NodeState} (t : VType) (bid : Bid) (h : D c past s) : D c past (signAddVote c s t bid) := by
  rcases signAddVote_shape c s t bid with e | ⟨_, me, hme, _, _, e⟩ <;> rw [e]
  · exact h
  · show DI _ _ _ _ _
    dsimp only
    have h' := h.push_out (.signVote t s.round bid)
    refine ⟨h'.x, ?_⟩
    intro w hw
    rcases List.mem_append.1 hw with a | a
    · exact h'.q w a
    · simp at a
      subst a
      unfold ownVote
      simp [hme, Vote.honest]

theorem decideProposal_D {s : NodeState} (r me : Nat) (h : D c past s) : D c past (decideProposal c s r me) := by
  rcases decideProposal_shape c s r me with e | ⟨_, o, _, ho, e⟩ <;> rw [e]
  · exact h
  · show DI _ _ _ _ _
    dsimp only
    have h' : DI c past s.votes o s.queue := by
      rcases ho with ⟨_, rfl⟩ | ⟨_, rfl⟩
      · exact h
      · exact h.push_out _
    refine ⟨h'.x, ?_⟩
    intro w hw
    rcases List.mem_append.1 hw with a | a
    · exact h'.q w a
    · simp at a

theorem newRoundReset_D {s : NodeState} (r : Nat) (h : D c past s) : D c past (newRoundReset s r) := by
  have hf := newRoundReset_frame s r
  show DI _ _ _ _ _
  rw [hf.votes, hf.out, hf.queue]; exact h

theorem enter_D {s : NodeState} (i : Input)
    (hv : ∀ v peer, i = .vote v peer → v.val < c.n → v.sigOK = true → v.addr = v.val → v.signer = v.val →
      Ev c past s.out v.typ (v.round : Int) v.bid v.val = true)
    (h : D c past s) : D c past (enter c s i) :=
  ⟨(enter_framed c s i).out ▸ h.x.trans (enter_votes s i hv),
   (enter_framed c s i).out ▸ (enter_framed c s i).queue ▸ h.q⟩

/-- no move adds a vote; signing appends the vote to `out` and to the queue together -/
theorem D_prim {ok : Prop} {cm : NodeState → Prop} {s t : NodeState} (hp : Prim c ok cm s t) (h : D c past s) : D c past t := by
  have hx := hp.votes (A := AEv c past s.out)
  cases hp with
  | panic w => exact panicWith_D w h
  | schedule r st | propose r | prevoteWait r | precommitWait r | decide b => exact emit_D _ h
  | proposeOwn r me => exact decideProposal_D r me (emit_D _ h)
  | prevote r bid => exact signAddVote_D _ _ h
  | precommit r t x _ _ _ hc => cases hc <;> exact signAddVote_D _ _ h
  | newRound r => exact newRoundReset_D r h
  | setRound r hv hs => exact ⟨h.x.trans hx, h.q⟩
  | _ => exact h

/-- an own vote taken off the queue was signed -/
theorem pop_D {s : NodeState} (m : Internal) (rest : List Internal) (hq : s.queue = m :: rest) (h : D c past s) :
    D c past (enter c { s with queue := rest } m.asInput) := by
  refine enter_D m.asInput (fun v peer e _ _ _ _ => ?_) ⟨h.x, fun w hw => h.q w ?_⟩
  · cases m <;> cases e
    exact Ev_own (h.q v (by rw [hq]; exact List.mem_cons_self ..))
  · rw [hq]; exact List.mem_cons_of_mem _ hw

theorem step_D {s : NodeState} (i : Input) (h : D c past s) : D c (past ++ [i]) (step c s i) :=
  step_invariant (ok := False) (P := D c (past ++ [i])) (fun _ _ hp => D_prim hp) (fun _ => pop_D) s i nofun
    (enter_D i fun _ _ e _ => Ev_last e) (h.mono_past i)

theorem run_D (is : List Input) {s : NodeState} {past : List Input} (h : D c past s) : D c (past ++ is) (run c s is) :=
  run_invariant_past (P := D c) (fun _ _ i h => step_D i h) is h

theorem init_D : D c [] NodeState.init :=
  ⟨.refl .., by intro w hw; simp [NodeState.init] at hw⟩

end Tmv.Cons
