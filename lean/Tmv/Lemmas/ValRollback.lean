import Tmv.Lemmas.ValChain
/-! `state.Rollback` and the store invariant: a rollback over heights without a recent validator
change re-saves exactly the record that is already there. -/
namespace Tmv.ValStore
open Tmv.ValSet

theorem incrTimes_full (n : Nat) (s v : VSet) (hs : Full s) (h : incrTimes n s = some v) : Full v := by
  induction n generalizing s with
  | zero => simp only [incrTimes, Option.some.injEq] at h; rw [← h]; exact hs
  | succ m ih =>
    unfold incrTimes at h
    split at h
    · cases h
    · rename_i s1 hs1
      exact ih s1 (increment_full _ _ _ hs1) h

theorem fromProto_some {p v : VSet} (h : fromProto p = some v) : Full v := by
  unfold fromProto at h
  split at h
  · cases h
  · rename_i hc
    cases h
    have h1 : ¬ p.vals = [] := fun e => hc (Or.inl e)
    have h2 : ¬ p.proposer = none := fun e => hc (Or.inr e)
    refine ⟨h1, ?_⟩
    cases hp : p.proposer with
    | none => exact absurd hp h2
    | some _ => rfl

theorem loadValidators_ok {t : Tbl Info} {h : Int} {v : VSet} (hl : loadValidators t h = .ok v) :
    ∃ info, t.get h = some info ∧
      ((∃ p, info.set = some p ∧ fromProto p = some v) ∨
       (info.set = none ∧ ∃ i2 p2 vs, t.get (lastStoredHeightFor h info.lhc) = some i2 ∧
          i2.set = some p2 ∧ fromProto p2 = some vs ∧
          incrTimes (h - lastStoredHeightFor h info.lhc).toNat vs = some v)) := by
  unfold loadValidators at hl
  cases hg : t.get h with
  | none => rw [hg] at hl; cases hl
  | some info =>
    rw [hg] at hl
    refine ⟨info, rfl, ?_⟩
    dsimp only at hl
    cases hs : info.set with
    | some p =>
      rw [hs] at hl
      dsimp only at hl
      cases hf : fromProto p with
      | none => rw [hf] at hl; cases hl
      | some s => rw [hf] at hl; cases hl; exact .inl ⟨p, rfl, hf⟩
    | none =>
      rw [hs] at hl
      dsimp only at hl
      cases hg2 : t.get (lastStoredHeightFor h info.lhc) with
      | none => rw [hg2] at hl; cases hl
      | some i2 =>
        rw [hg2] at hl
        dsimp only at hl
        cases hs2 : i2.set with
        | none => rw [hs2] at hl; cases hl
        | some p2 =>
          rw [hs2] at hl
          dsimp only at hl
          cases hf : fromProto p2 with
          | none => rw [hf] at hl; cases hl
          | some vs =>
            rw [hf] at hl
            dsimp only at hl
            cases hi : incrTimes (h - lastStoredHeightFor h info.lhc).toNat vs with
            | none => rw [hi] at hl; cases hl
            | some v' => rw [hi] at hl; cases hl; exact .inr ⟨rfl, i2, p2, vs, rfl, hs2, hf, hi⟩

theorem loadValidators_full (t : Tbl Info) (h : Int) (v : VSet) (hl : loadValidators t h = .ok v) :
    Full v := by
  obtain ⟨_, _, ⟨_, _, hf⟩ | ⟨_, _, _, _, _, _, hf, hi⟩⟩ := loadValidators_ok hl
  · exact fromProto_some hf
  · exact incrTimes_full _ _ _ (fromProto_some hf) hi

theorem rollback_ok (db db' : DB) (st st' : State) (h : rollback db st = .ok db' st') :
    st.initialHeight ≤ st.lastBlockHeight - 1 ∧
    ∃ prevLast, loadValidators db.vals (st.lastBlockHeight - 1) = .ok prevLast ∧
      st' = { st with lastBlockHeight := st.lastBlockHeight - 1, nextValidators := st.validators,
                      validators := st.lastValidators, lastValidators := prevLast,
                      lhvc := (if st.lhvc > st.lastBlockHeight - 1 then st.lastBlockHeight - 1 + 1 else st.lhvc),
                      lhpc := (if st.lhpc > st.lastBlockHeight - 1 then st.lastBlockHeight - 1 + 1 else st.lhpc) } ∧
      save db st' = some db' := by
  unfold rollback at h
  simp only at h
  split at h
  · cases h
  · rename_i hrh
    split at h
    · rename_i prevLast hload
      split at h
      · cases h
      · split at h
        · cases h
        · split at h
          · cases h
          · rename_i db1 hsave
            simp only [RbRes.ok.injEq] at h
            obtain ⟨e1, e2⟩ := h
            subst e1
            refine ⟨by omega, prevLast, hload, e2.symm, ?_⟩
            rw [← e2]; exact hsave
    · cases h
    · cases h

/-- a rollback is harmless when the set of height `LastBlockHeight + 1` (re-saved by `Rollback`)
last changed at or below `LastBlockHeight`, i.e. neither the rolled-back block nor its predecessor
carried validator updates, and that height is retained -/
def RollbackSafe (s : Sys) : Prop :=
  s.st.lhvc ≤ s.st.lastBlockHeight ∧ s.base ≤ tip s.st - 1

namespace TInv
variable {t : Tbl Info} {rec : Int → Option VSet} {base top c : Int} {cl : Bool}

theorem lower (hT : TInv t rec base (top + 1) c cl) (hb : base ≤ top) (hc : c ≤ top) :
    TInv t rec base top c false := by
  refine ⟨fun h h1 h2 => hT.good h h1 (by omega), fun k info hk hg => ?_, fun info hg => ?_,
    fun h => by cases h⟩
  · exact (hT.grec k info (by omega) hg).frame fun k2 i2 _ h2 h3 => .inl ⟨by omega, h3⟩
  · obtain ⟨iT, hgT, _⟩ := hT.good (top + 1) (by omega) (Int.le_refl _)
    have := (hT.grec top info (by omega) hg).mono (top + 1) iT (by omega) (Int.le_refl _) hgT
    rw [hT.newest iT hgT] at this
    exact this.2 hc

theorem newest_eq (hT : TInv t rec base top c cl) (hb : base ≤ top) {v : VSet} (hv : rec top = some v) :
    t.get top = some ⟨c, if top = c ∨ top % 100000 = 0 then some v else none⟩ := by
  obtain ⟨info, hget, hg⟩ := hT.good top hb (Int.le_refl _)
  have hG := hT.grec top info (Int.le_refl _) hget
  have hc := hT.newest info hget
  rw [hget]
  obtain ⟨c0, set0⟩ := info
  subst hc
  have hiff := hG.set_iff
  by_cases hcond : top = c0 ∨ top % 100000 = 0
  · rw [if_pos hcond]
    cases set0 with
    | none => exact absurd (hiff.mpr hcond) (by simp)
    | some p => rw [← hv, (hg.stored p rfl).1]
  · rw [if_neg hcond]
    cases set0 with
    | none => rfl
    | some p => exact absurd (hiff.mp rfl) hcond

/-- `save` at a height that has its record already writes that record again -/
theorem resave (hT : TInv t rec base top c cl) (hb : base ≤ top) {v : VSet} (hv : rec top = some v) :
    TInv (t.put top ⟨c, if top = c ∨ top % 100000 = 0 then some v else none⟩) rec base top c false :=
  hT.congr (fun k _ => by
    rw [Tbl.get_put]
    by_cases hk : k = top
    · rw [if_pos hk, hk, hT.newest_eq hb hv]
    · rw [if_neg hk]) fun _ _ _ => rfl

end TInv

/-- `prev` is what `LoadValidators` returned for the height below the window -/
theorem Win.pop {rec : Int → Option VSet} {base T : Int} {last cur next prev : VSet} {hl hl' : Prop}
    (hw : Win rec base (T + 1) last cur next hl) (h : hl) (hb : base ≤ T) (hp : Full prev)
    (hr : base ≤ T - 2 → rec (T - 2) = some prev) : Win rec base T prev last cur hl' :=
  have e1 : T + 1 - 1 = T := by omega
  have e2 : T + 1 - 2 = T - 1 := by omega
  ⟨hw.cur_full, e1 ▸ hw.cur_truth (by omega), hw.last_full h, fun _ => hp,
    fun hb' => e2 ▸ hw.last_truth h (by omega), fun _ => hr⟩

theorem inv_rollback (s : Sys) (hi : Inv s) (hsafe : RollbackSafe s) : Inv (s.step .rollback) := by
  show Inv (match rollback s.db s.st with
    | .ok db' st' => ⟨db', st', s.truth, s.base, false⟩
    | _ => s)
  cases hr : rollback s.db s.st with
  | errNoBlock => exact hi
  | errLoad => exact hi
  | errParams => exact hi
  | errSave => exact hi
  | panic => exact hi
  | ok db' st' =>
    simp only
    obtain ⟨hc, hbase⟩ := hsafe
    obtain ⟨hrh, prevLast, hload, hst', hsave⟩ := rollback_ok _ _ _ _ hr
    have hih := hi.ih_pos
    have hT := hi.table
    have hW := hi.win
    have hprev : s.base ≤ s.st.lastBlockHeight - 1 → s.truth (s.st.lastBlockHeight - 1) = some prevLast := by
      intro hb
      obtain ⟨v, hv1, hv2⟩ := load_of_inv s hi (s.st.lastBlockHeight - 1) hb
        (by rw [tip_of_pos (by omega)]; omega)
      rw [hload] at hv2
      cases hv2
      exact hv1
    rw [tip_of_pos (by omega)] at hT hW hbase
    generalize s.st.lastBlockHeight = n at *
    have hlhvc : (if s.st.lhvc > n - 1 then n - 1 + 1 else s.st.lhvc) = s.st.lhvc := by
      split <;> omega
    rw [hlhvc] at hst'
    have hlbh' : st'.lastBlockHeight = n - 1 := by rw [hst']
    have hT1 := hT.lower (by omega) (by omega)
    have hW1 := hW.pop (hl' := n - 1 ≠ 0) (by omega) (by omega) (loadValidators_full _ _ _ hload)
      (fun hb => (show n - 1 = n + 1 - 2 by omega) ▸ hprev (by omega))
    obtain ⟨_, hdb⟩ := save_ok s.db db' st' (by omega) (by rw [hst']; exact hi.cur_full) hsave
    rw [hst'] at hdb
    simp only [show n - 1 + 2 = n + 1 by omega] at hdb
    refine Inv.of_parts (T := n + 1) (by rw [tip_of_pos (by omega), hlbh']; omega)
      hi.base_pos (by omega) (by rw [hst']; exact hih) (by omega) (by rw [hst']; exact hW1) ?_
    rw [hst', hdb]
    exact hT1.resave (by omega) hW1.rec_tip

end Tmv.ValStore
