/-! Insertion sort, once.  Every sort of the models is the same pair of functions up to the test it
uses: a step `ins x` that walks down the list and puts `x` in front of the first `y` with
`stop x y`, and `sort`, which inserts the elements from the right.  `InsertionSort stop ins sort`
says so in four equations; for a model's sort they hold by `rfl`, with `ite_not` where the model
tests for going on instead of stopping.  What the regions need of a sort — that it permutes (hence
membership, length, sums), that it sorts, that it is stable — is proved here from the equations. -/
namespace Tmv

structure InsertionSort {α : Type} (stop : α → α → Prop) [DecidableRel stop]
    (ins : α → List α → List α) (sort : List α → List α) : Prop where
  ins_nil : ∀ x, ins x [] = [x]
  ins_cons : ∀ x y l, ins x (y :: l) = if stop x y then x :: y :: l else y :: ins x l
  sort_nil : sort [] = []
  sort_cons : ∀ x l, sort (x :: l) = ins x (sort l)

namespace InsertionSort
variable {α : Type} {stop : α → α → Prop} [DecidableRel stop] {ins : α → List α → List α}
  {sort : List α → List α}

theorem split (h : InsertionSort stop ins sort) (x : α) (l : List α) :
    ∃ l₁ l₂, l = l₁ ++ l₂ ∧ ins x l = l₁ ++ x :: l₂ ∧ (∀ y ∈ l₁, ¬ stop x y) ∧
      ∀ y ∈ l₂.head?, stop x y := by
  induction l with
  | nil => exact ⟨[], [], rfl, h.ins_nil x, nofun, nofun⟩
  | cons y l ih =>
    by_cases hs : stop x y
    · exact ⟨[], y :: l, rfl, (h.ins_cons x y l).trans (if_pos hs), nofun, fun _ e => Option.some.inj e ▸ hs⟩
    · obtain ⟨l₁, l₂, e, e', h₁, h₂⟩ := ih
      exact ⟨y :: l₁, l₂, congrArg _ e, (h.ins_cons x y l).trans ((if_neg hs).trans (congrArg _ e')),
        List.forall_mem_cons.2 ⟨hs, h₁⟩, h₂⟩

theorem ins_perm (h : InsertionSort stop ins sort) (x : α) (l : List α) : (ins x l).Perm (x :: l) := by
  obtain ⟨l₁, l₂, rfl, e, -⟩ := h.split x l
  exact e ▸ List.perm_middle

theorem perm (h : InsertionSort stop ins sort) (l : List α) : (sort l).Perm l := by
  induction l with
  | nil => rw [h.sort_nil]
  | cons x l ih => rw [h.sort_cons]; exact (h.ins_perm x _).trans (ih.cons x)

theorem eq_nil_iff (h : InsertionSort stop ins sort) {l : List α} : sort l = [] ↔ l = [] :=
  ⟨fun e => List.nil_perm.1 (e ▸ h.perm l), fun e => e ▸ h.sort_nil⟩

theorem ins_pairwise (h : InsertionSort stop ins sort) {R : α → α → Prop} {x : α} {l : List α}
    (ht : ∀ y z, R x y → R y z → R x z) (hs : ∀ y ∈ l, stop x y → R x y)
    (hn : ∀ y ∈ l, ¬ stop x y → R y x) (hl : l.Pairwise R) : (ins x l).Pairwise R := by
  obtain ⟨l₁, l₂, rfl, e, h₁, h₂⟩ := h.split x l
  obtain ⟨p₁, p₂, p⟩ := List.pairwise_append.1 hl
  have after : ∀ z ∈ l₂, R x z := by
    cases l₂ with
    | nil => nofun
    | cons y l₂ =>
      have hy := hs y (List.mem_append_right _ List.mem_cons_self) (h₂ y rfl)
      exact List.forall_mem_cons.2 ⟨hy, fun z hz => ht y z hy (List.rel_of_pairwise_cons p₂ hz)⟩
  rw [e]
  exact List.pairwise_append.2 ⟨p₁, List.pairwise_cons.2 ⟨after, p₂⟩, fun y hy z hz =>
    (List.mem_cons.1 hz).elim (· ▸ hn y (List.mem_append_left _ hy) (h₁ y hy)) (p y hy z)⟩

/-- `hl` holds of a total preorder on any list, and of a strict order on a list without duplicates -/
theorem pairwise (h : InsertionSort stop ins sort) {R : α → α → Prop}
    (ht : ∀ x y z, R x y → R y z → R x z) {l : List α}
    (hl : l.Pairwise fun x y => (stop x y → R x y) ∧ (¬ stop x y → R y x)) :
    (sort l).Pairwise R := by
  induction l with
  | nil => rw [h.sort_nil]; exact .nil
  | cons x l ih =>
    have ⟨hx, hl⟩ := List.pairwise_cons.1 hl
    have hx y (hy : y ∈ sort l) := hx y ((h.perm l).mem_iff.1 hy)
    rw [h.sort_cons]
    exact h.ins_pairwise (ht x) (fun y hy => (hx y hy).1) (fun y hy => (hx y hy).2) (ih hl)

theorem ins_stable (h : InsertionSort stop ins sort) (x : α) (l : List α) :
    l.Sublist (ins x l) ∧ ∀ y ∈ l, stop x y → [x, y].Sublist (ins x l) := by
  obtain ⟨l₁, l₂, rfl, e, h₁, -⟩ := h.split x l
  rw [e]
  refine ⟨(List.sublist_cons_self x l₂).append_left l₁, fun y hy hs => ?_⟩
  have : y ∈ l₂ := (List.mem_append.1 hy).resolve_left fun hy => h₁ y hy hs
  exact ((List.singleton_sublist.2 this).cons_cons x).trans (List.sublist_append_right l₁ _)

theorem stable (h : InsertionSort stop ins sort) {x y : α} {l : List α} (hxy : [x, y].Sublist l)
    (hs : stop x y) : [x, y].Sublist (sort l) := by
  induction l with
  | nil => cases hxy
  | cons a l ih =>
    rw [h.sort_cons]
    cases hxy with
    | cons _ h' => exact (ih h').trans (h.ins_stable a _).1
    | cons_cons _ h' => exact (h.ins_stable _ _).2 y ((h.perm l).mem_iff.2 (List.singleton_sublist.1 h')) hs

end InsertionSort

end Tmv
