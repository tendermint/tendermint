import Tmv.Model.LightRpc
/-! Injectivity of the protobuf pieces the C20 model hashes (varints are prefix-free; a message made
of fields with distinct ascending tags parses uniquely). All values are 64-bit. -/
namespace Tmv.LightRpc

theorem ofNat_inj {a b : Nat} (ha : a < 256) (hb : b < 256) (h : UInt8.ofNat a = UInt8.ofNat b) : a = b := by
  have := congrArg UInt8.toNat h
  simp at this
  omega

theorem uvarintF_prefix_free : ∀ (f n m : Nat) (r s : Bytes), n < 128 ^ f → m < 128 ^ f →
    uvarintF f n ++ r = uvarintF f m ++ s → n = m ∧ r = s := by
  intro f
  induction f with
  | zero => intro n m r s hn hm h; simp at hn hm; subst hn; subst hm; simpa [uvarintF] using h
  | succ f ih =>
    intro n m r s hn hm h
    unfold uvarintF at h
    by_cases h1 : n < 128 <;> by_cases h2 : m < 128
    · simp only [h1, h2, if_true, List.cons_append, List.nil_append, List.cons.injEq] at h
      exact ⟨ofNat_inj (by omega) (by omega) h.1, h.2⟩
    · simp only [h1, h2, if_true, if_false, List.cons_append, List.nil_append, List.cons.injEq] at h
      have := ofNat_inj (by omega) (by omega) h.1
      omega
    · simp only [h1, h2, if_true, if_false, List.cons_append, List.nil_append, List.cons.injEq] at h
      have := ofNat_inj (by omega) (by omega) h.1
      omega
    · simp only [h1, h2, if_false, List.cons_append, List.cons.injEq] at h
      have e := ofNat_inj (by omega) (by omega) h.1
      have hn' : n / 128 < 128 ^ f := by
        rw [Nat.pow_succ] at hn; exact Nat.div_lt_of_lt_mul (by omega)
      have hm' : m / 128 < 128 ^ f := by
        rw [Nat.pow_succ] at hm; exact Nat.div_lt_of_lt_mul (by omega)
      obtain ⟨e2, e3⟩ := ih _ _ _ _ hn' hm' h.2
      exact ⟨by omega, e3⟩

theorem uvarint_prefix_free (n m : Nat) (r s : Bytes) (hn : n < 2 ^ 64) (hm : m < 2 ^ 64)
    (h : uvarint n ++ r = uvarint m ++ s) : n = m ∧ r = s :=
  uvarintF_prefix_free 10 n m r s (by omega) (by omega) h

/-- `encodeByteSlice` is prefix-free -/
theorem encBS_append_inj (a b x y : Bytes) (ha : a.length < 2 ^ 64) (hb : b.length < 2 ^ 64)
    (h : encBS a ++ x = encBS b ++ y) : a = b ∧ x = y := by
  unfold encBS at h
  rw [List.append_assoc, List.append_assoc] at h
  obtain ⟨e1, e2⟩ := uvarint_prefix_free _ _ _ _ ha hb h
  exact List.append_inj e2 e1

/-- what follows a field with tag `t`: nothing, or a field with another tag -/
def StartsNot (t : UInt8) (X : Bytes) : Prop := ∀ rest, X ≠ t :: rest

theorem startsNot_nil (t : UInt8) : StartsNot t [] := by intro rest h; cases h

theorem fVarint_startsNot (t t' : UInt8) (n : Nat) (X : Bytes) (ht : t' ≠ t) (hX : StartsNot t X) :
    StartsNot t (fVarint t' n ++ X) := by
  intro rest h
  unfold fVarint at h
  split at h
  · exact hX rest (by simpa using h)
  · simp at h; exact ht h.1

theorem fBytes_startsNot (t t' : UInt8) (b : Bytes) (X : Bytes) (ht : t' ≠ t) (hX : StartsNot t X) :
    StartsNot t (fBytes t' b ++ X) := by
  intro rest h
  unfold fBytes at h
  split at h
  · exact hX rest (by simpa using h)
  · simp at h; exact ht h.1

theorem fVarint_append_inj (t : UInt8) (a a' : Nat) (X X' : Bytes) (ha : a < 2 ^ 64) (ha' : a' < 2 ^ 64)
    (hX : StartsNot t X) (hX' : StartsNot t X') (h : fVarint t a ++ X = fVarint t a' ++ X') :
    a = a' ∧ X = X' := by
  unfold fVarint at h
  by_cases h0 : a = 0 <;> by_cases h0' : a' = 0
  · simp [h0, h0'] at h; exact ⟨by omega, h⟩
  · simp [h0, h0'] at h; exact absurd h (hX _)
  · simp [h0, h0'] at h; exact absurd h.symm (hX' _)
  · simp only [h0, h0', if_false, List.cons_append, List.cons.injEq, true_and] at h
    exact uvarint_prefix_free _ _ _ _ ha ha' h

theorem fBytes_append_inj (t : UInt8) (b b' : Bytes) (X X' : Bytes) (hb : b.length < 2 ^ 64)
    (hb' : b'.length < 2 ^ 64) (hX : StartsNot t X) (hX' : StartsNot t X')
    (h : fBytes t b ++ X = fBytes t b' ++ X') : b = b' ∧ X = X' := by
  unfold fBytes at h
  by_cases h0 : b = [] <;> by_cases h0' : b' = []
  · simp [h0, h0'] at h; exact ⟨by rw [h0, h0'], h⟩
  · simp [h0, h0'] at h; exact absurd h (hX _)
  · simp [h0, h0'] at h; exact absurd h.symm (hX' _)
  · simp only [h0, h0', if_false, List.cons_append, List.cons.injEq, true_and, List.append_assoc] at h
    obtain ⟨e1, e2⟩ := uvarint_prefix_free _ _ _ _ hb hb' h
    exact List.append_inj e2 e1

/-- two's-complement encoding is injective on int64 -/
theorem u64_inj (a b : Int) (ha : -(2 ^ 63) ≤ a ∧ a < 2 ^ 63) (hb : -(2 ^ 63) ≤ b ∧ b < 2 ^ 63)
    (h : u64 a = u64 b) : a = b := by
  unfold u64 at h
  split at h <;> split at h <;> omega

theorem u64_lt (a : Int) (ha : -(2 ^ 63) ≤ a ∧ a < 2 ^ 63) : u64 a < 2 ^ 64 := by
  unfold u64; split <;> omega

def I64 (a : Int) : Prop := -(2 ^ 63) ≤ a ∧ a < 2 ^ 63

/-- a DeliverTx result with 64-bit fields (what protobuf can carry) -/
def TxResult.WF (r : TxResult) : Prop :=
  r.code < 2 ^ 64 ∧ r.data.length < 2 ^ 64 ∧ I64 r.gasWanted ∧ I64 r.gasUsed

theorem TxResult.enc_inj (r r' : TxResult) (hr : r.WF) (hr' : r'.WF) (h : r.enc = r'.enc) : r = r' := by
  unfold TxResult.enc at h
  obtain ⟨c1, d1, w1, u1⟩ := hr
  obtain ⟨c2, d2, w2, u2⟩ := hr'
  have s30 : ∀ (n : Nat), StartsNot 0x28 (fVarint 0x30 n ++ []) := fun n =>
    fVarint_startsNot _ _ _ _ (by decide) (startsNot_nil _)
  have s12a : ∀ (n m : Nat), StartsNot 0x12 (fVarint 0x28 n ++ (fVarint 0x30 m ++ [])) := fun n m =>
    fVarint_startsNot _ _ _ _ (by decide) (fVarint_startsNot _ _ _ _ (by decide) (startsNot_nil _))
  have s08 : ∀ (b : Bytes) (n m : Nat), StartsNot 0x08 (fBytes 0x12 b ++ (fVarint 0x28 n ++ (fVarint 0x30 m ++ []))) :=
    fun b n m => fBytes_startsNot _ _ _ _ (by decide)
      (fVarint_startsNot _ _ _ _ (by decide) (fVarint_startsNot _ _ _ _ (by decide) (startsNot_nil _)))
  have h' : fVarint 0x08 r.code ++ (fBytes 0x12 r.data ++ (fVarint 0x28 (u64 r.gasWanted) ++ (fVarint 0x30 (u64 r.gasUsed) ++ [])))
      = fVarint 0x08 r'.code ++ (fBytes 0x12 r'.data ++ (fVarint 0x28 (u64 r'.gasWanted) ++ (fVarint 0x30 (u64 r'.gasUsed) ++ []))) := by
    simpa [List.append_assoc] using h
  obtain ⟨e1, h1⟩ := fVarint_append_inj _ _ _ _ _ c1 c2 (s08 _ _ _) (s08 _ _ _) h'
  obtain ⟨e2, h2⟩ := fBytes_append_inj _ _ _ _ _ d1 d2 (s12a _ _) (s12a _ _) h1
  obtain ⟨e3, h3⟩ := fVarint_append_inj _ _ _ _ _ (u64_lt _ w1) (u64_lt _ w2) (s30 _) (s30 _) h2
  obtain ⟨e4, _⟩ := fVarint_append_inj _ _ _ _ _ (u64_lt _ u1) (u64_lt _ u2) (startsNot_nil _) (startsNot_nil _) h3
  have e3' := u64_inj _ _ w1 w2 e3
  have e4' := u64_inj _ _ u1 u2 e4
  cases r; cases r'
  dsimp only at e1 e2 e3' e4'
  subst e1 e2 e3' e4'
  rfl

theorem map_enc_inj : ∀ (rs rs' : List TxResult), (∀ r ∈ rs, r.WF) → (∀ r ∈ rs', r.WF) →
    rs.map TxResult.enc = rs'.map TxResult.enc → rs = rs'
  | [], [], _, _, _ => rfl
  | [], _ :: _, _, _, h => by simp at h
  | _ :: _, [], _, _, h => by simp at h
  | r :: rs, r' :: rs', h1, h2, h => by
    simp only [List.map_cons, List.cons.injEq] at h
    have e := TxResult.enc_inj r r' (h1 r (by simp)) (h2 r' (by simp)) h.1
    have e' := map_enc_inj rs rs' (fun x hx => h1 x (by simp [hx])) (fun x hx => h2 x (by simp [hx])) h.2
    rw [e, e']

theorem fBytes_inj (t : UInt8) (a b : Bytes) (ha : a.length < 2 ^ 64) (hb : b.length < 2 ^ 64)
    (h : fBytes t a = fBytes t b) : a = b := by
  have h' : fBytes t a ++ [] = fBytes t b ++ [] := by simpa using h
  exact (fBytes_append_inj t a b [] [] ha hb (startsNot_nil _) (startsNot_nil _) h').1

/-- payloads of equal length need no size bound: the length prefixes agree -/
theorem fBytes_inj_of_length_eq (t : UInt8) {a b : Bytes} (hl : a.length = b.length)
    (h : fBytes t a = fBytes t b) : a = b := by
  by_cases ha : a = []
  · rw [ha] at hl ⊢
    exact (List.length_eq_zero_iff.mp hl.symm).symm
  · have hb : b ≠ [] := fun e => ha (List.length_eq_zero_iff.mp (by rw [hl, e]; rfl))
    simp only [fBytes, ha, hb, if_false, hl, List.cons.injEq, true_and] at h
    exact List.append_cancel_left h

theorem fVarint_inj (t : UInt8) (a b : Nat) (ha : a < 2 ^ 64) (hb : b < 2 ^ 64)
    (h : fVarint t a = fVarint t b) : a = b := by
  have h' : fVarint t a ++ [] = fVarint t b ++ [] := by simpa using h
  exact (fVarint_append_inj t a b [] [] ha hb (startsNot_nil _) (startsNot_nil _) h').1

theorem fVarint2_inj (t1 t2 : UInt8) (ht : t2 ≠ t1) (a b a' b' : Nat) (ha : a < 2 ^ 64) (hb : b < 2 ^ 64)
    (ha' : a' < 2 ^ 64) (hb' : b' < 2 ^ 64)
    (h : fVarint t1 a ++ fVarint t2 b = fVarint t1 a' ++ fVarint t2 b') : a = a' ∧ b = b' := by
  have s : ∀ n : Nat, StartsNot t1 (fVarint t2 n ++ []) := fun n =>
    fVarint_startsNot _ _ _ _ ht (startsNot_nil _)
  have h' : fVarint t1 a ++ (fVarint t2 b ++ []) = fVarint t1 a' ++ (fVarint t2 b' ++ []) := by simpa using h
  obtain ⟨e1, h1⟩ := fVarint_append_inj _ _ _ _ _ ha ha' (s _) (s _) h'
  obtain ⟨e2, _⟩ := fVarint_append_inj _ _ _ _ _ hb hb' (startsNot_nil _) (startsNot_nil _) h1
  exact ⟨e1, e2⟩

theorem uvarintF_length_le : ∀ (f n : Nat), (uvarintF f n).length ≤ f := by
  intro f
  induction f with
  | zero => intro n; simp [uvarintF]
  | succ f ih =>
    intro n
    unfold uvarintF
    split
    · simp
    · simp only [List.length_cons]; have := ih (n / 128); omega

theorem fVarint_length_le (t : UInt8) (n : Nat) : (fVarint t n).length ≤ 11 := by
  unfold fVarint; split
  · simp
  · simp only [List.length_cons, uvarint]; have := uvarintF_length_le 10 n; omega

theorem fBytes_length_le (t : UInt8) (b : Bytes) : (fBytes t b).length ≤ 11 + b.length := by
  unfold fBytes; split
  · simp
  · simp only [List.length_cons, List.length_append, uvarint]; have := uvarintF_length_le 10 b.length; omega

theorem fMsg_inj (t : UInt8) (x y : Bytes) (hx : x.length < 2 ^ 64) (hy : y.length < 2 ^ 64)
    (h : fMsg t x = fMsg t y) : x = y := by
  unfold fMsg at h
  simp only [List.cons.injEq, true_and] at h
  obtain ⟨e1, e2⟩ := uvarint_prefix_free _ _ _ _ hx hy h
  exact e2

/-- a slice below 4 GiB has a 64-bit length -/
theorem lt64 {n : Nat} (h : n < 2 ^ 32) : n < 2 ^ 64 := Nat.lt_trans h (by decide)

/-- sizes a BlockID / Header can have on the wire (slices below 4 GiB, 64-bit numbers) -/
def BlockID.WF (b : BlockID) : Prop := b.hash.length < 2 ^ 32 ∧ b.total < 2 ^ 64 ∧ b.psHash.length < 2 ^ 32

theorem BlockID.enc_inj (b b' : BlockID) (hb : b.WF) (hb' : b'.WF) (h : b.enc = b'.enc) : b = b' := by
  unfold BlockID.enc at h
  obtain ⟨h1, t1, p1⟩ := hb
  obtain ⟨h2, t2, p2⟩ := hb'
  have sm : ∀ x : Bytes, StartsNot 0x0a (fMsg 0x12 x) := by
    intro x rest hh; unfold fMsg at hh; simp at hh
  obtain ⟨e1, hm⟩ := fBytes_append_inj _ _ _ _ _ (lt64 h1) (lt64 h2) (sm _) (sm _) h
  have l1 := fVarint_length_le 0x08 b.total
  have l2 := fBytes_length_le 0x12 b.psHash
  have l1' := fVarint_length_le 0x08 b'.total
  have l2' := fBytes_length_le 0x12 b'.psHash
  have hin := fMsg_inj _ _ _ (by simp only [List.length_append]; omega) (by simp only [List.length_append]; omega) hm
  have sb : ∀ x : Bytes, StartsNot 0x08 (fBytes 0x12 x ++ []) := fun x =>
    fBytes_startsNot _ _ _ _ (by decide) (startsNot_nil _)
  have hin' : fVarint 0x08 b.total ++ (fBytes 0x12 b.psHash ++ []) = fVarint 0x08 b'.total ++ (fBytes 0x12 b'.psHash ++ []) := by
    simpa using hin
  obtain ⟨e2, hr⟩ := fVarint_append_inj _ _ _ _ _ t1 t2 (sb _) (sb _) hin'
  obtain ⟨e3, _⟩ := fBytes_append_inj _ _ _ _ _ (lt64 p1) (lt64 p2) (startsNot_nil _) (startsNot_nil _) hr
  cases b; cases b'
  dsimp only at e1 e2 e3
  subst e1 e2 e3
  rfl

def Header.WF (h : Header) : Prop :=
  h.versionBlock < 2 ^ 64 ∧ h.versionApp < 2 ^ 64 ∧ h.chainID.length < 2 ^ 32 ∧ I64 h.height ∧
  I64 h.timeSec ∧ I64 h.timeNanos ∧ h.lastBlockID.WF ∧ h.lastCommitHash.length < 2 ^ 32 ∧
  h.dataHash.length < 2 ^ 32 ∧ h.validatorsHash.length < 2 ^ 32 ∧ h.nextValidatorsHash.length < 2 ^ 32 ∧
  h.consensusHash.length < 2 ^ 32 ∧ h.appHash.length < 2 ^ 32 ∧ h.lastResultsHash.length < 2 ^ 32 ∧
  h.evidenceHash.length < 2 ^ 32 ∧ h.proposer.length < 2 ^ 32

/-- the 14 hashed byte strings determine the header -/
theorem Header.fields_inj (h h' : Header) (hw : h.WF) (hw' : h'.WF) (he : h.fields = h'.fields) : h = h' := by
  obtain ⟨a1, a2, a3, a4, a5, a6, a7, a8, a9, a10, a11, a12, a13, a14, a15, a16⟩ := hw
  obtain ⟨b1, b2, b3, b4, b5, b6, b7, b8, b9, b10, b11, b12, b13, b14, b15, b16⟩ := hw'
  simp only [Header.fields, List.cons.injEq, and_true] at he
  obtain ⟨e1, e2, e3, e4, e5, e6, e7, e8, e9, e10, e11, e12, e13, e14⟩ := he
  obtain ⟨v1, v2⟩ := fVarint2_inj _ _ (by decide) _ _ _ _ a1 a2 b1 b2 e1
  have c := fBytes_inj _ _ _ (lt64 a3) (lt64 b3) e2
  have ht := u64_inj _ _ a4 b4 (fVarint_inj _ _ _ (u64_lt _ a4) (u64_lt _ b4) e3)
  obtain ⟨t1, t2⟩ := fVarint2_inj _ _ (by decide) _ _ _ _ (u64_lt _ a5) (u64_lt _ a6) (u64_lt _ b5) (u64_lt _ b6) e4
  have t1' := u64_inj _ _ a5 b5 t1
  have t2' := u64_inj _ _ a6 b6 t2
  have lb := BlockID.enc_inj _ _ a7 b7 e5
  have f6 := fBytes_inj _ _ _ (lt64 a8) (lt64 b8) e6
  have f7 := fBytes_inj _ _ _ (lt64 a9) (lt64 b9) e7
  have f8 := fBytes_inj _ _ _ (lt64 a10) (lt64 b10) e8
  have f9 := fBytes_inj _ _ _ (lt64 a11) (lt64 b11) e9
  have f10 := fBytes_inj _ _ _ (lt64 a12) (lt64 b12) e10
  have f11 := fBytes_inj _ _ _ (lt64 a13) (lt64 b13) e11
  have f12 := fBytes_inj _ _ _ (lt64 a14) (lt64 b14) e12
  have f13 := fBytes_inj _ _ _ (lt64 a15) (lt64 b15) e13
  have f14 := fBytes_inj _ _ _ (lt64 a16) (lt64 b16) e14
  cases h; cases h'
  dsimp only at v1 v2 c ht t1' t2' lb f6 f7 f8 f9 f10 f11 f12 f13 f14
  subst v1 v2 c ht t1' t2' lb f6 f7 f8 f9 f10 f11 f12 f13 f14
  rfl

end Tmv.LightRpc
