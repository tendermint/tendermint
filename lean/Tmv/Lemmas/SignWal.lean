import Tmv.Lemmas.WalHistory
import Tmv.Lemmas.SignNode
/-! Bridge between the record-level WAL of `Tmv.SignNode` (C04) and the byte-level model of
`libs/autofile` Group + `consensus/wal.go` (C15, `Tmv.Wal`): the receive routine's WAL operations as
C15 history operations (`walOps`), under which the byte-level log and its durable part are the node's
`wal` and its `synced` prefix (`walOps_node`). With `synced_log_is_prefix_of_reader` (whatever the log
holds at a successful `FlushAndSync` is a prefix of what every later reader returns) this gives
`Props.C04.replay_reissues_requests_real_wal`. -/
namespace Tmv.SignNode
open Tmv.Wal

variable {S I : Type}

/-- the WAL operations of one incarnation handling the inputs `is` from core state `s`: every input is
written before it is handled; if handling it issues a signing request (or it is an own message) the
log is flushed and fsynced first (`SignNode.handle`) -/
def walOps (enc : I → Bytes) (k : Core S I) : S → List (I × Int) → List HOp
  | _, [] => []
  | s, (i, _) :: rest =>
    (HOp.write (enc i) :: (if k.internal i || !(k.step s i).2.isEmpty then [HOp.sync] else [])) ++
      walOps enc k (k.step s i).1 rest

/-- a `HOp.sync` stands exactly where `SignNode.handle` moves `synced` up to the record just written -/
theorem walOps_node (P : Params) (G : Good P) (Sz dhl dtl kk : Nat) (enc : I → Bytes) (k : Core S I)
    (is : List (I × Int)) (n : Node S I) (g g' : Group) (hs : List Bytes) (hn : NInv k n) (hi : HInv P g hs)
    (hw : wlog P g = n.wal.map enc) (hd : dlog P g = (n.wal.take n.synced).map enc)
    (st : Steps P Sz dhl dtl kk g (walOps enc k n.s is) g') :
    (∃ hs', HInv P g' hs') ∧ wlog P g' = (runNode k n is).wal.map enc ∧
      dlog P g' = ((runNode k n is).wal.take (runNode k n is).synced).map enc := by
  induction is generalizing n g hs with
  | nil =>
    cases st
    exact ⟨⟨hs, hi⟩, hw, hd⟩
  | cons a rest ih =>
    obtain ⟨i, t⟩ := a
    rw [walOps, List.cons_append] at st
    cases st with
    | cons s1 st' =>
      cases s1 with
      | write hv hwr =>
        obtain ⟨h1, h2, h3⟩ := write_step P G Sz g _ hs _ hi hv hwr
        have hw1 := h3.trans (show _ = (n.wal ++ [i]).map enc by rw [hw, List.map_append]; rfl)
        have hn1 := ninv_handle k hn i t
        by_cases hc : (k.internal i || !(k.step n.s i).2.isEmpty) = true
        · rw [if_pos hc] at st'
          cases st' with
          | cons s2 st'' =>
            cases s2 with
            | sync =>
              obtain ⟨h1', h2', h3', _⟩ := sync_step P G _ _ h1
              refine ih (handle k n i t) _ _ hn1 h1' (h3'.trans hw1) ?_ st''
              show _ = ((n.wal ++ [i]).take (if _ then _ else _)).map enc
              rw [h2', hw1, if_pos hc, List.take_of_length_le (by rw [List.length_append]; exact Nat.le_refl _)]
        · rw [if_neg hc] at st'
          refine ih (handle k n i t) _ _ hn1 h1 hw1 ?_ st'
          show _ = ((n.wal ++ [i]).take (if _ then _ else _)).map enc
          rw [h2, hd, if_neg hc, List.take_append_of_le_length hn.synced]

end Tmv.SignNode
