import Tmv.Lemmas.VoteReachRun
import Tmv.Lemmas.ConsLock
import Tmv.Lemmas.ConsGuard
/-! Node-level part of "own votes are recorded" (C03): two invariants kept by every move of the
node model (`RT_prim`, `OQ_prim`) and by recording an input (`enter_RT`, `enter_OQ`),

* (RT) the node's round is at most the height vote set's round, and every round up to that one is
  tracked (`SetRound` adds every missing round) — for inputs without future-round timeouts;
* (OQ) every vote the node signed is recorded in its vote sets or still waits in its queue;

and their lift through `drain` / `step`: the own vote taken off the queue is for a tracked round, well
signed, and the only vote the node signed of that type in that round (`G`), so `HVS.addVote` records
it. -/
namespace Tmv.Cons

/-! ### the height vote set: tracked rounds -/

/-- every round `0 … h.round` is tracked -/
def HVS.Trk (h : HVS) : Prop :=
  ∀ k : Nat, (k : Int) ≤ h.round → ∀ t, (h.getVoteSet (k : Int) t).isSome = true

theorem getVoteSet_isSome (h : HVS) (r : Int) (t : VType) :
    (h.getVoteSet r t).isSome = (h.getRound r).isSome := by
  unfold HVS.getVoteSet; cases h.getRound r <;> rfl

theorem HVS.setPeerMaj23_round_eq (h : HVS) (r : Nat) (t : VType) (peer : Peer) (key : Bid) :
    (h.setPeerMaj23 r t peer key).round = h.round := by
  unfold HVS.setPeerMaj23
  split
  · exact HVS.putVoteSet_round_eq ..
  · rfl

theorem HVS.Trk.ext {c : Cfg} {A : Int → VType → Vote → Prop} {h h' : HVS} (ht : h.Trk)
    (hx : HExt c A h h') (hr : h'.round = h.round) : h'.Trk := by
  intro k hk t
  rw [hr] at hk
  exact hx.tracked (ht k hk t)

theorem HVS.Trk.init : HVS.init.Trk := by
  intro k hk t
  rw [getVoteSet_init]
  have : (k : Int) = 0 := by
    have : HVS.init.round = 0 := rfl
    omega
  simp [this]

theorem foldl_addRound_tracks (c : Cfg) (rs : List Int) (h : HVS) :
    ∀ r ∈ rs, ∀ t,
      ((rs.foldl (fun h r => if (h.getRound r).isSome then h else h.addRound r) h).getVoteSet r t).isSome = true := by
  induction rs generalizing h with
  | nil => intro r hr; cases hr
  | cons a rs ih =>
    intro r hr t
    simp only [List.foldl]
    rcases List.mem_cons.1 hr with e | hm
    · subst e
      apply (HExt.foldl_addRound c (fun _ _ _ => True) rs _).tracked
      split
      · rename_i hs
        rw [getVoteSet_isSome]; exact hs
      · rw [HVS.addRound_getVoteSet]
        cases h.getVoteSet r t <;> simp
    · exact ih _ r hm t

/-- `SetRound`: the new round is set, and every round up to it is tracked -/
theorem HVS.setRound_spec (c : Cfg) {h h' : HVS} {x : Int} (hs : h.setRound x = some h') (ht : h.Trk) :
    h'.round = x ∧ h'.Trk := by
  unfold HVS.setRound at hs
  simp only [] at hs
  split at hs
  · cases hs
  · cases hs
    refine ⟨rfl, ?_⟩
    intro k hk t
    have hk' : (k : Int) ≤ x := hk
    have key : ∀ F : HVS, (F.getVoteSet (k : Int) t).isSome = true →
        ((⟨x, F.sets, F.catchup⟩ : HVS).getVoteSet (k : Int) t).isSome = true := by
      intro F hF
      rw [getVoteSet_congr_sets (a := F) (b := ⟨x, F.sets, F.catchup⟩) rfl]; exact hF
    apply key
    by_cases hold : (k : Int) ≤ h.round
    · exact (HExt.foldl_addRound c (fun _ _ _ => True) _ h).tracked (ht k hold t)
    · apply foldl_addRound_tracks c
      refine List.mem_map.2 ⟨((k : Int) - (h.round - 1)).toNat, List.mem_range.2 (by omega), by omega⟩

/-! ### (RT): the round is tracked -/

structure RTI (round : Nat) (v : HVS) : Prop where
  le : (round : Int) ≤ v.round
  trk : v.Trk

abbrev RT (s : NodeState) : Prop := RTI s.round s.votes

theorem RTI.init : RT NodeState.init := ⟨Int.le_refl _, HVS.Trk.init⟩

theorem RTI.ext {c : Cfg} {A : Int → VType → Vote → Prop} {r : Nat} {v v' : HVS} (h : RTI r v)
    (hx : HExt c A v v') (hr : v'.round = v.round) : RTI r v' :=
  ⟨by rw [hr]; exact h.le, h.trk.ext hx hr⟩

variable {c : Cfg}

theorem signAddVote_RT {s : NodeState} (t : VType) (b : Bid) (h : RT s) : RT (signAddVote c s t b) := by
  show RTI _ _
  rw [signAddVote_round, signAddVote_votes]; exact h
theorem doPrevote_RT {s : NodeState} (h : RT s) : RT (doPrevote c s) := by
  show RTI _ _
  rw [doPrevote_round, doPrevote_votes]; exact h
theorem enter_RT {s : NodeState} (i : Input) (h : RT s) : RT (enter c s i) := by
  have hr := (enter_framed c s i).round
  have he := enter_entry c s i
  generalize enter c s i = t at he hr
  show RTI t.round t.votes
  rw [hr]
  cases he with
  | vote v peer =>
    exact h.ext (HExt.addVote c (fun _ _ _ => True) _ v peer trivial) (HVS.addVote_round_eq c _ v peer)
  | peerMaj23 r t peer bid =>
    exact h.ext (HExt.setPeerMaj23 c (fun _ _ _ => True) _ _ _ _ _) (HVS.setPeerMaj23_round_eq ..)
  | _ => exact h

/-- the round changes in `newRound`, after `SetRound` has run ahead of it; every other `enterX` is for
a round reached, so for the current one -/
theorem RT_prim {cm : NodeState → Prop} {s t : NodeState} (hp : Prim c True cm s t) (h : RT s) : RT t := by
  cases hp with
  | panic w => show RTI _ _; rw [panicWith_round, panicWith_votes]; exact h
  | schedule r st | precommitWait r | decide b =>
    show RTI (emit s _).round (emit s _).votes; rw [emit_round, emit_votes]; exact h
  | newRound r _ _ hle =>
    have hf := newRoundReset_frame s r
    show RTI _ _; rw [hf.round, hf.votes]; exact ⟨hle, h.trk⟩
  | setRound r hv hs hr =>
    obtain ⟨e1, e2⟩ := HVS.setRound_spec c hs h.trk
    exact ⟨by rw [e1]; show (s.round : Int) ≤ r + 1; omega, e2⟩
  | propose r _ hg hr | prevoteWait r _ hg hr =>
    have e : r = s.round := Nat.le_antisymm (hr trivial) (le_of_guard hg)
    subst e
    show RTI s.round (emit s _).votes; rw [emit_votes]; exact h
  | proposeOwn r me _ hg hr =>
    have e : r = s.round := Nat.le_antisymm (hr trivial) (le_of_guard hg)
    subst e
    show RTI s.round (decideProposal c _ _ _).votes; rw [decideProposal_votes, emit_votes]; exact h
  | prevote r _ _ hg hr =>
    have e := eq_of_guard hr hg
    subst e
    show RTI s.round (signAddVote c _ _ _).votes; rw [signAddVote_votes]; exact h
  | precommit r t x _ hg hr hc =>
    have e := eq_of_guard hr hg
    subst e
    show RTI s.round (signAddVote c t _ x).votes; rw [signAddVote_votes, hc.frame.votes]; exact h
  | _ => exact h

theorem handleInput_RT {s : NodeState} (i : Input) (hi : i.notFuture s) (h : RT s) : RT (handleInput c s i) :=
  (handleInput_star (cm := fun _ => True) s i (fun _ => hi) fun _ _ => trivial).inv (fun _ _ hp => RT_prim hp) (enter_RT i h)

/-! ### (OQ): signed votes are recorded or queued -/

/-- every signed vote is recorded or still queued -/
def OQI (me : Nat) (out : List Output) (v : HVS) (q : List Internal) : Prop :=
  ∀ t r b, Output.signVote t r b ∈ out →
    v.has (r : Int) t b me ∨ Internal.vote (Vote.honest t r b me) ∈ q

abbrev OQ (me : Nat) (s : NodeState) : Prop := OQI me s.out s.votes s.queue

variable {me : Nat}

theorem OQI.init (me : Nat) : OQ me NodeState.init := by
  intro t r b h; cases h

theorem OQI.ext {A : Int → VType → Vote → Prop} {out : List Output} {v v' : HVS} {q : List Internal}
    (h : OQI me out v q) (hx : HExt c A v v') : OQI me out v' q :=
  fun t r b hm => (h t r b hm).imp hx.has id

theorem OQI.push_other {out : List Output} {v : HVS} {q : List Internal} (h : OQI me out v q) (o : Output)
    (ho : ¬ isVote o) : OQI me (out ++ [o]) v q := by
  intro t r b hm
  rcases List.mem_append.1 hm with a | a
  · exact h t r b a
  · simp at a; subst a; exact absurd trivial ho

theorem OQI.push_queue {out : List Output} {v : HVS} {q : List Internal} (h : OQI me out v q)
    (ms : List Internal) : OQI me out v (q ++ ms) :=
  fun t r b hm => (h t r b hm).imp id (List.mem_append_left _)

theorem OQI.push_vote {out : List Output} {v : HVS} {q : List Internal} (h : OQI me out v q)
    (t : VType) (r : Nat) (b : Bid) :
    OQI me (out ++ [.signVote t r b]) v (q ++ [.vote (Vote.honest t r b me)]) := by
  intro t' r' b' hm
  rcases List.mem_append.1 hm with a | a
  · exact (h t' r' b' a).imp id (List.mem_append_left _)
  · simp at a
    obtain ⟨e1, e2, e3⟩ := a
    subst e1; subst e2; subst e3
    exact Or.inr (List.mem_append_right _ (List.mem_singleton.2 rfl))

theorem OQI.pop {out : List Output} {v : HVS} {m : Internal} {rest : List Internal} (h : OQI me out v (m :: rest))
    (hm : ∀ t r b, m = .vote (Vote.honest t r b me) → Output.signVote t r b ∈ out → v.has (r : Int) t b me) :
    OQI me out v rest := by
  intro t r b ho
  rcases h t r b ho with h1 | h1
  · exact Or.inl h1
  · rcases List.mem_cons.1 h1 with e | e
    · exact Or.inl (hm t r b e.symm ho)
    · exact Or.inr e

theorem emit_OQ {s : NodeState} (o : Output) (ho : ¬ isVote o) (h : OQ me s) : OQ me (emit s o) := by
  rcases emit_shape s o with e | e <;> rw [e]
  · exact h
  · exact h.push_other o ho
theorem panicWith_OQ {s : NodeState} (w : String) (h : OQ me s) : OQ me (panicWith s w) := by
  rcases panicWith_shape s w with e | e <;> rw [e]
  · exact h
  · exact h.push_other _ (fun h => h)
theorem signAddVote_OQ (hc : c.self = some me) {s : NodeState} (t : VType) (b : Bid) (h : OQ me s) :
    OQ me (signAddVote c s t b) := by
  rcases signAddVote_shape c s t b with e | ⟨_, me', hme, _, _, e⟩ <;> rw [e]
  · exact h
  · rw [hc] at hme; cases hme
    exact h.push_vote t s.round b
theorem decideProposal_OQ {s : NodeState} (r me' : Nat) (h : OQ me s) :
    OQ me (decideProposal c s r me') := by
  rcases decideProposal_shape c s r me' with e | ⟨_, o, _, ho, e⟩ <;> rw [e]
  · exact h
  · rcases ho with ⟨_, rfl⟩ | ⟨_, rfl⟩
    · exact h.push_queue _
    · exact (h.push_other (.signProposal r (s.validBlock.getD c.ownBlock) s.validRound) (fun h => h)).push_queue _
theorem enter_OQ {s : NodeState} (i : Input) (h : OQ me s) : OQ me (enter c s i) := by
  have hf := enter_framed c s i
  show OQI me (enter c s i).out (enter c s i).votes (enter c s i).queue
  rw [hf.out, hf.queue]
  exact OQI.ext h (enter_votes (A := fun _ _ _ => True) s i fun _ _ _ => trivial)

/-- a vote is signed and queued in one move (`signAddVote`); no move removes a vote from the vote sets -/
theorem OQ_prim (hc : c.self = some me) {ok : Prop} {cm : NodeState → Prop} {s t : NodeState} (hp : Prim c ok cm s t) (h : OQ me s) : OQ me t := by
  have hx : HExt c (fun _ _ _ => True) s.votes t.votes := hp.votes
  cases hp with
  | panic w => exact panicWith_OQ w h
  | schedule r st | propose r | prevoteWait r | precommitWait r | decide b => exact emit_OQ _ (fun h => h) h
  | proposeOwn r me' => exact decideProposal_OQ r me' (emit_OQ _ (fun h => h) h)
  | prevote r bid => exact signAddVote_OQ hc _ _ h
  | precommit r t x _ _ _ hp => cases hp <;> exact signAddVote_OQ hc _ _ h
  | newRound r =>
    have hf := newRoundReset_frame s r
    show OQI _ _ _ _
    rw [hf.out, hf.votes, hf.queue]; exact h
  | setRound r hv hs => exact OQI.ext h hx
  | _ => exact h

theorem handleInput_OQ_of (hc : c.self = some me) {s : NodeState} (i : Input) (h : OQ me (enter c s i)) :
    OQ me (handleInput c s i) :=
  (handleInput_star (ok := False) (cm := fun _ => True) s i nofun fun _ _ => trivial).inv (fun _ _ hp => OQ_prim hc hp) h

/-! ### the lift through `drain` / `step` -/

/-- a recorded vote of the node itself is one it signed -/
def Mine (me : Nat) (s : NodeState) : Prop :=
  ∀ (r : Nat) t k, s.votes.has (r : Int) t k me → Output.signVote t r k ∈ s.out

theorem Mine.ext {s s' : NodeState} (h : Mine me s)
    (hx : HExt c (AOwn me s.out fun w => w.val ≠ me) s.votes s'.votes)
    (hsub : ∀ o ∈ s.out, o ∈ s'.out) : Mine me s' := by
  intro r t k hh
  rcases hx.has_back hh with h1 | ⟨w, ⟨hr, ht, hsrc⟩, hb, hu⟩
  · exact hsub _ (h r t k h1)
  · have hr' : w.round = r := by exact_mod_cast hr
    rcases hsrc with hne | ⟨_, hs⟩
    · exact absurd hu hne
    · rw [ht, hr', hb] at hs
      exact hsub _ hs

/-- What is carried through the middle of one `step`, between two own messages: the signing guard `G`
(Lemmas/ConsGuard: at most one vote per type and round), the bookkeeping `N` of queue and outputs
(Lemmas/NetNI: queued own votes were signed), well-formed vote sets, `Mine`, (RT) and (OQ).
Well-formedness, (RT) and (OQ) are what the net keeps from step to step (`Sync.OwnOK`); `G`, `N` and
`Mine` it has from `LogInv` at every step boundary. -/
structure Mid (c : Cfg) (me : Nat) (s : NodeState) : Prop where
  g : G s
  n : N me [] s
  wf : HVS.WF c s.votes
  mine : Mine me s
  rt : RT s
  own : OQ me s

/-- **one input is handled**, possibly the head of the queue just taken off it: a vote carrying the node's own
index is then one it signed, and (OQ) is asked with the input recorded, where that vote is accounted for again -/
theorem handleInput_Mid_of (hc : c.self = some me) {s : NodeState} (i : Input) (hi : i.notFuture s)
    (hE : ∀ v peer, i = .vote v peer → v.val ≠ me ∨ (v.val = me ∧ Output.signVote v.typ v.round v.bid ∈ s.out))
    (hg : G s) (hn : N me [] s) (hwf : HVS.WF c s.votes) (hmine : Mine me s) (hrt : RT s)
    (hown : OQ me (enter c s i)) : Mid c me (handleInput c s i) := by
  have hsub : ∀ o ∈ s.out, o ∈ (handleInput c s i).out := by
    obtain ⟨new, e⟩ := (handleInput_N hc i hn.rebase).ext
    intro o ho; rw [e]; exact List.mem_append_left _ ho
  exact ⟨handleInput_G i hi hg, handleInput_N hc i hn,
    (handleInput_votes (A := fun _ _ _ => True) s i fun _ _ _ => trivial).wf hwf,
    hmine.ext (c := c) (handleInput_votes s i fun v peer hv => ⟨rfl, rfl, hE v peer hv⟩) hsub,
    handleInput_RT i hi hrt, handleInput_OQ_of hc i hown⟩

theorem handleInput_Mid (hc : c.self = some me) {s : NodeState} (i : Input) (hi : i.notFuture s)
    (hE : ∀ v peer, i = .vote v peer → v.val ≠ me) (h : Mid c me s) : Mid c me (handleInput c s i) :=
  handleInput_Mid_of hc i hi (fun v peer e => .inl (hE v peer e)) h.g h.n h.wf h.mine h.rt (enter_OQ i h.own)

/-- **the head of the queue is handled**: the node's own vote is recorded -/
theorem pop_Mid (hc : c.self = some me) (hlt : me < c.n) {s : NodeState} {m : Internal} {rest : List Internal}
    (hq : s.queue = m :: rest) (h : Mid c me s) :
    Mid c me (handleInternal c { s with queue := rest } m) := by
  have hn0 : NI me [] s.round (m :: rest) s.out := hq ▸ h.n
  have hown : OQI me s.out s.votes (m :: rest) := hq ▸ h.own
  rw [handleInternal_eq]
  refine handleInput_Mid_of hc m.asInput (by cases m <;> trivial) ?_ h.g hn0.pop h.wf h.mine h.rt ?_
  · intro v peer e
    have e : m = .vote v := by cases m <;> cases e; rfl
    subst e
    have hqi := hn0.qi v (List.mem_cons_self ..)
    exact .inr ⟨hqi.1, hqi.2.2⟩
  · cases m with
    | proposal _ | part _ => exact enter_OQ _ (hown.pop fun _ _ _ e => by cases e)
    | vote v =>
      refine OQI.pop (hown.ext (HExt.addVote c (fun _ _ _ => True) _ v 0 trivial)) ?_
      intro t r b e hm'
      cases e
      have hr : r ≤ s.round := h.n.a4 t r b hm'
      have hle := h.rt.le
      have ht : (s.votes.getVoteSet (r : Int) t).isSome = true := h.rt.trk r (by omega) t
      -- the node signed no other vote of this type in this round (`G`), so it recorded none (`Mine`)
      have ho : s.votes.only (r : Int) t b me := by
        intro vs hg k hk
        have hk' : Output.signVote t r k ∈ s.out := h.mine r t k ⟨vs, hg, hk⟩
        exact h.g.vote_uniq hk' hm'
      exact HVS.addVote_records (c := c) h.wf (Vote.honest t r b me) 0 (Vote.honest_wellSigned t r b hlt) ht ho

/-- **one input of the receive routine** (not a future-round timeout, not a vote carrying the node's
own index) keeps everything in `Mid`, in particular: every vote the node signed is recorded or still queued -/
theorem step_Mid (hc : c.self = some me) (hlt : me < c.n) {s : NodeState} (i : Input) (hi : i.notFuture s)
    (hE : ∀ v peer, i = .vote v peer → v.val ≠ me) (h : Mid c me s) : Mid c me (step c s i) :=
  step_keeps (fun _ _ _ hq h => pop_Mid hc hlt hq h) i (handleInput_Mid hc i hi hE) h

end Tmv.Cons
