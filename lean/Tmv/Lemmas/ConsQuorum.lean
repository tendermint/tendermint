import Tmv.Lemmas.ConsPrim
/-! A recorded +2/3 majority is backed by a bucket whose power sum reached `total*2/3+1` (Q). -/
namespace Tmv.Cons

/-- a vote set's recorded majority has a bucket with at least the quorum -/
def Qv (c : Cfg) (vs : VoteSet) : Prop := ∀ k, vs.maj23 = some k → c.quorum ≤ vs.blockSum k

theorem Qv.empty (c : Cfg) : Qv c VoteSet.empty := by intro k h; simp [VoteSet.empty] at h

theorem Qv_iff (c : Cfg) (vs : VoteSet) : Qv c vs ↔ ∀ k, vs.maj23 = some k → c.quorum ≤ (vs.bucket k).sum := by
  unfold Qv; simp only [VoteSet.blockSum_eq]

theorem VoteSet.finish_Q (c : Cfg) (vs : VoteSet) (idx : Nat) (key : Bid) (h : Qv c vs) :
    Qv c (VoteSet.finish c vs idx key (vs.bucket key)).1 := by
  rw [Qv_iff] at h ⊢
  obtain ⟨eb, _, hc⟩ := VoteSet.finish_cases c vs idx key (vs.bucket key)
  intro k hk
  rw [VoteSet.bucket_aset eb]
  rcases hc with ⟨em, _, _⟩ | ⟨_, hq, _, em, _⟩ <;> rw [em] at hk
  · by_cases hkk : k = key
    · rw [if_pos hkk]; subst hkk
      exact Nat.le_trans (h k hk) ((vs.bucket k).add_sum_ge idx (c.power idx))
    · rw [if_neg hkk]; exact h k hk
  · cases hk; rw [if_pos rfl]; exact hq

theorem VoteSet.addVerified_Q (c : Cfg) (vs : VoteSet) (idx : Nat) (key : Bid) (h : Qv c vs) :
    Qv c (vs.addVerified c idx key).1 := by
  obtain ⟨em, eb⟩ := VoteSet.recordVote_fields c vs idx key
  have h1 : Qv c (vs.recordVote c idx key) := by
    rw [Qv_iff] at h ⊢
    intro k hk
    rw [VoteSet.bucket_congr eb]; exact h k (em ▸ hk)
  rw [VoteSet.addVerified_eq]
  split
  · exact h1
  · rw [← VoteSet.bucket_congr eb]; exact VoteSet.finish_Q c _ idx key h1

theorem VoteSet.addVote_Q (c : Cfg) (vs : VoteSet) (v : Vote) (h : Qv c vs) : Qv c (vs.addVote c v).1 := by
  rcases VoteSet.addVote_cases c vs v with e | ⟨_, _, _, _, _, e⟩ <;> rw [e]
  · exact h
  · exact VoteSet.addVerified_Q c vs _ _ h

theorem VoteSet.setPeerMaj23_Q (c : Cfg) (vs : VoteSet) (peer : Peer) (key : Bid) (h : Qv c vs) :
    Qv c (vs.setPeerMaj23 peer key) := by
  rw [Qv_iff] at h ⊢
  intro k hk
  rw [(VoteSet.bucket_setPeerMaj23 vs peer key k).2]
  exact h k ((VoteSet.setPeerMaj23_maj23 vs peer key) ▸ hk)

theorem Qv.kept (c : Cfg) (B : Vote → Prop) : VoteSet.Kept c B (Qv c) :=
  ⟨Qv.empty c, fun vs v _ => VoteSet.addVote_Q c vs v, fun vs p k => VoteSet.setPeerMaj23_Q c vs p k⟩

/-- every vote set of the height vote set satisfies `Qv` -/
def QH (c : Cfg) (h : HVS) : Prop := ∀ (r : Int) rvs, h.getRound r = some rvs → Qv c rvs.prevotes ∧ Qv c rvs.precommits

theorem QH_iff {c : Cfg} {h : HVS} : QH c h ↔ HVS.All (fun _ _ => Qv c) h := (HVS.all_iff (P := fun _ _ => Qv c)).symm

theorem QH.init (c : Cfg) : QH c HVS.init := QH_iff.2 (.init fun _ => Qv.empty c)

theorem QH.getVoteSet {c : Cfg} {h : HVS} (hq : QH c h) {r : Int} {t : VType} {vs : VoteSet}
    (hg : h.getVoteSet r t = some vs) : Qv c vs := QH_iff.1 hq r t vs hg

theorem QH.ext {c : Cfg} {A : Int → VType → Vote → Prop} {a b : HVS} (hx : HExt c A a b) (hq : QH c a) : QH c b :=
  QH_iff.2 (hx.all (fun _ _ => Qv.kept c _) (QH_iff.1 hq))

theorem run_Q {c : Cfg} (is : List Input) {s : NodeState} (h : QH c s.votes) : QH c (run c s is).votes := .ext (run_votes c is s) h

/-- `total*2/3 + 1 ≤ x` is "more than two thirds of the total" -/
theorem quorum_iff (c : Cfg) (x : Nat) : c.quorum ≤ x ↔ 2 * c.total < 3 * x := by
  unfold Cfg.quorum; omega

end Tmv.Cons
