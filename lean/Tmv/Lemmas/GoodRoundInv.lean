import Tmv.Lemmas.VoteReachRun
import Tmv.Lemmas.SyncNode
import Tmv.Lemmas.ConsGuard
/-! Invariant of one good round at one node (used by `Lemmas/GoodRound.lean`): after the complete
valid proposal `b` of round `r` was received the node is in round `r`, step prevote … precommitWait,
holds `b`, is unlocked or locked on `b`, only queues its own votes for `b`, has precommitted `b` as
soon as the round-`r` prevotes have a recorded majority, and decides the moment the round-`r`
precommits get one. One lemma per function the vote handler runs into, then the lift through
`drain` / `step`.

Assumed throughout (`GCfg`, `GS`): the signer is a `MockPV` (`checkHRS = false`: it never refuses), the
proposal has no POL round (`pol < 0`), and the only inputs are votes for `b` in round `r` of `me :: Q1` /
`me :: Q2` — no other message, no timeout. Steps are compared by `Step.rank`, written as numerals:
4 prevote, 5 prevoteWait, 6 precommit, 7 precommitWait, 8 commit. -/
namespace Tmv.Cons.GRI

/-- the configuration of a good round: a `MockPV` validator `me`, a valid block `b`, and two sets of
other validators that carry the quorum together with `me` -/
structure GCfg (c : Cfg) (me b : Nat) (Q1 Q2 : List Nat) : Prop where
  self : c.self = some me
  mock : c.checkHRS = false
  meLt : me < c.n
  valid : c.valid b = true
  q1 : (me :: Q1).Nodup ∧ (∀ u ∈ Q1, u < c.n) ∧ c.quorum ≤ ((me :: Q1).map c.power).sum
  q2 : (me :: Q2).Nodup ∧ (∀ u ∈ Q2, u < c.n) ∧ c.quorum ≤ ((me :: Q2).map c.power).sum

/-- the other voters of type `t` -/
def Qs (t : VType) (Q1 Q2 : List Nat) : List Nat :=
  match t with
  | .prevote => Q1
  | .precommit => Q2

theorem GCfg.q {c : Cfg} {me b : Nat} {Q1 Q2 : List Nat} (g : GCfg c me b Q1 Q2) (t : VType) :
    (me :: Qs t Q1 Q2).Nodup ∧ (∀ u ∈ me :: Qs t Q1 Q2, u < c.n) ∧
      c.quorum ≤ ((me :: Qs t Q1 Q2).map c.power).sum := by
  have h : ∀ Q : List Nat, (∀ u ∈ Q, u < c.n) → ∀ u ∈ me :: Q, u < c.n := by
    intro Q hQ u hu
    rcases List.mem_cons.mp hu with e | e
    · rw [e]; exact g.meLt
    · exact hQ u e
  cases t
  · exact ⟨g.q1.1, h _ g.q1.2.1, g.q1.2.2⟩
  · exact ⟨g.q2.1, h _ g.q2.2.1, g.q2.2.2⟩

/-- the node's own vote of type `t` for `b` in round `r`, as it travels through the queue -/
def grVote (t : VType) (r b me : Nat) : Vote := Vote.honest t r (some b) me

theorem grVote_typ (t : VType) (r b u : Nat) : (grVote t r b u).typ = t := rfl
theorem grVote_round (t : VType) (r b u : Nat) : (grVote t r b u).round = r := rfl

/-- the part of the invariant that only talks about the height vote set -/
structure GV (c : Cfg) (me r b : Nat) (Q1 Q2 : List Nat) (h : HVS) : Prop where
  hvsRound : (r : Int) ≤ h.round
  tracked1 : (h.getVoteSet (r : Int) .prevote).isSome = true
  tracked2 : (h.getVoteSet (r : Int) .precommit).isSome = true
  wf : HVS.WF c h
  clean1 : ∀ u, u ∈ me :: Q1 → h.only (r : Int) .prevote (some b) u
  clean2 : ∀ u, u ∈ me :: Q2 → h.only (r : Int) .precommit (some b) u

/-- the part of the invariant that talks about the round state -/
structure GS (r b : Nat) (s : NodeState) : Prop where
  halted : s.halted = false
  undec : s.decided = none
  round : s.round = r
  stepLo : 4 ≤ s.step.rank
  stepHi : s.step.rank < 8
  prop : ∃ p, s.proposal = some p ∧ p.pol < 0
  block : s.proposalBlock = some b
  parts : s.proposalParts = some b
  lock : s.lockedBlock = none ∨ s.lockedBlock = some b

/-- the node has precommitted once the prevotes of the round have a recorded majority -/
def PolkaDone (r : Nat) (s : NodeState) : Prop :=
  ∀ k, maj23Of (s.votes.prevotes (r : Int)) = some k → 6 ≤ s.step.rank

/-- there is a precommit left whose arrival will be noticed: no majority is recorded yet, or the
node's own precommit is not recorded yet -/
def Fresh (me r b : Nat) (h : HVS) : Prop :=
  maj23Of (h.precommits (r : Int)) = none ∨ ¬ h.has (r : Int) .precommit (some b) me

/-- `s'` agrees with `s` on what `GS` reads, except step and lock -/
structure Same (s s' : NodeState) : Prop where
  halted : s'.halted = s.halted
  decided : s'.decided = s.decided
  round : s'.round = s.round
  proposal : s'.proposal = s.proposal
  block : s'.proposalBlock = s.proposalBlock
  parts : s'.proposalParts = s.proposalParts
  votes : s'.votes = s.votes

theorem GS.of_same {r b : Nat} {s s' : NodeState} (h : GS r b s) (e : Same s s')
    (h1 : 4 ≤ s'.step.rank) (h2 : s'.step.rank < 8) (hl : s'.lockedBlock = none ∨ s'.lockedBlock = some b) :
    GS r b s' :=
  ⟨e.halted.trans h.halted, e.decided.trans h.undec, e.round.trans h.round, h1, h2,
    by rw [e.proposal]; exact h.prop, e.block.trans h.block, e.parts.trans h.parts, hl⟩

theorem GS.complete {r b : Nat} {s : NodeState} (h : GS r b s) : isProposalComplete s = true := by
  obtain ⟨p, hp, hpol⟩ := h.prop
  exact isProposalComplete_of_noPol hp hpol h.block

variable {c : Cfg} {me r b : Nat} {Q1 Q2 : List Nat}

theorem GV.tracked {h : HVS} (hv : GV c me r b Q1 Q2 h) (t : VType) : (h.getVoteSet (r : Int) t).isSome = true := by
  cases t
  · exact hv.tracked1
  · exact hv.tracked2

theorem GV.clean {h : HVS} (hv : GV c me r b Q1 Q2 h) (t : VType) (u : Nat) (hu : u ∈ me :: Qs t Q1 Q2) :
    h.only (r : Int) t (some b) u := by
  cases t
  · exact hv.clean1 u hu
  · exact hv.clean2 u hu

/-- a recorded majority of the round can only be `b` -/
theorem GV.maj {h : HVS} (g : GCfg c me b Q1 Q2) (hv : GV c me r b Q1 Q2 h) (t : VType) (k : Bid)
    (hm : maj23Of (h.getVoteSet (r : Int) t) = some k) : k = some b :=
  HVS.majority_unique hv.wf r t (some b) _ (g.q t).1 (fun u hu => ⟨(g.q t).2.1 u hu, hv.clean t u hu⟩) (g.q t).2.2 k hm

/-- with the votes of all voters of type `t` recorded, the majority is recorded -/
theorem GV.quorum {h : HVS} (g : GCfg c me b Q1 Q2) (hv : GV c me r b Q1 Q2 h) (t : VType)
    (hd : ∀ u ∈ me :: Qs t Q1 Q2, h.has (r : Int) t (some b) u) :
    maj23Of (h.getVoteSet (r : Int) t) = some (some b) :=
  HVS.quorum_majority hv.wf r t (some b) _ (g.q t).1
    (fun u hu => ⟨(g.q t).2.1 u hu, hd u hu, hv.clean t u hu⟩) (g.q t).2.2

/-- a vote for `b` in round `r` keeps the vote-set part of the invariant -/
theorem GV.addVote {h : HVS} (hv : GV c me r b Q1 Q2 h) (v : Vote) (peer : Peer)
    (hr : v.round = r) (hb : v.bid = some b) : GV c me r b Q1 Q2 (h.addVote c v peer).1 := by
  have hx : HExt c (fun _ _ w => w = v) h (h.addVote c v peer).1 := HExt.addVote c _ h v peer rfl
  have ht : (h.getVoteSet (v.round : Int) v.typ).isSome = true := hr ▸ hv.tracked v.typ
  refine ⟨?_, hx.tracked hv.tracked1, hx.tracked hv.tracked2, hx.wf hv.wf, ?_, ?_⟩
  · rw [HVS.addVote_round_eq c h v peer]; exact hv.hvsRound
  · intro u hu
    exact hx.only (hv.clean1 u hu) (fun w hw => Or.inr (by rw [hw]; exact hb))
  · intro u hu
    exact hx.only (hv.clean2 u hu) (fun w hw => Or.inr (by rw [hw]; exact hb))

/-- a vote for `b` in round `r` of one of the round's voters is recorded, nothing recorded is lost, and every vote
set of the round but the vote's own — that one too, if the vote was there already — is as it was -/
theorem GV.vote {h : HVS} (hv : GV c me r b Q1 Q2 h) (v : Vote) (peer : Peer) (hws : v.wellSigned c)
    (hr : v.round = r) (hb : v.bid = some b) (hmem : v.val ∈ me :: Qs v.typ Q1 Q2) :
    (h.addVote c v peer).1.has (r : Int) v.typ (some b) v.val ∧
    (∀ r' t' k u', h.has r' t' k u' → (h.addVote c v peer).1.has r' t' k u') ∧
    (∀ t', t' ≠ v.typ ∨ (h.addVote c v peer).2 = false →
      (h.addVote c v peer).1.getVoteSet (r : Int) t' = h.getVoteSet (r : Int) t') := by
  subst hr
  have ht := hv.tracked v.typ
  have ho := hb ▸ hv.clean v.typ v.val hmem
  refine ⟨hb ▸ HVS.addVote_records hv.wf v peer hws ht ho,
    fun _ _ _ _ hh => (HExt.addVote c (fun _ _ w => w = v) h v peer rfl).has hh, ?_⟩
  rintro t' (hne | hf)
  · exact HVS.addVote_other c h v peer ht _ _ fun x => hne x.2
  · exact HVS.addVote_not_added hv.wf v peer hws ht ho hf _ _

/-! ### the functions the vote handler runs into -/

attribute [local simp] rank_newHeight rank_newRound rank_propose rank_prevote rank_prevoteWait rank_precommit
  rank_precommitWait rank_commit

theorem Same.rfl' (s : NodeState) : Same s s := ⟨rfl, rfl, rfl, rfl, rfl, rfl, rfl⟩

/-- `enterPrecommit` on a polka for `b`: lock `b`, sign and queue the precommit for `b` -/
theorem enterPrecommit_polka (g : GCfg c me b Q1 Q2) {s : NodeState} (hs : GS r b s) (hst : s.step.rank < 6)
    (hm : maj23Of (s.votes.prevotes (r : Int)) = some (some b)) (hvr : (r : Int) ≤ s.votes.round) :
    Same s (enterPrecommit c s r) ∧ (enterPrecommit c s r).step = .precommit ∧
    (enterPrecommit c s r).lockedBlock = some b ∧
    (enterPrecommit c s r).queue = s.queue ++ [.vote (grVote .precommit r b me)] := by
  rw [enterPrecommit_polka_eq c s r b me hs.halted g.mock g.self hs.round (by simpa using hst) hm hvr hs.lock
    hs.block g.valid]
  exact ⟨⟨rfl, rfl, rfl, rfl, rfl, rfl, rfl⟩, rfl, rfl, rfl⟩

/-- `onPolka` for `b` at a node that holds `b` and is unlocked or locked on `b` only records the
valid block -/
theorem onPolka_same {s : NodeState} (hs : GS r b s) :
    Same s (onPolka s r (some b)) ∧ (onPolka s r (some b)).step = s.step ∧
    (onPolka s r (some b)).lockedBlock = s.lockedBlock ∧ (onPolka s r (some b)).queue = s.queue := by
  have h1 : (s.lockedBlock.isSome = true ∧ s.lockedRound < (r : Int) ∧ r ≤ s.round ∧
      (!hashesTo s.lockedBlock (some b)) = true) = False := by
    rcases hs.lock with hl | hl <;> simp [hl, hashesTo]
  have h2 : hashesTo s.proposalBlock (some b) = true := by simp [hashesTo, hs.block]
  have h3 : hasHeader s.proposalParts (some b) = true := by simp [hasHeader, hs.parts]
  unfold onPolka
  simp only [h1, if_false, h2, if_true]
  split
  · simp only [h3, Bool.not_true, Bool.false_eq_true, if_false]
    refine ⟨⟨?_, ?_, ?_, ?_, ?_, ?_, ?_⟩, ?_, ?_, ?_⟩ <;> simp
  · exact ⟨Same.rfl' s, rfl, rfl, rfl⟩

/-- how the step and the queue may change when a vote is handled: nothing queued and the node is
still before / after its precommit as it was, or it has just precommitted `b` -/
def QStep (me r b : Nat) (s s' : NodeState) : Prop :=
  (s'.queue = s.queue ∧ (6 ≤ s'.step.rank ↔ 6 ≤ s.step.rank)) ∨
  (s.step.rank < 6 ∧ 6 ≤ s'.step.rank ∧ s'.queue = s.queue ++ [.vote (grVote .precommit r b me)])

theorem QStep.congr {s s1 s' : NodeState} (hq : s1.queue = s.queue) (hst : s1.step = s.step)
    (h : QStep me r b s1 s') : QStep me r b s s' := by
  unfold QStep at h ⊢
  rw [hq, hst] at h
  exact h

theorem enterPrevoteWait_same {s : NodeState} (hs : GS r b s)
    (hany : hasAnyOf c (s.votes.prevotes (r : Int)) = true) :
    Same s (enterPrevoteWait c s r) ∧ 4 ≤ (enterPrevoteWait c s r).step.rank ∧
    (enterPrevoteWait c s r).step.rank < 8 ∧
    (6 ≤ (enterPrevoteWait c s r).step.rank ↔ 6 ≤ s.step.rank) ∧
    (enterPrevoteWait c s r).lockedBlock = s.lockedBlock ∧ (enterPrevoteWait c s r).queue = s.queue := by
  unfold enterPrevoteWait
  simp only [hs.halted, Bool.false_eq_true, if_false, hany, Bool.not_true]
  split
  · exact ⟨Same.rfl' s, hs.stepLo, hs.stepHi, Iff.rfl, rfl, rfl⟩
  · rename_i hg
    have hlt : s.step.rank < 5 := by
      simp only [hs.round, true_and, rank_prevoteWait] at hg
      omega
    refine ⟨⟨?_, ?_, ?_, ?_, ?_, ?_, ?_⟩, ?_, ?_, ?_, ?_, ?_⟩ <;> simp [emit, hs.halted, hs.round]
    omega

theorem enterPrecommit_GR (g : GCfg c me b Q1 Q2) {s : NodeState} (hs : GS r b s)
    (hv : GV c me r b Q1 Q2 s.votes) (k : Bid) (hm : maj23Of (s.votes.prevotes (r : Int)) = some k) :
    GS r b (enterPrecommit c s r) ∧ (enterPrecommit c s r).votes = s.votes ∧
    PolkaDone r (enterPrecommit c s r) ∧ QStep me r b s (enterPrecommit c s r) := by
  have hb := hv.maj g .prevote k hm
  subst hb
  by_cases hst : s.step.rank < 6
  · obtain ⟨e, e1, e2, e3⟩ := enterPrecommit_polka g hs hst hm hv.hvsRound
    refine ⟨hs.of_same e (by rw [e1]; simp) (by rw [e1]; simp) (Or.inr e2), e.votes, ?_, Or.inr ⟨hst, ?_, e3⟩⟩
    · intro k _; rw [e1]; simp
    · rw [e1]; simp
  · rw [enterPrecommit_noop c s r hs.round (show 6 ≤ _ by omega)]
    exact ⟨hs, rfl, fun _ _ => by omega, Or.inl ⟨rfl, Iff.rfl⟩⟩

theorem prevoteTransitions_GR (g : GCfg c me b Q1 Q2) {s : NodeState} (hs : GS r b s)
    (hv : GV c me r b Q1 Q2 s.votes) :
    GS r b (prevoteTransitions c s r) ∧ (prevoteTransitions c s r).votes = s.votes ∧
    PolkaDone r (prevoteTransitions c s r) ∧ QStep me r b s (prevoteTransitions c s r) := by
  have h1 : ¬ (s.round < r ∧ hasAnyOf c (s.votes.prevotes (r : Int)) = true) := by
    rw [hs.round]; omega
  have h2 : s.round = r ∧ Step.prevote.rank ≤ s.step.rank := ⟨hs.round, by simpa using hs.stepLo⟩
  unfold prevoteTransitions
  dsimp only
  rw [if_neg h1, if_pos h2]
  split
  · rename_i bid hm
    simp only [hs.complete, Bool.true_or, if_true]
    exact enterPrecommit_GR g hs hv bid hm
  · rename_i hm
    split
    · rename_i hany
      obtain ⟨e, e1, e2, e3, e4, e5⟩ := enterPrevoteWait_same (c := c) hs hany
      refine ⟨hs.of_same e e1 e2 (by rw [e4]; exact hs.lock), e.votes, ?_, Or.inl ⟨e5, e3⟩⟩
      intro k hk
      rw [e.votes, hm] at hk; cases hk
    · refine ⟨hs, rfl, ?_, Or.inl ⟨rfl, Iff.rfl⟩⟩
      intro k hk
      rw [hm] at hk; cases hk

/-- **a prevote was added**: the invariant is kept; the node precommits `b` if this gave the polka -/
theorem afterPrevote_GR (g : GCfg c me b Q1 Q2) {s : NodeState} (hs : GS r b s)
    (hv : GV c me r b Q1 Q2 s.votes) :
    GS r b (afterPrevote c s r) ∧ (afterPrevote c s r).votes = s.votes ∧
    PolkaDone r (afterPrevote c s r) ∧ QStep me r b s (afterPrevote c s r) := by
  unfold afterPrevote
  dsimp only
  split
  · rename_i bid hm
    have hb := hv.maj g .prevote bid hm
    subst hb
    obtain ⟨e, e1, e2, e3⟩ := onPolka_same hs
    have hs1 : GS r b (onPolka s r (some b)) :=
      hs.of_same e (by rw [e1]; exact hs.stepLo) (by rw [e1]; exact hs.stepHi) (by rw [e2]; exact hs.lock)
    obtain ⟨a1, a2, a3, a4⟩ := prevoteTransitions_GR g hs1 (by rw [e.votes]; exact hv)
    exact ⟨a1, a2.trans e.votes, a3, a4.congr e3 e1⟩
  · exact prevoteTransitions_GR g hs hv

theorem enterPrecommitWait_same {s : NodeState} (hs : GS r b s)
    (hany : hasAnyOf c (s.votes.precommits (r : Int)) = true) :
    Same s (enterPrecommitWait c s r) ∧ (enterPrecommitWait c s r).step = s.step ∧
    (enterPrecommitWait c s r).lockedBlock = s.lockedBlock ∧ (enterPrecommitWait c s r).queue = s.queue := by
  unfold enterPrecommitWait
  simp only [hs.halted, Bool.false_eq_true, if_false, hany, Bool.not_true]
  split
  · exact ⟨Same.rfl' s, rfl, rfl, rfl⟩
  · refine ⟨⟨?_, ?_, ?_, ?_, ?_, ?_, ?_⟩, ?_, ?_, ?_⟩ <;> simp [emit, hs.halted]

/-- **a precommit was added**: with a recorded majority the node decides `b` in round `r`;
otherwise the invariant is kept -/
theorem afterPrecommit_GR (g : GCfg c me b Q1 Q2) {s : NodeState} (hs : GS r b s)
    (hv : GV c me r b Q1 Q2 s.votes) (hp : PolkaDone r s) :
    (afterPrecommit c s r).decided = some (b, (r : Int)) ∨
    (maj23Of (s.votes.precommits (r : Int)) = none ∧ GS r b (afterPrecommit c s r) ∧
      (afterPrecommit c s r).votes = s.votes ∧ (afterPrecommit c s r).step = s.step ∧
      (afterPrecommit c s r).queue = s.queue) := by
  cases hm : maj23Of (s.votes.precommits (r : Int)) with
  | some bid =>
    left
    have hb := hv.maj g .precommit bid hm
    subst hb
    refine afterPrecommit_decides c s r b hs.halted hs.round ⟨Nat.le_trans (by decide) hs.stepLo, hs.stepHi⟩ ?_ hm
      (.inr ⟨hs.block, hs.parts⟩) g.valid
    by_cases hst : 6 ≤ s.step.rank
    · exact .inl hst
    · right
      cases hk : maj23Of (s.votes.prevotes (r : Int)) with
      | none => rfl
      | some k => exact absurd (hp k hk) hst
  | none =>
    right
    refine ⟨rfl, ?_⟩
    have hnr := enterNewRound_noop c s r hs.round (Nat.le_trans (by decide) hs.stepLo)
    unfold afterPrecommit
    dsimp only
    rw [hm]
    dsimp only
    split
    · rename_i hany
      rw [hnr]
      obtain ⟨e, e1, e2, e3⟩ := enterPrecommitWait_same (c := c) hs hany.2
      exact ⟨hs.of_same e (by rw [e1]; exact hs.stepLo) (by rw [e1]; exact hs.stepHi) (by rw [e2]; exact hs.lock),
        e.votes, e1, e3⟩
    · exact ⟨hs, rfl, rfl, rfl⟩

/-! ### one vote of the good round handled by `State.addVote` -/

theorem GS.setVotes {s : NodeState} (hs : GS r b s) (h : HVS) : GS r b { s with votes := h } :=
  ⟨hs.halted, hs.undec, hs.round, hs.stepLo, hs.stepHi, hs.prop, hs.block, hs.parts, hs.lock⟩

/-- **one vote for `b` of round `r`** — of a validator of `me :: Q1` (prevote) or `me :: Q2`
(precommit) — handled by `State.addVote`: the node decides, or the invariant is kept, the vote is
recorded and the node has queued at most its precommit for `b` -/
theorem addVote_GR (g : GCfg c me b Q1 Q2) {s : NodeState} (hs : GS r b s)
    (hv : GV c me r b Q1 Q2 s.votes) (hp : PolkaDone r s) (hf : Fresh me r b s.votes)
    (t : VType) (u : Nat) (hu : u < c.n)
    (hmem : u ∈ me :: Qs t Q1 Q2) (peer : Peer) :
    (addVote c s (grVote t r b u) peer).decided = some (b, (r : Int)) ∨
    (GS r b (addVote c s (grVote t r b u) peer) ∧
      GV c me r b Q1 Q2 (addVote c s (grVote t r b u) peer).votes ∧
      PolkaDone r (addVote c s (grVote t r b u) peer) ∧
      Fresh me r b (addVote c s (grVote t r b u) peer).votes ∧
      QStep me r b s (addVote c s (grVote t r b u) peer) ∧
      (addVote c s (grVote t r b u) peer).votes.has (r : Int) t (some b) u ∧
      (∀ r' t' k u', s.votes.has r' t' k u' → (addVote c s (grVote t r b u) peer).votes.has r' t' k u')) := by
  have hgv := hv.addVote (grVote t r b u) peer rfl rfl
  obtain ⟨hrec, hmono, hkeep⟩ := hv.vote (grVote t r b u) peer ⟨hu, rfl, rfl, rfl⟩ rfl rfl hmem
  have hs1 := hs.setVotes (s.votes.addVote c (grVote t r b u) peer).1
  -- the polka is read off the prevotes, `Fresh` off the precommits: each lasts where that vote set is as it was
  have hp1 : .prevote ≠ t ∨ (s.votes.addVote c (grVote t r b u) peer).2 = false →
      PolkaDone r { s with votes := (s.votes.addVote c (grVote t r b u) peer).1 } :=
    fun h k hk => hp k (hk ▸ congrArg maj23Of (hkeep .prevote h).symm)
  have hf1 : .precommit ≠ t ∨ (s.votes.addVote c (grVote t r b u) peer).2 = false →
      Fresh me r b (s.votes.addVote c (grVote t r b u) peer).1 := by
    intro h
    unfold Fresh HVS.precommits HVS.has
    rw [hkeep .precommit h]
    exact hf
  unfold addVote
  dsimp only
  cases hadd : (s.votes.addVote c (grVote t r b u) peer).2 with
  | false => exact .inr ⟨hs1, hgv, hp1 (.inr hadd), hf1 (.inr hadd), .inl ⟨rfl, Iff.rfl⟩, hrec, hmono⟩
  | true =>
    simp only [Bool.not_true, Bool.false_eq_true, if_false, grVote_typ, grVote_round]
    cases t <;> dsimp only
    · obtain ⟨a1, a2, a3, a4⟩ := afterPrevote_GR g hs1 hgv
      exact .inr ⟨a1, a2 ▸ hgv, a3, a2 ▸ hf1 (.inl nofun), a4.congr rfl rfl, a2 ▸ hrec, a2 ▸ hmono⟩
    · rcases afterPrecommit_GR g hs1 hgv (hp1 (.inl nofun)) with a | ⟨a0, a1, a2, a3, a4⟩
      · exact .inl a
      · have a5 : PolkaDone r _ := fun k hk => by rw [a3]; exact hp1 (.inl nofun) k (a2 ▸ hk)
        exact .inr ⟨a1, a2 ▸ hgv, a5, a2 ▸ .inl a0, .inl ⟨a4, by rw [a3]⟩, a2 ▸ hrec, a2 ▸ hmono⟩

/-! ### the invariant with the queue, through `drain`, `step` and `run` -/

def Acc (me r b : Nat) (s : NodeState) (t : VType) : Prop :=
  s.votes.has (r : Int) t (some b) me ∨ Internal.vote (grVote t r b me) ∈ s.queue

/-- the full invariant: the queue holds own votes for `b` only, and the own votes signed so far (the
prevote; the precommit from the precommit step on) are accounted for (`Acc`: recorded, or still queued) -/
structure GR (c : Cfg) (me r b : Nat) (Q1 Q2 : List Nat) (s : NodeState) : Prop where
  gs : GS r b s
  gv : GV c me r b Q1 Q2 s.votes
  polka : PolkaDone r s
  fresh : Fresh me r b s.votes
  qAllowed : ∀ m, m ∈ s.queue → ∃ t, m = .vote (grVote t r b me)
  own : ∀ t, (t = .precommit → 6 ≤ s.step.rank) → Acc me r b s t

/-- own messages still to be handled: the queue, plus the precommit not signed yet -/
def mu (s : NodeState) : Nat := s.queue.length + (if s.step.rank < 6 then 1 else 0)

theorem QStep.facts {s s' : NodeState} (h : QStep me r b s s') :
    (∀ m, m ∈ s.queue → m ∈ s'.queue) ∧
    (∀ m, m ∈ s'.queue → m ∈ s.queue ∨ m = .vote (grVote .precommit r b me)) ∧
    (6 ≤ s'.step.rank → 6 ≤ s.step.rank ∨ Internal.vote (grVote .precommit r b me) ∈ s'.queue) ∧
    mu s' ≤ mu s := by
  unfold mu
  rcases h with ⟨e, hi⟩ | ⟨h1, h2, e⟩
  · rw [e]
    refine ⟨fun _ h => h, fun _ h => Or.inl h, fun h => Or.inl (hi.mp h), ?_⟩
    by_cases h6 : 6 ≤ s.step.rank
    · have := hi.mpr h6
      rw [if_neg (by omega), if_neg (by omega)]; omega
    · have : ¬ 6 ≤ s'.step.rank := fun x => h6 (hi.mp x)
      rw [if_pos (by omega), if_pos (by omega)]; omega
  · rw [e]
    refine ⟨fun _ h => List.mem_append_left _ h, ?_, fun _ => Or.inr (List.mem_append_right _ (List.mem_singleton.mpr rfl)), ?_⟩
    · intro m hm
      rcases List.mem_append.mp hm with h | h
      · exact Or.inl h
      · exact Or.inr (List.mem_singleton.mp h)
    · rw [if_neg (by omega), if_pos h1]
      simp

theorem GS.setQueue {s : NodeState} (hs : GS r b s) (q : List Internal) : GS r b { s with queue := q } :=
  ⟨hs.halted, hs.undec, hs.round, hs.stepLo, hs.stepHi, hs.prop, hs.block, hs.parts, hs.lock⟩

theorem grVote_inj {t t' : VType} {u u' : Nat} (e : grVote t r b u = grVote t' r b u') : t = t' ∧ u = u' := by
  unfold grVote at e
  injection e with e1 _ _ e4
  exact ⟨e1, e4⟩

/-- **one vote of the good round is handled** — `pre` is that vote when it was taken off the queue,
and empty when it came from a peer -/
theorem GR.vote (g : GCfg c me b Q1 Q2) {s : NodeState} (h : GR c me r b Q1 Q2 s) (pre rest : List Internal)
    (hq : s.queue = pre ++ rest) (t : VType) (u : Nat) (hu : u < c.n) (hmem : u ∈ me :: Qs t Q1 Q2) (peer : Peer)
    (hpre : ∀ m, m ∈ pre → m = .vote (grVote t r b u)) :
    (addVote c { s with queue := rest } (grVote t r b u) peer).decided = some (b, (r : Int)) ∨
    (GR c me r b Q1 Q2 (addVote c { s with queue := rest } (grVote t r b u) peer) ∧
      mu (addVote c { s with queue := rest } (grVote t r b u) peer) + pre.length ≤ mu s ∧
      (addVote c { s with queue := rest } (grVote t r b u) peer).votes.has (r : Int) t (some b) u) := by
  have hp0 : PolkaDone r { s with queue := rest } := h.polka
  rcases addVote_GR g (h.gs.setQueue rest) h.gv hp0 h.fresh t u hu hmem peer with a | ⟨a1, a2, a3, a4, a5, a6, a7⟩
  · exact Or.inl a
  right
  generalize addVote c { s with queue := rest } (grVote t r b u) peer = s' at *
  obtain ⟨f1, f2, f3, f4⟩ := a5.facts
  have f1' : ∀ x, x ∈ rest → x ∈ s'.queue := f1
  have f2' : ∀ x, x ∈ s'.queue → x ∈ rest ∨ x = .vote (grVote .precommit r b me) := f2
  have f3' : 6 ≤ s'.step.rank → 6 ≤ s.step.rank ∨ Internal.vote (grVote .precommit r b me) ∈ s'.queue := f3
  -- what was accounted for still is: the vote that left the queue is the one just recorded
  have hacc : ∀ t', Acc me r b s t' → Acc me r b s' t' := by
    intro t' ha
    rcases ha with ha | ha
    · exact Or.inl (a7 _ _ _ _ ha)
    · rw [hq] at ha
      rcases List.mem_append.mp ha with e | e
      · have e' := hpre _ e
        injection e' with e'
        obtain ⟨e1, e2⟩ := grVote_inj e'
        subst e1; subst e2
        exact Or.inl a6
      · exact Or.inr (f1' _ e)
  refine ⟨⟨a1, a2, a3, a4, ?_, ?_⟩, ?_, a6⟩
  · intro x hx
    rcases f2' x hx with hx | hx
    · exact h.qAllowed x (by rw [hq]; exact List.mem_append_right _ hx)
    · exact ⟨_, hx⟩
  · intro t' ht'
    by_cases h6 : t' = .precommit → 6 ≤ s.step.rank
    · exact hacc t' (h.own t' h6)
    · have ht : t' = .precommit := Classical.byContradiction fun x => h6 fun y => absurd y x
      subst ht
      rcases f3' (ht' rfl) with x | x
      · exact absurd (fun _ => x) h6
      · exact Or.inr x
  · have : mu ({ s with queue := rest } : NodeState) + pre.length = mu s := by
      unfold mu; rw [hq]; simp only [List.length_append]; omega
    omega

/-- **the own messages are all handled within the fuel** -/
theorem drain_GR (g : GCfg c me b Q1 Q2) : ∀ (fuel : Nat) (s : NodeState),
    GR c me r b Q1 Q2 s → mu s ≤ fuel →
    (drain c fuel s).decided = some (b, (r : Int)) ∨
      (GR c me r b Q1 Q2 (drain c fuel s) ∧ (drain c fuel s).queue = []) := by
  intro fuel
  induction fuel with
  | zero =>
    intro s h hmu
    have : s.queue = [] := by
      unfold mu at hmu
      exact List.eq_nil_of_length_eq_zero (by omega)
    exact Or.inr ⟨by unfold drain; exact h, by unfold drain; exact this⟩
  | succ n ih =>
    intro s h hmu
    cases hq : s.queue with
    | nil =>
      rw [drain_nil _ s hq]
      exact Or.inr ⟨h, hq⟩
    | cons m rest =>
      rw [drain_succ_cons n s m rest ⟨h.gs.halted, h.gs.undec⟩ hq]
      obtain ⟨t, hm⟩ := h.qAllowed m (by rw [hq]; exact List.mem_cons_self ..)
      subst hm
      show (drain c n (addVote c { s with queue := rest } (grVote t r b me) 0)).decided = _ ∨ _
      rcases h.vote g [_] rest hq t me g.meLt (List.mem_cons_self ..) 0 (fun _ hm => List.mem_singleton.mp hm) with
        a | ⟨a1, a2, _⟩
      · rw [drain_of_not_live c n _ (NodeState.not_live_of_decided a)]
        exact Or.inl a
      · exact ih _ a1 (by simp only [List.length_singleton] at a2; omega)

/-- **one vote of the good round as an input of the receive routine** -/
theorem step_vote_GR (g : GCfg c me b Q1 Q2) {s : NodeState}
    (h : GR c me r b Q1 Q2 s) (hq : s.queue = []) (t : VType) (u : Nat) (hu : u < c.n)
    (hmem : u ∈ me :: Qs t Q1 Q2) (peer : Peer) :
    (step c s (.vote (grVote t r b u) peer)).decided = some (b, (r : Int)) ∨
    (GR c me r b Q1 Q2 (step c s (.vote (grVote t r b u) peer)) ∧
      (step c s (.vote (grVote t r b u) peer)).queue = [] ∧
      (step c s (.vote (grVote t r b u) peer)).votes.has (r : Int) t (some b) u) := by
  rw [step_of_live c s _ ⟨h.gs.halted, h.gs.undec⟩]
  show (drain c drainFuel (addVote c s (grVote t r b u) peer)).decided = _ ∨ _
  rcases h.vote g [] s.queue rfl t u hu hmem peer nofun with a | ⟨a1, a2, a3⟩
  · rw [drain_of_not_live c _ _ (NodeState.not_live_of_decided a)]
    exact Or.inl a
  · have : mu s ≤ 1 := by unfold mu; rw [hq]; split <;> simp
    rcases drain_GR g drainFuel _ a1 (by unfold drainFuel; simp only [List.length_nil] at a2; omega) with d | ⟨d1, d2⟩
    · exact Or.inl d
    · exact Or.inr ⟨d1, d2, (drain_votes c _ _).has a3⟩

def GoodIn (c : Cfg) (me r b : Nat) (Q1 Q2 : List Nat) (i : Input) : Prop :=
  ∃ t u, i = .vote (grVote t r b u) (1 + u) ∧ u < c.n ∧ u ∈ me :: Qs t Q1 Q2

/-- **the end of the good round**: with every vote recorded and every own message handled the
invariant cannot hold any more — the node has decided -/
theorem GR.final (g : GCfg c me b Q1 Q2) {s : NodeState}
    (h : GR c me r b Q1 Q2 s) (hq : s.queue = [])
    (hD : ∀ t, ∀ u ∈ Qs t Q1 Q2, s.votes.has (r : Int) t (some b) u) : False := by
  -- with the node's own vote recorded, all votes of type `t` are: the majority is recorded
  have hm : ∀ t, s.votes.has (r : Int) t (some b) me → maj23Of (s.votes.getVoteSet (r : Int) t) = some (some b) := by
    intro t hme
    refine h.gv.quorum g t (fun u hu => ?_)
    rcases List.mem_cons.mp hu with e | e
    · rw [e]; exact hme
    · exact hD t u e
  have hown : ∀ t, (t = .precommit → 6 ≤ s.step.rank) → s.votes.has (r : Int) t (some b) me := by
    intro t ht
    rcases h.own t ht with x | x
    · exact x
    · rw [hq] at x; cases x
  -- the polka made the node precommit, and its precommit is recorded
  have hpc := hown .precommit fun _ => h.polka _ (hm .prevote (hown .prevote nofun))
  rcases h.fresh with x | x
  · have := hm .precommit hpc
    rw [show s.votes.precommits (r : Int) = s.votes.getVoteSet (r : Int) .precommit from rfl, this] at x
    cases x
  · exact x hpc

end Tmv.Cons.GRI
