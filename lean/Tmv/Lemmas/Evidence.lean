import Tmv.Model.Evidence
/-! Lemmas about the evidence-pool model: key order, the pending key space as a sorted
association list, the size counter; `verify` as a predicate (`DVProves`, `LCAProves`, `Proves`,
`verify_ok_iff`) and its monotonicity in the height of the node's stores. -/
namespace Tmv.Evidence

variable (c : Ctx)

theorem keyLt_irrefl (a : Key) : keyLt a a = false := by
  simp [keyLt]

theorem keyLt_trans {a b d : Key} (h1 : keyLt a b = true) (h2 : keyLt b d = true) : keyLt a d = true := by
  simp [keyLt] at *
  omega

theorem keyLt_total {a b : Key} (h1 : keyLt a b = false) (h2 : a ≠ b) : keyLt b a = true := by
  have : a.1 ≠ b.1 ∨ a.2 ≠ b.2 := by
    rcases a with ⟨a1, a2⟩; rcases b with ⟨b1, b2⟩
    simp at h2 ⊢
    by_cases h : a1 = b1
    · right; exact h2 h
    · left; exact h
  simp [keyLt] at *
  omega

theorem keyLt_ne {a b : Key} (h : keyLt a b = true) : a ≠ b := by
  intro e; subst e; simp [keyLt_irrefl] at h

theorem keyLt_height {a b : Key} (h : keyLt a b = true) : a.1 ≤ b.1 := by
  simp [keyLt] at h; omega

/-- the pending key space in key order (strictly: keys are unique) -/
def Sorted (l : List Ev) : Prop := List.Pairwise (fun a b => keyLt (key c a) (key c b) = true) l

theorem Sorted_cons {y : Ev} {ys : List Ev} :
    Sorted c (y :: ys) ↔ (∀ z ∈ ys, keyLt (key c y) (key c z) = true) ∧ Sorted c ys :=
  List.pairwise_cons

theorem isPending_iff (p : Pool) (e : Ev) :
    isPending c p e = true ↔ ∃ x ∈ p.pending, key c x = key c e := by
  simp [isPending, List.any_eq_true]

theorem isPending_false_iff (p : Pool) (e : Ev) :
    isPending c p e = false ↔ ∀ x ∈ p.pending, key c x ≠ key c e := by
  rw [← Bool.not_eq_true, isPending_iff]; simp

theorem isCommitted_iff (p : Pool) (e : Ev) : isCommitted c p e = true ↔ key c e ∈ p.committed := by
  simp [isCommitted]

theorem isCommitted_false_iff (p : Pool) (e : Ev) :
    isCommitted c p e = false ↔ key c e ∉ p.committed := by
  rw [← Bool.not_eq_true, isCommitted_iff]

theorem isCommitted_congr {p q : Pool} (h : q.committed = p.committed) (e : Ev) :
    isCommitted c q e = isCommitted c p e := by
  unfold isCommitted; rw [h]

theorem mem_setPending_self (e : Ev) (l : List Ev) : e ∈ setPending c e l := by
  induction l with
  | nil => simp [setPending]
  | cons x xs ih =>
    unfold setPending
    split
    · simp
    · split
      · simp
      · simp [ih]

theorem mem_of_mem_setPending {e x : Ev} {l : List Ev} (h : x ∈ setPending c e l) : x = e ∨ x ∈ l := by
  induction l with
  | nil => simp [setPending] at h; exact Or.inl h
  | cons y ys ih =>
    unfold setPending at h
    split at h
    · simp at h; rcases h with h | h
      · exact Or.inl h
      · exact Or.inr (by simp [h])
    · split at h
      · simp at h; rcases h with h | h | h
        · exact Or.inl h
        · exact Or.inr (by simp [h])
        · exact Or.inr (by simp [h])
      · simp at h; rcases h with h | h
        · exact Or.inr (by simp [h])
        · rcases ih h with h | h
          · exact Or.inl h
          · exact Or.inr (by simp [h])

theorem mem_setPending_of_mem {e x : Ev} {l : List Ev} (h : x ∈ l) (hk : key c x ≠ key c e) :
    x ∈ setPending c e l := by
  induction l with
  | nil => simp at h
  | cons y ys ih =>
    unfold setPending
    split
    · rename_i heq
      simp at h; rcases h with h | h
      · subst h; simp at heq; exact absurd heq hk
      · simp [h]
    · split
      · simp at h ⊢; rcases h with h | h
        · exact Or.inr (Or.inl h)
        · exact Or.inr (Or.inr h)
      · simp at h ⊢; rcases h with h | h
        · exact Or.inl h
        · exact Or.inr (ih h)

theorem setPending_sorted {e : Ev} {l : List Ev} (hs : Sorted c l) : Sorted c (setPending c e l) := by
  induction l with
  | nil => simp [setPending, Sorted]
  | cons y ys ih =>
    obtain ⟨hy, hys⟩ := (Sorted_cons c).1 hs
    unfold setPending
    split
    · rename_i heq
      simp at heq
      rw [Sorted_cons]
      refine ⟨?_, hys⟩
      intro z hz; rw [← heq]; exact hy z hz
    · rename_i hne
      split
      · rename_i hlt
        rw [Sorted_cons, Sorted_cons]
        refine ⟨?_, hy, hys⟩
        intro z hz
        simp at hz
        rcases hz with hz | hz
        · subst hz; exact hlt
        · exact keyLt_trans hlt (hy z hz)
      · rename_i hnlt
        have hgt : keyLt (key c y) (key c e) = true := by
          apply keyLt_total
          · simpa using hnlt
          · intro h; simp at hne; exact hne h.symm
        rw [Sorted_cons]
        refine ⟨?_, ih hys⟩
        intro z hz
        rcases mem_of_mem_setPending c hz with hz | hz
        · subst hz; exact hgt
        · exact hy z hz

theorem length_setPending_new {e : Ev} {l : List Ev} (h : ∀ x ∈ l, key c x ≠ key c e) :
    (setPending c e l).length = l.length + 1 := by
  induction l with
  | nil => simp [setPending]
  | cons y ys ih =>
    unfold setPending
    have hy : key c y ≠ key c e := h y (by simp)
    split
    · rename_i heq; simp at heq; exact absurd heq hy
    · split
      · simp
      · simp; exact ih (fun x hx => h x (by simp [hx]))

theorem sorted_head_ne {y : Ev} {ys : List Ev} (hs : Sorted c (y :: ys)) :
    ∀ z ∈ ys, key c z ≠ key c y :=
  fun z hz h => keyLt_ne (((Sorted_cons c).1 hs).1 z hz) h.symm

theorem sorted_tail {y : Ev} {ys : List Ev} (hs : Sorted c (y :: ys)) : Sorted c ys :=
  ((Sorted_cons c).1 hs).2

theorem length_filter_key {e : Ev} {l : List Ev} (hs : Sorted c l) (h : ∃ x ∈ l, key c x = key c e) :
    (l.filter (fun x => !(key c x == key c e))).length + 1 = l.length := by
  induction l with
  | nil => simp at h
  | cons y ys ih =>
    by_cases hy : key c y = key c e
    · have hall : ∀ z ∈ ys, key c z ≠ key c e := by
        intro z hz; rw [← hy]; exact sorted_head_ne c hs z hz
      have : ys.filter (fun x => !(key c x == key c e)) = ys := by
        rw [List.filter_eq_self]; intro z hz; simp [hall z hz]
      simp [List.filter_cons, hy, this]
    · obtain ⟨x, hx, hxe⟩ := h
      simp at hx
      rcases hx with hx | hx
      · subst hx; exact absurd hxe hy
      · have := ih (sorted_tail c hs) ⟨x, hx, hxe⟩
        simp [List.filter_cons, hy]; omega

theorem filter_head {y : Ev} {ys : List Ev} (hs : Sorted c (y :: ys)) :
    (y :: ys).filter (fun x => !(key c x == key c y)) = ys := by
  have : ys.filter (fun x => !(key c x == key c y)) = ys := by
    rw [List.filter_eq_self]; intro z hz; simp [sorted_head_ne c hs z hz]
  simp [List.filter_cons, this]

theorem u32_succ (n m : Nat) (h : n = u32 m) : u32 (n + 1) = u32 (m + 1) := by
  subst h; unfold u32; omega

theorem u32_pred (n m : Nat) (h : n = u32 (m + 1)) : u32 (n + 4294967295) = u32 m := by
  subst h; unfold u32; omega

/-- `VerifyDuplicateVote` as a predicate: the validator is in the set of that height, both votes are
for the same height/round/type by that validator for different blocks, powers match, both
signatures verify under the validator's key -/
def DVProves (d : DV) (vals : List Validator) : Prop :=
  ∃ val, vals.find? (fun v => v.addr = d.a.addr) = some val ∧
    d.a.height = d.b.height ∧ d.a.round = d.b.round ∧ d.a.typ = d.b.typ ∧
    d.a.addr = d.b.addr ∧ d.a.bid ≠ d.b.bid ∧ val.pkAddr = d.a.addr ∧
    val.power = d.vp ∧ totalPower vals = d.tvp ∧
    c.sigOK val.pkAddr d.a = true ∧ c.sigOK val.pkAddr d.b = true

theorem guard_ok_iff {ε : Type} {p : Prop} [Decidable p] {e : ε} {r : Except ε Unit} :
    (if p then .error e else r) = .ok () ↔ ¬p ∧ r = .ok () := by
  by_cases h : p
  · simp [h]
  · simp [h]

theorem verifyDV_ok_iff (d : DV) (vals : List Validator) :
    verifyDV c d vals = .ok () ↔ DVProves c d vals := by
  unfold verifyDV DVProves
  cases h : vals.find? (fun v => v.addr = d.a.addr) with
  | none => simp
  | some val =>
    -- every guard passes, in the order of the code, which is the order of `DVProves`
    simp only [Option.some.injEq, exists_eq_left', guard_ok_iff, not_or, Decidable.not_not, ne_eq,
      Bool.not_eq_true, and_assoc, and_true, Bool.not_eq_false]

/-- `verifyLCA` as a predicate. The forward-lunatic branch of `verifyLCA` (no header at the
conflicting height: compare with the node's latest header) has no clause here: it asks for
`signedHeader c storeH storeH`, which is always `none` (`signedHeader_latest`), so it never accepts. -/
def LCAProves (storeH : Int) (l : LCA) : Prop :=
  (signedHeader c storeH l.common).isSome ∧ (loadVals c storeH l.common).isSome ∧
  ((l.common ≠ l.cfh ∧ (signedHeader c storeH l.cfh).isSome) ∨ l.common = l.cfh) ∧
  lcaOK c l l.cfh = true

theorem signedHeader_latest (storeH : Int) : signedHeader c storeH storeH = none := by
  simp [signedHeader]

theorem lcaRes_ok_iff (l : LCA) (th : Int) : lcaRes c l th = .ok () ↔ lcaOK c l th = true := by
  unfold lcaRes lcaOK
  cases h : lcaVerdict c l th with
  | ok u => simp
  | error e => cases e <;> simp

theorem verifyLCA_ok_iff (storeH : Int) (l : LCA) :
    verifyLCA c storeH l = .ok () ↔ LCAProves c storeH l := by
  unfold verifyLCA LCAProves
  rw [signedHeader_latest] -- the forward-lunatic branch is dead
  cases h1 : signedHeader c storeH l.common <;> simp
  cases h2 : loadVals c storeH l.common <;> simp
  by_cases h3 : l.common = l.cfh
  · simp [h3, lcaRes_ok_iff]
  · simp [h3]
    cases h4 : signedHeader c storeH l.cfh <;> simp [lcaRes_ok_iff]

/-- the evidence proves the misbehaviour it claims against the validator set and the block time
of its height, as far as the node's stores reach -/
def Proves (storeH : Int) (e : Ev) : Prop :=
  metaTime c storeH e.height = some e.time ∧
  match e with
  | .dv d => ∃ vs, loadVals c storeH e.height = some vs ∧ DVProves c d vs
  | .lca l => LCAProves c storeH l

theorem expired_comm (st : State) (h t : Int) :
    (decide (st.time - t > st.maxAgeDur) && decide (st.height - h > st.maxAgeBlocks)) = expired st h t := by
  unfold expired; rw [Bool.and_comm]

theorem verify_ok_iff (storeH : Int) (st : State) (e : Ev) :
    verify c storeH st e = .ok () ↔ (Proves c storeH e ∧ expired st e.height e.time = false) := by
  unfold verify Proves
  cases h1 : metaTime c storeH e.height with
  | none => simp
  | some evT =>
    by_cases h2 : e.time = evT
    · subst h2
      simp only [ne_eq, not_true_eq_false, ↓reduceIte, expired_comm]
      cases h3 : expired st e.height e.time
      · cases e with
        | dv d =>
          simp
          cases h4 : loadVals c storeH (Ev.dv d).height with
          | none => simp
          | some vs => simp [verifyDV_ok_iff]
        | lca l => simp [verifyLCA_ok_iff]
      · simp
    · simp [h2]
      intro h; exact absurd h.symm h2

theorem metaTime_mono {s1 s2 h t : Int} (hs : s1 ≤ s2) (h1 : metaTime c s1 h = some t) :
    metaTime c s2 h = some t := by
  unfold metaTime at *
  split at h1
  · rw [if_pos (by omega)]; exact h1
  · simp at h1

theorem loadVals_mono {s1 s2 h : Int} {vs : List Validator} (hs : s1 ≤ s2)
    (h1 : loadVals c s1 h = some vs) : loadVals c s2 h = some vs := by
  unfold loadVals at *
  split at h1
  · rw [if_pos (by omega)]; exact h1
  · simp at h1

theorem signedHeader_mono {s1 s2 h : Int} (hs : s1 ≤ s2)
    (h1 : (signedHeader c s1 h).isSome) : (signedHeader c s2 h).isSome := by
  unfold signedHeader at *
  split at h1
  · rw [if_pos (by omega)]
    cases h2 : metaTime c s1 h with
    | none => simp [h2] at h1
    | some t => simp [metaTime_mono c hs h2]
  · simp at h1

theorem Proves_mono {s1 s2 : Int} {e : Ev} (hs : s1 ≤ s2) (h : Proves c s1 e) : Proves c s2 e := by
  unfold Proves at *
  refine ⟨metaTime_mono c hs h.1, ?_⟩
  cases e with
  | dv d =>
    obtain ⟨vs, h1, h2⟩ := h.2
    exact ⟨vs, loadVals_mono c hs h1, h2⟩
  | lca l =>
    obtain ⟨h1, h2, h3, h4⟩ := h.2
    refine ⟨signedHeader_mono c hs h1, ?_, ?_, h4⟩
    · cases h5 : loadVals c s1 l.common with
      | none => simp [h5] at h2
      | some vs => simp [loadVals_mono c hs h5]
    · rcases h3 with ⟨h3, h6⟩ | h3
      · exact Or.inl ⟨h3, signedHeader_mono c hs h6⟩
      · exact Or.inr h3

end Tmv.Evidence
