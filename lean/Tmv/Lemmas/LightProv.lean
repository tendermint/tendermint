import Tmv.Lemmas.LightInv
/-! Validator-set commitment of the trusted blocks, under the provider contract. -/
namespace Tmv.Light

/-- the header commits to the validator set attached to it -/
def Committed (b : LightBlock) : Prop := b.hdr.valsHash = b.vals.hash

/-- provider contract (both providers in /repo enforce it with `LightBlock.ValidateBasic`): every
light block handed to the client carries the validator set its header commits to -/
def ProvOK (p : Prov) : Prop := ∀ n ht lb, p.script n ht = .ok lb → Committed lb

/-- providers obey the contract and every trusted block carries the validator set its header commits to -/
def CInv (c : Client) : Prop := (∀ p, IsProv c p → ProvOK p) ∧ ∀ b, Trusted c b → Committed b

theorem CInv.admits {c : Client} {b : LightBlock} (h : CInv c) (a : Admits c b) : Committed b := by
  rcases a with hb | ⟨⟨p, hp, n, ht, hs⟩, _⟩
  · exact h.2 b hb
  · exact h.1 p hp n ht b hs

theorem CInv.evolves {c c' : Client} (h : CInv c) (e : Evolves c c') : CInv c' :=
  ⟨fun p hp => h.1 p (e.provs p hp), fun b hb => h.admits (e.trusted b hb)⟩

theorem newClient_cinv {cfg : Config} {primary : Prov} {witnesses : List Prov}
    {sched : List Prov → List Nat} {period height : Int} {root : Hash} {c : Client}
    (hp0 : ProvOK primary) (hw0 : ∀ w ∈ witnesses, ProvOK w)
    (e : newClient cfg primary witnesses sched period height root = .ok c) : CInv c := by
  have h := newClient_trusted e
  have ok : ∀ p, p = primary ∨ p ∈ witnesses → ProvOK p := fun p hp => hp.elim (· ▸ hp0) (hw0 p)
  refine ⟨fun p hp => ok p (h.2.1 p hp), fun b hb => ?_⟩
  obtain ⟨_, p, hp, n, ht, hs⟩ := h.2.2 b hb
  exact ok p hp n ht b hs

end Tmv.Light
