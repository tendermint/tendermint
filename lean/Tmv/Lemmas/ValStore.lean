import Tmv.Model.ValStore
/-! Lemmas for the C08 store model: table algebra, `increment` keeps a set non-empty with a
proposer, `incrTimes` composition. -/
namespace Tmv.ValStore
open Tmv.ValSet

theorem interval_eq : interval = 100000 := rfl

theorem Tbl.get_del {α} (t : Tbl α) (h k : Int) :
    Tbl.get (Tbl.del t h) k = if k = h then none else Tbl.get t k := by
  induction t with
  | nil => simp [Tbl.del, Tbl.get]
  | cons kv r ih =>
    obtain ⟨a, v⟩ := kv
    unfold Tbl.del at ih ⊢
    by_cases hah : a = h
    · subst hah
      simp only [List.filter, ne_eq, not_true_eq_false, decide_false]
      rw [ih]
      by_cases hk : k = a
      · simp [hk]
      · have : ¬ a = k := fun e => hk e.symm
        simp [Tbl.get, hk, this]
    · simp only [List.filter, ne_eq, hah, not_false_eq_true, decide_true]
      simp only [Tbl.get]
      rw [ih]
      by_cases hk : k = h
      · subst hk; simp [hah]
      · simp [hk]

theorem Tbl.get_put {α} (t : Tbl α) (h k : Int) (v : α) :
    Tbl.get (Tbl.put t h v) k = if k = h then some v else Tbl.get t k := by
  unfold Tbl.put
  simp only [Tbl.get]
  rw [Tbl.get_del]
  by_cases hk : k = h
  · subst hk; simp
  · have : ¬ h = k := fun e => hk e.symm
    simp [hk, this]

theorem mostFrom_isSome (l : List Val) (r : Option Val) (h : r.isSome ∨ l ≠ []) :
    (mostFrom r l).isSome := by
  induction l generalizing r with
  | nil => simpa [mostFrom] using h
  | cons v t ih => exact ih _ (Or.inl rfl)

theorem rescale_ne_nil (l : List Val) (d : Int) (hl : l ≠ []) : rescale l d ≠ [] := by
  unfold rescale
  split
  · exact hl
  · simp only
    split
    · simpa using hl
    · exact hl

theorem normalize_ne_nil (l : List Val) (hl : l ≠ []) : normalize l ≠ [] := by
  unfold normalize shiftByAvg
  simpa using rescale_ne_nil l _ hl

theorem incrOnce_ne_nil (l : List Val) (t : Int) (hl : l ≠ []) :
    (incrOnce l t).1 ≠ [] ∧ (incrOnce l t).2.isSome := by
  unfold incrOnce
  have h1 : l.map (fun v => setPrio v (safeAddClip v.prio v.power)) ≠ [] := by simpa using hl
  have h2 := mostFrom_isSome _ none (Or.inr h1)
  simp only
  cases hm : mostPrio (l.map (fun v => setPrio v (safeAddClip v.prio v.power))) with
  | none => simp [mostPrio] at hm; rw [hm] at h2; simp at h2
  | some m => simpa using hl

theorem incrLoop_ne_nil (n : Nat) (l : List Val) (t : Int) (p : Option Val) (hl : l ≠ [])
    (hp : p.isSome ∨ 1 ≤ n) :
    (incrLoop n l t p).1 ≠ [] ∧ (incrLoop n l t p).2.isSome := by
  induction n generalizing l p with
  | zero =>
    rcases hp with hp | hp
    · exact ⟨hl, hp⟩
    · omega
  | succ k ih =>
    unfold incrLoop
    have := incrOnce_ne_nil l t hl
    exact ih _ _ this.1 (Or.inl this.2)

/-- a set that has a non-empty validator list and a proposer (what the store can round-trip) -/
def Full (s : VSet) : Prop := s.vals ≠ [] ∧ s.proposer.isSome

theorem increment_full (s s' : VSet) (t : Int) (h : increment s t = some s') : Full s' := by
  unfold increment at h
  split at h
  · cases h
  · rename_i hne
    split at h
    · cases h
    · rename_i ht
      simp only [Option.some.injEq] at h
      subst h
      have : 1 ≤ t.toNat := by omega
      exact incrLoop_ne_nil _ _ _ _ (normalize_ne_nil _ hne) (Or.inr this)

theorem increment_isSome (s : VSet) (h : s.vals ≠ []) : ∃ s', increment s 1 = some s' := by
  unfold increment
  simp [h]

theorem Full.proposer_ne {s : VSet} (h : Full s) : s.proposer ≠ none := by
  intro e; have h2 := h.2; rw [e] at h2; cases h2

theorem fromProto_full (p : VSet) (h : Full p) : fromProto p = some p := by
  unfold fromProto
  simp [h.1, h.proposer_ne]

theorem toProto_full (p : VSet) (h : Full p) : toProto p = some p := by
  unfold toProto
  simp [h.1, h.proposer_ne]

theorem incrTimes_succ (n : Nat) (s : VSet) :
    incrTimes (n + 1) s = (incrTimes n s).bind (fun x => increment x 1) := by
  induction n generalizing s with
  | zero =>
    cases h : increment s 1 <;> simp [incrTimes, h]
  | succ k ih =>
    rw [incrTimes]
    cases h : increment s 1 with
    | none => simp [incrTimes, h]
    | some s1 =>
      simp only
      rw [ih s1]
      conv => rhs; rw [incrTimes, h]

end Tmv.ValStore
