import Tmv.Lemmas.SyncClosureMsgs
import Tmv.Lemmas.SyncOwn
import Tmv.Lemmas.CommitInv
import Tmv.Lemmas.PartsInv
/-! **A commit spreads** (C03, the "decision seen without its block" clause at network level): after
a converged closure, a correct node that is not an orphan and waits for block `b` decides `b` as
soon as the precommits for `b` of correct validators carrying the quorum and the block are in the
log. -/
namespace Tmv.Sync
open Tmv.Cons

/-- every node of a reachable net satisfies the universal single-node invariants `KI` and `PD` -/
theorem Reach.ki_pd {c : SCfg} {correct : List Nat} {net : Net} (h : Reach c correct net) :
    AllNodes (fun idx s => KI (nodeCfg c.cfg idx) s ∧ PD s) net :=
  h.allNodes (fun _ => ⟨KI.init _, PD.init⟩) (fun _ _ inp hp => ⟨step_K inp hp.1, step_PD inp hp.2⟩)

/-- **after a converged closure of a reachable net a +2/3 majority of correct validators that is in the log is
recorded at every live node that tracks the round.** A correct validator's logged vote is its only one anywhere
(`only_of_logged`), so no vote of the majority is refused as conflicting. (`hself`: the node's own vote, if it is
among them, is recorded at it — `Reach.logged_own_vote` for an idle node.) -/
theorem Reach.majority_known {c : SCfg} {correct : List Nat} {net : Net} (hr : Reach c correct net)
    (hn : correct.Nodup) (hconv : net.closureConverged c)
    (i : Nat) (nd : Node) (hi : (net.closure c).nodes[i]? = some nd)
    (r : Nat) (t : VType) (b : Bid) (Q : List Nat) (hQ : Q.Nodup)
    (hQc : ∀ u ∈ Q, u ∈ correct ∧ u < c.cfg.n)
    (hlog : ∀ u ∈ Q, Msg.vote ⟨t, r, b, u, true, u, u⟩ ∈ (net.closure c).log)
    (hself : nd.idx ∈ Q → nd.s.votes.has (r : Int) t b nd.idx)
    (hlive : nd.s.halted = false ∧ nd.s.decided = none)
    (ht : (nd.s.votes.getVoteSet (r : Int) t).isSome = true)
    (hp : (nodeCfg c.cfg nd.idx).quorum ≤ (Q.map (nodeCfg c.cfg nd.idx).power).sum) :
    maj23Of (nd.s.votes.getVoteSet (r : Int) t) = some b := by
  refine closure_spreads_majority c _ hconv hr.wf i nd hi r t b Q hQ
    (fun u hu => (hQc u hu).2) (fun u hu _ => List.getElem?_of_mem (hlog u hu)) hself hlive ht ?_ hp
  intro u hu
  have hmemu : u ∈ (net.closure c).nodes.map (·.idx) := by rw [hr.closure.idx]; exact (hQc u hu).1
  obtain ⟨ndu, hndu, e⟩ := List.mem_map.1 hmemu
  exact e ▸ only_of_logged _ (hr.closure.logInv hn) nd ndu (List.mem_of_getElem? hi) hndu
    ⟨t, r, b, u, true, u, u⟩ (hlog u hu) e.symm

/-- **a commit spreads to every correct node that is not an orphan** and is idle (`hq`, a hypothesis: see
`Reach.own_votes_recorded`) -/
theorem Reach.commit_spreads {c : SCfg} {correct : List Nat} {net : Net} (hr : Reach c correct net)
    (hn : correct.Nodup) (hconv : net.closureConverged c)
    (i : Nat) (nd : Node) (hi : (net.closure c).nodes[i]? = some nd)
    (r b : Nat) (Q : List Nat) (hQ : Q.Nodup) (hQc : ∀ u ∈ Q, u ∈ correct ∧ u < c.cfg.n)
    (hlog : ∀ u ∈ Q, Msg.vote ⟨.precommit, r, some b, u, true, u, u⟩ ∈ (net.closure c).log)
    (hp : (nodeCfg c.cfg nd.idx).quorum ≤ (Q.map (nodeCfg c.cfg nd.idx).power).sum)
    (hblock : Msg.block b ∈ (net.closure c).log)
    (hh : nd.s.halted = false) (hq : nd.s.queue = [])
    (ht : (nd.s.votes.getVoteSet (r : Int) .precommit).isSome = true)
    (hnorphan : 0 ≤ nd.s.commitRound → nd.s.step = .commit)
    (hcv : ∀ b', maj23Of (nd.s.votes.getVoteSet nd.s.commitRound .precommit) = some (some b') → b' = b)
    (hparts : nd.s.proposalParts = some b) :
    nd.s.decided = some (b, nd.s.commitRound) := by
  have hm := List.mem_of_getElem? hi
  obtain ⟨hK, hPD⟩ := hr.closure.ki_pd nd hm
  cases hd : nd.s.decided with
  | some d =>
    obtain ⟨b', r'⟩ := d
    obtain ⟨e1, e2⟩ := hK.dec b' r' hd
    rw [hcv b' e2, e1]
  | none =>
    exfalso
    have hlive : nd.s.halted = false ∧ nd.s.decided = none := ⟨hh, hd⟩
    have hmaj := hr.majority_known hn hconv i nd hi r .precommit (some b) Q hQ hQc hlog
      (fun hs => hr.closure.logged_own_vote hn hm (hQc _ hs).2 hq (hlog _ hs)) hlive ht hp
    -- the block is here
    obtain ⟨k, hk⟩ := List.getElem?_of_mem hblock
    have hdone := closure_delivers_block c _ hconv hr.nhi i k nd b hi hk hlive hparts
    have hb : nd.s.proposalBlock = some b := by
      have := (hPD hdone).1; rw [hparts] at this; exact this
    -- so the node has decided
    have := hK.decides r b hh hnorphan hmaj hcv hb
    rw [hd] at this
    cases this

theorem commit_spreads (c : SCfg) (correct : List Nat) (hn : correct.Nodup) (ops : List Op)
    (hconv : ((Net.init correct).run c ops).closureConverged c)
    (i : Nat) (nd : Node) (hi : (((Net.init correct).run c ops).closure c).nodes[i]? = some nd)
    (r b : Nat) (Q : List Nat) (hQ : Q.Nodup) (hQc : ∀ u ∈ Q, u ∈ correct ∧ u < c.cfg.n)
    (hlog : ∀ u ∈ Q, Msg.vote ⟨.precommit, r, some b, u, true, u, u⟩ ∈
      (((Net.init correct).run c ops).closure c).log)
    (hp : (nodeCfg c.cfg nd.idx).quorum ≤ (Q.map (nodeCfg c.cfg nd.idx).power).sum)
    (hblock : Msg.block b ∈ (((Net.init correct).run c ops).closure c).log)
    (hh : nd.s.halted = false) (hq : nd.s.queue = [])
    (ht : (nd.s.votes.getVoteSet (r : Int) .precommit).isSome = true)
    (hnorphan : 0 ≤ nd.s.commitRound → nd.s.step = .commit)
    (hcv : ∀ b', maj23Of (nd.s.votes.getVoteSet nd.s.commitRound .precommit) = some (some b') → b' = b)
    (hparts : nd.s.proposalParts = some b) :
    nd.s.decided = some (b, nd.s.commitRound) :=
  (reach_run c correct ops).commit_spreads hn hconv i nd hi r b Q hQ hQc hlog hp hblock hh hq ht hnorphan hcv hparts

end Tmv.Sync
