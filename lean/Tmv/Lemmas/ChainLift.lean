import Tmv.Lemmas.NetApply
/-! Lifting one-height agreement to every height of the chain model `Tmv.Chain` (C01): the nodes that
are correct at a height and have entered it hold the same state there, hence run the height under the
same configuration, hence the height's network is a reachable state of the one-height model.
Core Lean only. -/
namespace Tmv.Chain
open Tmv.Cons Tmv.Net
variable {σ : Type}

/-- one-height agreement, as proved in Props/C01 -/
def Agree1 : Prop := ∀ (nc : NetCfg), 3 * nc.powers.wt nc.faulty < nc.powers.total →
  ∀ (s : Net), Reachable nc s → ∀ p q, nc.correct p → nc.correct q → ∀ b b',
    s.decided p = some b → s.decided q = some b' → b = b'

/-- the hypothesis on the faulty sets: at every height a correct node has entered, less than one third
of the power of the validator set it sees is faulty -/
def Bounded (C : ChainCfg σ) (W : World) : Prop :=
  ∀ h p, W.good C p h → W.entered p h → C.bound (W.st C p h) h

theorem stepItem_of_decided (c : Cfg) (s : NodeState) (it : Item) (h : s.decided.isSome = true) :
    stepItem c s it = s := by
  unfold stepItem
  rw [if_pos (Or.inr h)]

theorem feed_nodes_ne (nc : NetCfg) (s : Net) (p : Nat) (it : Item) (q : Nat) (h : q ≠ p) :
    (s.feed nc p it).nodes q = s.nodes q := by
  simp only [Net.feed, upd, if_neg h]

theorem feed_decided (nc : NetCfg) (s : Net) (p : Nat) (it : Item) (q b : Nat)
    (h : s.decided q = some b) : (s.feed nc p it).decided q = some b := by
  by_cases hq : q = p
  · subst hq
    have hs : (s.nodes q).decided.isSome = true := by
      unfold Net.decided at h
      cases hd : (s.nodes q).decided with
      | none => rw [hd] at h; simp at h
      | some x => rfl
    have hn : (s.feed nc q it).nodes q = s.nodes q := by
      simp only [Net.feed, upd]
      exact stepItem_of_decided _ _ _ hs
    unfold Net.decided; rw [hn]; exact h
  · unfold Net.decided; rw [feed_nodes_ne _ _ _ _ _ hq]; exact h

/-- a network in which only faulty validators (of the set `f`) and non-verifying messages have spoken -/
inductive ByzOnly (f : Nat → Bool) : Net → Prop
  | init : ByzOnly f Net.init
  | app {s : Net} {m : Msg} : ByzOnly f s → (f m.sender = true ∨ m.ok = false) → ByzOnly f (s.append m)

theorem ByzOnly.reachable {f : Nat → Bool} {s : Net} (hs : ByzOnly f s) (nc : NetCfg)
    (hf : nc.faulty = f) : Reachable nc s := by
  induction hs with
  | init => exact Reachable.init
  | app _ hm ih => exact Reachable.step ih (NetStep.byz _ _ (by rw [hf]; exact hm))

theorem ByzOnly.nodes {f : Nat → Bool} {s : Net} (hs : ByzOnly f s) :
    s.nodes = fun _ => NodeState.init := by
  induction hs with
  | init => rfl
  | app _ _ ih => exact ih

theorem nodes_ne_init_of_decided {s : Net} {p : Nat} (h : s.decided p ≠ none) :
    s.nodes p ≠ NodeState.init := by
  intro hn
  apply h
  unfold Net.decided
  rw [hn]
  rfl

/-- decisions persist from `W` to `W'` -/
def Mono (W W' : World) : Prop := ∀ p h b, W.decided p h = some b → W'.decided p h = some b

theorem Mono.entered {W W' : World} (m : Mono W W') {p h : Nat} (e : W.entered p h) :
    W'.entered p h := by
  intro h' hlt hn
  cases hd : W.decided p h' with
  | none => exact e h' hlt hd
  | some b => rw [m p h' b hd] at hn; cases hn

theorem st_congr (C : ChainCfg σ) (W W' : World) (p : Nat) :
    ∀ h, (∀ h', h' < h → W.decided p h' = W'.decided p h') → W.st C p h = W'.st C p h
  | 0, _ => rfl
  | h + 1, hh => by
    have ih := st_congr C W W' p h (fun h' hl => hh h' (by omega))
    simp only [World.st]
    rw [← hh h (by omega), ih]

theorem Mono.st_eq {W W' : World} (m : Mono W W') (C : ChainCfg σ) {p h : Nat} (e : W.entered p h) :
    W'.st C p h = W.st C p h := by
  symm
  apply st_congr
  intro h' hl
  cases hd : W.decided p h' with
  | none => exact absurd hd (e h' hl)
  | some b => exact (m p h' b hd).symm

theorem entered_le {W : World} {p h k : Nat} (e : W.entered p h) (hk : k ≤ h) : W.entered p k :=
  fun h' hl => e h' (by omega)

theorem good_le {C : ChainCfg σ} {W : World} {p h k : Nat} (g : W.good C p h) (hk : k ≤ h) :
    W.good C p k :=
  fun h' hl => g h' (by omega)

theorem Mono.good_iff {W W' : World} (m : Mono W W') (C : ChainCfg σ) {p h : Nat}
    (e : W.entered p h) : W'.good C p h ↔ W.good C p h := by
  constructor
  · intro g h' hl
    have := g h' hl
    rw [m.st_eq C (entered_le e hl)] at this
    exact this
  · intro g h' hl
    rw [m.st_eq C (entered_le e hl)]
    exact g h' hl

theorem Mono.bounded {W W' : World} (m : Mono W W') {C : ChainCfg σ} (hb : Bounded C W') :
    Bounded C W := by
  intro h p g e
  have := hb h p ((m.good_iff C e).2 g) (m.entered e)
  rw [m.st_eq C e] at this
  exact this

theorem append_decided (s : Net) (m : Msg) (q : Nat) : (s.append m).decided q = s.decided q := rfl

theorem Mono.set (W : World) (h : Nat) (N : Net)
    (hN : ∀ q b, (W.nets h).decided q = some b → N.decided q = some b) : Mono W (W.set h N) := by
  intro q k b hd
  simp only [World.decided, World.set] at hd ⊢
  split
  · rename_i hk; subst hk; exact hN q b hd
  · exact hd

theorem WStep.mono {C : ChainCfg σ} {W W' : World} (hs : WStep C W W') : Mono W W' := by
  cases hs with
  | node h p N' hent hgood hs =>
    obtain ⟨it, rfl⟩ := hs.is_feed
    exact Mono.set W h _ fun q b hd => feed_decided _ _ _ _ _ _ hd
  | byz h m hm => exact Mono.set W h _ fun q b hd => hd

/-! ### the invariant

The net of a height is a reachable state of the one-height model under EVERY configuration (with that
height's faulty set) that all the nodes active at the height — correct so far and entered — derive
from the states they hold. While nobody is active that is every such configuration (only faulty
validators have spoken); a move of an active node is a step under its own configuration, which is then
the only candidate. Keeping this needs no agreement. -/

structure J (C : ChainCfg σ) (W : World) : Prop where
  reach : ∀ h (nc : NetCfg), nc.faulty = C.faulty h →
    (∀ p, W.good C p h → W.entered p h → C.netAt (W.st C p h) h = nc) → Reachable nc (W.nets h)
  active : ∀ h p, (W.nets h).nodes p ≠ NodeState.init → W.good C p h ∧ W.entered p h
  byz : ∀ h, (¬ ∃ p, W.good C p h ∧ W.entered p h) → ByzOnly (C.faulty h) (W.nets h)

theorem J.init (C : ChainCfg σ) : J C World.init where
  reach := fun _ _ _ _ => Reachable.init
  active := fun _ _ hn => absurd rfl hn
  byz := fun _ _ => ByzOnly.init

theorem J.entered_of_decided {C : ChainCfg σ} {W : World} (j : J C W) {p h b : Nat}
    (hd : W.decided p h = some b) : W.entered p h :=
  (j.active h p (nodes_ne_init_of_decided (s := W.nets h) (p := p) (fun hn => by
    rw [show (W.nets h).decided p = W.decided p h from rfl, hd] at hn; cases hn))).2

/-- the active nodes stay active and keep their states, so a candidate of `W'` is one of `W` -/
theorem J.reach_mono {C : ChainCfg σ} {W W' : World} (j : J C W) (m : Mono W W') (k : Nat) (nc : NetCfg)
    (hf : nc.faulty = C.faulty k)
    (hall : ∀ q, W'.good C q k → W'.entered q k → C.netAt (W'.st C q k) k = nc) :
    Reachable nc (W.nets k) :=
  j.reach k nc hf fun q g e => by
    rw [← m.st_eq C e]
    exact hall q ((m.good_iff C e).2 g) (m.entered e)

theorem J.node_step {C : ChainCfg σ} {W : World} (j : J C W) (h p : Nat) (N' : Net)
    (hent : W.entered p h) (hgood : W.good C p h)
    (hs : NodeStep (C.netAt (W.st C p h) h) p (W.nets h) N') : J C (W.set h N') := by
  have m : Mono W (W.set h N') := (WStep.node W h p N' hent hgood hs).mono
  refine ⟨?_, ?_, ?_⟩
  · intro k nc hf hall
    have r := j.reach_mono m k nc hf hall
    simp only [World.set]
    split
    · rename_i hk
      subst hk
      -- `p` is active at `k`, so `nc` is the configuration `p` moved under
      have e := hall p ((m.good_iff C hent).2 hgood) (m.entered hent)
      rw [m.st_eq C hent] at e
      subst e
      exact Reachable.step r (hs.toNetStep (hgood k (Nat.le_refl _)))
    · exact r
  · intro k q hn
    by_cases hqk : q = p ∧ k = h
    · rw [hqk.1, hqk.2]
      exact ⟨(m.good_iff C hent).2 hgood, m.entered hent⟩
    · have : ((W.set h N').nets k).nodes q = (W.nets k).nodes q := by
        simp only [World.set]
        split
        · rename_i hk
          subst hk
          obtain ⟨it, rfl⟩ := hs.is_feed
          exact feed_nodes_ne _ _ _ _ _ (fun hq => hqk ⟨hq, rfl⟩)
        · rfl
      rw [this] at hn
      obtain ⟨g, e⟩ := j.active k q hn
      exact ⟨(m.good_iff C e).2 g, m.entered e⟩
  · intro k hno
    have hno' : ¬ ∃ q, W.good C q k ∧ W.entered q k :=
      fun ⟨q, g, e⟩ => hno ⟨q, (m.good_iff C e).2 g, m.entered e⟩
    have hk : k ≠ h := fun hk => hno' ⟨p, hk ▸ hgood, hk ▸ hent⟩
    simp only [World.set]
    rw [if_neg hk]
    exact j.byz k hno'

theorem J.byz_step {C : ChainCfg σ} {W : World} (j : J C W) (h : Nat) (m : Msg)
    (hm : C.faulty h m.sender = true ∨ m.ok = false) : J C (W.set h ((W.nets h).append m)) := by
  have m1 : Mono W (W.set h ((W.nets h).append m)) := (WStep.byz W h m hm).mono
  refine ⟨?_, ?_, ?_⟩
  · intro k nc hf hall
    have r := j.reach_mono m1 k nc hf hall
    simp only [World.set]
    split
    · rename_i hk
      subst hk
      exact Reachable.step r (NetStep.byz _ m (by rw [hf]; exact hm))
    · exact r
  · intro k q hn
    have : ((W.set h ((W.nets h).append m)).nets k).nodes = (W.nets k).nodes := by
      simp only [World.set]
      split
      · rename_i hk; subst hk; rfl
      · rfl
    rw [this] at hn
    obtain ⟨g, e⟩ := j.active k q hn
    exact ⟨(m1.good_iff C e).2 g, m1.entered e⟩
  · intro k hno
    have b := j.byz k fun ⟨q, g, e⟩ => hno ⟨q, (m1.good_iff C e).2 g, m1.entered e⟩
    simp only [World.set]
    split
    · rename_i hk; subst hk; exact ByzOnly.app b hm
    · exact b

theorem J.of_wreachable (C : ChainCfg σ) (W : World) (hr : WReachable C W) : J C W := by
  induction hr with
  | init => exact J.init C
  | step _ hs ih =>
    cases hs with
    | node h p N' hent hgood hs => exact ih.node_step h p N' hent hgood hs
    | byz h m hm => exact ih.byz_step h m hm

theorem J.of_reachable (ha : Agree1) (C : ChainCfg σ) (W : World) (hr : WReachable C W) :
    Bounded C W → J C W :=
  fun _ => J.of_wreachable C W hr

theorem J.j2 {C : ChainCfg σ} {W : World} (j : J C W) :
    ∀ h, (¬ ∃ p, W.good C p h ∧ W.entered p h) → ByzOnly (C.faulty h) (W.nets h) :=
  j.byz

theorem J.j3 {C : ChainCfg σ} {W : World} (j : J C W) :
    ∀ h p, (W.nets h).nodes p ≠ NodeState.init → W.good C p h ∧ W.entered p h :=
  j.active

/-! ### equal states from one-height agreement -/

theorem agree_at (ha : Agree1) (C : ChainCfg σ) (W : World) (h p q : Nat)
    (hr : Reachable (C.netAt (W.st C p h) h) (W.nets h)) (hb : C.bound (W.st C p h) h)
    (hst : W.st C p h = W.st C q h) (hp : W.good C p h) (hq : W.good C q h) (b b' : Nat)
    (h1 : W.decided p h = some b) (h2 : W.decided q h = some b') : b = b' := by
  have cp := hp h (Nat.le_refl _)
  have cq := hq h (Nat.le_refl _)
  rw [← hst] at cq
  exact ha (C.netAt (W.st C p h) h) hb _ hr p q cp cq b b' h1 h2

/-- the nodes active at a height hold the same state there: by induction on the height, the common
state below makes the net below a reachable state under the common configuration, where agreement
gives the same decision -/
theorem J.sync (ha : Agree1) {C : ChainCfg σ} {W : World} (j : J C W) (hb : Bounded C W) :
    ∀ h p q, W.good C p h → W.good C q h → W.entered p h → W.entered q h → W.st C p h = W.st C q h := by
  intro h
  induction h with
  | zero => intros; rfl
  | succ h ih =>
    intro p q gp gq ep eq
    have gp' := good_le gp (Nat.le_succ h)
    have gq' := good_le gq (Nat.le_succ h)
    have ep' := entered_le ep (Nat.le_succ h)
    have eq' := entered_le eq (Nat.le_succ h)
    have hst := ih p q gp' gq' ep' eq'
    have hr : Reachable (C.netAt (W.st C p h) h) (W.nets h) :=
      j.reach h _ rfl fun q' g e => by rw [ih q' p g gp' e ep']
    cases h1 : W.decided p h with
    | none => exact absurd h1 (ep h (by omega))
    | some b =>
      cases h2 : W.decided q h with
      | none => exact absurd h2 (eq h (by omega))
      | some b' =>
        have hbb : b = b' := agree_at ha C W h p q hr (hb h p gp' ep') hst gp' gq' b b' h1 h2
        simp only [World.st, h1, h2, hst, hbb]

theorem J.j1 (ha : Agree1) {C : ChainCfg σ} {W : World} (j : J C W) (hb : Bounded C W) :
    ∀ h p, W.good C p h → W.entered p h → Reachable (C.netAt (W.st C p h) h) (W.nets h) :=
  fun h p hp ep => j.reach h _ rfl fun q g e => by rw [j.sync ha hb h q p g hp e ep]

/-- correct nodes that have entered a height hold the same state there -/
theorem same_state (ha : Agree1) (C : ChainCfg σ) (W : World) (hr : WReachable C W) (hb : Bounded C W)
    (h p q : Nat) (hp : W.good C p h) (hq : W.good C q h) (ep : W.entered p h) (eq : W.entered q h) :
    W.st C p h = W.st C q h :=
  (J.of_wreachable C W hr).sync ha hb h p q hp hq ep eq

/-- each height's network is a reachable state of the one-height model under the common configuration -/
theorem height_reachable (ha : Agree1) (C : ChainCfg σ) (W : World) (hr : WReachable C W) (hb : Bounded C W)
    (h p : Nat) (hp : W.good C p h) (ep : W.entered p h) : Reachable (C.netAt (W.st C p h) h) (W.nets h) :=
  (J.of_wreachable C W hr).j1 ha hb h p hp ep

/-- **agreement at every height** -/
theorem agreement_all_heights (ha : Agree1) (C : ChainCfg σ) (W : World) (hr : WReachable C W) (hb : Bounded C W)
    (h p q : Nat) (hp : W.good C p h) (hq : W.good C q h) (b b' : Nat)
    (h1 : W.decided p h = some b) (h2 : W.decided q h = some b') : b = b' := by
  have j := J.of_wreachable C W hr
  have ep := j.entered_of_decided h1
  exact agree_at ha C W h p q (height_reachable ha C W hr hb h p hp ep) (hb h p hp ep)
    (j.sync ha hb h p q hp hq ep (j.entered_of_decided h2)) hp hq b b' h1 h2

end Tmv.Chain
