import Tmv.Lemmas.ValSetWF
/-! What the set IS after a successful batch: as a map address → power it is the old map updated
by the batch (entries with power 0 delete). -/
namespace Tmv.ValSet

/-- the set as a map address → power -/
def powerMap (l : List Val) (a : Nat) : Option Int := (findAddr l a).map (·.power)

/-- the map-based specification of applying a batch (unique addresses) -/
def applyBatchMap (old : Nat → Option Int) (batch : List Val) (a : Nat) : Option Int :=
  match findAddr batch a with
  | some e => if e.power = 0 then none else some e.power
  | none => old a

/-- after a successful non-empty batch the power map is `applyBatchMap` of the old one
(stated for C08 as `Props.C08.update_refines_map`) -/
theorem update_refines_map (s s' : VSet) (c : List Val) (allow : Bool) (hpre : PreWF s.vals)
    (hc : c ≠ []) (h : updateWithChangeSet s c allow = (s', none)) (a : Nat) :
    powerMap s'.vals a = applyBatchMap (powerMap s.vals) c a := by
  obtain ⟨_, _, rfl, rfl, hl, h, hup, hdisj⟩ := updateWithChangeSet_split s s' c allow hc h
  have hperm := sortBy_perm leAddr c
  obtain ⟨removed, tvp, v2, hvals, hm⟩ :=
    updateCore_find s s' _ _ allow hpre (hl.filter _) (hl.filter _) hup hdisj h
  have hfin : powerMap s'.vals a = powerMap v2 a := by
    have hap := normalize_sameAP v2
    unfold powerMap
    rw [hvals, ← findAddr_perm (sortBy_perm lePower _).symm (by rw [hap.addrs]; exact hm.sAddr.nodup),
      hap.find]
  rw [hfin]
  unfold powerMap applyBatchMap
  rw [hm.find a, findAddr_filter hl.nodup, findAddr_perm hperm hl.nodup]
  -- the re-prioritised updates carry the batch's non-zero powers
  have hu' := (computeNewPriorities_sameAP ((sortBy leAddr c).filter (fun v => v.power ≠ 0)) s.vals tvp).find a
  rw [findAddr_filter hl.nodup, findAddr_perm hperm hl.nodup] at hu'
  generalize findAddr (computeNewPriorities ((sortBy leAddr c).filter (fun v => v.power ≠ 0)) s.vals tvp) a = o
    at hu' ⊢
  cases hf : findAddr c a with
  | none =>
    rw [hf] at hu'
    cases o with
    | none => rfl
    | some w => cases hu'
  | some e =>
    rw [hf] at hu'
    by_cases h0 : e.power = 0
    · simp [h0]
    · simp only [Option.filter_some, h0, decide_false, decide_true, not_false_eq_true, ne_eq, if_true,
        if_false, Bool.false_eq_true] at hu' ⊢
      cases o with
      | none => cases hu'
      | some w => simpa using hu'

end Tmv.ValSet
