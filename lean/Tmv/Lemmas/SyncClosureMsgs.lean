import Tmv.Lemmas.SyncClosure
import Tmv.Lemmas.StepQuiet
/-! The fixpoint argument of the gossip closure for PROPOSALS and BLOCK PARTS (C03): when the
closure loop ends because a pass changed nothing, every node that can take the round's proposal has
a proposal, and every node that is waiting for the parts of a block that is in the log has them.
Both rest on `Net.closureConverged.delivery` and on the relation `Quiet` of Lemmas/StepQuiet.lean: what was
visible of the node is the same at both ends of the pass, so round, step and outputs were constant
all along, and then an accepted proposal or a completed part set cannot have been lost. -/
namespace Tmv.Sync
open Tmv.Cons

/-- `Quiet` between the states of nodes that start their height properly -/
def QuietLater (a b : Node) : Prop := NHI a.s → Quiet a.s b.s ∧ NHI b.s

theorem stepRel_quiet (c : SCfg) : StepRel c QuietLater where
  same := fun _ hs hn => by rw [hs]; exact ⟨Quiet.refl _, hn⟩
  trans := fun h₁ h₂ hn => ⟨(h₁ hn).1.trans (h₂ (h₁ hn).2).1, (h₂ (h₁ hn).2).2⟩
  step := fun _ _ hs hn => by rw [hs]; exact step_Quiet _ _ _ hn

theorem _root_.Tmv.Cons.Quiet.live {a b : NodeState} (q : Quiet a b) (hl : b.live) : a.live :=
  NodeState.live_of_later q.halted q.decided hl

/-- the three loud quantities are constant between two stages that agree on them at the ends -/
theorem quiet_sandwich {a b d : NodeState} (h₁ : Quiet a b) (h₂ : Quiet b d)
    (hr : d.round = a.round) (hs : d.step.rank = a.step.rank) (ho : d.out.length = a.out.length) :
    (b.round = a.round ∧ b.step.rank = a.step.rank ∧ b.out.length = a.out.length) ∧
    (d.round = b.round ∧ d.step.rank = b.step.rank ∧ d.out.length = b.out.length) := by
  have r1 := h₁.round; have r2 := h₂.round
  have hrb : b.round = a.round := by omega
  have hrd : d.round = b.round := by omega
  have s1 := (h₁.sameRound hrb).2.1
  have s2 := (h₂.sameRound hrd).2.1
  have o1 := h₁.out; have o2 := h₂.out
  exact ⟨⟨hrb, by omega, by omega⟩, ⟨hrd, by omega, by omega⟩⟩

/-- a part-set header that is there at both ends of such a stretch is there all along, and what is complete stays
complete: a header it was replaced by would be the round's polka, and that one is never replaced again -/
theorem quiet_sandwich_parts {a m e : NodeState} (h₁ : Quiet a m) (h₂ : Quiet m e)
    (hr : e.round = a.round) (hs : e.step.rank = a.step.rank) (ho : e.out.length = a.out.length)
    {h : Nat} (ha : a.proposalParts = some h) (he : e.proposalParts = some h) :
    m.proposalParts = some h ∧ (a.partsDone = true → m.partsDone = true) ∧
      (m.partsDone = true → e.partsDone = true) := by
  obtain ⟨⟨a1, a2, a3⟩, ⟨b1, b2, b3⟩⟩ := quiet_sandwich h₁ h₂ hr hs ho
  rcases h₁.quiet a1 a2 a3 h ha with ⟨hm, hd⟩ | ⟨x, hx, hpx, hm⟩
  · rcases h₂.quiet b1 b2 b3 h hm with ⟨_, hd'⟩ | ⟨y, hy, _, hp⟩
    · exact ⟨hm, hd, hd'⟩
    · rw [he] at hp; exact absurd (Option.some.inj hp).symm hy
  · exfalso
    rcases h₂.quiet b1 b2 b3 x hm with ⟨hp, _⟩ | ⟨y, hy, hpy, _⟩
    · rw [he] at hp; exact hx (Option.some.inj hp).symm
    · have := h₂.maj (m.round : Int) .prevote (some x) hpx
      rw [b1] at hpy
      exact hy (Option.some.inj (Option.some.inj (hpy.symm.trans this)))

theorem nhi_step (c : SCfg) (idx : Nat) (s : NodeState) (inp : Input) (h : NHI s) :
    NHI (Cons.step (nodeCfg c.cfg idx) s inp) :=
  (step_Quiet _ s inp h).2

theorem Reach.nhi {c : SCfg} {correct : List Nat} {net : Net} (h : Reach c correct net) :
    AllNodes (fun _ s => NHI s) net :=
  h.allNodes (fun _ => NHI.init) (nhi_step c)

/-- **after a converged closure every live node has a proposal for its round if the round's proposal
(by the proposer the node expects, with an admissible POL round, not its own) is in the log** -/
theorem closure_delivers_proposal (c : SCfg) (net : Net) (hconv : net.closureConverged c)
    (hnh : AllNodes (fun _ s => NHI s) net)
    (i k : Nat) (nd : Node) (p : Proposal)
    (hi : (net.closure c).nodes[i]? = some nd) (hk : (net.closure c).log[k]? = some (.proposal p))
    (hlive : nd.s.halted = false ∧ nd.s.decided = none)
    (hround : p.round = nd.s.round)
    (hpol : ¬ (p.pol < -1 ∨ (p.pol ≥ 0 ∧ p.pol ≥ (p.round : Int))))
    (hsigner : p.signer = (nodeCfg c.cfg nd.idx).proposer nd.s.valRound ∧ p.signer < c.cfg.n)
    (hnot : p.signer ≠ nd.idx) :
    nd.s.proposal.isSome = true := by
  obtain ⟨nd0, nd2, nd3, hsigi, hnh0, _, _, _, hs3, q02, q2E, q3E⟩ :=
    hconv.delivery (stepRel_quiet c) (nhi_step c) hnh hi hk (by simp [Msg.own, Msg.signer, hnot])
  obtain ⟨q02, hnh2⟩ := q02 hnh0
  obtain ⟨q2E, _⟩ := q2E hnh2
  -- rounds agree at the ends of the pass, hence all along
  have hr0 : nd.s.round = nd0.s.round := congrArg NodeSig.round hsigi
  have hr2 : nd2.s.round = nd.s.round := by
    have := q02.round; have := q2E.round; omega
  have hsame2E := q2E.sameRound hr2.symm
  -- if node i already has a proposal at the delivery it keeps it
  cases hp2 : nd2.s.proposal with
  | some p2 => rw [hsame2E.2.2 p2 hp2]; rfl
  | none =>
    -- otherwise the delivery is accepted, and the proposal survives the rest of the step and of the pass
    obtain ⟨q3E, _⟩ := q3E (by rw [hs3]; exact (step_Quiet _ _ _ hnh2).2)
    obtain ⟨hset, hrs, hss⟩ := setProposal_accepted (nodeCfg c.cfg nd.idx) nd2.s p hp2 (hround.trans hr2.symm) hpol
      (by rw [hsame2E.1.symm]; exact hsigner)
    generalize nodeCfg c.cfg nd.idx = cfg at hs3 hset hrs hss
    have hstep : nd3.s = drain cfg drainFuel (setProposal cfg nd2.s p) := by
      rw [hs3, step_of_live _ _ _ (q2E.live hlive)]
      rfl
    obtain ⟨qd, _⟩ := drain_Quiet cfg drainFuel (setProposal cfg nd2.s p)
      (fun h => by rw [hss] at h; rw [hrs]; exact hnh2 h)
    rw [← hstep] at qd
    rw [((qd.trans q3E).sameRound (by rw [hrs, hr2])).2.2 p hset]; rfl

/-- **after a converged closure every live node that waits for the parts of a block that is in the log
has them**: a quiet pass cannot move a part-set header away and back -/
theorem closure_delivers_block (c : SCfg) (net : Net) (hconv : net.closureConverged c)
    (hnh : AllNodes (fun _ s => NHI s) net)
    (i k : Nat) (nd : Node) (b : Nat)
    (hi : (net.closure c).nodes[i]? = some nd) (hk : (net.closure c).log[k]? = some (.block b))
    (hlive : nd.s.halted = false ∧ nd.s.decided = none)
    (hparts : nd.s.proposalParts = some b) :
    nd.s.partsDone = true := by
  cases hdone : nd.s.partsDone with
  | true => rfl
  | false =>
    exfalso
    obtain ⟨nd0, nd2, nd3, hsigi, hnh0, _, _, _, hs3, q02, q2E, q3E⟩ :=
      hconv.delivery (stepRel_quiet c) (nhi_step c) hnh hi hk rfl
    obtain ⟨q02, hnh2⟩ := q02 hnh0
    obtain ⟨q2E, _⟩ := q2E hnh2
    obtain ⟨q3E, _⟩ := q3E (by rw [hs3]; exact (step_Quiet _ _ _ hnh2).2)
    -- what the signature shows is the same at both ends of the pass, so the node waits for `b` at the delivery too
    have e_round : nd.s.round = nd0.s.round := congrArg NodeSig.round hsigi
    have e_step : nd.s.step.rank = nd0.s.step.rank := congrArg NodeSig.step hsigi
    have e_out : nd.s.out.length = nd0.s.out.length := congrArg NodeSig.outLen hsigi
    have e_parts : nd.s.proposalParts = nd0.s.proposalParts := congrArg NodeSig.proposalParts hsigi
    obtain ⟨hparts2, _, hd2⟩ := quiet_sandwich_parts q02 q2E e_round e_step e_out (e_parts ▸ hparts) hparts
    obtain ⟨_, b1, b2, b3⟩ := quiet_sandwich q02 q2E e_round e_step e_out
    have hdone2 : nd2.s.partsDone = false := by
      cases h : nd2.s.partsDone with
      | false => rfl
      | true => rw [hd2 h] at hdone; cases hdone
    -- the delivery completes the part set, and a complete part set stays complete to the end of the pass
    generalize nodeCfg c.cfg nd.idx = cfg at hs3
    let sa : NodeState := { nd2.s with partsDone := true, proposalBlock := some b }
    have hstep : nd3.s = drain cfg drainFuel (handleCompleteProposal cfg sa) := by
      rw [hs3, step_of_live _ _ _ (q2E.live hlive)]
      show drain cfg drainFuel (addBlockPart cfg nd2.s b) = _
      unfold addBlockPart
      simp [hparts2, hdone2, sa]
    obtain ⟨qh, hnhh⟩ := handleCompleteProposal_Quiet cfg sa hnh2
    obtain ⟨qd, _⟩ := drain_Quiet cfg drainFuel (handleCompleteProposal cfg sa) hnhh
    have qaE : Quiet sa nd.s := (hstep ▸ qh.trans qd).trans q3E
    rcases qaE.quiet b1 b2 b3 b hparts2 with ⟨_, h⟩ | ⟨x, hx, _, hp⟩
    · rw [h rfl] at hdone; cases hdone
    · rw [hparts] at hp; exact hx (Option.some.inj hp).symm

end Tmv.Sync
