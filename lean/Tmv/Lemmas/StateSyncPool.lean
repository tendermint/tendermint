import Tmv.Lemmas.InsertSort
import Tmv.Model.SnapshotPool
/-! Helper lemmas for C14: the snapshot pool never lists anything blacklisted; `ranked` and `getPeers` sort
(instances of `InsertionSort`). -/
namespace Tmv.StateSync.Thm
open Tmv Tmv.StateSync Tmv.StateSync.Pool

/-- nothing listed in the pool is blacklisted -/
structure Clean (p : Pool) : Prop where
  snapKey : ∀ s ∈ p.snaps, keyOf s ∉ p.blSnap
  snapFormat : ∀ s ∈ p.snaps, s.format ∉ p.blFormat
  peer : ∀ kp ∈ p.peers, kp.2 ∉ p.blPeer

structure Shrinks (q p : Pool) : Prop where
  snaps : ∀ s ∈ q.snaps, s ∈ p.snaps
  peers : ∀ kp ∈ q.peers, kp ∈ p.peers
  blSnap : q.blSnap = p.blSnap
  blFormat : q.blFormat = p.blFormat
  blPeer : q.blPeer = p.blPeer

theorem Shrinks.refl (p : Pool) : Shrinks p p := ⟨fun _ h => h, fun _ h => h, rfl, rfl, rfl⟩

theorem Shrinks.trans {a b c : Pool} (h1 : Shrinks a b) (h2 : Shrinks b c) : Shrinks a c :=
  ⟨fun s h => h2.snaps s (h1.snaps s h), fun s h => h2.peers s (h1.peers s h),
   h1.blSnap.trans h2.blSnap, h1.blFormat.trans h2.blFormat, h1.blPeer.trans h2.blPeer⟩

theorem Clean.of_shrinks {q p : Pool} (hc : Clean p) (hs : Shrinks q p) : Clean q :=
  ⟨fun s h => hs.blSnap ▸ hc.snapKey s (hs.snaps s h), fun s h => hs.blFormat ▸ hc.snapFormat s (hs.snaps s h),
   fun kp h => hs.blPeer ▸ hc.peer kp (hs.peers kp h)⟩

structure Grows (p q : Pool) : Prop where
  snap : ∀ k ∈ p.blSnap, k ∈ q.blSnap
  format : ∀ f ∈ p.blFormat, f ∈ q.blFormat
  peer : ∀ x ∈ p.blPeer, x ∈ q.blPeer

theorem Grows.of_eq {p q : Pool} (h1 : q.blSnap = p.blSnap) (h2 : q.blFormat = p.blFormat)
    (h3 : q.blPeer = p.blPeer) : Grows p q :=
  ⟨fun _ h => h1 ▸ h, fun _ h => h2 ▸ h, fun _ h => h3 ▸ h⟩

theorem Grows.trans {a b c : Pool} (h1 : Grows a b) (h2 : Grows b c) : Grows a c :=
  ⟨fun k h => h2.snap k (h1.snap k h), fun f h => h2.format f (h1.format f h),
   fun x h => h2.peer x (h1.peer x h)⟩

theorem removeSnapshot_shrinks (p : Pool) (k : Key) : Shrinks (p.removeSnapshot k) p := by
  unfold removeSnapshot
  split
  · exact ⟨fun s h => (List.mem_filter.mp h).1, fun s h => (List.mem_filter.mp h).1, rfl, rfl, rfl⟩
  · exact Shrinks.refl p

theorem removeSnapshot_nokey (p : Pool) (k : Key) : ∀ s ∈ (p.removeSnapshot k).snaps, keyOf s ≠ k := by
  unfold removeSnapshot
  split
  · intro s h; simpa using (List.mem_filter.mp h).2
  · rename_i hk
    intro s h heq
    apply hk
    simp only [hasKey, List.any_eq_true]
    exact ⟨s, h, by simp [heq]⟩

theorem clean_removeSnapshot {p : Pool} (hc : Clean p) (k : Key) : Clean (p.removeSnapshot k) :=
  hc.of_shrinks (removeSnapshot_shrinks p k)

theorem clean_empty : Clean Pool.empty := ⟨by simp [Pool.empty], by simp [Pool.empty], by simp [Pool.empty]⟩

theorem clean_addPeer {p : Pool} (hc : Clean p) (k : Key) (peer : String) (hp : peer ∉ p.blPeer) :
    Clean (p.addPeer k peer) ∧ (p.addPeer k peer).blSnap = p.blSnap ∧
    (p.addPeer k peer).blFormat = p.blFormat ∧ (p.addPeer k peer).blPeer = p.blPeer ∧
    (p.addPeer k peer).snaps = p.snaps := by
  unfold addPeer
  split
  · exact ⟨hc, rfl, rfl, rfl, rfl⟩
  · refine ⟨⟨hc.snapKey, hc.snapFormat, ?_⟩, rfl, rfl, rfl, rfl⟩
    intro kp hkp
    simp only [List.mem_append, List.mem_singleton] at hkp
    rcases hkp with h | h
    · exact hc.peer kp h
    · subst h; exact hp

theorem clean_addSnap {p : Pool} (hc : Clean p) (s : Snapshot) (hk : keyOf s ∉ p.blSnap)
    (hf : s.format ∉ p.blFormat) :
    Clean (p.addSnap s).1 ∧ (p.addSnap s).1.blSnap = p.blSnap ∧
    (p.addSnap s).1.blFormat = p.blFormat ∧ (p.addSnap s).1.blPeer = p.blPeer := by
  unfold addSnap
  split
  · exact ⟨hc, rfl, rfl, rfl⟩
  · refine ⟨⟨?_, ?_, hc.peer⟩, rfl, rfl, rfl⟩
    · intro s' hs'
      simp only [List.mem_append, List.mem_singleton] at hs'
      rcases hs' with h | h
      · exact hc.snapKey s' h
      · subst h; exact hk
    · intro s' hs'
      simp only [List.mem_append, List.mem_singleton] at hs'
      rcases hs' with h | h
      · exact hc.snapFormat s' h
      · subst h; exact hf

theorem add_cases (recent : Nat) (p : Pool) (peer : String) (s : Snapshot) :
    p.add recent peer s = (p, false) ∨
    (peer ∉ p.blPeer ∧ s.format ∉ p.blFormat ∧ keyOf s ∉ p.blSnap ∧
      p.add recent peer s = addSnap (addPeer p (keyOf s) peer) s) := by
  unfold Pool.add
  by_cases hf : p.blFormat.contains s.format = true
  · rw [if_pos hf]; exact Or.inl rfl
  by_cases hp : p.blPeer.contains peer = true
  · rw [if_neg hf, if_pos hp]; exact Or.inl rfl
  by_cases hk : p.blSnap.contains (keyOf s) = true
  · rw [if_neg hf, if_neg hp, if_pos hk]; exact Or.inl rfl
  by_cases hn : (p.peerKeys peer).length ≥ recent
  · rw [if_neg hf, if_neg hp, if_neg hk, if_pos hn]; exact Or.inl rfl
  rw [if_neg hf, if_neg hp, if_neg hk, if_neg hn]
  exact Or.inr ⟨by simpa using hp, by simpa using hf, by simpa using hk, rfl⟩

theorem clean_add {p : Pool} (hc : Clean p) (recent : Nat) (peer : String) (s : Snapshot) :
    Clean (p.add recent peer s).1 ∧ (p.add recent peer s).1.blSnap = p.blSnap ∧
    (p.add recent peer s).1.blFormat = p.blFormat ∧ (p.add recent peer s).1.blPeer = p.blPeer := by
  rcases add_cases recent p peer s with h | ⟨hp, hf, hk, h⟩
  · rw [h]; exact ⟨hc, rfl, rfl, rfl⟩
  · rw [h]
    obtain ⟨c1, b1, b2, b3, _⟩ := clean_addPeer hc (keyOf s) peer hp
    obtain ⟨c2, d1, d2, d3⟩ := clean_addSnap c1 s (b1 ▸ hk) (b2 ▸ hf)
    exact ⟨c2, d1.trans b1, d2.trans b2, d3.trans b3⟩

theorem add_refuses_rejected (recent : Nat) (p : Pool) (peer : String) (s : Snapshot)
    (h : peer ∈ p.blPeer ∨ s.format ∈ p.blFormat ∨ keyOf s ∈ p.blSnap) :
    p.add recent peer s = (p, false) := by
  rcases add_cases recent p peer s with h' | ⟨hp, hf, hk, _⟩
  · exact h'
  · rcases h with h | h | h
    · exact absurd h hp
    · exact absurd h hf
    · exact absurd h hk

theorem clean_reject {p : Pool} (hc : Clean p) (s : Snapshot) :
    Clean (p.reject s) ∧ keyOf s ∈ (p.reject s).blSnap ∧ Grows p (p.reject s) := by
  unfold Pool.reject
  have hs := removeSnapshot_shrinks { p with blSnap := keyOf s :: p.blSnap } (keyOf s)
  have hno := removeSnapshot_nokey { p with blSnap := keyOf s :: p.blSnap } (keyOf s)
  refine ⟨⟨?_, ?_, ?_⟩, ?_, ?_, ?_, ?_⟩
  · intro s' hs'
    rw [hs.blSnap]
    simp only [List.mem_cons, not_or]
    exact ⟨hno s' hs', hc.snapKey s' (hs.snaps s' hs')⟩
  · intro s' hs'; rw [hs.blFormat]; exact hc.snapFormat s' (hs.snaps s' hs')
  · intro kp hkp; rw [hs.blPeer]; exact hc.peer kp (hs.peers kp hkp)
  · rw [hs.blSnap]; simp
  · intro k hk; rw [hs.blSnap]; simp [hk]
  · intro f hf; rw [hs.blFormat]; exact hf
  · intro x hx; rw [hs.blPeer]; exact hx

theorem foldl_removeSnapshot (ks : List Key) : ∀ (p : Pool),
    Shrinks (ks.foldl removeSnapshot p) p ∧
    ∀ k ∈ ks, ∀ s ∈ (ks.foldl removeSnapshot p).snaps, keyOf s ≠ k := by
  induction ks with
  | nil => intro p; exact ⟨Shrinks.refl p, by simp⟩
  | cons k rest ih =>
    intro p
    obtain ⟨s1, a4⟩ := ih (p.removeSnapshot k)
    refine ⟨s1.trans (removeSnapshot_shrinks p k), ?_⟩
    intro k' hk' s hs
    rcases List.mem_cons.mp hk' with rfl | h
    · exact removeSnapshot_nokey p k' s (s1.snaps s hs)
    · exact a4 k' h s hs

theorem clean_rejectFormat {p : Pool} (hc : Clean p) (f : Nat) :
    Clean (p.rejectFormat f) ∧ f ∈ (p.rejectFormat f).blFormat ∧ Grows p (p.rejectFormat f) := by
  unfold Pool.rejectFormat
  obtain ⟨hs, hno⟩ := foldl_removeSnapshot
    ((p.snaps.filter (fun s => s.format = f)).map keyOf) { p with blFormat := f :: p.blFormat }
  refine ⟨⟨?_, ?_, ?_⟩, ?_, ?_, ?_, ?_⟩
  · intro s hs'; rw [hs.blSnap]; exact hc.snapKey s (hs.snaps s hs')
  · intro s hs'
    rw [hs.blFormat]
    simp only [List.mem_cons, not_or]
    refine ⟨?_, hc.snapFormat s (hs.snaps s hs')⟩
    intro hf
    have hmem : keyOf s ∈ (p.snaps.filter (fun s => s.format = f)).map keyOf :=
      List.mem_map.mpr ⟨s, List.mem_filter.mpr ⟨hs.snaps s hs', by simpa using hf⟩, rfl⟩
    exact hno _ hmem s hs' rfl
  · intro kp hkp; rw [hs.blPeer]; exact hc.peer kp (hs.peers kp hkp)
  · rw [hs.blFormat]; simp
  · intro k hk; rw [hs.blSnap]; exact hk
  · intro g hg; rw [hs.blFormat]; simp [hg]
  · intro x hx; rw [hs.blPeer]; exact hx

/-- one step of `removePeer`: the pair goes, and the snapshot with its last advertiser -/
def rmStep (peer : String) (p : Pool) (k : Key) : Pool :=
  let p1 := { p with peers := p.peers.filter (fun kp => !(kp.1 = k && kp.2 = peer)) }
  if (p1.keyPeers k).isEmpty then removeSnapshot p1 k else p1

theorem removePeer_eq (p : Pool) (peer : String) :
    p.removePeer peer = (p.peerKeys peer).foldl (rmStep peer) p := rfl
theorem rmStep_spec (peer : String) (p : Pool) (k : Key) :
    Shrinks (rmStep peer p k) p ∧ (k, peer) ∉ (rmStep peer p k).peers := by
  unfold rmStep
  simp only
  have hs1 : Shrinks { p with peers := p.peers.filter (fun kp => !(kp.1 = k && kp.2 = peer)) } p :=
    ⟨fun _ h => h, fun kp h => (List.mem_filter.mp h).1, rfl, rfl, rfl⟩
  have hno1 : (k, peer) ∉ ({ p with peers := p.peers.filter (fun kp => !(kp.1 = k && kp.2 = peer)) } : Pool).peers := by
    intro h
    have := (List.mem_filter.mp h).2
    simp at this
  split
  · have hs2 := removeSnapshot_shrinks { p with peers := p.peers.filter (fun kp => !(kp.1 = k && kp.2 = peer)) } k
    exact ⟨hs2.trans hs1, fun h => hno1 (hs2.peers _ h)⟩
  · exact ⟨hs1, hno1⟩

theorem foldl_rmStep (peer : String) (ks : List Key) : ∀ (p : Pool),
    Shrinks (ks.foldl (rmStep peer) p) p ∧ ∀ k ∈ ks, (k, peer) ∉ (ks.foldl (rmStep peer) p).peers := by
  induction ks with
  | nil => intro p; exact ⟨Shrinks.refl p, by simp⟩
  | cons k rest ih =>
    intro p
    obtain ⟨s1, a4⟩ := ih (rmStep peer p k)
    obtain ⟨s0, b4⟩ := rmStep_spec peer p k
    refine ⟨s1.trans s0, ?_⟩
    intro k' hk'
    rcases List.mem_cons.mp hk' with rfl | h
    · exact fun hm => b4 (s1.peers _ hm)
    · exact a4 k' h

theorem removePeer_spec (p : Pool) (peer : String) :
    Shrinks (p.removePeer peer) p ∧ ∀ kp ∈ (p.removePeer peer).peers, kp.2 ≠ peer := by
  rw [removePeer_eq]
  obtain ⟨s1, a4⟩ := foldl_rmStep peer (p.peerKeys peer) p
  refine ⟨s1, ?_⟩
  intro kp hkp heq
  have hk : kp.1 ∈ p.peerKeys peer :=
    List.mem_map.mpr ⟨kp, List.mem_filter.mpr ⟨s1.peers kp hkp, by simp [heq]⟩, rfl⟩
  apply a4 kp.1 hk
  have : kp = (kp.1, peer) := by cases kp; simp at heq; simp [heq]
  rw [← this]; exact hkp

theorem clean_rejectPeer {p : Pool} (hc : Clean p) (peer : String) :
    Clean (p.rejectPeer peer) ∧ (peer ≠ "" → peer ∈ (p.rejectPeer peer).blPeer) ∧
    Grows p (p.rejectPeer peer) ∧
    (p.rejectPeer peer).blSnap = p.blSnap ∧ (p.rejectPeer peer).blFormat = p.blFormat := by
  unfold Pool.rejectPeer
  split
  · rename_i h; exact ⟨hc, fun hne => absurd h hne, Grows.of_eq rfl rfl rfl, rfl, rfl⟩
  · obtain ⟨hs, d⟩ := removePeer_spec p peer
    have hc1 := hc.of_shrinks hs
    refine ⟨⟨hc1.snapKey, hc1.snapFormat, ?_⟩, fun _ => by simp,
      ⟨fun k hk => hs.blSnap ▸ hk, fun f hf => hs.blFormat ▸ hf, ?_⟩, hs.blSnap, hs.blFormat⟩
    · intro kp hkp
      simp only [List.mem_cons, not_or]
      exact ⟨d kp hkp, hc1.peer kp hkp⟩
    · intro q hq; simp only [List.mem_cons]; right; rw [hs.blPeer]; exact hq

theorem foldl_rejectPeer {ps : List String} : ∀ {p : Pool}, Clean p →
    Clean (ps.foldl Pool.rejectPeer p) ∧ (∀ x ∈ ps, x ≠ "" → x ∈ (ps.foldl Pool.rejectPeer p).blPeer) ∧
    Grows p (ps.foldl Pool.rejectPeer p) := by
  induction ps with
  | nil => intro p hc; exact ⟨hc, by simp, Grows.of_eq rfl rfl rfl⟩
  | cons x rest ih =>
    intro p hc
    obtain ⟨c1, m1, g1, _⟩ := clean_rejectPeer hc x
    obtain ⟨c2, m2, g2⟩ := ih c1
    refine ⟨c2, ?_, g1.trans g2⟩
    intro y hy hne
    rcases List.mem_cons.mp hy with rfl | h
    · exact g2.peer y (m1 hne)
    · exact m2 y h hne

theorem ranked_sorts (p : Pool) : InsertionSort
    (fun x y => ¬ (p.better y x || (p.tied x y && decide (keyOf y ≤ keyOf x))) = true)
    (insertRanked p) (List.foldr (insertRanked p) []) :=
  ⟨fun _ => rfl, fun _ _ _ => (ite_not ..).symm, rfl, fun _ _ => rfl⟩

theorem mem_ranked (p : Pool) (y : Snapshot) : y ∈ p.ranked ↔ y ∈ p.snaps :=
  ((ranked_sorts p).perm _).mem_iff

/-- the canonical `Best` returns a listed snapshot (and so does any choice among the ranking) -/
theorem best_mem {p : Pool} {s : Snapshot} (h : p.best = some s) : s ∈ p.snaps := by
  unfold best at h
  have : s ∈ p.ranked := List.mem_of_head? h
  exact (mem_ranked p s).mp this

theorem getPeers_sorts : InsertionSort (fun x y => ¬ y ≤ x) insertStr (List.foldr insertStr []) :=
  ⟨fun _ => rfl, fun _ _ _ => (ite_not ..).symm, rfl, fun _ _ => rfl⟩

theorem getPeers_mem {p : Pool} {s : Snapshot} {x : String} (h : x ∈ p.getPeers s) :
    (keyOf s, x) ∈ p.peers := by
  have hx := (getPeers_sorts.perm _).mem_iff.1 h
  unfold keyPeers at hx
  obtain ⟨kp, hkp, rfl⟩ := List.mem_map.mp hx
  obtain ⟨hin, hk⟩ := List.mem_filter.mp hkp
  have : kp = (keyOf s, kp.2) := by cases kp; simp at hk; simp [hk]
  rw [← this]; exact hin

end Tmv.StateSync.Thm
