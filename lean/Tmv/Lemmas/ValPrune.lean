import Tmv.Lemmas.ValChain
/-! `PruneStates` preserves the store invariant: it only touches heights below `to`, never removes
or rewrites a stored record it decided to keep, and under the invariant never rewrites at all. -/
namespace Tmv.ValStore
open Tmv.ValSet

/-- the record of height `k` is there and carries its set -/
def Stored (t : Tbl Info) (k : Int) : Prop := ∃ c p, t.get k = some ⟨c, some p⟩

/-- what `PruneStates(_, b)`, completed or stopped half-way, can have made of the table `t0`, given
the heights `keep` it decided to keep; the third case of `any` is a kept record that was present
without its set and is rewritten -/
structure PQ (t0 : Tbl Info) (b : Int) (keep : List Int) (t : Tbl Info) : Prop where
  hi : ∀ k, b ≤ k → t.get k = t0.get k
  any : ∀ k, t.get k = t0.get k ∨ t.get k = none ∨ (k ∈ keep ∧ ¬ Stored t0 k ∧ t0.get k ≠ none)
  kept : ∀ k, k ∈ keep → Stored t0 k → t.get k = t0.get k

theorem PQ.refl (t0 : Tbl Info) (b : Int) (keep : List Int) : PQ t0 b keep t0 :=
  ⟨fun _ _ => rfl, fun _ => Or.inl rfl, fun _ _ _ => rfl⟩

/-- the validator half of one iteration of the loop of `PruneStates` (`r1` in `pruneOne`) -/
def pruneVals (keep : List Int) (s : PruneSt) (h : Int) : Except PruneRes (Tbl Info) :=
  if keep.contains h then
    if hasSet (s.committed.vals.get h) then .ok s.batch.vals
    else
      match loadValidators s.committed.vals h with
      | .ok vs =>
        (match s.committed.vals.get h with
         | none => .error .panic
         | some _ =>
           match toProto vs with
           | none => .error .errLoad
           | some p => .ok (s.batch.vals.put h ⟨h, some p⟩))
      | .panic => .error .panic
      | _ => .error .errLoad
  else .ok (s.batch.vals.del h)

/-- the consensus-params half (`r2` in `pruneOne`) -/
def pruneParams (keep : List Int) (s : PruneSt) (h : Int) : Except PruneRes (Tbl Int) :=
  if keep.contains h then
    match s.committed.params.get h with
    | none => .error .errLoad
    | some c =>
      if c = h then .ok s.batch.params
      else
        match s.committed.params.get c with
        | some c2 => if c2 = c then .ok (s.batch.params.put h h) else .error .errLoad
        | none => .error .errLoad
  else .ok (s.batch.params.del h)

theorem pruneOne_eq (keep kp : List Int) (s : PruneSt) (h : Int) :
    pruneOne keep kp s h =
      match pruneVals keep s h with
      | .error e => .error e
      | .ok bv =>
        match pruneParams kp s h with
        | .error e => .error e
        | .ok bp =>
          if (s.pruned + 1) % 1000 = 0 then .ok ⟨⟨bv, bp⟩, ⟨bv, bp⟩, s.pruned + 1⟩
          else .ok ⟨s.committed, ⟨bv, bp⟩, s.pruned + 1⟩ := rfl

theorem pruneVals_cases (keep : List Int) (s : PruneSt) (h : Int) :
    (h ∈ keep ∧ hasSet (s.committed.vals.get h) = true ∧ pruneVals keep s h = .ok s.batch.vals) ∨
    (h ∈ keep ∧ hasSet (s.committed.vals.get h) = false ∧ s.committed.vals.get h ≠ none ∧
      ∃ p, pruneVals keep s h = .ok (s.batch.vals.put h ⟨h, some p⟩)) ∨
    (h ∉ keep ∧ pruneVals keep s h = .ok (s.batch.vals.del h)) ∨
    pruneVals keep s h = .error .errLoad ∨ pruneVals keep s h = .error .panic := by
  unfold pruneVals
  by_cases hk : keep.contains h = true
  · rw [if_pos hk]
    have hmem : h ∈ keep := by simpa using hk
    by_cases hs : hasSet (s.committed.vals.get h) = true
    · rw [if_pos hs]; exact .inl ⟨hmem, hs, rfl⟩
    · rw [if_neg hs]
      cases loadValidators s.committed.vals h with
      | ok vs =>
        dsimp only
        cases hg : s.committed.vals.get h with
        | none => exact .inr (.inr (.inr (.inr rfl)))
        | some i =>
          dsimp only
          cases toProto vs with
          | none => exact .inr (.inr (.inr (.inl rfl)))
          | some p => exact .inr (.inl ⟨hmem, by rw [← hg]; simpa using hs, by simp, p, rfl⟩)
      | panic => exact .inr (.inr (.inr (.inr rfl)))
      | noValSet => exact .inr (.inr (.inr (.inl rfl)))
      | notFound => exact .inr (.inr (.inr (.inl rfl)))
      | protoErr => exact .inr (.inr (.inr (.inl rfl)))
  · rw [if_neg hk]
    exact .inr (.inr (.inl ⟨by simpa using hk, rfl⟩))

theorem pruneParams_cases (keep : List Int) (s : PruneSt) (h : Int) :
    (∃ bp, pruneParams keep s h = .ok bp) ∨ pruneParams keep s h = .error .errLoad := by
  unfold pruneParams
  by_cases hk : keep.contains h = true
  · rw [if_pos hk]
    cases s.committed.params.get h with
    | none => exact .inr rfl
    | some c =>
      by_cases hc : c = h
      · exact .inl ⟨_, if_pos hc⟩
      · simp only [if_neg hc]
        cases s.committed.params.get c with
        | none => exact .inr rfl
        | some c2 =>
          by_cases hc2 : c2 = c
          · exact .inl ⟨_, if_pos hc2⟩
          · exact .inr (if_neg hc2)
  · rw [if_neg hk]; exact .inl ⟨_, rfl⟩

theorem PQ.del {t0 t : Tbl Info} {b h : Int} {keep : List Int} (hq : PQ t0 b keep t) (hb : h < b)
    (hnm : h ∉ keep) : PQ t0 b keep (t.del h) := by
  refine ⟨fun k hk => ?_, fun k => ?_, fun k hkm hst => ?_⟩
  · rw [Tbl.get_del, if_neg (by omega)]; exact hq.hi k hk
  · rw [Tbl.get_del]
    by_cases hkh : k = h
    · rw [if_pos hkh]; exact .inr (.inl rfl)
    · rw [if_neg hkh]; exact hq.any k
  · rw [Tbl.get_del, if_neg (fun e : k = h => hnm (e ▸ hkm))]; exact hq.kept k hkm hst

theorem PQ.put {t0 t : Tbl Info} {b h : Int} {keep : List Int} (hq : PQ t0 b keep t) (hb : h < b)
    (hm : h ∈ keep) (hns : ¬ Stored t0 h) (hp : t0.get h ≠ none) (info : Info) :
    PQ t0 b keep (t.put h info) := by
  refine ⟨fun k hk => ?_, fun k => ?_, fun k hkm hst => ?_⟩
  · rw [Tbl.get_put, if_neg (by omega)]; exact hq.hi k hk
  · rw [Tbl.get_put]
    by_cases hkh : k = h
    · subst hkh; exact .inr (.inr ⟨hm, hns, hp⟩)
    · rw [if_neg hkh]; exact hq.any k
  · rw [Tbl.get_put, if_neg (fun e : k = h => hns (e ▸ hst))]; exact hq.kept k hkm hst

/-- the validators half keeps `PQ`, or stops with one of the two errors -/
theorem pruneVals_PQ {t0 : Tbl Info} {b h : Int} {keep : List Int} {s : PruneSt} (hb : h < b)
    (hc : PQ t0 b keep s.committed.vals) (hbt : PQ t0 b keep s.batch.vals) :
    (∃ bv, pruneVals keep s h = .ok bv ∧ PQ t0 b keep bv) ∨
      pruneVals keep s h = .error .errLoad ∨ pruneVals keep s h = .error .panic := by
  rcases pruneVals_cases keep s h with ⟨_, _, e⟩ | ⟨hm, hs, hg, p, e⟩ | ⟨hnm, e⟩ | e | e
  · exact .inl ⟨_, e, hbt⟩
  · -- a kept record with a set is never touched (`hc.kept`), so this one had none before either
    have hns : ¬ Stored t0 h := fun hst => by
      obtain ⟨_, _, e0⟩ := hst
      rw [hc.kept h hm ⟨_, _, e0⟩, e0] at hs; cases hs
    refine .inl ⟨_, e, hbt.put hb hm hns ?_ _⟩
    rcases hc.any h with e0 | e0 | ⟨_, _, e0⟩
    · exact e0 ▸ hg
    · exact absurd e0 hg
    · exact e0
  · exact .inl ⟨_, e, hbt.del hb hnm⟩
  · exact .inr (.inl e)
  · exact .inr (.inr e)

/-- one iteration: both tables stay related to `t0`, and the only errors are `errLoad` and `panic` -/
theorem pruneOne_spec (t0 : Tbl Info) (b : Int) (keep kp : List Int) (s : PruneSt) (h : Int)
    (hb : h < b) (hc : PQ t0 b keep s.committed.vals) (hbt : PQ t0 b keep s.batch.vals) :
    match pruneOne keep kp s h with
    | .ok s' => PQ t0 b keep s'.committed.vals ∧ PQ t0 b keep s'.batch.vals
    | .error e => e = .errLoad ∨ e = .panic := by
  rw [pruneOne_eq]
  rcases pruneVals_PQ hb hc hbt with ⟨bv, e, hq⟩ | e | e
  · rw [e]
    rcases pruneParams_cases kp s h with ⟨bp, e2⟩ | e2
    · rw [e2]
      dsimp only
      by_cases hf : (s.pruned + 1) % 1000 = 0
      · rw [if_pos hf]; exact ⟨hq, hq⟩
      · rw [if_neg hf]; exact ⟨hc, hq⟩
    · rw [e2]; exact .inl rfl
  · rw [e]; exact .inl rfl
  · rw [e]; exact .inr rfl

theorem pruneLoop_PQ (t0 : Tbl Info) (b : Int) (keep kp : List Int) (n : Nat) (h : Int) (s : PruneSt)
    (hb : h < b) (hc : PQ t0 b keep s.committed.vals) (hbt : PQ t0 b keep s.batch.vals) :
    PQ t0 b keep (pruneLoop keep kp n h s).1.vals ∧
    ((pruneLoop keep kp n h s).2 = .ok ∨ (pruneLoop keep kp n h s).2 = .errLoad ∨
      (pruneLoop keep kp n h s).2 = .panic) := by
  induction n generalizing h s with
  | zero => exact ⟨hbt, Or.inl rfl⟩
  | succ m ih =>
    unfold pruneLoop
    have h1 := pruneOne_spec t0 b keep kp s h hb hc hbt
    cases hr : pruneOne keep kp s h with
    | error e =>
      rw [hr] at h1
      exact ⟨hc, .inr h1⟩
    | ok s' =>
      rw [hr] at h1
      exact ih (h - 1) s' (by omega) h1.1 h1.2

/-- the heights `PruneStates(from, to)` decides to keep -/
def keepOf (t : Tbl Info) (b : Int) : List Int :=
  match t.get b with
  | some vi => if vi.set = none then [vi.lhc, lastStoredHeightFor b vi.lhc] else []
  | none => []

/-- either the call returned before the loop (database untouched) or the record at `to` exists
and the resulting table is related to the old one by `PQ` -/
theorem pruneStates_spec (db : DB) (a b : Int) :
    let r := pruneStates db a b
    ((r.2 = .errArgs ∨ r.2 = .errNoVals ∨ r.2 = .errNoParams) ∧ r.1 = db) ∨
    (¬ (r.2 = .errArgs ∨ r.2 = .errNoVals ∨ r.2 = .errNoParams) ∧
      (∃ vi, db.vals.get b = some vi) ∧ PQ db.vals b (keepOf db.vals b) r.1.vals) := by
  simp only
  unfold pruneStates
  split
  · left; exact ⟨Or.inl rfl, rfl⟩
  · split
    · left; exact ⟨Or.inl rfl, rfl⟩
    · split
      · left; exact ⟨Or.inr (Or.inl rfl), rfl⟩
      · rename_i vi hvi
        split
        · left; exact ⟨Or.inr (Or.inr rfl), rfl⟩
        · rename_i pc _
          right
          have hk : keepOf db.vals b = (if vi.set = none then [vi.lhc, lastStoredHeightFor b vi.lhc] else []) := by
            unfold keepOf; rw [hvi]
          rw [← hk]
          have := pruneLoop_PQ db.vals b (keepOf db.vals b) (if pc ≠ b then [pc] else [])
            (b - a).toNat (b - 1) ⟨db, db, 0⟩ (by omega) (PQ.refl _ _ _) (PQ.refl _ _ _)
          refine ⟨?_, ⟨vi, hvi⟩, this.1⟩
          rcases this.2 with e | e | e <;> rw [e] <;> simp

theorem mem_keepOf {t : Tbl Info} {b k : Int} {vi : Info} (hvi : t.get b = some vi) :
    k ∈ keepOf t b ↔ vi.set = none ∧ (k = vi.lhc ∨ k = lastStoredHeightFor b vi.lhc) := by
  unfold keepOf
  rw [hvi]
  by_cases hs : vi.set = none
  · simp [hs]
  · simp [hs]

namespace TInv
variable {t t' : Tbl Info} {rec : Int → Option VSet} {base top c : Int} {cl : Bool}

theorem keep_stored (hT : TInv t rec base top c cl) {b k : Int} (hb : b ≤ top) (hk : k ∈ keepOf t b)
    (hp : t.get k ≠ none) : Stored t k := by
  cases hvi : t.get b with
  | none => simp [keepOf, hvi] at hk
  | some vi =>
    obtain ⟨_, hk⟩ := (mem_keepOf hvi).1 hk
    have hGb := hT.grec b vi hb hvi
    have hb0 : 0 ≤ b := by have := hGb.pos; omega
    cases hinfo : t.get k with
    | none => exact absurd hinfo hp
    | some info =>
      have hle := lsf_le hb0 hGb.lhc_le
      have hGk := hT.grec k info (by have := hGb.lhc_le; omega) hinfo
      -- `k` is the change height of `b` or a checkpoint at or above it: a full height either way
      have hfull : k = vi.lhc ∨ k % 100000 = 0 := by
        have := lsf_full (c := vi.lhc) hb0; omega
      have hsome : info.set.isSome := hGk.set_iff.2 <| hfull.imp_left fun e => by
        have := (hGk.mono b vi (by have := hGb.lhc_le; omega) hb hvi).2 (by omega); omega
      obtain ⟨c0, set0⟩ := info
      cases set0 with
      | none => cases hsome
      | some p => exact ⟨c0, p, hinfo⟩

/-- what `PruneStates(_, b)` leaves (`PQ`) satisfies the invariant from `b` upwards: a pointer target
below `b` is the target of the record of `b`, which is kept -/
theorem restrict (hT : TInv t rec base top c cl) {b base' : Int} (hb : b ≤ top) {vi : Info}
    (hvi : t.get b = some vi) (hq : PQ t b (keepOf t b) t') (h1 : base ≤ base') (h2 : b ≤ base') :
    TInv t' rec base' top c cl := by
  have hGb := hT.grec b vi hb hvi
  have hsub : ∀ k info, t'.get k = some info → t.get k = some info := by
    intro k info hk
    rcases hq.any k with e | e | ⟨hm, hns, hp⟩
    · exact e ▸ hk
    · rw [e] at hk; cases hk
    · exact absurd (hT.keep_stored hb hm hp) hns
  refine ⟨fun h hh1 hh2 => ?_, fun k info hk hg => ?_, fun info hg => hT.newest info (hsub _ _ hg),
    fun hc k hk => (hq.hi k (by omega)).trans (hT.above hc k hk)⟩
  · obtain ⟨info, hget, hg⟩ := hT.good h (by omega) hh2
    refine ⟨info, (hq.hi h (by omega)).trans hget, hg.congr rfl fun hn => ?_⟩
    by_cases hlt : b ≤ lastStoredHeightFor h info.lhc
    · exact hq.hi _ hlt
    · obtain ⟨_, i2, p2, _, hg2, hs2, _⟩ := hg.pointer hn
      obtain ⟨e1, e2, e3⟩ := lsf_below (by have := hGb.pos; omega) (by omega) (Int.not_le.1 hlt)
      have hc : vi.lhc = info.lhc := (hGb.mono h info (by omega) hh2 hget).2 (by omega)
      refine hq.kept _ ((mem_keepOf hvi).2 ⟨?_, .inr (by rw [hc, e1])⟩) ⟨i2.lhc, p2, by rw [hg2, ← hs2]⟩
      cases hs : vi.set with
      | none => rfl
      | some p => exact absurd (hGb.set_iff.1 (by rw [hs]; rfl)) (hc ▸ e3)
  · exact (hT.grec k info hk (hsub k info hg)).frame fun k2 i2 _ hk2 hg2 => .inl ⟨hk2, hsub k2 i2 hg2⟩

end TInv

theorem Win.raise {rec : Int → Option VSet} {base base' T : Int} {last cur next : VSet} {hl : Prop}
    (hw : Win rec base T last cur next hl) (h : base ≤ base') : Win rec base' T last cur next hl :=
  ⟨hw.next_full, hw.rec_tip, hw.cur_full, hw.last_full, fun hb => hw.cur_truth (by omega),
    fun h0 hb => hw.last_truth h0 (by omega)⟩

theorem inv_prune (s : Sys) (hi : Inv s) (a b : Int)
    (hsafe : s.clean = true ∨ b ≤ tip s.st ∨ s.db.vals.get b = none) :
    Inv (s.step (.prune a b)) := by
  show Inv ⟨(pruneStates s.db a b).1, s.st, s.truth,
      if (pruneStates s.db a b).2 = .errArgs ∨ (pruneStates s.db a b).2 = .errNoVals ∨
         (pruneStates s.db a b).2 = .errNoParams then s.base
      else if s.base ≤ b then b else s.base, s.clean⟩
  rcases pruneStates_spec s.db a b with ⟨he, hdb⟩ | ⟨hne, ⟨vi, hvi⟩, hq⟩
  · simp only [he, if_true, hdb]
    exact hi
  · simp only [hne, if_false]
    have hbtip : b ≤ tip s.st := by
      rcases hsafe with hcl | hle | hnone
      · by_cases hlt : tip s.st < b
        · have := hi.above hcl b hlt; rw [this] at hvi; cases hvi
        · omega
      · exact hle
      · rw [hnone] at hvi; cases hvi
    have hbase : s.base ≤ (if s.base ≤ b then b else s.base) ∧ b ≤ (if s.base ≤ b then b else s.base) ∧
        (if s.base ≤ b then b else s.base) ≤ tip s.st := by
      have := hi.base_le
      split <;> omega
    generalize (if s.base ≤ b then b else s.base) = base' at hbase
    exact Inv.of_parts rfl (by have := hi.base_pos; omega) hbase.2.2 hi.ih_pos
      hi.lbh_nonneg (hi.win.raise hbase.1) (hi.table.restrict hbtip hvi hq hbase.1 hbase.2.1)

end Tmv.ValStore
