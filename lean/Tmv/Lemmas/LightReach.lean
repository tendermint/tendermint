import Tmv.Lemmas.LightDetect
import Tmv.Lemmas.Light
/-! The verification procedures of the client (`verifySequential`, `verifySkippingAgainstPrimary`,
`backwards`): what they do to the client and what an accepted header satisfies; the trust invariant
of the store. -/
namespace Tmv.Light

theorem chain_append {R : LightBlock → LightBlock → Prop} :
    ∀ (l : List LightBlock) (a b : LightBlock), Chain R l → l.getLast? = some a → R a b →
      Chain R (l ++ [b]) := by
  intro l
  induction l with
  | nil => intro a b _ h; simp at h
  | cons x r ih =>
    intro a b hc hl hr
    cases r with
    | nil =>
      simp at hl
      subst hl
      exact ⟨hr, trivial⟩
    | cons y r' =>
      have hl' : (y :: r').getLast? = some a := by
        simpa [List.getLast?_cons_cons] using hl
      exact ⟨hc.1, ih a b hc.2 hl' hr⟩

theorem head?_append_of_getLast? {l : List LightBlock} {a b : LightBlock} (h : l.getLast? = some a) :
    (l ++ [b]).head? = l.head? := by
  cases l with
  | nil => simp at h
  | cons x r => simp

theorem skipLoop_trace (cfg : Config) (now : Int) (src : Prov) (new : LightBlock) :
    ∀ (fuel : Nat) (k : Calls) (verified : LightBlock) (tl : List LightBlock) (depth : Nat)
      (trace : List LightBlock) (k' : Calls) (tr : List LightBlock),
      Chain (ValidStep cfg now) trace → trace.getLast? = some verified →
      skipLoop cfg now src fuel k verified (new :: tl) depth trace = (k', .ok tr) →
      Chain (ValidStep cfg now) tr ∧ tr.getLast? = some new ∧ tr.head? = trace.head? := by
  intro fuel
  induction fuel with
  | zero =>
    intro k verified tl depth trace k' tr _ _ e
    cases e
  | succ f ih =>
    intro k verified tl depth trace k' tr hch hlast e
    simp only [skipLoop] at e
    split at e
    · cases e
    · rename_i cur hcur
      split at e
      · rename_i hv
        have hstep : ValidStep cfg now verified cur := verify_sound (by rw [hv])
        have hch' := chain_append trace verified cur hch hlast hstep
        split at e
        · rename_i hd
          subst hd
          obtain rfl : new = cur := by simpa using hcur
          cases e
          exact ⟨hch', by simp, head?_append_of_getLast? hlast⟩
        · rename_i hd
          obtain ⟨d, rfl⟩ := Nat.exists_eq_succ_of_ne_zero hd
          simp only [List.take_succ_cons] at e
          have := ih _ _ _ _ _ _ _ hch' (by simp) e
          exact ⟨this.1, this.2.1, this.2.2.trans (head?_append_of_getLast? hlast)⟩
      · split at e
        · simp only [ask] at e
          split at e
          · simp only [List.cons_append] at e
            exact ih _ _ _ _ _ _ _ hch hlast e
          · split at e <;> cases e
        · exact ih _ _ _ _ _ _ _ hch hlast e
      · cases e

/-- what a verification procedure establishes between the block it starts from and the block it
accepts, before anything is known about the former -/
def Leads (cfg : Config) (a b : LightBlock) : Prop := ∀ root, Reach cfg root a → Reach cfg root b

theorem Leads.trans {cfg : Config} {a b c : LightBlock} (h1 : Leads cfg a b) (h2 : Leads cfg b c) :
    Leads cfg a c := fun root h => h2 root (h1 root h)

theorem Leads.fwd {cfg : Config} {now : Int} {a b : LightBlock} (h : ValidStep cfg now a b) : Leads cfg a b :=
  fun _ ha => Reach.fwd a b now ha h

theorem Leads.back {cfg : Config} {a b : LightBlock} (h : BackStep a b) : Leads cfg a b :=
  fun _ ha => Reach.back a b ha h

theorem Leads.same {cfg : Config} {a b : LightBlock} (h : b.hash = a.hash) : Leads cfg a b :=
  fun _ ha => Reach.same a b ha h

theorem leads_of_chain {cfg : Config} {now : Int} :
    ∀ (l : List LightBlock) (a b : LightBlock), Chain (ValidStep cfg now) l → l.head? = some a →
      l.getLast? = some b → Leads cfg a b := by
  intro l
  induction l with
  | nil => intro a b _ h; cases h
  | cons x r ih =>
    intro a b hc hh hl
    obtain rfl : x = a := Option.some.inj hh
    cases r with
    | nil => obtain rfl : x = b := Option.some.inj hl; exact fun _ h => h
    | cons y r' =>
      exact (Leads.fwd hc.1).trans (ih y b hc.2 rfl (by simpa [List.getLast?_cons_cons] using hl))

/-- a provider in the witness list of SOME client answers some request with a block of hash `h`
(the client is not tied to a run: see `Confirmed` for the form that names one) -/
def SomeWitnessReplied (h : Hash) : Prop := ∃ (c1 : Client) (i : Nat) (w : Prov), c1.witnesses[i]? = some w ∧ Replied w h

/-- Some provider of `c`, not necessarily a witness: the detector asks the witnesses of the client
state at the cross-check, by then a primary replacement may have swapped roles, and `Keeps` only
says that state's providers are providers of `c`. For a block a provider of `c` handed over
(`FromProv`) this holds anyway; what the cross-check itself establishes is `detectDivergence_spec`. -/
def Confirmed (c : Client) (h : Hash) : Prop := ∃ w, IsProv c w ∧ Replied w h

theorem Confirmed.some {c : Client} {h : Hash} (hc : Confirmed c h) : SomeWitnessReplied h :=
  let ⟨w, _, hw⟩ := hc
  ⟨{ c with witnesses := [w] }, 0, w, rfl, hw⟩

theorem Confirmed.of_keeps {c c' : Client} {h : Hash} (hk : Keeps c c') (hc : Confirmed c' h) :
    Confirmed c h :=
  let ⟨w, hp, hw⟩ := hc
  ⟨w, hk.provs w hp, hw⟩

section replacement
variable {α : Type} {c1 c' : Client} {ht : Int} {hash : Hash} {err : Err}
  {k : Client → LightBlock → Client × Except Err α} {r : Except Err α}

/-- the replacement-primary branch of `seqLoop`, `verifySkippingAgainstPrimary` and `backwards`:
either the procedure gives up with the error it had, or a witness returned a header with the hash
of the target and the procedure goes on (`k`) with that witness as primary -/
theorem replacement_cases
    (e : (match findNewPrimary c1 ht true with
      | (c2, .error _) => (c2, .error err)
      | (c2, .ok repl) => if repl.hash ≠ hash then (c2, .error err) else k c2 repl) = (c', r)) :
    (Keeps c1 c' ∧ r = .error err) ∨
    ∃ c2 repl, Keeps c1 c2 ∧ repl.hash = hash ∧ k c2 repl = (c', r) := by
  split at e
  · rename_i hf
    obtain ⟨rfl, rfl⟩ := Prod.mk.inj e
    exact Or.inl ⟨(findNewPrimary_keeps hf).1, rfl⟩
  · rename_i c2 repl hf
    split at e
    · obtain ⟨rfl, rfl⟩ := Prod.mk.inj e
      exact Or.inl ⟨(findNewPrimary_keeps hf).1, rfl⟩
    · rename_i hne
      exact Or.inr ⟨c2, repl, (findNewPrimary_keeps hf).1, Decidable.of_not_not hne, e⟩

/-- the forward procedures try it only after `ErrInvalidHeader` on a header other than the target -/
theorem retry_cases {reason : Err} {last : Prop} [Decidable last]
    (e : (if isInvalidHeader reason = true then
        if last then (c1, .error err)
        else match findNewPrimary c1 ht true with
          | (c2, .error _) => (c2, .error err)
          | (c2, .ok repl) => if repl.hash ≠ hash then (c2, .error err) else k c2 repl
      else (c1, .error err)) = (c', r)) :
    (Keeps c1 c' ∧ r = .error err) ∨
    ∃ c2 repl, Keeps c1 c2 ∧ repl.hash = hash ∧ k c2 repl = (c', r) := by
  have stop : (c1, Except.error err) = (c', r) → Keeps c1 c' ∧ r = .error err := fun h => by
    obtain ⟨rfl, rfl⟩ := Prod.mk.inj h; exact ⟨Keeps.refl _, rfl⟩
  by_cases hinv : isInvalidHeader reason = true
  case neg => rw [if_neg hinv] at e; exact Or.inl (stop e)
  rw [if_pos hinv] at e
  by_cases hl : last
  · rw [if_pos hl] at e; exact Or.inl (stop e)
  · rw [if_neg hl] at e; exact replacement_cases e

end replacement

theorem seqLoop_spec (now : Int) (new : LightBlock) :
    ∀ (fuel : Nat) (c : Client) (verified : LightBlock) (height : Int) (trace : List LightBlock)
      (c' : Client) (r : Except Err (List LightBlock)),
      seqLoop now new fuel c verified height trace = (c', r) →
      Keeps c c' ∧
      ∀ tr, r = .ok tr → (tr = trace ∧ ¬ height ≤ new.height) ∨
        (tr.getLast? = some new ∧ now < verified.time + c.cfg.period ∧ Leads c.cfg verified new) := by
  intro fuel
  induction fuel with
  | zero =>
    intro c verified height trace c' r e
    simp only [seqLoop] at e
    obtain ⟨rfl, rfl⟩ := Prod.mk.inj e
    exact ⟨Keeps.refl c, fun tr h => by cases h⟩
  | succ f ih =>
    intro c verified height trace c' r e
    simp only [seqLoop] at e
    by_cases hle : height ≤ new.height
    case neg =>
      rw [if_pos (by simpa using hle)] at e
      obtain ⟨rfl, rfl⟩ := Prod.mk.inj e
      exact ⟨Keeps.refl c, fun tr h => Or.inl ⟨(Except.ok.inj h).symm, hle⟩⟩
    rw [if_neg (by simpa using hle)] at e
    generalize hp : (if height = new.height then (c, Except.ok new) else lightBlockFromPrimary c height) = p at e
    obtain ⟨c1, ir⟩ := p
    have hk1 : Keeps c c1 := by
      split at hp
      · obtain ⟨rfl, _⟩ := Prod.mk.inj hp; exact Keeps.refl c
      · exact (lightBlockFromPrimary_keeps hp).1
    have hnew : ∀ b, ir = .ok b → height = new.height → b = new := by
      intro b hb hh
      rw [if_pos hh, hb] at hp
      exact (Except.ok.inj (Prod.mk.inj hp).2).symm
    have hcfg1 : c1.cfg = c.cfg := hk1.same.1
    dsimp only at e
    cases ir with
    | error er =>
      obtain ⟨rfl, rfl⟩ := Prod.mk.inj e
      exact ⟨hk1, fun tr h => by cases h⟩
    | ok interim =>
      dsimp only at e
      cases hva : verifyAdjacent c1.cfg verified interim now with
      | ok u =>
        rw [hva] at e
        have hstep : ValidStep c.cfg now verified interim := hcfg1 ▸ verifyAdjacent_sound hva
        have h2 := ih _ _ _ _ _ _ e
        refine ⟨hk1.trans h2.1, fun tr htr => Or.inr ?_⟩
        rcases h2.2 tr htr with ⟨ht, hgt⟩ | ⟨hl, _, hr⟩
        · have hi : interim = new := hnew interim rfl (by omega)
          rw [ht, hi]
          exact ⟨by simp, hstep.fresh, hi ▸ Leads.fwd hstep⟩
        · exact ⟨hl, hstep.fresh, (Leads.fwd hstep).trans (hcfg1 ▸ hr)⟩
      | error er =>
        rw [hva] at e
        dsimp only at e
        rcases retry_cases e with ⟨hk, rfl⟩ | ⟨c2, repl, hk, _, e2⟩
        · exact ⟨hk1.trans hk, fun tr h => by cases h⟩
        · have hk2 := hk1.trans hk
          have h2 := ih _ _ _ _ _ _ e2
          refine ⟨hk2.trans h2.1, fun tr htr => ?_⟩
          rw [← hk2.same.1]
          exact h2.2 tr htr

/-- the trace of `verifySequential` ends in `new`, so the cross-check is about `new` -/
theorem verifySequential_spec {c : Client} {trusted new : LightBlock} {now : Int} {c' : Client}
    {r : Except Err Unit} (e : verifySequential c trusted new now = (c', r)) :
    Keeps c c' ∧ (r = .ok () → Confirmed c new.hash ∧ now < trusted.time + c.cfg.period ∧
      Leads c.cfg trusted new) := by
  unfold verifySequential at e
  split at e
  · rename_i c1 err hs
    obtain ⟨rfl, rfl⟩ := Prod.mk.inj e
    exact ⟨(seqLoop_spec now new _ _ _ _ _ _ _ hs).1, fun h => by cases h⟩
  · rename_i c1 trace hs
    have h1 := seqLoop_spec now new _ _ _ _ _ _ _ hs
    have h2 := detectDivergence_spec e
    refine ⟨h1.1.trans h2.1, fun hr => ?_⟩
    obtain ⟨hlen, h, hl, i, w, hi, hw⟩ := h2.2 hr
    rcases h1.2 trace rfl with ⟨ht, _⟩ | ⟨hl2, hfresh, hreach⟩
    · rw [ht] at hlen; simp at hlen
    · obtain rfl : new = h := Option.some.inj (hl2.symm.trans hl)
      exact ⟨⟨w, h1.1.provs w (Or.inr (List.mem_of_getElem? hi)), hw⟩, hfresh, hreach⟩

theorem chain_fresh {cfg : Config} {now : Int} {l : List LightBlock} {a : LightBlock}
    (hc : Chain (ValidStep cfg now) l) (hh : l.head? = some a) (hlen : 2 ≤ l.length) :
    now < a.time + cfg.period := by
  match l, hc, hh, hlen with
  | x :: y :: _, hc, hh, _ =>
    obtain rfl : x = a := Option.some.inj hh
    exact hc.1.fresh

theorem verifySkippingAgainstPrimary_spec (now : Int) (trusted : LightBlock) :
    ∀ (fuel : Nat) (c : Client) (new : LightBlock) (c' : Client) (r : Except Err Unit),
      verifySkippingAgainstPrimary now trusted fuel c new = (c', r) →
      Keeps c c' ∧ (r = .ok () → Confirmed c new.hash ∧ now < trusted.time + c.cfg.period ∧
        Leads c.cfg trusted new) := by
  intro fuel
  induction fuel with
  | zero =>
    intro c new c' r e
    simp only [verifySkippingAgainstPrimary] at e
    obtain ⟨rfl, rfl⟩ := Prod.mk.inj e
    exact ⟨Keeps.refl c, fun h => by cases h⟩
  | succ f ih =>
    intro c new c' r e
    simp only [verifySkippingAgainstPrimary] at e
    split at e
    · rename_i trace hsk
      have h2 := detectDivergence_spec e
      refine ⟨h2.1.of_calls, fun hr => ?_⟩
      obtain ⟨hlen, h, hl, i, w, hi, hw⟩ := h2.2 hr
      obtain ⟨hch, hlast, hhead⟩ := skipLoop_trace c.cfg now c.primary new _ _ _ _ _ _ _ _
        (by exact trivial) (by simp) (Prod.ext rfl hsk)
      obtain rfl : new = h := Option.some.inj (hlast.symm.trans hl)
      exact ⟨⟨w, Or.inr (List.mem_of_getElem? hi), hw⟩, chain_fresh hch hhead hlen,
        leads_of_chain trace trusted new hch hhead hlast⟩
    · rename_i frm to reason _
      rcases retry_cases e with ⟨hk, rfl⟩ | ⟨c2, repl, hk, heq, e2⟩
      · exact ⟨hk.of_calls, fun h => by cases h⟩
      · -- the replacement primary's header has the hash of `new`
        have hk2 : Keeps c c2 := hk.of_calls
        have h2 := ih _ _ _ _ e2
        refine ⟨hk2.trans h2.1, fun hr => ?_⟩
        obtain ⟨hw, hfresh, hreach⟩ := h2.2 hr
        rw [hk2.same.1] at hfresh hreach
        exact ⟨heq ▸ hw.of_keeps hk2, hfresh, hreach.trans (Leads.same heq.symm)⟩
    · have h2 := detectDivergence_spec e
      exact ⟨h2.1.of_calls, fun hr => absurd (h2.2 hr).1 (by simp)⟩

theorem backwards_spec (cfg : Config) :
    ∀ (fuel : Nat) (c : Client) (verified new : LightBlock) (c' : Client) (r : Except Err Unit),
      backwards fuel c verified new = (c', r) →
      Keeps c c' ∧ (r = .ok () → Leads cfg verified new) := by
  intro fuel
  induction fuel with
  | zero =>
    intro c verified new c' r e
    simp only [backwards] at e
    obtain ⟨rfl, rfl⟩ := Prod.mk.inj e
    exact ⟨Keeps.refl c, fun h => by cases h⟩
  | succ f ih =>
    intro c verified new c' r e
    simp only [backwards] at e
    by_cases hgt : verified.height > new.height
    case neg =>
      rw [if_pos (by simpa using hgt)] at e
      obtain ⟨rfl, rfl⟩ := Prod.mk.inj e
      refine ⟨Keeps.refl c, fun h => ?_⟩
      by_cases hne : verified.hash ≠ new.hash
      · rw [if_pos hne] at h; cases h
      · exact Leads.same (Decidable.of_not_not hne).symm
    rw [if_neg (by simpa using hgt)] at e
    split at e
    · rename_i c1 _ hl
      obtain ⟨rfl, rfl⟩ := Prod.mk.inj e
      exact ⟨(lightBlockFromPrimary_keeps hl).1, fun h => by cases h⟩
    · rename_i c1 interim hl
      have hk1 := (lightBlockFromPrimary_keeps hl).1
      by_cases hvb : verifyBackwards interim verified = true
      case pos =>
        rw [if_neg (by simpa using hvb)] at e
        have h2 := ih _ _ _ _ _ e
        exact ⟨hk1.trans h2.1, fun hr => (Leads.back (verifyBackwards_sound hvb)).trans (h2.2 hr)⟩
      rw [if_pos (by simpa using hvb)] at e
      rcases replacement_cases e with ⟨hk, rfl⟩ | ⟨c2, np, hk, heq, e2⟩
      · exact ⟨hk1.trans hk, fun h => by cases h⟩
      · have h2 := ih _ _ _ _ _ e2
        exact ⟨(hk1.trans hk).trans h2.1, fun hr => (h2.2 hr).trans (Leads.same heq.symm)⟩

theorem mem_insertBlock {b x : LightBlock} : ∀ {l : List LightBlock}, b ∈ insertBlock x l → b = x ∨ b ∈ l := by
  intro l
  induction l with
  | nil => intro h; simp [insertBlock] at h; exact Or.inl h
  | cons y r ih =>
    intro h
    simp only [insertBlock] at h
    split at h
    · simp at h
      rcases h with h | h | h
      · exact Or.inl h
      · exact Or.inr (by simp [h])
      · exact Or.inr (by simp [h])
    · split at h
      · simp at h
        rcases h with h | h
        · exact Or.inl h
        · exact Or.inr (by simp [h])
      · simp at h
        rcases h with h | h
        · exact Or.inr (by simp [h])
        · rcases ih h with h | h
          · exact Or.inl h
          · exact Or.inr (by simp [h])

theorem mem_prune {b : LightBlock} {s : Store} {n : Nat} (h : b ∈ (s.prune n).blocks) : b ∈ s.blocks := by
  unfold Store.prune at h
  split at h
  · exact h
  · exact List.mem_of_mem_drop h

/-- the invariants (`Inv`, `CInv`) are "every `Trusted` block is …" -/
def Trusted (c : Client) (b : LightBlock) : Prop := b ∈ c.store.blocks ∨ c.latest = some b

theorem Trusted.of_same {c c' : Client} {b : LightBlock} (hs : SameTrust c c') (h : Trusted c' b) :
    Trusted c b := by
  unfold Trusted at h ⊢
  rwa [hs.2.1, hs.2.2] at h

/-- `updateTrustedLightBlock` adds the new block and nothing else (pruning only removes) -/
theorem updateTrusted_trusted {c : Client} {l b : LightBlock}
    (h : Trusted (updateTrustedLightBlock c l) b) : b = l ∨ Trusted c b := by
  unfold updateTrustedLightBlock Trusted at h
  rcases h with hb | hx
  · simp only at hb
    have hb' : b ∈ (c.store.save l).blocks := by
      split at hb
      · exact mem_prune hb
      · exact hb
    exact (mem_insertBlock hb').imp id Or.inl
  · simp only at hx
    split at hx
    · exact Or.inl (Option.some.inj hx).symm
    · rename_i t ht
      split at hx
      · exact Or.inl (Option.some.inj hx).symm
      · exact Or.inr (Or.inr (ht.trans hx))

/-- the trust invariant: everything in the trusted store, and the cached latest block, is
reachable from the trust root -/
def Inv (cfg : Config) (root : Hash → Prop) (c : Client) : Prop :=
  c.cfg = cfg ∧ (∀ b ∈ c.store.blocks, Reach cfg root b) ∧ (∀ l, c.latest = some l → Reach cfg root l)

theorem Inv.trusted {cfg : Config} {root : Hash → Prop} {c : Client} {b : LightBlock}
    (h : Inv cfg root c) (hb : Trusted c b) : Reach cfg root b := hb.elim (h.2.1 b) (h.2.2 b)

theorem Inv.of_trusted {cfg : Config} {root : Hash → Prop} {c : Client} (hc : c.cfg = cfg)
    (h : ∀ b, Trusted c b → Reach cfg root b) : Inv cfg root c :=
  ⟨hc, fun b hb => h b (Or.inl hb), fun l hl => h l (Or.inr hl)⟩

theorem Inv.cfg_eq {cfg : Config} {root : Hash → Prop} {c : Client} (h : Inv cfg root c) : c.cfg = cfg := h.1

theorem Inv.sub {cfg : Config} {root : Hash → Prop} {c c' : Client} (h : Inv cfg root c) (hc : c'.cfg = cfg)
    (hs : ∀ b, Trusted c' b → Trusted c b) : Inv cfg root c' :=
  Inv.of_trusted hc fun b hb => h.trusted (hs b hb)

theorem Inv.of_same {cfg : Config} {root : Hash → Prop} {c c' : Client} (h : Inv cfg root c)
    (hs : SameTrust c c') : Inv cfg root c' :=
  h.sub (hs.1.trans h.cfg_eq) fun _ hb => hb.of_same hs

theorem updateTrusted_inv {cfg : Config} {root : Hash → Prop} {c : Client} {l : LightBlock}
    (h : Inv cfg root c) (hl : Reach cfg root l) : Inv cfg root (updateTrustedLightBlock c l) :=
  Inv.of_trusted h.cfg_eq fun _ hb => (updateTrusted_trusted hb).elim (· ▸ hl) h.trusted

theorem store_get_mem {s : Store} {h : Int} {b : LightBlock} (e : s.get h = some b) : b ∈ s.blocks :=
  List.mem_of_find?_eq_some e

theorem store_before_mem {s : Store} {h : Int} {b : LightBlock} (e : s.before h = some b) : b ∈ s.blocks := by
  unfold Store.before at e
  have := List.mem_of_getLast? e
  exact (List.mem_filter.mp this).1

end Tmv.Light
