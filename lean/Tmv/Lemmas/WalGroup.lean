import Tmv.Lemmas.Wal
import Tmv.Model.Group
/-! The file-level WAL model (C15): what a reader and `SearchForEndHeight` see of a group whose
rotated files hold whole records and whose head ends in a torn tail, what a crash leaves, and what
the catch-up loop with its repair makes of it; the writer side (`write`, `OnStart`), the file index
(`readGroupInfo`) and pruning (`prune_spec`). -/
namespace Tmv.Wal
open Tmv

theorem lookupFile_cons (p : Nat × Bytes) (fs : List (Nat × Bytes)) (j : Nat) :
    lookupFile (p :: fs) j = if p.1 = j then some p.2 else lookupFile fs j := by
  unfold lookupFile
  rw [List.find?_cons]
  by_cases h : p.1 = j <;> simp [h]

theorem lookup_setFile (fs : List (Nat × Bytes)) (i j : Nat) (b : Bytes) :
    lookupFile (setFile fs i b) j = if j = i then some b else lookupFile fs j := by
  induction fs with
  | nil => rw [setFile, lookupFile_cons]; simp [eq_comm, lookupFile]
  | cons p rest ih =>
    obtain ⟨k, c⟩ := p
    rw [setFile]
    split
    · rw [lookupFile_cons]; simp only [eq_comm]
    · split
      · rename_i hik
        subst hik
        rw [lookupFile_cons, lookupFile_cons]
        by_cases h : i = j <;> simp [h, eq_comm]
      · rename_i hik
        rw [lookupFile_cons, lookupFile_cons, ih]
        by_cases h : j = i
        · subst h; simp [Ne.symm hik]
        · simp [h]

theorem lookup_removeFile (fs : List (Nat × Bytes)) (i j : Nat) :
    lookupFile (removeFile fs i) j = if j = i then none else lookupFile fs j := by
  induction fs with
  | nil => simp [removeFile, lookupFile]
  | cons p rest ih =>
    unfold removeFile at ih ⊢
    rw [List.filter_cons]
    by_cases hk : p.1 = i
    · simp only [hk, ne_eq, not_true_eq_false, decide_false, Bool.false_eq_true, if_false]
      rw [ih, lookupFile_cons, hk]
      by_cases h : j = i
      · simp [h]
      · simp [h, Ne.symm h]
    · simp only [ne_eq, hk, not_false_eq_true, decide_true, if_true]
      rw [lookupFile_cons, lookupFile_cons, ih]
      by_cases h : j = i
      · subst h; simp [hk]
      · simp [h]

/-- content of rotated file `j` as a reader sees it (a missing file is created empty) -/
def fileAt (g : Group) (j : Nat) : Bytes := (lookupFile g.files j).getD []

theorem fileAt_congr {g g' : Group} (h : g'.files = g.files) (j : Nat) : fileAt g' j = fileAt g j := by
  unfold fileAt; rw [h]

/-- the records a group reader decodes from a byte string before it stops -/
def recsOf (P : Params) (b : Bytes) : List Bytes := (readAllG P b).1

theorem recsOf_frames (P : Params) (G : Good P) (ds : List Bytes) (hv : ∀ d ∈ ds, ValidRec P d) :
    recsOf P (frames P ds) = ds := by
  unfold recsOf; rw [readAllG_frames P G ds hv]

theorem recsOf_prefix (P : Params) (G : Good P) (ds : List Bytes) (hv : ∀ d ∈ ds, ValidRec P d)
    (n : Nat) : recsOf P ((frames P ds).take n) = ds.take (whole P ds n) := by
  obtain ⟨r, _, h⟩ := readAllG_prefix P G ds hv n
  unfold recsOf; rw [h]

/-- every rotated file is a sequence of whole valid records -/
def FilesOK (P : Params) (g : Group) : Prop :=
  ∀ j, ∃ ds, (∀ d ∈ ds, ValidRec P d) ∧ fileAt g j = frames P ds

def fileRecs (P : Params) (g : Group) (l : List Nat) : List Bytes :=
  l.flatMap fun j => recsOf P (fileAt g j)

theorem files_stream (P : Params) (G : Good P) (g : Group) (hf : FilesOK P g) : ∀ l : List Nat,
    (l.map (fileAt g)).flatten = frames P (fileRecs P g l) ∧ ∀ d ∈ fileRecs P g l, ValidRec P d
  | [] => by simp [fileRecs, frames_nil]
  | j :: l => by
    obtain ⟨ih1, ih2⟩ := files_stream P G g hf l
    obtain ⟨ds, hv, he⟩ := hf j
    have hr : recsOf P (fileAt g j) = ds := by rw [he]; exact recsOf_frames P G ds hv
    constructor
    · simp only [List.map_cons, List.flatten_cons, fileRecs, List.flatMap_cons]
      rw [hr, frames_append, ← he]
      congr 1
    · intro d hd
      simp only [fileRecs, List.flatMap_cons, List.mem_append] at hd
      rcases hd with hd | hd
      · rw [hr] at hd; exact hv d hd
      · exact ih2 d hd

/-- the head file = whole valid records `hw` followed by a torn tail `t` -/
structure HeadRep (P : Params) (g : Group) (hw : List Bytes) (t : Bytes) : Prop where
  valid : ∀ d ∈ hw, ValidRec P d
  eq : g.head = frames P hw ++ t
  torn : TornTail P t

theorem HeadRep.of_take (P : Params) (g : Group) (hs : List Bytes) (hv : ∀ d ∈ hs, ValidRec P d)
    (n : Nat) (hh : g.head = (frames P hs).take n) :
    ∃ t, HeadRep P g (hs.take (whole P hs n)) t := by
  obtain ⟨t, ht, hT⟩ := take_frames P hs n
  exact ⟨t, fun d hd => hv d (List.mem_of_mem_take hd), hh.trans ht, hT.tornTail hv⟩

/-- the records a reader started at index `i` passes: rotated files `i…`, then the whole head records -/
def logFrom (P : Params) (g : Group) (hw : List Bytes) (i : Nat) : List Bytes :=
  fileRecs P g (List.range' i (g.maxIndex - i)) ++ hw

/-- the byte stream of a reader started at `i` -/
theorem streamFrom_rep (P : Params) (G : Good P) (g : Group) (hf : FilesOK P g) (hw : List Bytes)
    (t : Bytes) (hr : HeadRep P g hw t) (i : Nat) :
    streamFrom g i = frames P (logFrom P g hw i) ++ t ∧ ∀ d ∈ logFrom P g hw i, ValidRec P d := by
  obtain ⟨h1, h2⟩ := files_stream P G g hf (List.range' i (g.maxIndex - i))
  constructor
  · unfold streamFrom logFrom
    have : (List.map (fun j => (lookupFile g.files j).getD []) (List.range' i (g.maxIndex - i))) =
        (List.range' i (g.maxIndex - i)).map (fileAt g) := rfl
    rw [this, h1, hr.eq, frames_append, List.append_assoc]
  · intro d hd
    rcases List.mem_append.mp hd with h | h
    · exact h2 d h
    · exact hr.valid d h

/-- what a group reader started at index `i` returns when the rotated files are whole and the
head file is a (possibly torn) prefix of the frames of `hs` -/
theorem stream_read (P : Params) (G : Good P) (g : Group) (hf : FilesOK P g) (hs : List Bytes)
    (hv : ∀ d ∈ hs, ValidRec P d) (n : Nat) (hh : g.head = (frames P hs).take n) (i : Nat) :
    ∃ r, r.isMsg = false ∧ readAllG P (streamFrom g i) =
      (fileRecs P g (List.range' i (g.maxIndex - i)) ++ hs.take (whole P hs n), r) := by
  obtain ⟨t, hr⟩ := HeadRep.of_take P g hs hv n hh
  obtain ⟨he, hv'⟩ := streamFrom_rep P G g hf _ t hr i
  have hstop := (tornTail_stop P G t hr.torn).1
  exact ⟨_, hstop, by rw [he]; exact readAllG_stop P G _ hv' t hstop⟩

/-- records after the first end-height marker `h` -/
def afterMarker (P : Params) (h : Int) : List Bytes → Option (List Bytes)
  | [] => none
  | d :: ds => if P.parse d = some (some h) then some ds else afterMarker P h ds

/-- `lastHeightFound` after scanning the records -/
def lastMarker (P : Params) : List Bytes → Int → Int
  | [], last => last
  | d :: ds, last =>
    match P.parse d with
    | some (some h) => lastMarker P ds h
    | _ => lastMarker P ds last

/-- the error a scan ends with at the tail when the marker was not among the records -/
def scanErr (P : Params) (ignore : Bool) (t : Bytes) : Option DecErr :=
  match (decodeG P t).1 with
  | .corrupt e => if ignore then none else some e
  | _ => none

theorem scanErr_none (P : Params) (ign : Bool) (t : Bytes) (h : ign = true ∨ t = []) :
    scanErr P ign t = none := by
  unfold scanErr
  rcases h with rfl | rfl
  · split <;> simp
  · rw [decodeG_nil]

theorem scan_frames (P : Params) (G : Good P) (h : Int) (ignore : Bool) (t : Bytes)
    (ht : TornTail P t) : ∀ (ds : List Bytes) (fuel : Nat) (last : Int),
    (∀ d ∈ ds, ValidRec P d) → ds.length + 2 ≤ fuel →
    scan P h ignore fuel (frames P ds ++ t) last =
      match afterMarker P h ds with
      | some suf => (.found (frames P suf ++ t), h)
      | none => (match scanErr P ignore t with | some e => .err e | none => .eofEnd, lastMarker P ds last)
  | [], fuel, last, _, hf => by
    obtain ⟨hm, hr⟩ := tornTail_stop P G t ht
    obtain ⟨f, rfl⟩ : ∃ f, fuel = f + 2 := ⟨fuel - 2, by simp at hf; omega⟩
    simp only [frames_nil, List.nil_append, afterMarker, lastMarker]
    rw [scan]
    cases hd : decodeG P t with
    | mk r rest =>
      rw [hd] at hm hr
      simp only at hr; subst hr
      cases r with
      | msg x => simp [DecRes.isMsg] at hm
      | eof => simp [scanErr, hd]
      | corrupt e =>
        cases ignore with
        | false => simp [scanErr, hd]
        | true =>
          simp only [scanErr, hd, if_true]
          rw [scan, decodeG_nil]
  | d :: ds, fuel, last, hv, hf => by
    have hd : ValidRec P d := hv d (by simp)
    obtain ⟨f, rfl⟩ : ∃ f, fuel = f + 1 := ⟨fuel - 1, by simp at hf; omega⟩
    have ih := scan_frames P G h ignore t ht ds f
    rw [frames_cons, List.append_assoc, scan, decodeG_frame P G d _ hd]
    simp only
    obtain ⟨_, _, hp⟩ := hd
    cases hpd : P.parse d with
    | none => simp [hpd] at hp
    | some v =>
      cases v with
      | none =>
        simp only [afterMarker, lastMarker, hpd]
        rw [ih last (fun x hx => hv x (by simp [hx])) (by simp at hf; omega)]
        simp
      | some k =>
        by_cases hk : k = h
        · subst hk; simp [afterMarker, hpd]
        · simp only [afterMarker, lastMarker, hpd, hk, if_false]
          rw [ih k (fun x hx => hv x (by simp [hx])) (by simp at hf; omega)]
          have : ¬ (some (some k) : Option (Option Int)) = some (some h) := by simp [hk]
          simp [this]

theorem searchIdx_cons (P : Params) (G : Good P) (g : Group) (hf : FilesOK P g) (hw : List Bytes)
    (t : Bytes) (hr : HeadRep P g hw t) (h : Int) (ign : Bool) (i : Nat) (is : List Nat) (last : Int)
    (low : Nat) :
    searchIdx P g h ign (i :: is) last low =
      match afterMarker P h (logFrom P g hw i) with
      | some suf => (.found (frames P suf ++ t), i)
      | none =>
        match scanErr P ign t with
        | some e => (.err e, i)
        | none =>
          if lastMarker P (logFrom P g hw i) last > 0 ∧ lastMarker P (logFrom P g hw i) last < h then (.notFound, i)
          else searchIdx P g h ign is (lastMarker P (logFrom P g hw i) last) i := by
  obtain ⟨hs, hv⟩ := streamFrom_rep P G g hf hw t hr i
  have hlen := length_le_frames P G (logFrom P g hw i)
  have hscan := scan_frames P G h ign t hr.torn _ ((streamFrom g i).length + 2) last hv
    (by rw [hs, List.length_append]; omega)
  rw [← hs] at hscan
  rw [searchIdx]
  simp only [hscan]
  cases afterMarker P h (logFrom P g hw i) with
  | some suf => rfl
  | none => cases scanErr P ign t <;> rfl

theorem afterMarker_suffix (P : Params) (h : Int) : ∀ (ds suf : List Bytes),
    afterMarker P h ds = some suf → ∃ pre d, ds = pre ++ d :: suf ∧ P.parse d = some (some h)
  | [], suf, hs => by simp [afterMarker] at hs
  | d :: ds, suf, hs => by
    unfold afterMarker at hs
    split at hs
    · rename_i hp
      cases hs
      exact ⟨[], d, rfl, hp⟩
    · obtain ⟨pre, d', he, hp⟩ := afterMarker_suffix P h ds suf hs
      exact ⟨d :: pre, d', by rw [he]; rfl, hp⟩

theorem searchIdx_found (P : Params) (G : Good P) (g : Group) (hf : FilesOK P g) (hw : List Bytes)
    (t : Bytes) (hr : HeadRep P g hw t) (h : Int) (ign : Bool) : ∀ (idxs : List Nat) (last : Int)
    (low : Nat) (rest : Bytes), (searchIdx P g h ign idxs last low).1 = .found rest →
    ∃ i suf, i ∈ idxs ∧ afterMarker P h (logFrom P g hw i) = some suf ∧ rest = frames P suf ++ t
  | [], _, _, _, hx => by simp [searchIdx] at hx
  | i :: is, last, low, rest, hx => by
    rw [searchIdx_cons P G g hf hw t hr] at hx
    cases ham : afterMarker P h (logFrom P g hw i) with
    | some suf =>
      rw [ham] at hx
      exact ⟨i, suf, by simp, ham, by cases hx; rfl⟩
    | none =>
      rw [ham] at hx
      cases hse : scanErr P ign t with
      | some e => rw [hse] at hx; cases hx
      | none =>
        rw [hse] at hx
        simp only at hx
        split at hx
        · cases hx
        · obtain ⟨i', suf, hi, h1, h2⟩ := searchIdx_found P G g hf hw t hr h ign is _ _ rest hx
          exact ⟨i', suf, by simp [hi], h1, h2⟩

theorem search_found (P : Params) (G : Good P) (g : Group) (hf : FilesOK P g) (hw : List Bytes)
    (t : Bytes) (hr : HeadRep P g hw t) (h : Int) (ign : Bool) (rest : Bytes)
    (hx : (search P g h ign).1 = .found rest) :
    ∃ suf, (∀ d ∈ suf, ValidRec P d) ∧ rest = frames P suf ++ t := by
  obtain ⟨i, suf, _, ham, he⟩ := searchIdx_found P G g hf hw t hr h ign _ _ _ rest hx
  obtain ⟨pre, d, hl, _⟩ := afterMarker_suffix P h _ _ ham
  exact ⟨suf, fun x hx => (streamFrom_rep P G g hf hw t hr i).2 x (by rw [hl]; simp [hx]), he⟩

/-- every end-height marker among `ds` is the height-0 marker or above `h` -/
def MarkersAbove (P : Params) (h : Int) (ds : List Bytes) : Prop :=
  ∀ d ∈ ds, ∀ k, P.parse d = some (some k) → k = 0 ∨ h < k

theorem lastMarker_above (P : Params) (h : Int) : ∀ (ds : List Bytes) (last : Int),
    MarkersAbove P h ds → ¬ (last > 0 ∧ last < h) →
      ¬ (lastMarker P ds last > 0 ∧ lastMarker P ds last < h)
  | [], last, _, hl => by simpa [lastMarker] using hl
  | d :: ds, last, hm, hl => by
    have hm' : MarkersAbove P h ds := fun x hx => hm x (by simp [hx])
    unfold lastMarker
    split
    · rename_i k hk
      apply lastMarker_above P h ds k hm'
      rcases hm d (by simp) k hk with h0 | h1 <;> omega
    · exact lastMarker_above P h ds last hm' hl

theorem afterMarker_isSome_of_mem (P : Params) (h : Int) : ∀ (pre : List Bytes) (m : Bytes) (suf : List Bytes),
    P.parse m = some (some h) → (afterMarker P h (pre ++ m :: suf)).isSome = true
  | [], m, suf, hp => by simp [afterMarker, hp]
  | d :: pre, m, suf, hp => by
    simp only [List.cons_append, afterMarker]
    split
    · rfl
    · exact afterMarker_isSome_of_mem P h pre m suf hp

/-- the search does find the marker when no scan ends in an error, the early exit is not
triggered by what precedes the readers' start, and some reader passes the marker -/
theorem searchIdx_complete (P : Params) (G : Good P) (g : Group) (hf : FilesOK P g) (hw : List Bytes)
    (t : Bytes) (hr : HeadRep P g hw t) (h : Int) (ign : Bool) (hend : scanErr P ign t = none) :
    ∀ (idxs : List Nat) (last : Int) (low : Nat), ¬ (last > 0 ∧ last < h) →
    (∀ i ∈ idxs, (afterMarker P h (logFrom P g hw i)).isSome = true ∨ MarkersAbove P h (logFrom P g hw i)) →
    (∃ i ∈ idxs, (afterMarker P h (logFrom P g hw i)).isSome = true) →
    ∃ rest, (searchIdx P g h ign idxs last low).1 = .found rest
  | [], _, _, _, _, hex => by obtain ⟨i, hi, _⟩ := hex; simp at hi
  | i :: is, last, low, hl, hall, hex => by
    rw [searchIdx_cons P G g hf hw t hr, hend]
    cases ham : afterMarker P h (logFrom P g hw i) with
    | some suf => exact ⟨_, rfl⟩
    | none =>
      have hab : MarkersAbove P h (logFrom P g hw i) := by
        rcases hall i (by simp) with h1 | h1
        · rw [ham] at h1; cases h1
        · exact h1
      have hl' := lastMarker_above P h _ last hab hl
      simp only [hl', if_false]
      apply searchIdx_complete P G g hf hw t hr h ign hend is _ _ hl'
      · intro j hj; exact hall j (by simp [hj])
      · obtain ⟨j, hj, hjs⟩ := hex
        rcases List.mem_cons.mp hj with rfl | hj
        · rw [ham] at hjs; cases hjs
        · exact ⟨j, hj, hjs⟩

theorem range_split (lo mid hi : Nat) (h1 : lo ≤ mid) (h2 : mid ≤ hi) :
    List.range' lo (hi - lo) = List.range' lo (mid - lo) ++ List.range' mid (hi - mid) := by
  have e : hi - lo = (mid - lo) + (hi - mid) := by omega
  rw [e, ← List.range'_append_1]
  congr 2; omega

theorem fileRecs_append (P : Params) (g : Group) (a b : List Nat) :
    fileRecs P g (a ++ b) = fileRecs P g a ++ fileRecs P g b := by
  simp [fileRecs, List.flatMap_append]

theorem logFrom_suffix (P : Params) (g : Group) (hw : List Bytes) (lo i : Nat) (h1 : lo ≤ i)
    (h2 : i ≤ g.maxIndex) : ∃ pre, logFrom P g hw lo = pre ++ logFrom P g hw i := by
  unfold logFrom
  rw [range_split lo i g.maxIndex h1 h2, fileRecs_append, List.append_assoc]
  exact ⟨_, rfl⟩

theorem suffix_cases {α : Type} (pre : List α) (m : α) (suf s p : List α) (h : pre ++ m :: suf = p ++ s) :
    (∃ pre', s = pre' ++ m :: suf) ∨ (∃ q, suf = q ++ s) := by
  rcases List.append_eq_append_iff.1 h with ⟨a, _, ha⟩ | ⟨c, _, hc⟩
  · cases a with
    | nil => exact .inl ⟨[], ha.symm⟩
    | cons b a => exact .inr ⟨a, (List.cons.inj ha).2⟩
  · exact .inl ⟨c, hc⟩

/-- same disk content and indices; rotated files may have been created empty by readers -/
structure SameDisk (g g' : Group) : Prop where
  head : g'.head = g.head
  buf : g'.buf = g.buf
  synced : g'.synced = g.synced
  minIndex : g'.minIndex = g.minIndex
  maxIndex : g'.maxIndex = g.maxIndex
  headLimit : g'.headLimit = g.headLimit
  totalLimit : g'.totalLimit = g.totalLimit
  cor : g'.cor = g.cor
  isOpen : g'.isOpen = g.isOpen
  files : ∀ j, fileAt g' j = fileAt g j

theorem SameDisk.refl (g : Group) : SameDisk g g :=
  ⟨rfl, rfl, rfl, rfl, rfl, rfl, rfl, rfl, rfl, fun _ => rfl⟩

theorem SameDisk.trans {a b c : Group} (h1 : SameDisk a b) (h2 : SameDisk b c) : SameDisk a c :=
  ⟨h2.head.trans h1.head, h2.buf.trans h1.buf, h2.synced.trans h1.synced,
   h2.minIndex.trans h1.minIndex, h2.maxIndex.trans h1.maxIndex, h2.headLimit.trans h1.headLimit,
   h2.totalLimit.trans h1.totalLimit, h2.cor.trans h1.cor, h2.isOpen.trans h1.isOpen,
   fun j => (h2.files j).trans (h1.files j)⟩

/-- creating a missing file empty (`O_CREATE`) changes nothing a reader sees -/
theorem lookup_create (fs : List (Nat × Bytes)) (a : Nat) (h : lookupFile fs a = none) (j : Nat) :
    (lookupFile (setFile fs a []) j).getD [] = (lookupFile fs j).getD [] := by
  rw [lookup_setFile]
  by_cases hj : j = a
  · subst hj; simp [h]
  · simp [hj]

theorem touch_fold_fileAt (l : List Nat) : ∀ (fs : List (Nat × Bytes)) (j : Nat),
    (lookupFile (l.foldl (fun fs j => match lookupFile fs j with
        | some _ => fs
        | none => setFile fs j []) fs) j).getD [] = (lookupFile fs j).getD [] := by
  induction l with
  | nil => intro fs j; rfl
  | cons a l ih =>
    intro fs j
    simp only [List.foldl_cons]
    rw [ih]
    cases h : lookupFile fs a with
    | some b => rfl
    | none => exact lookup_create fs a h j

theorem sameDisk_touch (g : Group) (i : Nat) : SameDisk g (touchFrom g i) :=
  ⟨rfl, rfl, rfl, rfl, rfl, rfl, rfl, rfl, rfl, fun _ => touch_fold_fileAt _ _ _⟩

theorem FilesOK.congr {P : Params} {g g' : Group} (hf : FilesOK P g) (h : ∀ j, fileAt g' j = fileAt g j) :
    FilesOK P g' :=
  fun j => h j ▸ hf j

/-- the rotated files, and the window they are read through, are what they were; the head may differ
(writes, syncs, `OnStart`) -/
structure SameFiles (g g' : Group) : Prop where
  files : ∀ j, fileAt g' j = fileAt g j
  minIndex : g'.minIndex = g.minIndex
  maxIndex : g'.maxIndex = g.maxIndex

theorem SameDisk.sameFiles {g g' : Group} (sd : SameDisk g g') : SameFiles g g' :=
  ⟨sd.files, sd.minIndex, sd.maxIndex⟩

theorem SameDisk.headRep {P : Params} {g g' : Group} {hw : List Bytes} {t : Bytes}
    (h : SameDisk g g') (hr : HeadRep P g hw t) : HeadRep P g' hw t :=
  ⟨hr.valid, by rw [h.head]; exact hr.eq, hr.torn⟩

theorem SameDisk.streamFrom_eq {g g' : Group} (sd : SameDisk g g') (i : Nat) :
    streamFrom g' i = streamFrom g i := by
  unfold streamFrom
  rw [sd.maxIndex, sd.head]
  congr 2
  exact List.map_congr_left fun j _ => sd.files j

theorem search_sameDisk (P : Params) (g : Group) (h : Int) (ign : Bool) :
    SameDisk g (search P g h ign).2 :=
  sameDisk_touch g _

/-- `catchupReplay` leaves the disk as it was, and answers `ok` from one branch only: the second search found its
marker and the records after it decoded to the end without an error -/
theorem catchup_inv (P : Params) (g : Group) (h : Int) :
    SameDisk g (catchup P g h).2 ∧ ∀ ds, (catchup P g h).1 = .ok ds →
      ∃ g1 eh rest r, SameDisk g g1 ∧ (search P g1 eh true).1 = .found rest ∧
        readAllG P rest = (ds, r) ∧ ∀ e, r ≠ .corrupt e := by
  unfold catchup
  have sd1 := search_sameDisk P g h true
  cases hs1 : search P g h true with
  | mk r1 g1 =>
    rw [hs1] at sd1
    simp only at sd1
    cases r1 with
    | notFound =>
      simp only
      split
      · exact ⟨sd1, fun _ hd => nomatch hd⟩
      · have sd2 := search_sameDisk P g1 (if h = 1 then 0 else h - 1) true
        cases hs2 : search P g1 (if h = 1 then 0 else h - 1) true with
        | mk r2 g2 =>
          rw [hs2] at sd2
          simp only at sd2
          cases r2 with
          | err e => exact ⟨sd1.trans sd2, fun _ hd => nomatch hd⟩
          | notFound =>
            simp only
            have sd3 := search_sameDisk P g2 (if h = 1 then 0 else h - 1) false
            cases hs3 : search P g2 (if h = 1 then 0 else h - 1) false with
            | mk r3 g3 =>
              rw [hs3] at sd3
              cases r3 <;> exact ⟨(sd1.trans sd2).trans sd3, fun _ hd => nomatch hd⟩
          | found rest =>
            simp only
            split
            next => exact ⟨sd1.trans sd2, fun _ hd => nomatch hd⟩
            next ds0 r hnc hra =>
              exact ⟨sd1.trans sd2, fun _ hd => ⟨g1, _, rest, r, sd1, by rw [hs2], by cases hd; exact hra, hnc⟩⟩
    | _ => exact ⟨sd1, fun _ hd => nomatch hd⟩

/-- a catch-up that ends without error proves that the head has no torn tail -/
theorem catchup_ok (P : Params) (G : Good P) (g : Group) (hf : FilesOK P g) (hw : List Bytes)
    (t : Bytes) (hr : HeadRep P g hw t) (h : Int) (ds : List Bytes) (g' : Group)
    (hc : catchup P g h = (.ok ds, g')) : t = [] := by
  obtain ⟨g1, eh, rest, r, sd, hfd, hra, hnc⟩ := (catchup_inv P g h).2 ds (by rw [hc])
  obtain ⟨suf, hsv, hrest⟩ := search_found P G g1 (hf.congr sd.files) hw t (sd.headRep hr) eh true rest hfd
  -- the reader the search returned stops at the tail: without an error only if nothing is there
  have hstop := (tornTail_stop P G t hr.torn).1
  rw [hrest, readAllG_stop P G suf hsv t hstop] at hra
  cases hd : (decodeG P t).1 with
  | corrupt e => rw [hd] at hra; exact absurd (Prod.mk.inj hra).2.symm (hnc e)
  | msg x => rw [hd] at hstop; cases hstop
  | eof => exact decodeG_eof P t hd

theorem crash_prefix (P : Params) (g : Group) (hs : List Bytes) (hc : g.head ++ g.buf = frames P hs)
    (cut : Nat) : ∃ n, g.synced ≤ n ∧ (crash g cut).head = (frames P hs).take n :=
  ⟨_, Nat.le_max_left _ _, by rw [← hc]; rfl⟩

theorem bufWrite_spec (S : Nat) (head buf p : Bytes) :
    ∃ x, (bufWrite S head buf p).1 = head ++ x ∧ x ++ (bufWrite S head buf p).2 = buf ++ p := by
  unfold bufWrite
  split
  · exact ⟨[], by simp⟩
  · simp only
    split
    · rename_i hb
      have : buf = [] := by simpa using hb
      subst this
      split
      · exact ⟨p, rfl, by simp⟩
      · exact ⟨[], by simp⟩
    · split
      · exact ⟨buf ++ List.take (S - buf.length) p ++ List.drop (S - buf.length) p, by simp⟩
      · exact ⟨buf ++ List.take (S - buf.length) p, by simp⟩

/-- a write hands some of buffer ‖ frame on to the head file and keeps the rest buffered -/
theorem write_eq (P : Params) (S : Nat) (g : Group) (d : Bytes) (hd : d.length ≤ P.maxLen) :
    ∃ x b, write P S g d = some { g with head := g.head ++ x, buf := b } ∧ x ++ b = g.buf ++ frame P d := by
  obtain ⟨x, hx1, hx2⟩ := bufWrite_spec S g.head g.buf (frame P d)
  refine ⟨x, _, ?_, hx2⟩
  unfold write
  rw [encode_valid P d hd, ← hx1]

/-- a write appends the record's frame to what was handed to the head so far -/
theorem write_concat (P : Params) (S : Nat) (g g' : Group) (d : Bytes) (hd : d.length ≤ P.maxLen)
    (hw : write P S g d = some g') :
    g'.head ++ g'.buf = g.head ++ g.buf ++ frame P d ∧ g'.files = g.files ∧ g'.synced = g.synced ∧
      g'.minIndex = g.minIndex ∧ g'.maxIndex = g.maxIndex ∧ (∃ x, g'.head = g.head ++ x) := by
  obtain ⟨x, b, he, hxb⟩ := write_eq P S g d hd
  cases he.symm.trans hw
  exact ⟨by rw [List.append_assoc, List.append_assoc, ← hxb], rfl, rfl, rfl, rfl, x, rfl⟩

theorem writeSync_eq (P : Params) (S : Nat) (g : Group) (d : Bytes) (hd : d.length ≤ P.maxLen) :
    writeSync P S g d = some { g with
      head := g.head ++ g.buf ++ frame P d, buf := [], synced := (g.head ++ g.buf ++ frame P d).length } := by
  obtain ⟨x, b, he, hxb⟩ := write_eq P S g d hd
  unfold writeSync
  rw [he, List.append_assoc g.head, ← hxb, ← List.append_assoc]
  rfl

theorem onStart_eq (P : Params) (S : Nat) (g : Group) (e0 : Bytes) (he : e0.length ≤ P.maxLen) :
    (onStart P S g e0).1 = if g.head.length = 0 then { g with
      head := g.head ++ g.buf ++ frame P e0, buf := [], synced := (g.head ++ g.buf ++ frame P e0).length }
      else g := by
  unfold onStart
  split
  · rw [writeSync_eq P S g e0 he]
  · rfl

theorem foldl_min_le (l : List Nat) (a : Nat) : ∀ x ∈ a :: l, l.foldl min a ≤ x :=
  (List.min?_eq_some_iff.1 List.min?_cons').2

theorem foldl_max_ge (l : List Nat) (a : Nat) : ∀ x ∈ a :: l, x ≤ l.foldl max a :=
  (List.max?_eq_some_iff.1 List.max?_cons').2

theorem lookup_isSome_mem (fs : List (Nat × Bytes)) (j : Nat) (h : (lookupFile fs j).isSome = true) :
    j ∈ fs.map (·.1) := by
  induction fs with
  | nil => simp [lookupFile] at h
  | cons p rest ih =>
    rw [lookupFile_cons] at h
    by_cases hk : p.1 = j
    · simp [hk]
    · rw [if_neg hk] at h
      exact List.mem_cons_of_mem _ (ih h)

theorem readGroupInfo_le (g : Group) : (readGroupInfo g).minIndex ≤ (readGroupInfo g).maxIndex := by
  unfold readGroupInfo
  cases hl : g.files.map (·.1) with
  | nil => simp
  | cons i is =>
    simp only
    have h1 := foldl_min_le is i i List.mem_cons_self
    have h2 := foldl_max_ge is i i List.mem_cons_self
    omega

/-- the directory scan brackets every existing rotated file -/
theorem readGroupInfo_range (g : Group) (j : Nat) (h : (lookupFile g.files j).isSome = true) :
    (readGroupInfo g).minIndex ≤ j ∧ j < (readGroupInfo g).maxIndex := by
  have hm := lookup_isSome_mem g.files j h
  unfold readGroupInfo
  cases hl : g.files.map (·.1) with
  | nil => rw [hl] at hm; simp at hm
  | cons i is =>
    rw [hl] at hm
    simp only
    exact ⟨foldl_min_le is i j hm, Nat.lt_succ_of_le (foldl_max_ge is i j hm)⟩

theorem fileAt_ne_nil {g : Group} {j : Nat} (h : fileAt g j ≠ []) : (lookupFile g.files j).isSome = true := by
  unfold fileAt at h
  cases hl : lookupFile g.files j with
  | none => rw [hl] at h; exact absurd rfl h
  | some b => rfl

/-- only non-empty files are bound by the window `[minIndex, maxIndex)`: `minIndex` goes stale when the
size limit removes files, and a reader opened below re-creates them empty (`O_CREATE`) -/
def IdxOK (g : Group) : Prop :=
  (∀ j, fileAt g j ≠ [] → g.minIndex ≤ j ∧ j < g.maxIndex) ∧ g.minIndex ≤ g.maxIndex

theorem SameFiles.idxOK {g g' : Group} (sf : SameFiles g g') (h : IdxOK g) : IdxOK g' := by
  unfold IdxOK at *
  rw [sf.minIndex, sf.maxIndex]
  exact ⟨fun j hj => h.1 j (by rw [← sf.files j]; exact hj), h.2⟩

theorem openGroup_idxOK (g : Group) (hl tl : Nat) : IdxOK (openGroup g hl tl) :=
  ⟨fun j hj => readGroupInfo_range g j (fileAt_ne_nil (g := openGroup g hl tl) hj), readGroupInfo_le g⟩

/-- a group as `OpenGroup` leaves it: the whole head file counts as synced (what the file holds at
opening is what the disk kept) -/
def Shape (g : Group) : Prop := IdxOK g ∧ g.synced = g.head.length

theorem SameDisk.shape {g g' : Group} (sd : SameDisk g g') (h : Shape g) : Shape g' :=
  ⟨sd.sameFiles.idxOK h.1, by rw [sd.synced, sd.head]; exact h.2⟩

theorem reopen_spec (P : Params) (S : Nat) (g : Group) (hl tl : Nat) (e0 : Bytes) (he : e0.length ≤ P.maxLen)
    {g' : Group} (hg : (onStart P S (openGroup g hl tl) e0).1 = g') :
    g'.files = g.files ∧ g'.buf = [] ∧ Shape g' ∧ g'.head = if g.head = [] then frame P e0 else g.head := by
  subst hg
  rw [onStart_eq P S _ e0 he]
  have hi := openGroup_idxOK g hl tl
  by_cases h : g.head = []
  · rw [if_pos (show (openGroup g hl tl).head.length = 0 by show g.head.length = 0; rw [h]; rfl), if_pos h]
    exact ⟨rfl, rfl, ⟨SameFiles.idxOK ⟨fun _ => rfl, rfl, rfl⟩ hi, rfl⟩,
      by show g.head ++ [] ++ frame P e0 = _; rw [h]; rfl⟩
  · rw [if_neg (show ¬ (openGroup g hl tl).head.length = 0 from fun e => h (List.length_eq_zero_iff.mp e)), if_neg h]
    exact ⟨rfl, rfl, ⟨hi, rfl⟩, rfl⟩

/-- the outcome of a recovery that reported success -/
def RecoveredOK : RecoverRes → Prop
  | .first (.ok _) => True
  | .repaired _ (.ok _) _ => True
  | _ => False

/-- after a recovery that reported success the head holds whole records only: a prefix of `hs` with
every whole one of the torn head, or (`hw' = [e0]`) the marker `OnStart` wrote when the repair left nothing -/
theorem recover_prefix (P : Params) (G : Good P) (S : Nat) (g : Group) (h : Int) (e0 : Bytes)
    (he : ValidRec P e0) (hf : FilesOK P g) (hs : List Bytes) (hv : ∀ d ∈ hs, ValidRec P d) (n : Nat)
    (hh : g.head = (frames P hs).take n) (hb : g.buf = []) (hsh : Shape g) (dhl dtl : Nat)
    (res : RecoverRes) (g' : Group) (hrec : recover P S dhl dtl g h e0 = (res, g')) (hok : RecoveredOK res) :
    (∀ j, fileAt g' j = fileAt g j) ∧ g'.buf = [] ∧ Shape g' ∧
      ((∃ hw', (∀ d ∈ hw', ValidRec P d) ∧ g'.head = frames P hw' ∧
          hs.take (whole P hs n) <+: hw' ∧ (hw' <+: hs ∨ hw' = [e0])) ∨ Collision P) := by
  have hvt : ∀ k, ∀ d ∈ hs.take k, ValidRec P d := fun k d hd => hv d (List.mem_of_mem_take hd)
  unfold recover at hrec
  have sd1 := (catchup_inv P g h).1
  cases hc : catchup P g h with
  | mk r g1 =>
    rw [hc] at hrec sd1
    simp only at sd1
    cases r with
    | ok ds0 =>
      obtain ⟨rfl, rfl⟩ := Prod.mk.inj hrec
      obtain ⟨t, hr⟩ := HeadRep.of_take P g hs hv n hh
      have ht := catchup_ok P G g hf _ t hr h ds0 g1 hc
      exact ⟨sd1.files, by rw [sd1.buf, hb], sd1.shape hsh, Or.inl ⟨_, hvt _,
        by rw [sd1.head, hr.eq, ht, List.append_nil], List.prefix_refl _, Or.inl (List.take_prefix _ _)⟩⟩
    | corrupt ds0 e =>
      have hrep : repair P (stop g1).head = repair P ((frames P hs).take n) := by
        show repair P (g1.head ++ g1.buf) = _
        rw [sd1.head, sd1.buf, hb, List.append_nil, hh]
      obtain ⟨hfiles, hbuf, hshape, hhead⟩ := reopen_spec P S _ dhl dtl e0 he.2.1
        (g' := (repairHead P S dhl dtl g1 e0).1) rfl
      simp only at hrec
      have sd3 := (catchup_inv P (repairHead P S dhl dtl g1 e0).1 h).1
      cases hc2 : catchup P (repairHead P S dhl dtl g1 e0).1 h with
      | mk r2 g3 =>
        rw [hc2] at hrec sd3
        obtain ⟨rfl, rfl⟩ := Prod.mk.inj hrec
        refine ⟨fun j => by rw [sd3.files j, fileAt_congr hfiles j]; exact sd1.files j, by rw [sd3.buf, hbuf],
          sd3.shape hshape, (readAllF_prefix P G hs hv n).imp_left fun ⟨k, h1, h2, h3⟩ => ?_⟩
        have hk : repair P (stop g1).head = frames P (hs.take k) := by rw [hrep]; unfold repair; rw [h3]
        have hpre : hs.take (whole P hs n) <+: hs.take k := List.take_prefix_take_left h1
        rw [sd3.head, hhead]
        show ∃ hw', _ ∧ (if repair P (stop g1).head = [] then _ else repair P (stop g1).head) = _ ∧ _
        rw [hk]
        by_cases h0 : frames P (hs.take k) = []
        · rw [frames_eq_nil P G h0] at hpre
          exact ⟨[e0], fun d hd => by rw [List.mem_singleton.mp hd]; exact he,
            by rw [if_pos h0]; simp [frames_cons, frames_nil], hpre.trans List.nil_prefix, Or.inr rfl⟩
        · exact ⟨_, hvt k, if_neg h0, hpre, Or.inl (List.take_prefix _ _)⟩
    | _ => obtain ⟨rfl, _⟩ := Prod.mk.inj hrec; exact hok.elim

theorem pruneLoop_spec (limit : Nat) (gi : GroupInfo) : ∀ (k i total : Nat) (fs : List (Nat × Bytes))
    (rem : List Nat), ∃ new n, (pruneLoop limit gi k i total fs rem).2 = rem ++ new ∧
      (∀ j, lookupFile (pruneLoop limit gi k i total fs rem).1 j =
        if j ∈ new then none else lookupFile fs j) ∧
      ∀ x, x ∈ new ↔ x ∈ List.range' (gi.minIndex + i) n ∧ (lookupFile fs x).isSome = true := by
  intro k
  induction k with
  | zero => intro i total fs rem; exact ⟨[], 0, by simp [pruneLoop]⟩
  | succ k ih =>
    intro i total fs rem
    rw [pruneLoop]
    by_cases hlim : total < limit
    · rw [if_pos hlim]; exact ⟨[], 0, by simp⟩
    rw [if_neg hlim]
    by_cases hne : gi.minIndex + i = gi.maxIndex
    · rw [if_pos hne]; exact ⟨[], 0, by simp⟩
    rw [if_neg hne]
    cases hlk : lookupFile fs (gi.minIndex + i) with
    | none =>
      obtain ⟨new, n, h1, h2, h3⟩ := ih (i + 1) total fs rem
      refine ⟨new, n + 1, h1, h2, fun x => ?_⟩
      rw [h3 x, List.range'_succ, List.mem_cons]
      exact ⟨fun ⟨h, hp⟩ => ⟨.inr h, hp⟩,
        fun ⟨h, hp⟩ => ⟨h.resolve_left fun e => (by rw [e, hlk] at hp; cases hp), hp⟩⟩
    | some b =>
      obtain ⟨new, n, h1, h2, h3⟩ := ih (i + 1) (total - b.length) (removeFile fs (gi.minIndex + i))
        (rem ++ [gi.minIndex + i])
      refine ⟨(gi.minIndex + i) :: new, n + 1, by rw [h1, List.append_assoc]; rfl, fun j => ?_, fun x => ?_⟩
      · rw [h2 j, lookup_removeFile]
        by_cases hj : j = gi.minIndex + i <;> simp [hj]
      · rw [List.mem_cons, h3 x, lookup_removeFile, List.range'_succ, List.mem_cons]
        by_cases hx : x = gi.minIndex + i
        · simp [hx, hlk]
        · simp only [hx, if_false, false_or]; exact Iff.rfl

/-- the size limit discards only whole oldest files, never the head's: `rem` is what there was below some index -/
structure Pruned (g g' : Group) (rem : List Nat) : Prop where
  head : g'.head = g.head
  buf : g'.buf = g.buf
  synced : g'.synced = g.synced
  minIndex : g'.minIndex = g.minIndex
  maxIndex : g'.maxIndex = g.maxIndex
  files : ∀ j, lookupFile g'.files j = if j ∈ rem then none else lookupFile g.files j
  below : ∃ m, ∀ x, x ∈ rem ↔ x < m ∧ (lookupFile g.files x).isSome = true

theorem prune_spec (k : Nat) (g g' : Group) (rem : List Nat)
    (hr : checkTotalSizeLimit k g = (g', rem)) : Pruned g g' rem := by
  unfold checkTotalSizeLimit at hr
  split at hr
  · obtain ⟨rfl, rfl⟩ := Prod.mk.inj hr
    exact ⟨rfl, rfl, rfl, rfl, rfl, by simp, 0, by simp⟩
  · obtain ⟨new, n, h1, h2, h3⟩ := pruneLoop_spec g.totalLimit (readGroupInfo g) k 0
      (readGroupInfo g).totalSize g.files []
    obtain ⟨rfl, rfl⟩ := Prod.mk.inj hr
    rw [List.nil_append] at h1
    rw [h1]
    refine ⟨rfl, rfl, rfl, rfl, rfl, h2, (readGroupInfo g).minIndex + n, fun x => (h3 x).trans
      (and_congr_left fun hx => List.mem_range'_1.trans (and_iff_right (readGroupInfo_range g x hx).1))⟩

theorem Pruned.existed {g g' : Group} {rem : List Nat} (h : Pruned g g' rem) :
    ∀ x ∈ rem, (lookupFile g.files x).isSome = true ∧ x ≠ (readGroupInfo g).maxIndex := by
  obtain ⟨m, hm⟩ := h.below
  intro x hx
  have hs := ((hm x).1 hx).2
  exact ⟨hs, Nat.ne_of_lt (readGroupInfo_range g x hs).2⟩

theorem Pruned.oldest {g g' : Group} {rem : List Nat} (h : Pruned g g' rem) :
    ∀ j, (lookupFile g'.files j).isSome = true → ∀ x ∈ rem, x < j := by
  obtain ⟨m, hm⟩ := h.below
  intro j hj x hx
  rw [h.files j] at hj
  by_cases hjr : j ∈ rem
  · rw [if_pos hjr] at hj; cases hj
  · rw [if_neg hjr] at hj
    have : ¬ j < m := fun hlt => hjr ((hm j).2 ⟨hlt, hj⟩)
    have := ((hm x).1 hx).1
    omega

/-- a file that is not there reads as empty, so to a reader a prune empties everything below some index -/
theorem Pruned.fileAt_below {g g' : Group} {rem : List Nat} (h : Pruned g g' rem) :
    ∃ m, ∀ j, fileAt g' j = if j < m then [] else fileAt g j := by
  obtain ⟨m, hm⟩ := h.below
  refine ⟨m, fun j => ?_⟩
  unfold fileAt
  rw [h.files j]
  by_cases hjr : j ∈ rem
  · rw [if_pos hjr, if_pos ((hm j).1 hjr).1]; rfl
  · rw [if_neg hjr]
    by_cases hlt : j < m
    · rw [if_pos hlt]
      cases hl : lookupFile g.files j with
      | none => rfl
      | some b => exact absurd ((hm j).2 ⟨hlt, by rw [hl]; rfl⟩) hjr
    · rw [if_neg hlt]

theorem fileAt_prune {k : Nat} {g g' : Group} {rem : List Nat} (hr : checkTotalSizeLimit k g = (g', rem))
    (j : Nat) : fileAt g' j = if j ∈ rem then [] else fileAt g j := by
  unfold fileAt
  rw [(prune_spec k g g' rem hr).files j]
  split <;> rfl

end Tmv.Wal
