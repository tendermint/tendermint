import Tmv.Lemmas.ConsPrim
/-! A universal invariant of the node model: a complete part set IS the proposal block
(`partsDone = true → proposalBlock = proposalParts`, and the header is known). Converse of
`Cons.KI.pb` (Lemmas/CommitInv.lean). -/
namespace Tmv.Cons

/-- a complete part set is the proposal block -/
def PD (s : NodeState) : Prop :=
  s.partsDone = true → s.proposalBlock = s.proposalParts ∧ s.proposalParts.isSome = true

/-- `PD` on the three fields it reads -/
def PDI (block parts : Option Nat) (done : Bool) : Prop :=
  done = true → block = parts ∧ parts.isSome = true

theorem PD_def (s : NodeState) : PD s = PDI s.proposalBlock s.proposalParts s.partsDone := rfl

theorem PD.init : PD NodeState.init := by
  intro h
  change false = true at h
  cases h

/-- nothing is complete: nothing to show -/
theorem PDI.clear (b p : Option Nat) : PDI b p false := fun e => by cases e

/-- a complete block with its own header -/
theorem PDI.full (x : Nat) : PDI (some x) (some x) true := fun _ => ⟨rfl, rfl⟩

theorem PD.proj {B : NodeState} (h : PD B) : PDI B.proposalBlock B.proposalParts B.partsDone := h

/-- the invariant only reads `Core` fields -/
theorem PD.core {s t : NodeState} (hc : Core t = Core s) (h : PD s) : PD t := by
  rw [PD_def, core_proposalBlock hc, core_proposalParts hc, core_partsDone hc]
  exact h

variable {c : Cfg}

theorem emit_PD {s : NodeState} (o : Output) (h : PD s) : PD (emit s o) := h.core (emit_core s o)
theorem panicWith_PD {s : NodeState} (w : String) (h : PD s) : PD (panicWith s w) := h.core (panicWith_core s w)
theorem signAddVote_PD {s : NodeState} (t : VType) (b : Bid) (h : PD s) : PD (signAddVote c s t b) :=
  h.core (signAddVote_core c s t b)
theorem decideProposal_PD {s : NodeState} (r me : Nat) (h : PD s) : PD (decideProposal c s r me) :=
  h.core (decideProposal_core c s r me)

theorem newRoundReset_PD {s : NodeState} (r : Nat) (h : PD s) : PD (newRoundReset s r) := by
  obtain ⟨_, e⟩ | ⟨_, e⟩ := newRoundReset_shape s r <;> rw [e]
  · exact h
  · exact PDI.clear _ _

/-- a proposal creates an empty part set where there is none; the block part completes it -/
theorem enter_PD {s : NodeState} (i : Input) (h : PD s) : PD (enter c s i) := by
  have he := enter_entry c s i
  generalize enter c s i = t at he
  cases he with
  | proposalParts p => exact PDI.clear _ _
  | part b hp hd =>
    show PDI (some b) s.proposalParts true
    rw [hp]
    exact PDI.full b
  | _ => exact h

/-- the part set is replaced together with the block (and is then incomplete), except in
`enterCommit`, which takes the locked block with its parts; a block dropped for the polka's while
its parts stay was not complete -/
theorem PD_prim {ok : Prop} {cm : NodeState → Prop} {s t : NodeState} (hp : Prim c ok cm s t) (h : PD s) : PD t := by
  cases hp with
  | panic w => exact panicWith_PD w h
  | schedule r st | propose r | prevoteWait r | precommitWait r | decide b => exact emit_PD _ h
  | proposeOwn r me => exact decideProposal_PD r me (emit_PD _ h)
  | newRound r => exact newRoundReset_PD r h
  | prevote r bid => exact signAddVote_PD _ _ h
  | precommit r t x _ _ _ hc =>
    cases hc with
    | fetch b => exact signAddVote_PD _ _ (PDI.clear _ _)
    | _ => exact signAddVote_PD _ _ h
  | commitLocked r bid hm hl =>
    cases hb : s.lockedBlock with
    | none => rw [hb] at hl; cases hl
    | some b => exact PDI.full b
  | commitFetch r bid | polkaFetch vr bid | dropFetch vr bid => exact PDI.clear _ _
  | dropBlock vr bid hm hb hlt hvr hp hd =>
    intro hdone
    obtain ⟨e, _⟩ := h hdone
    -- `hasHeader` and `hashesTo` are the same comparison
    have hh : hashesTo s.proposalParts bid = true := hd hdone
    rw [← e] at hh
    exact absurd hh hp
  | _ => exact h

theorem step_PD {c : Cfg} {s : NodeState} (i : Input) (h : PD s) : PD (step c s i) :=
  step_invariant (ok := False) (fun _ _ hp => PD_prim hp)
    (fun s m rest _ h => enter_PD (s := { s with queue := rest }) m.asInput h) s i nofun (enter_PD i) h

end Tmv.Cons
