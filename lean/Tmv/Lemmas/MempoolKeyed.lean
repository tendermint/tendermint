import Tmv.Model.MempoolKeyed
import Tmv.Lemmas.MempoolList
/-! The accounting core with an explicit key function (`Keyed.Acc`, `KPool`): index and entries agree
for every key function; the byte counter is exact for v1 removal and exact-or-collision for v0 removal. -/
namespace Tmv.Mempool.Keyed
open Tmv Tmv.Mempool

variable (key : Bytes → Bytes)

/-- `U`: the transactions submitted or committed in the history -/
structure Inv (U : List Bytes) (a : Acc) : Prop where
  nodup : (a.entries.map key).Nodup
  index : a.index.Perm (a.entries.map key)
  sub : ∀ e ∈ a.entries, e ∈ U

/-- two different submitted transactions with the same key -/
def Collision (U : List Bytes) : Prop := ∃ x ∈ U, ∃ y ∈ U, x ≠ y ∧ key x = key y

/-- the byte counter is the total size of the pooled transactions, unless `C` (v0: a collision) -/
def Exact (C : Prop) (a : Acc) : Prop := a.bytes = bytesOf a.entries ∨ C

theorem inv_empty (U : List Bytes) : Inv key U empty :=
  ⟨List.nodup_nil, List.Perm.nil, fun _ h => nomatch h⟩

theorem bytesOf_eraseP_find (l : List Bytes) (p : Bytes → Bool) (e : Bytes)
    (h : l.find? p = some e) : bytesOf (l.eraseP p) = bytesOf l - (e.length : Int) := by
  induction l with
  | nil => exact nomatch h
  | cons a r ih =>
    by_cases hp : p a = true
    · simp only [List.find?_cons, hp, Option.some.injEq] at h
      rw [List.eraseP_cons_of_pos hp, ← h]; simp only [bytesOf]; omega
    · simp only [List.find?_cons, hp] at h
      rw [List.eraseP_cons_of_neg hp]; simp only [bytesOf, ih h]; omega

section
variable {key} {U : List Bytes} {a : Acc} (hi : Inv key U a)
include hi

/-- the entry the index holds for `key tx` is `tx` itself, or two submitted txs collide -/
theorem entry_is_tx_or_collision (tx : Bytes) (hu : tx ∈ U) (hk : key tx ∈ a.index) :
    tx ∈ a.entries ∨ Collision key U := by
  obtain ⟨e, _, hek, hel⟩ := find_of_mem_map key a.entries (key tx) (hi.index.mem_iff.1 hk)
  by_cases h : e = tx
  · exact Or.inl (h ▸ hel)
  · exact Or.inr ⟨e, hi.sub e hel, tx, hu, h, hek⟩

theorem admit_spec {C : Prop} (hb : Exact C a) (tx : Bytes) (hu : tx ∈ U) :
    Inv key U (admitTx key a tx) ∧ Exact C (admitTx key a tx) := by
  unfold admitTx
  by_cases hn : key tx ∈ a.index
  · rw [if_pos hn]; exact ⟨hi, hb⟩
  · rw [if_neg hn]
    have hk : key tx ∉ a.entries.map key := fun h => hn (hi.index.mem_iff.2 h)
    refine ⟨⟨?_, ?_, ?_⟩, hb.imp_left fun hb => ?_⟩
    · rw [List.map_append]; exact nodup_concat hi.nodup hk
    · rw [List.map_append]; exact hi.index.append_right _
    · exact fun e he => (List.mem_append.1 he).elim (hi.sub e) fun he => List.mem_singleton.1 he ▸ hu
    · show a.bytes + (tx.length : Int) = bytesOf (a.entries ++ [tx])
      rw [bytesOf_concat, hb]

theorem inv_erase (tx : Bytes) (b : Int) :
    Inv key U { entries := a.entries.eraseP (fun e => decide (key e = key tx)),
                index := a.index.erase (key tx), bytes := b } := by
  have hm := map_eraseP_key key (key tx) a.entries
  refine ⟨?_, ?_, fun e he => hi.sub e (List.mem_of_mem_eraseP he)⟩
  · show ((a.entries.eraseP _).map key).Nodup
    rw [hm]; exact hi.nodup.erase _
  · show (a.index.erase (key tx)).Perm ((a.entries.eraseP _).map key)
    rw [hm]; exact hi.index.erase _

theorem no_key_after_erase (tx : Bytes) :
    ∀ e ∈ a.entries.eraseP (fun e => decide (key e = key tx)), key e ≠ key tx := by
  intro e he heq
  have hm := List.mem_map_of_mem (f := key) he
  rw [map_eraseP_key key (key tx) a.entries, heq] at hm
  exact ((hi.nodup.mem_erase_iff).1 hm).1 rfl

/-- v1: the size of the element found is subtracted, so the counter stays exact whatever the key -/
theorem removeV1_spec {C : Prop} (hb : Exact C a) (tx : Bytes) :
    Inv key U (removeV1 key a tx) ∧ Exact C (removeV1 key a tx) ∧
    ∀ e ∈ (removeV1 key a tx).entries, key e ≠ key tx := by
  have hnone : key tx ∉ a.index → ∀ e ∈ a.entries, key e ≠ key tx := fun hn e he heq =>
    hn (hi.index.mem_iff.2 (heq ▸ List.mem_map_of_mem (f := key) he))
  unfold removeV1
  by_cases hk : key tx ∈ a.index
  · obtain ⟨e, hf, _, _⟩ := find_of_mem_map key a.entries (key tx) (hi.index.mem_iff.1 hk)
    rw [if_pos hk, hf]
    refine ⟨inv_erase hi tx _, hb.imp_left fun hb => ?_, no_key_after_erase hi tx⟩
    show a.bytes - (e.length : Int) = bytesOf (a.entries.eraseP _)
    rw [bytesOf_eraseP_find _ _ e hf, hb]
  · rw [if_neg hk]; exact ⟨hi, hb, hnone hk⟩

/-- v0: the size of the ARGUMENT is subtracted: exact when the element found is the argument,
else argument and element are two submitted transactions with one key -/
theorem removeV0_spec {C : Prop} (hC : Collision key U → C) (hb : Exact C a) (tx : Bytes) (hu : tx ∈ U) :
    Inv key U (removeV0 key a tx) ∧ Exact C (removeV0 key a tx) := by
  unfold removeV0
  by_cases hk : key tx ∈ a.index
  · rw [if_pos hk]
    refine ⟨inv_erase hi tx _, hb.elim (fun hb => ?_) Or.inr⟩
    obtain ⟨e, hf, hek, hel⟩ := find_of_mem_map key a.entries (key tx) (hi.index.mem_iff.1 hk)
    by_cases hee : e = tx
    · left
      show a.bytes - (tx.length : Int) = bytesOf (a.entries.eraseP _)
      rw [bytesOf_eraseP_find _ _ e hf, hb, hee]
    · exact Or.inr (hC ⟨e, hi.sub e hel, tx, hu, hee, hek⟩)
  · rw [if_neg hk]; exact ⟨hi, hb⟩

theorem removeV0_no_key (tx : Bytes) : ∀ e ∈ (removeV0 key a tx).entries, key e ≠ key tx := by
  unfold removeV0
  by_cases hk : key tx ∈ a.index
  · rw [if_pos hk]; exact no_key_after_erase hi tx
  · rw [if_neg hk]
    exact fun e he heq => hk (hi.index.mem_iff.2 (heq ▸ List.mem_map_of_mem (f := key) he))

end

theorem removeV1_no_key {U : List Bytes} {a : Acc} (hi : Inv key U a) (tx : Bytes) :
    ∀ e ∈ (removeV1 key a tx).entries, key e ≠ key tx :=
  (removeV1_spec hi (C := True) (Or.inr trivial) tx).2.2

def runV0 (a : Acc) (ops : List Op) : Acc := ops.foldl (stepV0 key) a
def runV1 (a : Acc) (ops : List Op) : Acc := ops.foldl (stepV1 key) a

/-- v1: exact, whatever the key function -/
theorem v1_run_exact (U : List Bytes) (ops : List Op) (a : Acc) (hi : Inv key U a)
    (hb : a.bytes = bytesOf a.entries) (hu : ∀ o ∈ ops, o.tx ∈ U) :
    (runV1 key a ops).bytes = bytesOf (runV1 key a ops).entries := by
  refine (List.foldlRecOn (motive := fun a => Inv key U a ∧ Exact False a) ops (stepV1 key) ⟨hi, Or.inl hb⟩ ?_).2.elim
    id False.elim
  intro a ⟨hi, hb⟩ o ho
  cases o with
  | add tx => exact admit_spec hi hb tx (hu _ ho)
  | remove tx => exact ⟨(removeV1_spec hi hb tx).1, (removeV1_spec hi hb tx).2.1⟩

/-- v0: exact, or two different submitted transactions share a key -/
theorem v0_run_exact_or_collision (U : List Bytes) (ops : List Op) (a : Acc) (hi : Inv key U a)
    (hb : a.bytes = bytesOf a.entries ∨ Collision key U) (hu : ∀ o ∈ ops, o.tx ∈ U) :
    (runV0 key a ops).bytes = bytesOf (runV0 key a ops).entries ∨ Collision key U := by
  refine (List.foldlRecOn (motive := fun a => Inv key U a ∧ Exact (Collision key U) a) ops (stepV0 key) ⟨hi, hb⟩ ?_).2
  intro a ⟨hi, hb⟩ o ho
  cases o with
  | add tx => exact admit_spec hi hb tx (hu _ ho)
  | remove tx => exact removeV0_spec hi id hb tx (hu _ ho)

theorem recordK_acc (p : KPool) (k : Bytes) (peer : Nat) : (recordK p k peer).acc = p.acc := by
  unfold recordK
  by_cases hk : k ∈ p.acc.index
  · rw [if_pos hk]
  · rw [if_neg hk]

theorem kcheck_hit (p : KPool) (tx : Bytes) (peer : Nat) (adm rm : Bool)
    (h : (p.cache.push (key tx)).2 = false) :
    kcheck key p tx peer adm rm = recordK { p with cache := (p.cache.push (key tx)).1 } (key tx) peer := by
  simp only [kcheck, h, Bool.not_false, if_true]

theorem kcheck_refused (p : KPool) (tx : Bytes) (peer : Nat) (rm : Bool)
    (h : (p.cache.push (key tx)).2 = true) :
    kcheck key p tx peer false rm = { p with cache :=
      if rm then (p.cache.push (key tx)).1.remove (key tx) else (p.cache.push (key tx)).1 } := by
  simp only [kcheck, h, Bool.not_true, Bool.not_false, Bool.false_eq_true, if_false, if_true]

theorem kcheck_admitted (p : KPool) (tx : Bytes) (peer : Nat) (rm : Bool)
    (h : (p.cache.push (key tx)).2 = true) :
    kcheck key p tx peer true rm =
      recordK { p with cache := (p.cache.push (key tx)).1, acc := admitTx key p.acc tx } (key tx) peer := by
  simp only [kcheck, h, Bool.not_true, Bool.false_eq_true, if_false]

theorem kcheck_acc (p : KPool) (tx : Bytes) (peer : Nat) (adm rm : Bool) :
    ((kcheck key p tx peer adm rm).acc = p.acc ∨
      ((p.cache.push (key tx)).2 = true ∧ (kcheck key p tx peer adm rm).acc = admitTx key p.acc tx)) := by
  cases h1 : (p.cache.push (key tx)).2 with
  | false => exact Or.inl (by rw [kcheck_hit key p tx peer adm rm h1, recordK_acc])
  | true =>
    cases adm with
    | false => exact Or.inl (by rw [kcheck_refused key p tx peer rm h1])
    | true => exact Or.inr ⟨rfl, by rw [kcheck_admitted key p tx peer rm h1, recordK_acc]⟩

theorem kcheck_cached (p : KPool) (tx : Bytes) (peer : Nat) (adm rm : Bool)
    (h : p.cache.has (key tx) = true) : (kcheck key p tx peer adm rm).acc = p.acc :=
  (kcheck_acc key p tx peer adm rm).elim id
    fun h' => nomatch (Cache.push_of_has p.cache (key tx) h).symm.trans h'.1

theorem kstep_spec {C : Prop} {U : List Bytes} (p : KPool) (hi : Inv key U p.acc) (hb : Exact C p.acc)
    (op : KOp) (hu : op.tx ∈ U) :
    (Inv key U (kstepV1 key p op).acc ∧ Exact C (kstepV1 key p op).acc) ∧
    ((Collision key U → C) → Inv key U (kstepV0 key p op).acc ∧ Exact C (kstepV0 key p op).acc) := by
  have hadm := admit_spec hi hb op.tx hu
  have hrm := removeV1_spec hi hb op.tx
  cases op with
  | check tx peer adm rm =>
    have : Inv key U (kcheck key p tx peer adm rm).acc ∧ Exact C (kcheck key p tx peer adm rm).acc := by
      rcases kcheck_acc key p tx peer adm rm with h | ⟨_, h⟩
      · rw [h]; exact ⟨hi, hb⟩
      · rw [h]; exact hadm
    exact ⟨this, fun _ => this⟩
  | commit tx ok keep => exact ⟨⟨hrm.1, hrm.2.1⟩, fun hC => removeV0_spec hi hC hb tx hu⟩
  | drop e rc =>
    have : Inv key U (kdrop key p e rc).acc ∧ Exact C (kdrop key p e rc).acc := by
      unfold kdrop
      by_cases h : e ∈ p.acc.entries
      · rw [if_pos h]; exact ⟨hrm.1, hrm.2.1⟩
      · rw [if_neg h]; exact ⟨hi, hb⟩
    exact ⟨this, fun _ => this⟩


theorem krunV1_spec (n : Int) (ops : List KOp) :
    Inv key (ops.map KOp.tx) (krunV1 key (kempty n) ops).acc ∧
    (krunV1 key (kempty n) ops).acc.bytes = bytesOf (krunV1 key (kempty n) ops).acc.entries := by
  obtain ⟨h1, h2⟩ := List.foldlRecOn (motive := fun p : KPool => Inv key (ops.map KOp.tx) p.acc ∧ Exact False p.acc)
    ops (kstepV1 key) (b := kempty n) ⟨inv_empty key _, Or.inl rfl⟩
    fun p ⟨hi, hb⟩ o ho => (kstep_spec key p hi hb o (List.mem_map_of_mem ho)).1
  exact ⟨h1, h2.elim id False.elim⟩

theorem krunV0_spec (n : Int) (ops : List KOp) :
    Inv key (ops.map KOp.tx) (krunV0 key (kempty n) ops).acc ∧
    ((krunV0 key (kempty n) ops).acc.bytes = bytesOf (krunV0 key (kempty n) ops).acc.entries ∨
      Collision key (ops.map KOp.tx)) :=
  List.foldlRecOn
    (motive := fun p : KPool => Inv key (ops.map KOp.tx) p.acc ∧ Exact (Collision key (ops.map KOp.tx)) p.acc)
    ops (kstepV0 key) ⟨inv_empty key _, Or.inl rfl⟩
    fun p ⟨hi, hb⟩ o ho => (kstep_spec key p hi hb o (List.mem_map_of_mem ho)).2 id

theorem sendersOf_recordK (p : KPool) (k : Bytes) (peer : Nat) (hk : k ∈ p.acc.index) :
    peer ∈ sendersOf (recordK p k peer) k := by
  rw [recordK, if_pos hk]
  generalize sendersOf p k = old
  unfold sendersOf
  simp only [List.find?_cons, decide_true]
  by_cases h : peer ∈ old <;> simp [h]

/-- a submission that is a cache hit or is admitted leaves `peer` recorded under the tx's key
whenever the index holds that key afterwards -/
theorem kcheck_records (p : KPool) (tx : Bytes) (peer : Nat) (adm rm : Bool)
    (hadm : (p.cache.push (key tx)).2 = false ∨ adm = true)
    (hk : key tx ∈ (kcheck key p tx peer adm rm).acc.index) :
    peer ∈ sendersOf (kcheck key p tx peer adm rm) (key tx) := by
  -- in both cases the submission ends with `recordK` on a pool with the same accounting core
  have key' : ∀ q : KPool, kcheck key p tx peer adm rm = recordK q (key tx) peer →
      peer ∈ sendersOf (kcheck key p tx peer adm rm) (key tx) := fun q he => by
    rw [he, recordK_acc] at hk
    rw [he]; exact sendersOf_recordK q _ _ hk
  cases h1 : (p.cache.push (key tx)).2 with
  | false => exact key' _ (kcheck_hit key p tx peer adm rm h1)
  | true =>
    have hadm' : adm = true := hadm.resolve_left (by rw [h1]; exact Bool.noConfusion)
    subst hadm'
    exact key' _ (kcheck_admitted key p tx peer rm h1)

end Tmv.Mempool.Keyed
