import Tmv.Model.MempoolV1Split
import Tmv.Lemmas.MempoolList
import Tmv.Lemmas.InsertSort
/-! The v1 (priority) mempool model: its invariants, their preservation by every operation
(`Stable`), eviction, TTL purge and recheck, the reap order (sort lemmas) and the two reap loops, and
the same invariants for the model with `CheckTx` split into two halves (`Stable.sbegin` … `srun_spec`). -/
namespace Tmv.Mempool.V1
open Tmv Tmv.Mempool

def Inv (s : State) : Prop := InvC (keys s) s.byKey s.txsBytes

def Bounded (s : State) : Prop :=
  ((keys s).length : Int) ≤ s.cfg.size ∧ s.txsBytes ≤ s.cfg.maxTxsBytes

def CfgValid (c : Cfg) : Prop := 0 ≤ c.size ∧ 0 ≤ c.maxTxsBytes

/-- the part of the state the invariants and the post-check filter depend on (what `RemStep` compares) -/
def Core (s : State) : List Bytes × List Bytes × Int × Cfg × Option Int :=
  (keys s, s.byKey, s.txsBytes, s.cfg, s.post)

theorem keys_length (s : State) : (keys s).length = s.txs.length := List.length_map _

theorem inv_init (cfg : Cfg) (h : Int) : Inv (init cfg h) := ⟨List.nodup_nil, List.Perm.nil, rfl⟩

theorem bounded_init (cfg : Cfg) (h : Int) (hv : CfgValid cfg) : Bounded (init cfg h) := hv

theorem mem_byKey_iff {s : State} (hi : Inv s) (k : Bytes) : k ∈ s.byKey ↔ k ∈ keys s :=
  hi.map.mem_iff

theorem keys_removeElem (s : State) (w : WTx) : keys (removeElem s w) = (keys s).erase w.tx :=
  map_eraseP_key (fun e : WTx => e.tx) w.tx s.txs

theorem inv_removeElem {s : State} (hi : Inv s) (w : WTx) (hm : w.tx ∈ keys s) :
    Inv (removeElem s w) := by
  show InvC (keys (removeElem s w)) (s.byKey.erase w.tx) (s.txsBytes - (w.tx.length : Int))
  rw [keys_removeElem]; exact hi.erase w.tx hm

theorem bounded_removeElem {s : State} (hb : Bounded s) (w : WTx) : Bounded (removeElem s w) := by
  have h1 := List.length_erase_le (a := w.tx) (l := keys s)
  have h2 : (0 : Int) ≤ w.tx.length := Int.natCast_nonneg _
  refine ⟨?_, ?_⟩
  · rw [keys_removeElem]; have := hb.1; show ((keys s).erase w.tx).length ≤ s.cfg.size; omega
  · have := hb.2; show s.txsBytes - (w.tx.length : Int) ≤ s.cfg.maxTxsBytes; omega

theorem keys_insertTx (s : State) (w : WTx) : keys (insertTx s w) = keys s ++ [w.tx] :=
  List.map_append

theorem inv_insertTx {s : State} (hi : Inv s) (w : WTx) (hn : w.tx ∉ s.byKey) :
    Inv (insertTx s w) := by
  show InvC (keys (insertTx s w)) (if w.tx ∈ s.byKey then s.byKey else s.byKey ++ [w.tx])
    (s.txsBytes + (w.tx.length : Int))
  rw [keys_insertTx, if_neg hn]; exact hi.concat w.tx hn

theorem bounded_insertTx {s : State} (w : WTx) (hc : canAddTx s w.tx.length = true) :
    Bounded (insertTx s w) := by
  rw [canAddTx, Bool.not_eq_true', Bool.or_eq_false_iff, decide_eq_false_iff_not,
    decide_eq_false_iff_not, ← keys_length] at hc
  refine ⟨?_, ?_⟩
  · rw [keys_insertTx, List.length_append, List.length_singleton]
    show (((keys s).length + 1 : Nat) : Int) ≤ s.cfg.size; omega
  · show s.txsBytes + (w.tx.length : Int) ≤ s.cfg.maxTxsBytes; omega

theorem keys_relabel (s : State) (f : WTx → WTx) (hf : ∀ e, (f e).tx = e.tx) :
    keys { s with txs := s.txs.map f } = keys s := by
  show (s.txs.map f).map (·.tx) = s.txs.map (·.tx)
  rw [List.map_map]
  exact List.map_congr_left (fun e _ => hf e)

theorem recordPeer_tx (tx : Bytes) (p : Nat) (e : WTx) :
    (if e.tx = tx then (if p ∈ e.peers then e else { e with peers := e.peers ++ [p] }) else e).tx = e.tx := by
  by_cases h1 : e.tx = tx
  · rw [if_pos h1]
    by_cases h2 : p ∈ e.peers
    · rw [if_pos h2]
    · rw [if_neg h2]
  · rw [if_neg h1]

theorem setPrio_tx (tx : Bytes) (p : Int) (e : WTx) :
    (if e.tx = tx then { e with prio := p } else e).tx = e.tx := by
  by_cases h1 : e.tx = tx
  · rw [if_pos h1]
  · rw [if_neg h1]

theorem recordPeer_has (s : State) (tx : Bytes) (p : Nat) :
    ∀ e ∈ (recordPeer s tx p).txs, e.tx = tx → p ∈ e.peers := by
  intro e he hetx
  simp only [recordPeer, List.mem_map] at he
  obtain ⟨e0, _, rfl⟩ := he
  by_cases h0 : e0.tx = tx
  · by_cases hp : p ∈ e0.peers <;> simp [h0, hp]
  · -- an entry of another transaction is left as it is, so it is not an entry of `tx`
    rw [if_neg h0] at hetx; exact absurd hetx h0

theorem find_self (l : List WTx) (hn : (l.map (·.tx)).Nodup) :
    ∀ e ∈ l, l.find? (fun x => decide (x.tx = e.tx)) = some e := by
  induction l with
  | nil => intro e he; cases he
  | cons a r ih =>
    intro e he
    have hn' := List.nodup_cons.1 hn
    cases he with
    | head => simp
    | tail _ her =>
      have hne : a.tx ≠ e.tx := fun h =>
        hn'.1 (show a.tx ∈ r.map (·.tx) from h ▸ List.mem_map_of_mem (f := (·.tx)) her)
      simp [hne, ih hn'.2 e her]

theorem eq_of_tx_eq {l : List WTx} (hn : (l.map (·.tx)).Nodup) {a b : WTx} (ha : a ∈ l) (hb : b ∈ l)
    (h : a.tx = b.tx) : a = b :=
  Option.some.inj ((find_self l hn a ha).symm.trans (h ▸ find_self l hn b hb))

theorem filterMap_find_self (l : List WTx) (hn : (l.map (·.tx)).Nodup) :
    (l.map (·.tx)).filterMap (fun k => l.find? (fun e => decide (e.tx = k))) = l := by
  have : ∀ l' : List WTx, (∀ e ∈ l', e ∈ l) →
      (l'.map (·.tx)).filterMap (fun k => l.find? (fun e => decide (e.tx = k))) = l' := by
    intro l'
    induction l' with
    | nil => intro _; rfl
    | cons a r ih =>
      intro h
      rw [List.map_cons, List.filterMap_cons, find_self l hn a (h a List.mem_cons_self),
        ih (fun e he => h e (List.mem_cons_of_mem _ he))]
  exact this l (fun _ he => he)

/-- `P` survives the elementary changes of which every operation is composed. Insertion happens
where there is room, or after an eviction that makes room if the pool `s₀` it started from was
within its limits. -/
structure Stable (P : State → Prop) : Prop where
  push : ∀ s k, P s → P { s with cache := (s.cache.push k).1 }
  forget : ∀ s k, P s → P { s with cache := s.cache.remove k }
  reset : ∀ s, P s → P { s with cache := s.cache.reset }
  tick : ∀ s, P s → P { s with clock := s.clock + 1 }
  insert : ∀ s₀ s w, P s₀ → P s → w.tx ∉ s.byKey →
    (Bounded s₀ → canAddTx s w.tx.length = true) → P (insertTx s w)
  remove : ∀ s w, P s → w.tx ∈ keys s → P (removeElem s w)
  head : ∀ s h pre post, P s → P { s with height := h, pre := pre, post := post }
  relabel : ∀ s (f : WTx → WTx), (∀ e, (f e).tx = e.tx) → P s → P { s with txs := s.txs.map f }

theorem stable_inv : Stable Inv where
  push _ _ h := h
  forget _ _ h := h
  reset _ h := h
  tick _ h := h
  insert _ _ w _ h hn _ := inv_insertTx h w hn
  remove _ w h hm := inv_removeElem h w hm
  head _ _ _ _ h := h
  relabel s f hf h := by
    show InvC (keys { s with txs := s.txs.map f }) s.byKey s.txsBytes
    rw [keys_relabel s f hf]; exact h

-- no `CfgValid` as in v0: `Flush` unlinks element by element (`remove`), it never assigns the counters;
-- the only use of `s₀`
theorem stable_bounded : Stable Bounded where
  push _ _ h := h
  forget _ _ h := h
  reset _ h := h
  tick _ h := h
  insert _ _ w h₀ _ _ hroom := bounded_insertTx w (hroom h₀)
  remove _ w h _ := bounded_removeElem h w
  head _ _ _ _ h := h
  relabel s f hf h := by
    show ((keys { s with txs := s.txs.map f }).length : Int) ≤ s.cfg.size ∧ _
    rw [keys_relabel s f hf]; exact h

theorem stable_cfg (c : Cfg) : Stable (fun s => s.cfg = c) where
  push _ _ h := h
  forget _ _ h := h
  reset _ h := h
  tick _ h := h
  insert _ _ _ _ h _ _ := h
  remove _ _ h _ := h
  head _ _ _ _ h := h
  relabel _ _ _ h := h

theorem stable_cache {C : Cache → Prop} (hC : Cache.Closed C) : Stable (fun s => C s.cache) where
  push s k h := hC.push s.cache k h
  forget s k h := hC.remove s.cache k h
  reset s h := hC.reset s.cache h
  tick _ h := h
  insert _ _ _ _ h _ _ := h
  remove _ _ h _ := h
  head _ _ _ _ h := h
  relabel _ _ _ h := h

theorem Stable.inv_cfg_bounded {s r : State} (hi : Inv s) (H : ∀ {P : State → Prop}, Stable P → P s → P r) :
    Inv r ∧ r.cfg = s.cfg ∧ (Bounded s → Bounded r) :=
  ⟨H stable_inv hi, H (stable_cfg s.cfg) rfl, H stable_bounded⟩

theorem Stable.evictOne {P : State → Prop} (hP : Stable P) {s : State} (h : P s) (w : WTx)
    (hm : w.tx ∈ keys s) : P (evictOne s w) :=
  hP.forget _ w.tx (hP.remove s w h hm)

theorem Stable.recordPeer {P : State → Prop} (hP : Stable P) {s : State} (h : P s) (tx : Bytes)
    (p : Nat) : P (recordPeer s tx p) :=
  hP.relabel s _ (recordPeer_tx tx p) h

/-- `insertBy lt a` goes past the elements strictly before `a` -/
theorem sorts {α : Type} (lt : α → α → Bool) :
    InsertionSort (fun a b => ¬ lt b a = true) (insertBy lt) (sortBy lt) :=
  ⟨fun _ => rfl, fun _ _ _ => (ite_not ..).symm, rfl, fun _ _ => rfl⟩

theorem reapBefore_iff (a b : WTx) :
    reapBefore a b = true ↔ (a.prio > b.prio ∨ (a.prio = b.prio ∧ a.seq < b.seq)) := by
  unfold reapBefore
  by_cases e : a.prio = b.prio
  · simp [e]
  · simp [e]

theorem reapBefore_false_iff (a b : WTx) :
    reapBefore a b = false ↔ ¬ (a.prio > b.prio ∨ (a.prio = b.prio ∧ a.seq < b.seq)) := by
  rw [← reapBefore_iff]; simp

theorem bytesOf_perm {l1 l2 : List Bytes} (h : l1.Perm l2) : bytesOf l1 = bytesOf l2 := by
  induction h with
  | nil => rfl
  | cons x _ ih => simp [bytesOf, ih]
  | swap x y l => simp [bytesOf]; omega
  | trans _ _ ih1 ih2 => exact ih1.trans ih2

/-- the victims of an arrival with priority `p`, in eviction order -/
def victimsOf (s : State) (p : Int) : List WTx :=
  sortBy victimBefore (s.txs.filter (fun cw => decide (cw.prio < p)))

theorem victimsOf_props {s : State} (hi : Inv s) (p : Int) :
    (∀ x ∈ victimsOf s p, x ∈ s.txs ∧ x.prio < p) ∧ ((victimsOf s p).map (·.tx)).Nodup ∧
    sizeOf (victimsOf s p) = sizeOf (s.txs.filter (fun cw => decide (cw.prio < p))) ∧
    (victimsOf s p).length = (s.txs.filter (fun cw => decide (cw.prio < p))).length := by
  have hperm := (sorts victimBefore).perm (s.txs.filter (fun cw => decide (cw.prio < p)))
  refine ⟨?_, ?_, bytesOf_perm (hperm.map _), hperm.length_eq⟩
  · intro x hx
    have := List.mem_filter.1 (hperm.mem_iff.1 hx)
    exact ⟨this.1, of_decide_eq_true this.2⟩
  · rw [victimsOf, (hperm.map (·.tx)).nodup_iff]
    exact List.Nodup.sublist ((List.filter_sublist).map _) hi.nodup

theorem evictLoop_eq (need : Int) : ∀ (vs : List WTx) (s : State) (ev : Int),
    ∃ n, (vs ≠ [] → 0 < n) ∧ evictLoop need s vs ev = (vs.take n).foldl evictOne s ∧
      (ev + sizeOf vs ≥ need → ev + sizeOf (vs.take n) ≥ need) := by
  intro vs
  induction vs with
  | nil => intro s ev; exact ⟨0, fun h => absurd rfl h, rfl, fun h => h⟩
  | cons w rest ih =>
    intro s ev
    have hcons : ∀ l : List WTx, sizeOf (w :: l) = (w.tx.length : Int) + sizeOf l := fun _ => rfl
    unfold evictLoop
    by_cases hge : ev + (w.tx.length : Int) ≥ need
    · refine ⟨1, fun _ => Nat.one_pos, if_pos hge, fun _ => ?_⟩
      rw [List.take_succ_cons, List.take_zero, hcons]
      show ev + ((w.tx.length : Int) + 0) ≥ need
      omega
    · obtain ⟨n, _, he, hsz⟩ := ih (evictOne s w) (ev + (w.tx.length : Int))
      refine ⟨n + 1, fun _ => Nat.succ_pos n, by rw [if_neg hge, he]; rfl, fun h => ?_⟩
      rw [List.take_succ_cons, hcons]
      rw [hcons] at h
      have := hsz (by omega)
      omega

theorem Stable.evictAll {P : State → Prop} (hP : Stable P) : ∀ (l : List WTx) {s : State}, Inv s → P s →
    (l.map (·.tx)).Nodup → (∀ w ∈ l, w.tx ∈ keys s) →
    Inv (l.foldl V1.evictOne s) ∧ P (l.foldl V1.evictOne s) ∧
      (keys (l.foldl V1.evictOne s) ++ l.map (·.tx)).Perm (keys s) := by
  intro l
  induction l with
  | nil => intro s hi h _ _; exact ⟨hi, h, by rw [List.map_nil, List.append_nil]; exact .refl _⟩
  | cons w rest ih =>
    intro s hi h hnd hin
    have hnd' := List.nodup_cons.1 hnd
    have hw := hin w List.mem_cons_self
    have hk : keys (V1.evictOne s w) = (keys s).erase w.tx := keys_removeElem s w
    obtain ⟨g1, g2, g3⟩ := ih (stable_inv.evictOne hi w hw) (hP.evictOne h w hw) hnd'.2 fun w' hw' => by
      rw [hk]
      exact (List.mem_erase_of_ne fun e : w'.tx = w.tx =>
        hnd'.1 (show w.tx ∈ rest.map (·.tx) from e ▸ List.mem_map_of_mem (f := (·.tx)) hw')).2
        (hin w' (List.mem_cons_of_mem _ hw'))
    refine ⟨g1, g2, List.perm_middle.trans ((List.Perm.cons _ g3).trans ?_)⟩
    rw [hk]; exact (List.perm_cons_erase hw).symm

/-- The eviction loop as `addNewTransaction` runs it. Here and in the specifications below `r` is a
variable equal to the result, so that the result is written once; callers pass `_ rfl`. -/
theorem evict_victims {P : State → Prop} (hP : Stable P) {s : State} (hi : Inv s) (h : P s)
    (need : Nat) (p : Int)
    (hne : (s.txs.filter (fun cw => decide (cw.prio < p))).length ≠ 0)
    (hsz : ¬ sizeOf (s.txs.filter (fun cw => decide (cw.prio < p))) < (need : Int)) :
    ∀ r, evictLoop need s (victimsOf s p) 0 = r →
    Inv r ∧ P r ∧ (∀ k ∈ keys r, k ∈ keys s) ∧ ((keys r).length + 1 ≤ (keys s).length) ∧
    (r.txsBytes + need ≤ s.txsBytes) ∧ (∀ e ∈ s.txs, e.tx ∉ keys r → e.prio < p) := by
  rintro r rfl
  obtain ⟨hv1, hv2, hv3, hv4⟩ := victimsOf_props hi p
  obtain ⟨n, hn, he, hbig⟩ := evictLoop_eq need (victimsOf s p) s 0
  have hpos : 0 < ((victimsOf s p).take n).length := by
    rw [List.length_take]
    have := hn fun h0 => hne (by rw [← hv4, h0]; rfl)
    omega
  rw [he]
  obtain ⟨g1, g2, hperm⟩ := hP.evictAll ((victimsOf s p).take n) hi h
    (hv2.sublist ((List.take_sublist _ _).map _))
    (fun w hw => List.mem_map_of_mem (f := (·.tx)) (hv1 w (List.mem_of_mem_take hw)).1)
  have hlen := hperm.length_eq
  have hbytes := bytesOf_perm hperm
  rw [List.length_append, List.length_map] at hlen
  rw [bytesOf_append, ← g1.bytes, ← hi.bytes] at hbytes
  have := hbig (by rw [hv3]; omega)
  refine ⟨g1, g2, fun k hk => hperm.subset (List.mem_append_left _ hk), by omega,
    by show _ + (need : Int) ≤ _; unfold sizeOf at this; omega, fun e he hn => ?_⟩
  obtain ⟨x, hx, hxe⟩ := List.mem_map.1 ((List.mem_append.1
    (hperm.mem_iff.2 (List.mem_map_of_mem (f := (·.tx)) he))).resolve_left hn)
  have hx' := hv1 x (List.mem_of_mem_take hx)
  rw [← eq_of_tx_eq hi.nodup hx'.1 he hxe]
  exact hx'.2

/-- **evict_makes_room**: when the pool is within its limits and the victims are enough, after the
eviction loop `canAddTx` holds for the arriving transaction. -/
theorem evict_makes_room {s : State} (hi : Inv s) (hb : Bounded s) (need : Nat) (p : Int)
    (hne : (s.txs.filter (fun cw => decide (cw.prio < p))).length ≠ 0)
    (hsz : ¬ sizeOf (s.txs.filter (fun cw => decide (cw.prio < p))) < (need : Int)) :
    canAddTx (evictLoop need s (victimsOf s p) 0) need = true := by
  obtain ⟨_, hcfg, _, h4, h5, _⟩ := evict_victims (stable_cfg s.cfg) hi rfl need p hne hsz _ rfl
  have hcfg : (evictLoop need s (victimsOf s p) 0).cfg = s.cfg := hcfg
  rw [canAddTx, hcfg, ← keys_length, Bool.not_eq_true', Bool.or_eq_false_iff, decide_eq_false_iff_not,
    decide_eq_false_iff_not]
  have := hb.1; have := hb.2
  constructor <;> omega

theorem addNew_cases (s : State) (w : WTx) (v : Verdict) :
    ((addNewTransaction s w v).1 = s ∨
      (addNewTransaction s w v).1 = { s with cache := s.cache.remove w.tx }) ∨
    (accepted s.post v = true ∧ w.tx ∉ s.byKey ∧
      ((canAddTx s w.tx.length = true ∧ (addNewTransaction s w v).1 =
          insertTx s { w with gas := v.gas, prio := v.prio, sender := v.sender }) ∨
       ((s.txs.filter (fun cw => decide (cw.prio < v.prio))).length ≠ 0 ∧
        ¬ sizeOf (s.txs.filter (fun cw => decide (cw.prio < v.prio))) < (w.tx.length : Int) ∧
        (addNewTransaction s w v).1 = insertTx (evictLoop w.tx.length s (victimsOf s v.prio) 0)
          { w with gas := v.gas, prio := v.prio, sender := v.sender }))) := by
  unfold addNewTransaction
  by_cases hrej : (postFails s.post v.gas || decide (v.code ≠ codeOK)) = true
  · rw [if_pos hrej]
    by_cases hk : (!s.cfg.keepInvalid) = true
    · exact Or.inl (Or.inr (by rw [if_pos hk]))
    · exact Or.inl (Or.inl (by rw [if_neg hk]))
  rw [if_neg hrej]
  have hacc : accepted s.post v = true := by
    rw [Bool.or_eq_true, not_or, decide_eq_true_eq, Decidable.not_not, Bool.not_eq_true] at hrej
    rw [accepted, hrej.1, hrej.2]; rfl
  by_cases hin : w.tx ∈ s.byKey
  · exact Or.inl (Or.inl (by rw [if_pos hin]))
  rw [if_neg hin]
  by_cases hsnd : v.sender ≠ "" ∧ v.sender ∈ s.bySender
  · exact Or.inl (Or.inl (by rw [if_pos hsnd]))
  rw [if_neg hsnd]
  by_cases hroom : canAddTx s w.tx.length = true
  · exact Or.inr ⟨hacc, hin, Or.inl ⟨hroom, by rw [hroom]; rfl⟩⟩
  rw [Bool.not_eq_true] at hroom
  rw [hroom]
  by_cases hvic : (s.txs.filter (fun cw => decide (cw.prio < v.prio))).length = 0 ∨
      sizeOf (s.txs.filter (fun cw => decide (cw.prio < v.prio))) < (w.tx.length : Int)
  · refine Or.inl (Or.inr ?_)
    simp only [Bool.not_false, if_true, if_pos hvic]
  · refine Or.inr ⟨hacc, hin, Or.inr ⟨fun h => hvic (Or.inl h), fun h => hvic (Or.inr h), ?_⟩⟩
    simp only [Bool.not_false, if_true, if_neg hvic]
    rfl

theorem Stable.addNew {P : State → Prop} (hP : Stable P) {s : State} (hi : Inv s) (h : P s)
    (w : WTx) (v : Verdict) : P (addNewTransaction s w v).1 := by
  rcases addNew_cases s w v with (he | he) | ⟨_, hin, ⟨hroom, he⟩ | ⟨hne, hsz, he⟩⟩
  · rw [he]; exact h
  · rw [he]; exact hP.forget s w.tx h
  · rw [he]; exact hP.insert s s _ h h hin (fun _ => hroom)
  · rw [he]
    obtain ⟨g1, g2, g3, _⟩ := evict_victims hP hi h w.tx.length v.prio hne hsz _ rfl
    exact hP.insert s _ _ h g2 (fun hk => hin ((mem_byKey_iff hi _).2 (g3 _ ((mem_byKey_iff g1 _).1 hk))))
      (fun hb => evict_makes_room hi hb w.tx.length v.prio hne hsz)

/-- The three clauses of `addNew_spec` and `checkTx_keys` where the keys are the same. -/
theorem keys_unchanged {s r : State} (hk : keys r = keys s) (tx : Bytes) (p : Int) (Q : Prop) :
    (∀ k ∈ keys r, k ∈ keys s ∨ k = tx) ∧ (∀ e ∈ s.txs, e.tx ∉ keys r → e.prio < p) ∧
    (Q → keys r = keys s) :=
  ⟨fun _ h => Or.inl (hk ▸ h),
    fun _ he hn => absurd (hk ▸ List.mem_map_of_mem (f := (·.tx)) he) hn, fun _ => hk⟩

theorem addNew_spec {s : State} (hi : Inv s) (w : WTx) (v : Verdict) :
    (∀ k ∈ keys (addNewTransaction s w v).1, k ∈ keys s ∨ k = w.tx) ∧
    (∀ e ∈ s.txs, e.tx ∉ keys (addNewTransaction s w v).1 → e.prio < v.prio) ∧
    (accepted s.post v = false → keys (addNewTransaction s w v).1 = keys s) := by
  have snoc : ∀ {k : Bytes} {l : List Bytes}, k ∈ l ++ [w.tx] → k ∈ l ∨ k = w.tx := fun hk =>
    (List.mem_append.1 hk).imp_right List.mem_singleton.1
  rcases addNew_cases s w v with (he | he) | ⟨hacc, _, ⟨_, he⟩ | ⟨hne, hsz, he⟩⟩
  · rw [he]; exact keys_unchanged rfl _ _ _
  · rw [he]; exact keys_unchanged rfl _ _ _
  · rw [he, keys_insertTx]
    exact ⟨fun k hk => snoc hk,
      fun e he hn => absurd (List.mem_append_left _ (List.mem_map_of_mem (f := (·.tx)) he)) hn,
      fun h => nomatch hacc.symm.trans h⟩
  · rw [he, keys_insertTx]
    obtain ⟨_, _, g3, _, _, g6⟩ := evict_victims stable_inv hi hi w.tx.length v.prio hne hsz _ rfl
    exact ⟨fun k hk => (snoc hk).imp_left (g3 k),
      fun e he hn => g6 e he (fun h => hn (List.mem_append_left _ h)),
      fun h => nomatch hacc.symm.trans h⟩

theorem checkTx_cases (s : State) (tx : Bytes) (v : Verdict) :
    (∃ e, checkTx s tx v = (s, e) ∧ ∀ me, e ≠ .ok me) ∨
    ((s.cache.push tx).2 = false ∧
      checkTx s tx v = ({ s with cache := (s.cache.push tx).1 }, .inCache)) ∨
    ((s.cache.push tx).2 = true ∧ ∃ r, r = addNewTransaction
        { s with cache := (s.cache.push tx).1, clock := s.clock + 1 }
        { tx := tx, height := s.height, seq := s.clock, gas := 0, prio := 0, sender := "" } v ∧
      checkTx s tx v = (r.1, .ok r.2)) := by
  unfold checkTx
  by_cases h1 : (tx.length : Int) > s.cfg.maxTxBytes
  · exact Or.inl ⟨_, if_pos h1, fun _ h => nomatch h⟩
  rw [if_neg h1]
  by_cases h2 : preFails s.pre tx = true
  · exact Or.inl ⟨_, if_pos h2, fun _ h => nomatch h⟩
  rw [if_neg h2]
  cases h3 : (s.cache.push tx).2 with
  | false => exact Or.inr (Or.inl ⟨rfl, by simp only [h3, Bool.not_false, if_true]⟩)
  | true =>
    exact Or.inr (Or.inr ⟨rfl, _, rfl, by simp only [h3, Bool.not_true, Bool.false_eq_true, if_false]⟩)

theorem Stable.checkTx {P : State → Prop} (hP : Stable P) {s : State} (hi : Inv s) (h : P s)
    (tx : Bytes) (v : Verdict) : P (checkTx s tx v).1 := by
  rcases checkTx_cases s tx v with ⟨_, he, _⟩ | ⟨_, he⟩ | ⟨_, _, rfl, he⟩
  · rw [he]; exact h
  · rw [he]; exact hP.push s tx h
  · rw [he]
    exact hP.addNew (s := { s with cache := (s.cache.push tx).1, clock := s.clock + 1 }) hi
      (hP.tick _ (hP.push s tx h)) _ v

theorem checkTx_keys {s : State} (hi : Inv s) (tx : Bytes) (v : Verdict) :
    (∀ k ∈ keys (checkTx s tx v).1, k ∈ keys s ∨ k = tx) ∧
    (∀ e ∈ s.txs, e.tx ∉ keys (checkTx s tx v).1 → e.prio < v.prio) ∧
    (accepted s.post v = false → keys (checkTx s tx v).1 = keys s) := by
  rcases checkTx_cases s tx v with ⟨_, he, _⟩ | ⟨_, he⟩ | ⟨_, _, rfl, he⟩
  · rw [he]; exact keys_unchanged rfl _ _ _
  · rw [he]; exact keys_unchanged rfl _ _ _
  · rw [he]
    exact addNew_spec (s := { s with cache := (s.cache.push tx).1, clock := s.clock + 1 }) hi _ v

theorem checkTx_spec {s : State} (hi : Inv s) (tx : Bytes) (v : Verdict) :
    Inv (checkTx s tx v).1 ∧ (checkTx s tx v).1.cfg = s.cfg ∧
    (Bounded s → Bounded (checkTx s tx v).1) ∧
    (∀ k, k ∈ keys (checkTx s tx v).1 → k ∈ keys s ∨ k = tx) ∧
    (∀ e ∈ s.txs, e.tx ∉ keys (checkTx s tx v).1 → e.prio < v.prio) ∧
    (accepted s.post v = false → keys (checkTx s tx v).1 = keys s) :=
  let ⟨a, b, c⟩ := Stable.inv_cfg_bounded hi fun hP h => hP.checkTx hi h tx v
  ⟨a, b, c, checkTx_keys hi tx v⟩

theorem checkTx_cached (s : State) (tx : Bytes) (v : Verdict) (h : s.cache.has tx = true) :
    (∀ me, (checkTx s tx v).2 ≠ .ok me) ∧ (checkTx s tx v).1.txs = s.txs := by
  rcases checkTx_cases s tx v with ⟨_, he, hne⟩ | ⟨_, he⟩ | ⟨hp, _⟩
  · rw [he]; exact ⟨hne, rfl⟩
  · rw [he]; exact ⟨fun _ h => (nomatch h), rfl⟩
  · exact nomatch (Cache.push_of_has s.cache tx h).symm.trans hp

theorem Stable.checkTxFrom {P : State → Prop} (hP : Stable P) {s : State} (hi : Inv s) (h : P s)
    (tx : Bytes) (v : Verdict) (p : Nat) : P (checkTxFrom s tx v p).1 := by
  have h1 := hP.checkTx hi h tx v
  unfold V1.checkTxFrom
  generalize V1.checkTx s tx v = r at h1
  obtain ⟨s1, res⟩ := r
  cases res with
  | inCache => exact hP.recordPeer h1 tx p
  | ok me =>
    show P (if accepted s.post v = true then (V1.recordPeer s1 tx p, CheckRes.ok me) else (s1, CheckRes.ok me)).1
    by_cases ha : accepted s.post v = true
    · rw [if_pos ha]; exact hP.recordPeer h1 tx p
    · rw [if_neg ha]; exact h1
  | tooLarge => exact h1
  | pre => exact h1

/-- `removeTxByKey` unlinks the element it has found itself -/
theorem removeTxByKey_cases (s : State) (k : Bytes) :
    ((Inv s → k ∉ keys s) ∧ removeTxByKey s k = s) ∨
    (∃ w, w.tx = k ∧ w ∈ s.txs ∧ removeTxByKey s k = removeElem s w) := by
  unfold removeTxByKey
  by_cases hk : k ∈ s.byKey
  · rw [if_pos hk]
    cases hf : s.txs.find? (fun e => e.tx = k) with
    | none =>
      refine Or.inl ⟨fun hi _ => ?_, rfl⟩
      obtain ⟨w, hf', _⟩ := find_of_mem_map WTx.tx s.txs k ((mem_byKey_iff hi k).1 hk)
      exact nomatch hf'.symm.trans hf
    | some w =>
      exact Or.inr ⟨w, of_decide_eq_true (List.find?_some (p := fun e : WTx => decide (e.tx = k)) hf),
        List.mem_of_find?_eq_some hf, rfl⟩
  · exact Or.inl ⟨fun hi h => hk ((mem_byKey_iff hi k).2 h), by rw [if_neg hk]⟩

theorem commitOne_eq (s : State) (c : Bytes × Nat) :
    commitOne s c = removeTxByKey { s with cache := commitCache s.cache s.cfg.keepInvalid c } c.1 := rfl

theorem Stable.commitOne {P : State → Prop} (hP : Stable P) {s : State} (h : P s)
    (c : Bytes × Nat) : P (commitOne s c) := by
  have hc : P { s with cache := commitCache s.cache s.cfg.keepInvalid c } :=
    commitCache_elim (Q := fun c' => P { s with cache := c' }) (hP.push s c.1 h) (hP.forget s c.1 h) h _
  rw [commitOne_eq]
  rcases removeTxByKey_cases { s with cache := commitCache s.cache s.cfg.keepInvalid c } c.1
    with ⟨_, he⟩ | ⟨w, _, hm, he⟩
  · rw [he]; exact hc
  · rw [he]; exact hP.remove _ w hc (List.mem_map_of_mem (f := (·.tx)) hm)

theorem commitOne_frame (s : State) (c : Bytes × Nat) :
    (commitOne s c).post = s.post ∧ (commitOne s c).cache = commitCache s.cache s.cfg.keepInvalid c := by
  rw [commitOne_eq, removeTxByKey]
  by_cases hk : c.1 ∈ s.byKey
  · rw [if_pos hk]
    cases s.txs.find? (fun e => e.tx = c.1) <;> exact ⟨rfl, rfl⟩
  · rw [if_neg hk]; exact ⟨rfl, rfl⟩

theorem commitOne_remembers (s : State) (tx : Bytes) (h : s.cache.size > 0) :
    (commitOne s (tx, codeOK)).cache.has tx = true := by
  rw [(commitOne_frame s (tx, codeOK)).2, commitCache, if_pos rfl]
  exact Cache.push_has s.cache tx h

theorem keys_commitOne {s : State} (hi : Inv s) (c : Bytes × Nat) :
    keys (commitOne s c) = (keys s).erase c.1 := by
  rw [commitOne_eq]
  rcases removeTxByKey_cases { s with cache := commitCache s.cache s.cfg.keepInvalid c } c.1
    with ⟨hn, he⟩ | ⟨w, hw, _, he⟩
  · rw [he]; exact (List.erase_of_not_mem (hn hi)).symm
  · rw [he, keys_removeElem, hw]; rfl

theorem Stable.commitAll {P : State → Prop} (hP : Stable P) (block : List (Bytes × Nat)) {s : State}
    (h : P s) : P (block.foldl V1.commitOne s) :=
  List.foldlRecOn block V1.commitOne h fun _ hq c _ => hP.commitOne hq c

theorem post_commitAll (block : List (Bytes × Nat)) (s : State) :
    (block.foldl commitOne s).post = s.post :=
  foldl_frame commitOne State.post block s fun c _ st => (commitOne_frame st c).1

theorem commitAll_keys (block : List (Bytes × Nat)) {s : State} (hi : Inv s) :
    ∀ k ∈ keys (block.foldl commitOne s), k ∈ keys s ∧ ∀ c ∈ block, c.1 ≠ k :=
  foldl_erase_keys keys commitOne Inv
    (fun _ c hi => ⟨stable_inv.commitOne hi c, hi.nodup, keys_commitOne hi c⟩) block s hi

theorem commitAll_spec (block : List (Bytes × Nat)) : ∀ {s : State}, Inv s →
    Inv (block.foldl commitOne s) ∧ (block.foldl commitOne s).cfg = s.cfg ∧
    (block.foldl commitOne s).post = s.post ∧
    (Bounded s → Bounded (block.foldl commitOne s)) ∧
    (∀ k, k ∈ keys (block.foldl commitOne s) → k ∈ keys s) ∧
    (∀ c ∈ block, c.1 ∉ keys (block.foldl commitOne s)) := fun {s} hi =>
  let ⟨a, b, c⟩ := Stable.inv_cfg_bounded hi fun hP h => hP.commitAll block h
  ⟨a, b, post_commitAll block s, c,
    fun k hk => (commitAll_keys block hi k hk).1, fun c hc hk => (commitAll_keys block hi _ hk).2 c hc rfl⟩

theorem cache_size_commitAll (block : List (Bytes × Nat)) (s : State) :
    (block.foldl commitOne s).cache.size = s.cache.size :=
  (stable_cache (Cache.closed_size _)).commitAll block rfl

theorem mem_filter_map_tx {l : List WTx} (hn : (l.map (·.tx)).Nodup) (keep : WTx → Bool) {w : WTx}
    (hw : w ∈ l) : w.tx ∈ (l.filter keep).map (·.tx) ↔ keep w = true := by
  constructor
  · intro h
    obtain ⟨w', hw', e⟩ := List.mem_map.1 h
    obtain ⟨hl, hk⟩ := List.mem_filter.1 hw'
    exact eq_of_tx_eq hn hl hw e ▸ hk
  · exact fun hk => List.mem_map_of_mem (f := (·.tx)) (List.mem_filter.2 ⟨hw, hk⟩)

/-- The loop behind TTL purge, recheck and `Flush`: a fold over the pool whose step for entry `w`
either keeps it (possibly relabelled) or removes it, with or without its cache entry, as `keep w` says. -/
theorem keepOrRemove_spec {P : State → Prop} (hP : Stable P) (g : State → WTx → State) (keep : WTx → Bool)
    {s : State} (hi : Inv s) (h : P s)
    (hg : ∀ st w, Inv st → st.cfg = s.cfg → st.post = s.post → w.tx ∈ keys st →
      (keep w = true ∧ (g st w = st ∨
        ∃ f : WTx → WTx, (∀ e, (f e).tx = e.tx) ∧ g st w = { st with txs := st.txs.map f })) ∨
      (keep w = false ∧ ∃ w', w'.tx = w.tx ∧ (g st w = removeElem st w' ∨ g st w = evictOne st w'))) :
    ∀ r, s.txs.foldl g s = r →
    Inv r ∧ P r ∧ r.cfg = s.cfg ∧ r.post = s.post ∧ keys r = (s.txs.filter keep).map (·.tx) ∧
    (∀ k, k ∉ keys s → s.cache.has k = true → r.cache.has k = true) := by
  rintro r rfl
  have hfold := foldl_keep_or_erase keys (·.tx) g keep
    (fun st => Inv st ∧ P st ∧ st.cfg = s.cfg ∧ st.post = s.post ∧ (∀ k ∈ keys st, k ∈ keys s) ∧
      (∀ k, k ∉ keys s → s.cache.has k = true → st.cache.has k = true))
    (by
      intro st w ⟨hi', h', hc, hp, hsub, hcache⟩ hm
      rcases hg st w hi' hc hp hm with ⟨hk, he | ⟨f, hf, he⟩⟩ | ⟨hk, w', hw', he | he⟩
      · rw [he, if_pos hk]; exact ⟨⟨hi', h', hc, hp, hsub, hcache⟩, rfl⟩
      · rw [he, if_pos hk]
        exact ⟨⟨stable_inv.relabel st f hf hi', hP.relabel st f hf h', hc, hp,
          fun k hk' => hsub k (keys_relabel st f hf ▸ hk'), hcache⟩, keys_relabel st f hf⟩
      · have hm' : w'.tx ∈ keys st := hw' ▸ hm
        rw [he, if_neg (by rw [hk]; exact Bool.false_ne_true), ← hw']
        exact ⟨⟨inv_removeElem hi' w' hm', hP.remove st w' h' hm', hc, hp,
          fun k hk' => hsub k (List.mem_of_mem_erase (keys_removeElem st w' ▸ hk')), hcache⟩,
          keys_removeElem st w'⟩
      · have hm' : w'.tx ∈ keys st := hw' ▸ hm
        rw [he, if_neg (by rw [hk]; exact Bool.false_ne_true), ← hw']
        exact ⟨⟨stable_inv.evictOne hi' w' hm', hP.evictOne h' w' hm', hc, hp,
          fun k hk' => hsub k (List.mem_of_mem_erase (keys_removeElem st w' ▸ hk')),
          fun k hk' hc' => Cache.remove_has_ne _ _ _ (fun e => hk' (e ▸ hsub _ hm')) (hcache k hk' hc')⟩,
          keys_removeElem st w'⟩)
    s.txs s [] ⟨hi, h, rfl, rfl, fun _ hk => hk, fun _ _ hc => hc⟩ rfl hi.nodup
  obtain ⟨⟨h1, h2, h3, h4, _, h6⟩, h7⟩ := hfold
  exact ⟨h1, h2, h3, h4, h7, h6⟩

/-- who `purgeExpiredTxs` removes -/
def ttlExpired (cfg : Cfg) (h : Int) (expired : WTx → Bool) (w : WTx) : Prop :=
  (cfg.ttlNumBlocks > 0 ∧ h - w.height > cfg.ttlNumBlocks) ∨ (cfg.ttlDuration = true ∧ expired w = true)

instance (cfg : Cfg) (h : Int) (expired : WTx → Bool) (w : WTx) : Decidable (ttlExpired cfg h expired w) :=
  inferInstanceAs (Decidable (_ ∨ _))

theorem purgeOne_cases (h : Int) (expired : WTx → Bool) (s : State) (w : WTx) :
    (ttlExpired s.cfg h expired w ∧ purgeOne h expired s w = evictOne s w) ∨
    (¬ ttlExpired s.cfg h expired w ∧ purgeOne h expired s w = s) := by
  unfold purgeOne
  by_cases h1 : s.cfg.ttlNumBlocks > 0 ∧ h - w.height > s.cfg.ttlNumBlocks
  · exact Or.inl ⟨Or.inl h1, if_pos h1⟩
  · rw [if_neg h1]
    by_cases h2 : s.cfg.ttlDuration = true ∧ expired w = true
    · exact Or.inl ⟨Or.inr h2, if_pos h2⟩
    · exact Or.inr ⟨fun hx => hx.elim h1 h2, if_neg h2⟩

theorem purge_spec {P : State → Prop} (hP : Stable P) {s : State} (hi : Inv s) (h : P s) (ht : Int)
    (expired : WTx → Bool) : ∀ r, purgeExpiredTxs s ht expired = r →
    Inv r ∧ P r ∧ r.cfg = s.cfg ∧ r.post = s.post ∧
    keys r = (s.txs.filter (fun w => !decide (ttlExpired s.cfg ht expired w))).map (·.tx) ∧
    (∀ k, k ∉ keys s → s.cache.has k = true → r.cache.has k = true) := by
  rintro r rfl
  unfold purgeExpiredTxs
  by_cases hoff : s.cfg.ttlNumBlocks = 0 ∧ s.cfg.ttlDuration = false
  · rw [if_pos hoff]
    refine ⟨hi, h, rfl, rfl, ?_, fun _ _ hc => hc⟩
    rw [List.filter_eq_self.2]; rfl
    intro w _
    have : ¬ ttlExpired s.cfg ht expired w := by
      rintro (⟨h1, _⟩ | ⟨h1, _⟩)
      · rw [hoff.1] at h1; exact absurd h1 (Int.lt_irrefl 0)
      · rw [hoff.2] at h1; exact Bool.false_ne_true h1
    simp [this]
  · rw [if_neg hoff]
    refine keepOrRemove_spec hP (purgeOne ht expired) _ hi h ?_ _ rfl
    intro st w _ hc _ _
    rcases purgeOne_cases ht expired st w with ⟨hx, he⟩ | ⟨hx, he⟩
    · exact Or.inr ⟨by simp [← hc, hx], w, rfl, Or.inr he⟩
    · exact Or.inl ⟨by simp [← hc, hx], Or.inl he⟩

/-- **ttl_purges_exactly_expired**: after `purgeExpiredTxs`, an entry of the pool is still there iff
neither TTL rule applies to it. -/
theorem purge_exact {s : State} (hi : Inv s) (h : Int) (expired : WTx → Bool) :
    ∀ w ∈ s.txs, (w.tx ∈ keys (purgeExpiredTxs s h expired) ↔ ¬ ttlExpired s.cfg h expired w) := by
  intro w hw
  obtain ⟨_, _, _, _, hkeys, _⟩ := purge_spec stable_inv hi hi h expired _ rfl
  rw [hkeys, mem_filter_map_tx hi.nodup _ hw]
  simp

theorem handleRecheck_cases {st : State} (hi : Inv st) (w : WTx) (hm : w.tx ∈ keys st) (v : Verdict) :
    (accepted st.post v = true ∧ handleRecheckResult st w.tx v =
      { st with txs := st.txs.map (fun e => if e.tx = w.tx then { e with prio := v.prio } else e) }) ∨
    (accepted st.post v = false ∧ ∃ w', w'.tx = w.tx ∧
      (handleRecheckResult st w.tx v = removeElem st w' ∨ handleRecheckResult st w.tx v = evictOne st w')) := by
  obtain ⟨w', hf, hw', _⟩ := find_of_mem_map WTx.tx st.txs w.tx hm
  unfold handleRecheckResult
  rw [if_pos ((mem_byKey_iff hi _).2 hm), hf]
  by_cases hacc : accepted st.post v = true
  · exact Or.inl ⟨hacc, if_pos hacc⟩
  · refine Or.inr ⟨Bool.eq_false_iff.2 hacc, w', hw', ?_⟩
    show (if accepted st.post v = true then _ else _) = _ ∨ (if accepted st.post v = true then _ else _) = _
    rw [if_neg hacc]
    by_cases hk : (!st.cfg.keepInvalid) = true
    · exact Or.inr (if_pos hk)
    · exact Or.inl (if_neg hk)

theorem recheck_spec {P : State → Prop} (hP : Stable P) {s : State} (hi : Inv s) (h : P s)
    (rv : Bytes → Verdict) : ∀ r, recheckTransactions s rv = r →
    Inv r ∧ P r ∧ r.cfg = s.cfg ∧ r.post = s.post ∧
    keys r = (keys s).filter (fun k => accepted s.post (rv k)) ∧
    (∀ k, k ∉ keys s → s.cache.has k = true → r.cache.has k = true) := by
  rintro r rfl
  obtain ⟨h1, h2, h3, h4, h5, h6⟩ := keepOrRemove_spec hP (fun st w => handleRecheckResult st w.tx (rv w.tx))
    (fun w => accepted s.post (rv w.tx)) hi h (by
      intro st w hi' _ hp hm
      rcases handleRecheck_cases hi' w hm (rv w.tx) with ⟨ha, he⟩ | ⟨ha, hw'⟩
      · exact Or.inl ⟨hp ▸ ha, Or.inr ⟨_, setPrio_tx w.tx _, he⟩⟩
      · exact Or.inr ⟨hp ▸ ha, hw'⟩) _ rfl
  refine ⟨h1, h2, h3, h4, ?_, h6⟩
  rw [recheckTransactions, h5, keys, List.filter_map]; rfl

theorem flush_spec {P : State → Prop} (hP : Stable P) {s : State} (hi : Inv s) (h : P s) :
    Inv (flush s) ∧ P (flush s) ∧ keys (flush s) = [] := by
  obtain ⟨h1, h2, _, _, h5, _⟩ := keepOrRemove_spec hP removeElem (fun _ => false) hi h
    (fun st w _ _ _ _ => Or.inr ⟨rfl, w, rfl, Or.inl rfl⟩) _ rfl
  refine ⟨h1, hP.reset _ h2, ?_⟩
  show keys (s.txs.foldl removeElem s) = []
  rw [h5, List.filter_eq_nil_iff.2 (fun _ _ => Bool.false_ne_true)]; rfl

theorem flush_empties {s : State} (hi : Inv s) :
    (flush s).txs = [] ∧ (flush s).byKey = [] ∧ (flush s).txsBytes = 0 ∧ (flush s).cache.keys = [] := by
  obtain ⟨hi', _, hk⟩ := flush_spec stable_inv hi hi
  have hm := hi'.map
  have hb := hi'.bytes
  rw [hk] at hm hb
  exact ⟨List.map_eq_nil_iff.1 hk, hm.eq_nil, hb, rfl⟩

/-- the state `Update` works on after setting height and filters -/
def updHead (s : State) (h : Int) (pre post : Option Int) : State :=
  { s with height := h, pre := newFilter pre s.pre, post := newFilter post s.post }

theorem inv_updHead {s : State} (hi : Inv s) (h : Int) (pre post : Option Int) :
    Inv (updHead s h pre post) := hi

/-- the end of `Update`: the recheck, when the pool is not empty and `config.Recheck` is set -/
def recheckIf (s : State) (rv : Bytes → Verdict) : State :=
  if s.txs.length > 0 then (if s.cfg.recheck then recheckTransactions s rv else s) else s

theorem update_eq (s : State) (h : Int) (block : List (Bytes × Nat)) (pre post : Option Int)
    (rv : Bytes → Verdict) (expired : WTx → Bool) :
    update s h block pre post rv expired =
      (let s3 := purgeExpiredTxs (block.foldl commitOne (updHead s h pre post)) h expired
       if s3.txs.length > 0 then (if s3.cfg.recheck then recheckTransactions s3 rv else s3) else s3) := rfl

theorem update_recheckIf (s : State) (h : Int) (block : List (Bytes × Nat)) (pre post : Option Int)
    (rv : Bytes → Verdict) (expired : WTx → Bool) :
    update s h block pre post rv expired =
      recheckIf (purgeExpiredTxs (block.foldl commitOne (updHead s h pre post)) h expired) rv := rfl

theorem recheckIf_spec {P : State → Prop} (hP : Stable P) {s : State} (hi : Inv s) (h : P s)
    (rv : Bytes → Verdict) : ∀ r, recheckIf s rv = r →
    Inv r ∧ P r ∧ (∀ k ∈ keys r, k ∈ keys s) ∧
    (s.cfg.recheck = true → ∀ k ∈ keys r, accepted s.post (rv k) = true) ∧
    (∀ k, k ∉ keys s → s.cache.has k = true → r.cache.has k = true) := by
  rintro r rfl
  unfold recheckIf
  by_cases hl : s.txs.length > 0
  · rw [if_pos hl]
    by_cases hr : s.cfg.recheck = true
    · rw [if_pos hr]
      obtain ⟨h1, h2, _, _, h5, h6⟩ := recheck_spec hP hi h rv _ rfl
      rw [h5]
      exact ⟨h1, h2, fun k hk => (List.mem_filter.1 hk).1, fun _ k hk => (List.mem_filter.1 hk).2, h6⟩
    · rw [if_neg hr]
      exact ⟨hi, h, fun _ hk => hk, fun hr' => absurd hr' hr, fun _ _ hc => hc⟩
  · rw [if_neg hl]
    have : s.txs = [] := List.eq_nil_of_length_eq_zero (by omega)
    refine ⟨hi, h, fun _ hk => hk, fun _ k hk => ?_, fun _ _ hc => hc⟩
    rw [keys, this] at hk
    exact nomatch hk

theorem update_purged {P : State → Prop} (hP : Stable P) {s : State} (hi : Inv s) (h : P s) (ht : Int)
    (block : List (Bytes × Nat)) (pre post : Option Int) (expired : WTx → Bool) :
    let s3 := purgeExpiredTxs (block.foldl commitOne (updHead s ht pre post)) ht expired
    Inv s3 ∧ P s3 ∧ s3.post = newFilter post s.post ∧
    (∀ k ∈ keys s3, k ∈ keys s ∧ ∀ c ∈ block, c.1 ≠ k) ∧
    (∀ k, k ∉ keys (block.foldl commitOne (updHead s ht pre post)) →
      (block.foldl commitOne (updHead s ht pre post)).cache.has k = true → s3.cache.has k = true) := by
  have hi0 := inv_updHead hi ht pre post
  have a1 := stable_inv.commitAll block hi0
  have a2 := hP.commitAll block (s := updHead s ht pre post) (hP.head s ht _ _ h)
  obtain ⟨b1, b2, _, b4, b5, b6⟩ := purge_spec hP a1 a2 ht expired _ rfl
  refine ⟨b1, b2, b4.trans (post_commitAll block _), fun k hk => ?_, b6⟩
  rw [b5] at hk
  obtain ⟨w, hw, rfl⟩ := List.mem_map.1 hk
  exact commitAll_keys block hi0 _ (List.mem_map_of_mem (f := (·.tx)) (List.mem_filter.1 hw).1)

theorem update_keys {s : State} (hi : Inv s) (h : Int) (block : List (Bytes × Nat))
    (pre post : Option Int) (rv : Bytes → Verdict) (expired : WTx → Bool) :
    (∀ k ∈ keys (update s h block pre post rv expired), k ∈ keys s ∧ ∀ c ∈ block, c.1 ≠ k) ∧
    (s.cfg.recheck = true → ∀ k ∈ keys (update s h block pre post rv expired),
      accepted (newFilter post s.post) (rv k) = true) := by
  obtain ⟨a1, a2, a3, a4, _⟩ := update_purged (stable_cfg s.cfg) hi rfl h block pre post expired
  obtain ⟨_, _, b3, b4, _⟩ := recheckIf_spec stable_inv a1 a1 rv _ rfl
  rw [update_recheckIf]
  exact ⟨fun k hk => a4 k (b3 k hk), fun hr k hk => a3 ▸ b4 (a2.symm ▸ hr) k hk⟩

/-- the last transaction of the block, committed with code OK, is remembered when `Update`
returns: TTL purge and recheck only forget what they remove -/
theorem update_remembers_last {s : State} (hi : Inv s) (hs : s.cache.size > 0) (h : Int)
    (block : List (Bytes × Nat)) (tx : Bytes) (pre post : Option Int) (rv : Bytes → Verdict)
    (expired : WTx → Bool) :
    (update s h (block ++ [(tx, codeOK)]) pre post rv expired).cache.has tx = true := by
  have hi0 := inv_updHead hi h pre post
  have hsize : (block.foldl commitOne (updHead s h pre post)).cache.size = s.cache.size :=
    cache_size_commitAll block _
  have hnot : tx ∉ keys ((block ++ [(tx, codeOK)]).foldl commitOne (updHead s h pre post)) :=
    fun hk => (commitAll_keys _ hi0 tx hk).2 (tx, codeOK) (by simp) rfl
  obtain ⟨a1, _, _, a4, a5⟩ := update_purged stable_inv hi hi h (block ++ [(tx, codeOK)]) pre post expired
  rw [update_recheckIf]
  -- the recheck forgets no key outside the pool it starts from
  obtain ⟨_, _, _, _, hcache⟩ := recheckIf_spec stable_inv a1 a1 rv _ rfl
  refine hcache tx (fun hk => (a4 tx hk).2 (tx, codeOK) (by simp) rfl)
    (a5 tx hnot ?_)
  rw [List.foldl_append]
  exact commitOne_remembers _ tx (hsize.symm ▸ hs)

section ops
variable {P : State → Prop} (hP : Stable P)
include hP

theorem Stable.update {s : State} (hi : Inv s) (h : P s) (ht : Int) (block : List (Bytes × Nat))
    (pre post : Option Int) (rv : Bytes → Verdict) (expired : WTx → Bool) :
    P (update s ht block pre post rv expired) := by
  obtain ⟨a1, a2, _⟩ := update_purged hP hi h ht block pre post expired
  exact (recheckIf_spec hP a1 a2 rv _ rfl).2.1

theorem Stable.step {s : State} (hi : Inv s) (h : P s) (op : Op) : P (step s op) := by
  cases op with
  | check tx v p => exact hP.checkTxFrom hi h tx v p
  | update ht b pre post rv ex => exact hP.update hi h ht b pre post rv ex
  | flush => exact (flush_spec hP hi h).2.1

theorem Stable.run (ops : List Op) : ∀ {s : State}, Inv s → P s → Inv (run s ops) ∧ P (run s ops) := by
  induction ops with
  | nil => intro s hi h; exact ⟨hi, h⟩
  | cons o r ih => intro s hi h; exact ih (stable_inv.step hi hi o) (hP.step hi h o)

end ops

theorem update_spec {s : State} (hi : Inv s) (h : Int) (block : List (Bytes × Nat))
    (pre post : Option Int) (rv : Bytes → Verdict) (expired : WTx → Bool) :
    Inv (update s h block pre post rv expired) ∧ (update s h block pre post rv expired).cfg = s.cfg ∧
    (Bounded s → Bounded (update s h block pre post rv expired)) ∧
    (∀ k, k ∈ keys (update s h block pre post rv expired) → k ∈ keys s) ∧
    (∀ c ∈ block, c.1 ∉ keys (update s h block pre post rv expired)) ∧
    (s.cfg.recheck = true → ∀ k, k ∈ keys (update s h block pre post rv expired) →
      accepted (newFilter post s.post) (rv k) = true) :=
  have hk := update_keys hi h block pre post rv expired
  let ⟨a, b, c⟩ := Stable.inv_cfg_bounded hi fun hP h' => hP.update hi h' h block pre post rv expired
  ⟨a, b, c, fun k hm => (hk.1 k hm).1, fun c hc hm => (hk.1 _ hm).2 c hc rfl, hk.2⟩

theorem step_spec {s : State} (hi : Inv s) (op : Op) :
    Inv (step s op) ∧ (step s op).cfg = s.cfg ∧ (Bounded s → Bounded (step s op)) :=
  Stable.inv_cfg_bounded hi fun hP h => hP.step hi h op

theorem run_spec (ops : List Op) {s : State} (hi : Inv s) :
    Inv (run s ops) ∧ (run s ops).cfg = s.cfg ∧ (Bounded s → Bounded (run s ops)) :=
  Stable.inv_cfg_bounded hi fun hP h => (hP.run ops hi h).2

/-! ### The cache alone

What an operation does to the cache is a sequence of pushes, removals and resets whatever state it
starts from, invariant or not. The commit loop is covered by `Stable.commitAll` through `stable_cache`,
since it asks for no invariant. The other loops are walked again here, looking at the cache only:
eviction, purge and `Flush` unlink the entries of a snapshot, and the guard `Stable.remove` is owed for
them only `Inv` gives. -/

section cache
variable {C : Cache → Prop} (hC : Cache.Closed C)
include hC

theorem cache_evictLoop (need : Int) (vs : List WTx) (s : State) (ev : Int) (h : C s.cache) :
    C (evictLoop need s vs ev).cache := by
  obtain ⟨n, _, he, _⟩ := evictLoop_eq need vs s ev
  rw [he]
  exact List.foldlRecOn (vs.take n) evictOne (motive := fun x => C x.cache) h fun st hst w _ => hC.remove st.cache w.tx hst

theorem cache_addNew (s : State) (w : WTx) (v : Verdict) (h : C s.cache) :
    C (addNewTransaction s w v).1.cache := by
  rcases addNew_cases s w v with (he | he) | ⟨_, _, ⟨_, he⟩ | ⟨_, _, he⟩⟩
  · rw [he]; exact h
  · rw [he]; exact hC.remove s.cache w.tx h
  · rw [he]; exact h
  · rw [he]; exact cache_evictLoop hC _ _ s 0 h

theorem cache_checkTxFrom (s : State) (tx : Bytes) (v : Verdict) (p : Nat) (h : C s.cache) :
    C (checkTxFrom s tx v p).1.cache := by
  -- recording the peer leaves the cache alone
  have hfrom : (checkTxFrom s tx v p).1.cache = (checkTx s tx v).1.cache := by
    unfold checkTxFrom
    generalize checkTx s tx v = r
    obtain ⟨s1, res⟩ := r
    cases res with
    | inCache => rfl
    | ok me =>
      show (if accepted s.post v = true then (recordPeer s1 tx p, CheckRes.ok me) else (s1, CheckRes.ok me)).1.cache = _
      by_cases ha : accepted s.post v = true
      · rw [if_pos ha]; rfl
      · rw [if_neg ha]
    | tooLarge => rfl
    | pre => rfl
  rw [hfrom]
  rcases checkTx_cases s tx v with ⟨_, he, _⟩ | ⟨_, he⟩ | ⟨_, _, rfl, he⟩
  · rw [he]; exact h
  · rw [he]; exact hC.push s.cache tx h
  · rw [he]; exact cache_addNew hC _ _ v (hC.push s.cache tx h)

theorem cache_purge (s : State) (ht : Int) (expired : WTx → Bool) (h : C s.cache) :
    C (purgeExpiredTxs s ht expired).cache := by
  unfold purgeExpiredTxs
  by_cases hoff : s.cfg.ttlNumBlocks = 0 ∧ s.cfg.ttlDuration = false
  · rw [if_pos hoff]; exact h
  · rw [if_neg hoff]
    exact List.foldlRecOn s.txs (purgeOne ht expired) (motive := fun x => C x.cache) h fun st hst w _ => by
      show C (purgeOne ht expired st w).cache
      rcases purgeOne_cases ht expired st w with ⟨_, he⟩ | ⟨_, he⟩
      · rw [he]; exact hC.remove st.cache w.tx hst
      · rw [he]; exact hst

theorem cache_handleRecheck (s : State) (tx : Bytes) (v : Verdict) (h : C s.cache) :
    C (handleRecheckResult s tx v).cache := by
  unfold handleRecheckResult
  by_cases hk : tx ∈ s.byKey
  · rw [if_pos hk]
    cases s.txs.find? (fun e => e.tx = tx) with
    | none => exact h
    | some w =>
      show C (if accepted s.post v = true then _ else _ : State).cache
      by_cases ha : accepted s.post v = true
      · rw [if_pos ha]; exact h
      · rw [if_neg ha]
        show C (if (!s.cfg.keepInvalid) = true then _ else _ : State).cache
        by_cases hki : (!s.cfg.keepInvalid) = true
        · rw [if_pos hki]; exact hC.remove s.cache w.tx h
        · rw [if_neg hki]; exact h
  · rw [if_neg hk]; exact h

theorem cache_update (s : State) (ht : Int) (block : List (Bytes × Nat)) (pre post : Option Int)
    (rv : Bytes → Verdict) (expired : WTx → Bool) (h : C s.cache) :
    C (update s ht block pre post rv expired).cache := by
  have h3 := cache_purge hC _ ht expired ((stable_cache hC).commitAll block (s := updHead s ht pre post) h)
  rw [update_recheckIf, recheckIf]
  by_cases hl : (purgeExpiredTxs (block.foldl commitOne (updHead s ht pre post)) ht expired).txs.length > 0
  · rw [if_pos hl]
    by_cases hr : (purgeExpiredTxs (block.foldl commitOne (updHead s ht pre post)) ht expired).cfg.recheck = true
    · rw [if_pos hr]
      exact List.foldlRecOn _ _ (motive := fun x => C x.cache) h3 fun st hst (w : WTx) _ =>
        cache_handleRecheck hC st w.tx _ hst
    · rw [if_neg hr]; exact h3
  · rw [if_neg hl]; exact h3

/-- Every cache property that `Push`, `Remove` and `Reset` keep holds along every history, from
every state. -/
theorem cache_run (ops : List Op) (s : State) (h : C s.cache) :
    C (run s ops).cache :=
  List.foldlRecOn ops step (motive := fun x => C x.cache) h fun st hst op _ => by
    show C (step st op).cache
    cases op with
    | check tx v p => exact cache_checkTxFrom hC st tx v p hst
    | update ht b pre post rv ex => exact cache_update hC st ht b pre post rv ex hst
    | flush =>
      exact hC.reset _ (List.foldlRecOn st.txs removeElem (motive := fun x : State => C x.cache) hst
        fun _ hx _ _ => hx)

end cache

theorem cacheOK_run {n : Int} (ops : List Op) (s : State) (h : s.cache.OKn n) :
    (run s ops).cache.OKn n :=
  cache_run (Cache.closed_okn n) ops s h

theorem allEntriesSorted_perm (s : State) : (allEntriesSorted s).Perm s.txs :=
  (sorts _).perm _

/-- the sort is stable: ties keep their arrival (list) order -/
theorem allEntriesSorted_stable (s : State) (x y : WTx) (h : [x, y].Sublist s.txs)
    (hyx : reapBefore y x = false) : [x, y].Sublist (allEntriesSorted s) :=
  (sorts reapBefore).stable h (Bool.eq_false_iff.1 hyx)

theorem allEntriesSorted_sorted (s : State) :
    (allEntriesSorted s).Pairwise
      (fun x y => x.prio > y.prio ∨ (x.prio = y.prio ∧ x.seq ≤ y.seq)) :=
  (sorts reapBefore).pairwise (fun a b c h h' => by omega)
    (List.pairwise_of_forall fun a b => by rw [reapBefore_iff]; omega)

def protoSum : List WTx → Int
  | [] => 0
  | e :: r => protoSize e.tx.length + protoSum r

def gasSum : List WTx → Int
  | [] => 0
  | e :: r => e.gas + gasSum r

theorem reapGo_spec (mb mg : Int) : ∀ (l : List WTx) (g sz : Int),
    (mb ≥ 0 → sz ≤ mb) → (mg ≥ 0 → g ≤ mg) →
    ∃ k, k ≤ l.length ∧ reapGo mb mg l g sz = (l.take k).map (·.tx) ∧
      (mb ≥ 0 → sz + protoSum (l.take k) ≤ mb) ∧ (mg ≥ 0 → g + gasSum (l.take k) ≤ mg) ∧
      (∀ e, l[k]? = some e →
        (mb ≥ 0 ∧ sz + protoSum (l.take k) + protoSize e.tx.length > mb) ∨
        (mg ≥ 0 ∧ g + gasSum (l.take k) + e.gas > mg)) := by
  intro l g sz h1 h2
  -- the code keeps the gas total before the byte total and tests the gas limit first
  refine greedy_prefix (·.tx) (fun e : WTx => protoSize e.tx.length) (·.gas) (mb ≥ 0) (mg ≥ 0) mb mg
    (fun l b g => reapGo mb mg l g b) protoSum gasSum (fun _ _ => rfl) ?_ ?_ rfl (fun _ _ => rfl) rfl
    (fun _ _ => rfl) l sz g h1 h2
  · intro e r b g h; rw [reapGo]; exact if_pos h.symm
  · intro e r b g h; rw [reapGo]; exact if_neg fun h' => h (Or.symm h')

theorem reapNGo_spec (max : Int) : ∀ (l : List WTx) (acc : List Bytes),
    reapNGo max l acc =
      acc ++ (l.take (if max < 0 then l.length else (max - (acc.length : Int)).toNat)).map (·.tx) := by
  intro l
  induction l with
  | nil => intro acc; simp [reapNGo]
  | cons e rest ih =>
    intro acc
    unfold reapNGo
    by_cases h : max ≥ 0 ∧ (acc.length : Int) ≥ max
    · rw [if_pos h, if_neg (by omega)]
      have : (max - (acc.length : Int)).toNat = 0 := by omega
      rw [this, List.take_zero, List.map_nil, List.append_nil]
    · rw [if_neg h, ih]
      by_cases h0 : max < 0
      · rw [if_pos h0, if_pos h0, List.length_cons, List.take_succ_cons, List.map_cons,
          List.append_assoc]; rfl
      · have : (max - (acc.length : Int)).toNat = (max - ((acc ++ [e.tx]).length : Int)).toNat + 1 := by
          rw [List.length_append, List.length_singleton]; omega
        rw [if_neg h0, if_neg h0, this, List.take_succ_cons, List.map_cons, List.append_assoc]; rfl

section split
variable {P : State → Prop} (hP : Stable P)
include hP

theorem Stable.sbegin (a : SState) (h : P a.s) (tx : Bytes) (p : Nat) : P (sbegin a tx p).1.s := by
  unfold V1.sbegin
  by_cases h1 : (tx.length : Int) > a.s.cfg.maxTxBytes
  · rw [if_pos h1]; exact h
  rw [if_neg h1]
  by_cases h2 : preFails a.s.pre tx = true
  · rw [if_pos h2]; exact h
  rw [if_neg h2]
  by_cases h3 : (!(a.s.cache.push tx).2) = true
  · rw [if_pos h3]; exact hP.recordPeer (hP.push a.s tx h) tx p
  · rw [if_neg h3]; exact hP.push a.s tx h

theorem Stable.sfinish (a : SState) (hi : Inv a.s) (h : P a.s) (i : Nat) (v : Verdict) :
    P (sfinish a i v).1.s := by
  unfold V1.sfinish
  cases a.pending[i]? with
  | none => exact h
  | some p =>
    have h1 := hP.addNew (s := { a.s with clock := a.s.clock + 1 }) hi (hP.tick _ h)
      { tx := p.tx, height := p.height, seq := a.s.clock, gas := 0, prio := 0, sender := "" } v
    show P (if accepted a.s.post v = true then _ else _)
    by_cases ha : accepted a.s.post v = true
    · rw [if_pos ha]; exact hP.recordPeer h1 p.tx p.peer
    · rw [if_neg ha]; exact h1

theorem Stable.sstep (a : SState) (hi : Inv a.s) (h : P a.s) (op : SOp) : P (sstep a op).s := by
  cases op with
  | begin tx p => exact hP.sbegin a h tx p
  | finish i v => exact hP.sfinish a hi h i v
  | update ht b pre post rv ex => exact hP.update hi h ht b pre post rv ex

theorem Stable.srun (ops : List SOp) : ∀ (a : SState), Inv a.s → P a.s →
    Inv (srun a ops).s ∧ P (srun a ops).s := by
  induction ops with
  | nil => intro a hi h; exact ⟨hi, h⟩
  | cons o r ih => intro a hi h; exact ih _ (stable_inv.sstep a hi hi o) (hP.sstep a hi h o)

end split

theorem srun_spec (ops : List SOp) {a : SState} (hi : Inv a.s) :
    Inv (srun a ops).s ∧ (srun a ops).s.cfg = a.s.cfg ∧ (Bounded a.s → Bounded (srun a ops).s) :=
  Stable.inv_cfg_bounded hi fun hP h => (hP.srun ops a hi h).2

/-- a step applied to a snapshot entry `w` either leaves the core alone (then `P` holds of `w`)
or removes `w`; it forgets from the cache nothing but `w.tx` -/
structure RemStep (P : Option Int → WTx → Prop) (g : State → WTx → State) : Prop where
  core : ∀ st w, Inv st → w.tx ∈ keys st →
    (Core (g st w) = Core st ∧ P st.post w) ∨ Core (g st w) = Core (removeElem st w)
  cache : ∀ st w k, k ≠ w.tx → st.cache.has k = true → (g st w).cache.has k = true

theorem remStep_purgeOne' (h : Int) (expired : WTx → Bool) :
    RemStep (fun _ _ => True) (purgeOne h expired) := by
  constructor
  · intro st w _ _
    rcases purgeOne_cases h expired st w with ⟨_, he⟩ | ⟨_, he⟩
    · rw [he]; exact Or.inr rfl
    · rw [he]; exact Or.inl ⟨rfl, trivial⟩
  · intro st w k hne hc
    rcases purgeOne_cases h expired st w with ⟨_, he⟩ | ⟨_, he⟩
    · rw [he]; exact Cache.remove_has_ne _ _ _ hne hc
    · rw [he]; exact hc

end Tmv.Mempool.V1
