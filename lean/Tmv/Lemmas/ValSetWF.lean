import Tmv.Lemmas.ValSet
import Tmv.Lemmas.ListFacts
/-! A successful `updateWithChangeSet` yields a well-formed set (`Props.C08.update_wellformed`). -/
namespace Tmv.ValSet

/-- what the receiver of an update must satisfy (the empty set of `NewValidatorSet` included) -/
structure PreWF (l : List Val) : Prop where
  nodup : (l.map (·.addr)).Nodup
  pos : ∀ v ∈ l, 0 < v.power

/-- what C08 calls a well-formed validator list (the conclusion of `update_wellformed`) -/
structure WF (l : List Val) : Prop where
  nodup : (l.map (·.addr)).Nodup
  pos : ∀ v ∈ l, 0 < v.power
  sorted : l.Pairwise (fun a b => lePower a b = true)
  ne : l ≠ []
  total_le : sumPower l ≤ maxTotal
  total_pos : 0 < sumPower l

theorem WF.pre {l : List Val} (h : WF l) : PreWF l := ⟨h.nodup, h.pos⟩

theorem perm_sumPower {l1 l2 : List Val} (hp : l1.Perm l2) : sumPower l1 = sumPower l2 :=
  perm_sum_int (hp.map _)

theorem SameAP.sumPower {a b : List Val} (h : SameAP a b) : sumPower a = sumPower b := by
  unfold Tmv.ValSet.sumPower; rw [h.powers]

theorem SameAP.mem {a b : List Val} (h : SameAP a b) :
    ∀ x ∈ a, ∃ y ∈ b, y.addr = x.addr ∧ y.power = x.power := by
  intro x hx
  have : (x.addr, x.power) ∈ a.map (fun v => (v.addr, v.power)) := List.mem_map.mpr ⟨x, hx, rfl⟩
  rw [h] at this
  obtain ⟨y, hy, e⟩ := List.mem_map.mp this
  simp only [Prod.mk.injEq] at e
  exact ⟨y, hy, e.1, e.2⟩

/-- what holds of every power of the one list holds of every power of the other -/
theorem SameAP.powers_of {a b : List Val} (h : SameAP a b) {P : Int → Prop}
    (hb : ∀ y ∈ b, P y.power) : ∀ x ∈ a, P x.power := fun x hx => by
  obtain ⟨y, hy, _, e⟩ := h.mem x hx
  exact e ▸ hb y hy

theorem SameAP.length {a b : List Val} (h : SameAP a b) : a.length = b.length := by
  have := congrArg List.length h
  simpa using this

theorem SameAP.ne_nil {a b : List Val} (h : SameAP a b) (hb : b ≠ []) : a ≠ [] := fun e => by
  have := h.length; rw [e] at this
  exact hb (List.eq_nil_of_length_eq_zero this.symm)

theorem WF.total_eq {l : List Val} (h : WF l) : totalPower l = sumPower l := by
  have := h.total_le; rw [maxTotal_eq] at this
  unfold totalPower
  rw [totalFrom_eq l 0 (by omega) (fun v hv => by have := h.pos v hv; omega) (by omega)]; omega

theorem WF.of_sameAP {a b : List Val} (h : SameAP a b) (hb : WF b) : WF a := by
  refine ⟨by rw [h.addrs]; exact hb.nodup, h.powers_of (P := (0 < ·)) hb.pos, ?_, ?_, by
    rw [h.sumPower]; exact hb.total_le, by rw [h.sumPower]; exact hb.total_pos⟩
  · -- the order looks at addresses and powers only
    have key : ∀ l : List Val, l.Pairwise (fun x y => lePower x y = true) ↔
        (l.map (fun v => (v.addr, v.power))).Pairwise
          (fun p q => (decide (p.2 > q.2 ∨ (p.2 = q.2 ∧ p.1 ≤ q.1))) = true) := by
      intro l; rw [List.pairwise_map]; rfl
    rw [key, h, ← key]; exact hb.sorted
  · exact h.ne_nil hb.ne

theorem sAddr_of_addrs_eq {a b : List Val} (h : a.map (·.addr) = b.map (·.addr)) (hb : SAddr b) :
    SAddr a := by
  unfold SAddr at *
  have hb' : (b.map (·.addr)).Pairwise (· < ·) := List.pairwise_map.mpr hb
  rw [← h] at hb'
  exact List.pairwise_map.mp hb'

theorem computeNewPriorities_sameAP (u vals : List Val) (tvp : Int) :
    SameAP (computeNewPriorities u vals tvp) u := by
  have : computeNewPriorities u vals tvp =
      u.map (fun x => setPrio x (match findAddr vals x.addr with
        | none => -(tvp + tvp / 8) | some v => v.prio)) := by
    unfold computeNewPriorities
    apply List.map_congr_left
    intro x _
    cases findAddr vals x.addr <;> rfl
  rw [this]
  exact sameAP_map_setPrio u _

theorem sumPower_pos {l : List Val} (hne : l ≠ []) (hp : ∀ v ∈ l, 0 < v.power) : 0 < sumPower l := by
  induction l with
  | nil => exact absurd rfl hne
  | cons v r ih =>
    simp only [sumPower, List.map_cons, List.sum_cons]
    have hv := hp v List.mem_cons_self
    cases r with
    | nil => simp; exact hv
    | cons w r' =>
      have := ih (by simp) (fun x hx => hp x (List.mem_cons_of_mem _ hx))
      simp only [sumPower] at this
      omega

/-- `v2` is the list `updateCore` holds after `applyUpdates`/`applyRemovals`, before the
normalisation and the sort by power: as a map it is the old set overridden by the (re-prioritised)
updates, minus the removals -/
structure Merged (s : VSet) (u d : List Val) (removed tvp : Int) (v2 : List Val) : Prop where
  removals : verifyRemovals s.vals d 0 = some removed
  updates : verifyUpdates u s.vals removed = some tvp
  noPanic : totalPanics v2 = false
  sAddr : SAddr v2
  ne : v2 ≠ []
  pos : ∀ x ∈ v2, 0 < x.power
  mem : ∀ x ∈ v2, x ∈ computeNewPriorities u s.vals tvp ∨ x ∈ s.vals
  find : ∀ a, findAddr v2 a = if findAddr d a = none then
    (findAddr (computeNewPriorities u s.vals tvp) a).or (findAddr s.vals a) else none

/-- `updateTotalVotingPower` did not panic on `v2`: its total is the plain sum, within the limit -/
theorem Merged.total {s : VSet} {u d : List Val} {removed tvp : Int} {v2 : List Val}
    (hm : Merged s u d removed tvp v2) :
    totalPower v2 = sumPower v2 ∧ 0 < sumPower v2 ∧ sumPower v2 ≤ maxTotal := by
  have h := totalFrom_noclip v2 0 (by omega) (by rw [maxTotal_eq]; omega)
    (fun x hx => by have := hm.pos x hx; omega) hm.noPanic
  exact ⟨by unfold totalPower; rw [h.1]; omega, sumPower_pos hm.ne hm.pos, by have := h.2; omega⟩

theorem updateCore_find (s s' : VSet) (u d : List Val) (allow : Bool)
    (hpre : PreWF s.vals) (hu : SAddr u) (hd : SAddr d)
    (hup : ∀ v ∈ u, 0 < v.power) (hdisj : ∀ y ∈ u, ∀ z ∈ d, y.addr ≠ z.addr)
    (h : updateCore s u d allow = (s', none)) :
    ∃ removed tvp v2, s'.vals = sortBy lePower (normalize v2) ∧ Merged s u d removed tvp v2 := by
  unfold updateCore at h
  by_cases h1 : (!allow) = true ∧ d ≠ []
  · rw [if_pos h1] at h; cases h
  rw [if_neg h1] at h
  by_cases hnonempty : numNewValidators u s.vals = 0 ∧ s.vals.length = d.length
  · rw [if_pos hnonempty] at h; cases h
  rw [if_neg hnonempty] at h
  cases hrem : verifyRemovals s.vals d 0 with
  | none => rw [hrem] at h; cases h
  | some removed =>
  rw [hrem] at h
  simp only at h
  cases hver : verifyUpdates u s.vals removed with
  | none => rw [hver] at h; cases h
  | some tvp =>
  rw [hver] at h
  simp only at h
  have hcnp := computeNewPriorities_sameAP u s.vals tvp
  generalize hu'def : computeNewPriorities u s.vals tvp = u' at *
  have hu's : SAddr u' := sAddr_of_addrs_eq hcnp.addrs hu
  obtain ⟨m1, m2⟩ := applyUpdates_find s.vals u' hpre.nodup hu's
  generalize applyUpdates s.vals u' = v1 at *
  -- as `verifyRemovals` found them in the old set, the removed addresses are in `v1`
  have hsub : ∀ z ∈ d, findAddr v1 z.addr ≠ none := fun z hz hn =>
    verifyRemovals_some _ _ _ _ hrem z hz (Option.or_eq_none_iff.mp (m2 _ ▸ hn)).2
  obtain ⟨r1, r2⟩ := applyRemovals_find v1 d m1 hd hsub
  generalize applyRemovals v1 d = v2 at *
  by_cases hnp : totalPanics v2 = true
  · rw [if_pos hnp] at h; cases h
  rw [if_neg hnp] at h
  cases h
  have hv2s : SAddr v2 := List.Pairwise.sublist r1 m1
  have hfind : ∀ a, findAddr v2 a =
      if findAddr d a = none then (findAddr u' a).or (findAddr s.vals a) else none := fun a => by rw [r2, m2]
  have hmem : ∀ x ∈ v2, x ∈ u' ∨ x ∈ s.vals := fun x hx => mem_of_findAddr_or m1 m2 x (r1.subset hx)
  refine ⟨removed, tvp, v2, rfl, hrem, hver, by simpa using hnp, hv2s, ?_, ?_, hu'def ▸ hmem,
    hu'def ▸ hfind⟩
  · -- were it empty, every address of the updates and of the old set would be among the removals:
    -- no updates then, and as many removals as old entries, which was refused at the start
    intro e
    have hall : ∀ a, a ∉ d.map (·.addr) → a ∉ u.map (·.addr) ∧ a ∉ s.vals.map (·.addr) := by
      intro a ha
      have := hfind a
      rw [e, findAddr_eq_none_iff.mpr ha, if_pos rfl] at this
      rw [← hcnp.addrs, ← findAddr_eq_none_iff, ← findAddr_eq_none_iff]
      exact Option.or_eq_none_iff.mp this.symm
    apply hnonempty
    constructor
    · cases u with
      | nil => rfl
      | cons y r =>
        refine absurd (List.mem_map.mpr ⟨y, List.mem_cons_self, rfl⟩) (hall y.addr fun hy => ?_).1
        obtain ⟨z, hz, hzy⟩ := List.mem_map.mp hy
        exact hdisj y List.mem_cons_self z hz hzy.symm
    · have h1 : s.vals.map (·.addr) ⊆ d.map (·.addr) := fun a ha =>
        Classical.byContradiction fun hn => (hall a hn).2 ha
      have h2 : d.map (·.addr) ⊆ s.vals.map (·.addr) := fun a ha =>
        Classical.byContradiction fun hn => by
          obtain ⟨z, hz, rfl⟩ := List.mem_map.mp ha
          exact verifyRemovals_some _ _ _ _ hrem z hz (findAddr_eq_none_iff.mpr hn)
      have l1 := List.Nodup.length_le_of_subset hpre.nodup h1
      have l2 := List.Nodup.length_le_of_subset hd.nodup h2
      simp only [List.length_map] at l1 l2
      omega
  · intro x hx
    rcases hmem x hx with h1 | h1
    · exact hcnp.powers_of (P := (0 < ·)) hup x h1
    · exact hpre.pos x h1

theorem updateWithChangeSet_split (s s' : VSet) (c : List Val) (allow : Bool) (hc : c ≠ [])
    (h : updateWithChangeSet s c allow = (s', none)) :
    ∃ u d, u = (sortBy leAddr c).filter (fun v => v.power ≠ 0) ∧
      d = (sortBy leAddr c).filter (fun v => v.power = 0) ∧ SAddr (sortBy leAddr c) ∧
      updateCore s u d allow = (s', none) ∧ (∀ v ∈ u, 0 < v.power) ∧
      ∀ y ∈ u, ∀ z ∈ d, y.addr ≠ z.addr := by
  unfold updateWithChangeSet at h
  rw [if_neg hc] at h
  cases hproc : processChanges c with
  | error e => rw [hproc] at h; cases h
  | ok p =>
    obtain ⟨u, d⟩ := p
    rw [hproc] at h
    obtain ⟨_, hl, hu, hd, hb⟩ := scanChanges_split _ _ _ _
      (sortBy_pairwise leAddr leAddr_total leAddr_trans c) hproc
    refine ⟨u, d, hu, hd, hl, h, fun v hv => ?_, fun y hy z hz hyz => ?_⟩
    · rw [hu] at hv
      obtain ⟨hv1, hv2⟩ := List.mem_filter.mp hv
      have := (hb v hv1).1
      simp only [ne_eq, decide_eq_true_eq] at hv2
      omega
    · -- an update and a removal with one address would be the same entry
      rw [hu] at hy; rw [hd] at hz
      obtain ⟨hy1, hy2⟩ := List.mem_filter.mp hy
      obtain ⟨hz1, hz2⟩ := List.mem_filter.mp hz
      rw [eq_of_addr_eq _ hl.nodup y z hy1 hz1 hyz] at hy2
      simp only [ne_eq, decide_eq_true_eq] at hy2 hz2
      exact hy2 hz2

/-- everything after `processChanges` yields a well-formed list -/
theorem updateCore_wf (s s' : VSet) (u d : List Val) (allow : Bool)
    (hpre : PreWF s.vals) (hu : SAddr u) (hd : SAddr d)
    (hup : ∀ v ∈ u, 0 < v.power) (hdisj : ∀ y ∈ u, ∀ z ∈ d, y.addr ≠ z.addr)
    (h : updateCore s u d allow = (s', none)) : WF s'.vals := by
  obtain ⟨removed, tvp, v2, hvals, hm⟩ := updateCore_find s s' u d allow hpre hu hd hup hdisj h
  have hv2ne := hm.ne
  have hv2pos := hm.pos
  rw [hvals]
  -- the remaining steps keep addresses and powers
  have hap4 := normalize_sameAP v2
  generalize hv4def : normalize v2 = v4 at *
  have hperm := sortBy_perm lePower v4
  have hsum : sumPower (sortBy lePower v4) = sumPower v2 := by
    rw [perm_sumPower hperm, hap4.sumPower]
  have hposF : ∀ x ∈ sortBy lePower v4, 0 < x.power := fun x hx =>
    hap4.powers_of (P := (0 < ·)) hv2pos x (hperm.mem_iff.mp hx)
  have hneF : sortBy lePower v4 ≠ [] := by
    intro e
    have := hperm.length_eq
    rw [e, hap4.length] at this
    exact hv2ne (List.eq_nil_of_length_eq_zero this.symm)
  refine ⟨?_, hposF, sortBy_pairwise lePower lePower_total lePower_trans v4, hneF, ?_,
    sumPower_pos hneF hposF⟩
  · have := (List.Perm.map (·.addr) hperm).nodup_iff.mpr
    apply this
    rw [hap4.addrs]; exact hm.sAddr.nodup
  · rw [hsum]; exact hm.total.2.2

end Tmv.ValSet
