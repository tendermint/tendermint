import Tmv.Model.PubSub
/-! What one client sees of the server (`viewS`, `ownOp`: steps of other clients commute with it),
and one subscription object followed through a history (`SubInv`, `sub_object`). -/
namespace Tmv.PubSub
open Tmv.Query

/-- ops that can touch what client `c` observes: its own commands and every publication -/
def relevant (c : Str) : PsOp → Bool
  | .sub c' _ _ _ => c' == c
  | .unsub c' _ => c' == c
  | .unsubAll c' => c' == c
  | .pub _ => true
  | .read c' _ => c' == c

/-- ops issued by client `c` itself (their answers are what `c` sees) -/
def ownOp (c : Str) : PsOp → Bool
  | .pub _ => false
  | o => relevant c o

/-- everything the server holds about client `c` -/
def viewS (c : Str) (s : State) : State :=
  { registry := s.registry.filter (·.1 == c), recs := s.recs.filter (·.client == c) }

theorem deliver_cases (m : Msg) (r : Rec) :
    (deliver m r = r ∧ (r.status = .active → «matches» r.query m.2 ≠ .ok true)) ∨
    (r.status = .active ∧ «matches» r.query m.2 = .ok true ∧
      ((deliver m r = { r with queue := r.queue ++ [m] } ∧ (r.cap > 0 → r.queue.length < r.cap)) ∨
       (deliver m r = { r with status := .cancelled .outOfCapacity } ∧ r.cap > 0))) := by
  unfold deliver
  by_cases hna : r.status ≠ .active
  · rw [if_pos hna]; exact Or.inl ⟨rfl, fun h => absurd h hna⟩
  · rw [if_neg hna]
    have ha : r.status = .active := Decidable.not_not.mp hna
    split
    · rename_i hm
      refine Or.inr ⟨ha, hm, ?_⟩
      by_cases h0 : r.cap = 0
      · rw [if_pos h0]; exact Or.inl ⟨rfl, fun h => absurd h0 (Nat.ne_of_gt h)⟩
      · rw [if_neg h0]
        by_cases hl : r.queue.length < r.cap
        · rw [if_pos hl]; exact Or.inl ⟨rfl, fun _ => hl⟩
        · rw [if_neg hl]; exact Or.inr ⟨rfl, Nat.pos_of_ne_zero h0⟩
    · rename_i hm
      exact Or.inl ⟨rfl, fun _ h => hm h⟩

theorem deliver_ids (m : Msg) (r : Rec) :
    (deliver m r).client = r.client ∧ (deliver m r).qstr = r.qstr := by
  rcases deliver_cases m r with ⟨e, _⟩ | ⟨_, _, ⟨e, _⟩ | ⟨e, _⟩⟩ <;> rw [e] <;> exact ⟨rfl, rfl⟩

/-- `g` looks at a record's identity (client, query string) only: no operation of the server changes it -/
def IdOnly (g : Rec → Bool) : Prop := ∀ r r' : Rec, r'.client = r.client → r'.qstr = r.qstr → g r' = g r

theorem idOnly_client (c : Str) : IdOnly (·.client == c) := fun _ _ h _ => by simp only [h]

theorem idOnly_isFor (c q : Str) : IdOnly (·.isFor c q) := fun _ _ h1 h2 => by
  simp only [Rec.isFor, h1, h2]

theorem cancel_id {g : Rec → Bool} (hg : IdOnly g) (w : Reason) (r : Rec) : g (cancel w r) = g r :=
  hg _ _ (by unfold cancel; split <;> rfl) (by unfold cancel; split <;> rfl)

theorem deliver_id {g : Rec → Bool} (hg : IdOnly g) (m : Msg) (r : Rec) : g (deliver m r) = g r :=
  hg _ _ (deliver_ids m r).1 (deliver_ids m r).2

theorem readRec_id {g : Rec → Bool} (hg : IdOnly g) (r : Rec) : g (readRec r).1 = g r := by
  refine hg _ _ ?_ ?_ <;> unfold readRec <;> split <;> first | rfl | (split <;> rfl)

/-- the map of `Unsubscribe`/`UnsubscribeAll`: cancel the records `p` selects -/
theorem cancelIf_id {g : Rec → Bool} (hg : IdOnly g) (p : Rec → Bool) (r : Rec) :
    g (if p r = true then cancel .unsubscribed r else r) = g r := by
  split
  · exact cancel_id hg _ r
  · rfl

theorem filter_map_comm {α} (g : α → Bool) (f : α → α) (h : ∀ x, g (f x) = g x) (l : List α) :
    (l.map f).filter g = (l.filter g).map f := by
  rw [List.filter_map, show g ∘ f = g from funext h]

theorem mapFirst_filter_own (p g : Rec → Bool) (f : Rec → Rec × Out)
    (hp : ∀ r, p r = true → g r = true) (hf : ∀ r, g (f r).1 = g r) (l : List Rec) :
    (mapFirst p f l).1.filter g = (mapFirst p f (l.filter g)).1 ∧
    (mapFirst p f l).2 = (mapFirst p f (l.filter g)).2 := by
  induction l with
  | nil => simp [mapFirst]
  | cons x xs ih =>
    by_cases hpx : p x = true
    · have hg := hp x hpx
      simp [mapFirst, hpx, hg, hf]
    · by_cases hgx : g x = true
      · simp [mapFirst, hpx, hgx, ih.1, ih.2]
      · simp [mapFirst, hpx, hgx, ih.1, ih.2]

theorem mapFirst_filter_other (p g : Rec → Bool) (f : Rec → Rec × Out)
    (hp : ∀ r, p r = true → g r = false) (hf : ∀ r, g (f r).1 = g r) (l : List Rec) :
    (mapFirst p f l).1.filter g = l.filter g := by
  induction l with
  | nil => simp [mapFirst]
  | cons x xs ih =>
    by_cases hpx : p x = true
    · have hg := hp x hpx
      simp [mapFirst, hpx, hg, hf]
    · by_cases hgx : g x = true
      · simp [mapFirst, hpx, hgx, ih]
      · simp [mapFirst, hpx, hgx, ih]


theorem isFor_client {r : Rec} {c q : Str} (h : r.isFor c q = true) : r.client = c := by
  unfold Rec.isFor at h
  simp at h
  exact h.1

theorem filter_map_of_fix {α} (g : α → Bool) (f : α → α) (hg : ∀ x, g (f x) = g x)
    (hfix : ∀ x, g x = true → f x = x) (l : List α) : (l.map f).filter g = l.filter g := by
  rw [filter_map_comm g f hg]
  conv => rhs; rw [← List.map_id (l.filter g)]
  exact List.map_congr_left fun x hx => hfix x (List.mem_filter.mp hx).2

theorem filter_filter_of_imp {α} (p g : α → Bool) (h : ∀ x, g x = true → p x = true) (l : List α) :
    (l.filter p).filter g = l.filter g := by
  rw [List.filter_filter]
  refine List.filter_congr fun x _ => ?_
  cases hg : g x
  · rfl
  · rw [h x hg]; rfl

theorem isFor_of_client_ne {r : Rec} {c c' : Str} (q : Str) (hr : (r.client == c) = true) (hne : c' ≠ c) :
    r.isFor c' q = false := by
  refine Bool.eq_false_iff.mpr fun h => hne ?_
  rw [← isFor_client h, beq_iff_eq.mp hr]

/-- `Unsubscribe` and `UnsubscribeAll` send the loop one command (`unsub`, with a query or without):
refused unless `found`; else the registry keeps `keep` and the records `p` selects are cancelled -/
def unsubWith (s : State) (found : Bool) (keep : Str × Str → Bool) (p : Rec → Bool) : State × Out :=
  if !found then (s, .errNotFound)
  else ({ registry := s.registry.filter keep,
          recs := s.recs.map fun r => if p r then cancel .unsubscribed r else r }, .ok)

theorem step_unsub (s : State) (c q : Str) :
    step s (.unsub c q) = unsubWith s (s.registry.contains (c, q)) (· != (c, q)) (·.isFor c q) := rfl

theorem step_unsubAll (s : State) (c : Str) :
    step s (.unsubAll c) = unsubWith s (s.registry.any (·.1 == c)) (·.1 != c) (·.client == c) := rfl

theorem unsubWith_other (c : Str) (s : State) (found : Bool) (keep : Str × Str → Bool) (p : Rec → Bool)
    (hk : ∀ x : Str × Str, (x.1 == c) = true → keep x = true)
    (hp : ∀ r : Rec, (r.client == c) = true → p r = false) :
    viewS c (unsubWith s found keep p).1 = viewS c s := by
  unfold unsubWith
  split
  · rfl
  · simp only [viewS]
    rw [filter_filter_of_imp _ _ hk,
      filter_map_of_fix _ _ (cancelIf_id (idOnly_client c) _) (fun x hx => by rw [hp x hx]; rfl)]

theorem unsubWith_own (c : Str) (s : State) (found : Bool) (keep : Str × Str → Bool) (p : Rec → Bool) :
    viewS c (unsubWith s found keep p).1 = (unsubWith (viewS c s) found keep p).1 ∧
    (unsubWith s found keep p).2 = (unsubWith (viewS c s) found keep p).2 := by
  unfold unsubWith
  split
  · exact ⟨rfl, rfl⟩
  · refine ⟨?_, rfl⟩
    simp only [viewS, List.filter_filter]
    congr 1
    · exact List.filter_congr fun _ _ => Bool.and_comm _ _
    · exact filter_map_comm _ _ (cancelIf_id (idOnly_client c) p) _

/-- an op of another client leaves `c`'s view untouched -/
theorem step_irrelevant (c : Str) (s : State) (o : PsOp) (h : relevant c o = false) :
    viewS c (step s o).1 = viewS c s := by
  cases o with
  | pub m => cases h
  | sub c' q ast cap =>
    have hne : c' ≠ c := by simpa [relevant] using h
    simp only [step]
    split
    · rfl
    · have hb : (c' == c) = false := beq_eq_false_iff_ne.mpr hne
      simp only [viewS, List.filter_append]
      rw [filter_filter_of_imp _ _ (fun x hx => by rw [isFor_of_client_ne q hx hne]; rfl)]
      simp only [List.filter_cons, List.filter_nil, hb, Bool.false_eq_true, if_false, List.append_nil]
  | unsub c' q =>
    have hne : c' ≠ c := by simpa [relevant] using h
    rw [step_unsub]
    exact unsubWith_other c s _ _ _ (fun p hp => bne_iff_ne.mpr fun e => hne (by rw [← beq_iff_eq.mp hp, e]))
      (fun x hx => isFor_of_client_ne q hx hne)
  | unsubAll c' =>
    have hne : c' ≠ c := by simpa [relevant] using h
    rw [step_unsubAll]
    exact unsubWith_other c s _ _ _ (fun p hp => bne_iff_ne.mpr fun e => hne (by rw [← e, beq_iff_eq.mp hp]))
      (fun x hx => beq_eq_false_iff_ne.mpr fun e => hne (by rw [← e, beq_iff_eq.mp hx]))
  | read c' q =>
    have hne : c' ≠ c := by simpa [relevant] using h
    simp only [step, viewS]
    congr 1
    apply mapFirst_filter_other
    · intro r hr
      exact beq_eq_false_iff_ne.mpr fun e => hne (by rw [← isFor_client hr, e])
    · exact readRec_id (idOnly_client c)


theorem viewS_contains (c : Str) (s : State) (q : Str) :
    (viewS c s).registry.contains (c, q) = s.registry.contains (c, q) := by
  rw [Bool.eq_iff_iff, List.contains_iff_mem, List.contains_iff_mem, viewS, List.mem_filter]
  exact ⟨fun h => h.1, fun h => ⟨h, beq_self_eq_true c⟩⟩

theorem viewS_any (c : Str) (s : State) :
    (viewS c s).registry.any (·.1 == c) = s.registry.any (·.1 == c) := by
  rw [viewS, List.any_filter]
  exact congrArg _ (funext fun x => Bool.and_self _)

/-- an op of `c` itself, or a publication, acts on `c`'s view exactly as it would act if `c` were
the only client; the answer to `c`'s own op is the same too -/
theorem step_relevant (c : Str) (s : State) (o : PsOp) (h : relevant c o = true) :
    viewS c (step s o).1 = (step (viewS c s) o).1 ∧
    (ownOp c o = true → (step s o).2 = (step (viewS c s) o).2) := by
  cases o with
  | pub m =>
    refine ⟨?_, by simp [ownOp]⟩
    simp only [step, viewS]
    congr 1
    exact filter_map_comm _ _ (deliver_id (idOnly_client c) m) _
  | sub c' q ast cap =>
    have he : c' = c := by simpa [relevant] using h
    subst he
    simp only [step]
    rw [viewS_contains]
    by_cases hreg : s.registry.contains (c', q) = true
    · rw [if_pos hreg, if_pos hreg]
      exact ⟨rfl, fun _ => rfl⟩
    · rw [if_neg hreg, if_neg hreg]
      refine ⟨?_, fun _ => rfl⟩
      simp only [viewS, List.filter_append, List.filter_filter]
      congr 1
      · simp
      · congr 1
        · exact List.filter_congr fun _ _ => Bool.and_comm _ _
        · simp
  | unsub c' q =>
    have he : c' = c := by simpa [relevant] using h
    subst he
    rw [step_unsub, step_unsub, viewS_contains]
    exact (unsubWith_own c' s _ _ _).imp_right fun h _ => h
  | unsubAll c' =>
    have he : c' = c := by simpa [relevant] using h
    subst he
    rw [step_unsubAll, step_unsubAll, viewS_any]
    exact (unsubWith_own c' s _ _ _).imp_right fun h _ => h
  | read c' q =>
    have he : c' = c := by simpa [relevant] using h
    subst he
    have := mapFirst_filter_own (·.isFor c' q) (·.client == c') readRec
      (fun r hr => by simp [isFor_client hr]) (readRec_id (idOnly_client c')) s.recs
    simp only [step, viewS]
    refine ⟨?_, fun _ => this.2⟩
    congr 1
    exact this.1


/-! ### one subscription followed through a history -/

def isSub (c q : Str) : PsOp → Bool
  | .sub c' q' _ _ => c' == c && q' == q
  | _ => false

/-- the publications a subscriber with query `ast` is owed: those its own query matches -/
def owed (ast : Query) : List PsOp → List Msg
  | [] => []
  | .pub m :: rest =>
    match «matches» ast m.2 with
    | .ok true => m :: owed ast rest
    | _ => owed ast rest
  | _ :: rest => owed ast rest

/-- everything the client has got or can still get from this subscription object, in order -/
def Rec.content (r : Rec) : List Msg := r.taken ++ r.queue

theorem isFor_iff (r : Rec) (c q : Str) : r.isFor c q = true ↔ r.client = c ∧ r.qstr = q := by
  simp [Rec.isFor]

theorem isFor_other {x : Rec} {c q c' q' : Str} (h : x.isFor c q = true) (hne : ¬ (c' = c ∧ q' = q)) :
    x.isFor c' q' = false := by
  obtain ⟨h1, h2⟩ := (isFor_iff x c q).mp h
  refine Bool.eq_false_iff.mpr fun h' => hne ?_
  obtain ⟨k1, k2⟩ := (isFor_iff x c' q').mp h'
  exact ⟨k1.symm.trans h1, k2.symm.trans h2⟩

theorem owed_of_not_pub (ast : Query) (o : PsOp) (h : ∀ m, o ≠ .pub m) : owed ast [o] = [] := by
  cases o with
  | pub m => exact absurd rfl (h m)
  | _ => rfl

theorem sub_fresh (s : State) (c q : Str) (ast : Query) (cap : Nat)
    (hsub : (step s (.sub c q ast cap)).2 = .ok) :
    (step s (.sub c q ast cap)).1.recs.filter (·.isFor c q) =
      [{ client := c, qstr := q, query := ast, cap := cap, queue := [], taken := [], status := .active }] := by
  simp only [step] at hsub ⊢
  split at hsub
  · cases hsub
  · rename_i hreg
    simp only [hreg, if_false, Bool.false_eq_true, List.filter_append, List.filter_filter]
    have : List.filter (fun x : Rec => x.isFor c q && !x.isFor c q) s.recs = [] :=
      List.filter_eq_nil_iff.mpr fun x _ => by simp
    rw [this]
    simp [Rec.isFor]

/-- what one command other than a re-subscription of the pair does to the pair's subscription object -/
def RecStep : PsOp → Rec → Rec → Prop
  | .pub m, r, r' => r' = deliver m r
  | _, r, r' => r' = r ∨ r' = cancel .unsubscribed r ∨ r' = (readRec r).1

theorem step_rec_cases (c q : Str) (s : State) (r : Rec) (o : PsOp)
    (hf : s.recs.filter (·.isFor c q) = [r]) (ho : isSub c q o = false) :
    ∃ r', (step s o).1.recs.filter (·.isFor c q) = [r'] ∧ RecStep o r r' := by
  have hr : r.isFor c q = true := by
    have : r ∈ s.recs.filter (·.isFor c q) := by rw [hf]; simp
    exact (List.mem_filter.mp this).2
  have cancelCase : ∀ found keep p, ∃ r', (unsubWith s found keep p).1.recs.filter (·.isFor c q) = [r'] ∧
      (r' = r ∨ r' = cancel .unsubscribed r ∨ r' = (readRec r).1) := fun found keep p => by
    unfold unsubWith
    split
    · exact ⟨r, hf, Or.inl rfl⟩
    · simp only
      rw [filter_map_comm _ _ (cancelIf_id (idOnly_isFor c q) p), hf, List.map_cons, List.map_nil]
      split
      · exact ⟨_, rfl, Or.inr (Or.inl rfl)⟩
      · exact ⟨_, rfl, Or.inl rfl⟩
  cases o with
  | sub c' q' ast cap =>
    have hne : ¬ (c' = c ∧ q' = q) := by simpa [isSub] using ho
    refine ⟨r, ?_, Or.inl rfl⟩
    simp only [step]
    split
    · exact hf
    · have hb : (c' == c && q' == q) = false := Bool.eq_false_iff.mpr fun h => hne (by simpa using h)
      rw [List.filter_append, filter_filter_of_imp _ _ (fun x hx => by rw [isFor_other hx hne]; rfl), hf]
      simp only [List.filter_cons, List.filter_nil, Rec.isFor, hb, Bool.false_eq_true, if_false, List.append_nil]
  | unsub c' q' => exact cancelCase _ _ _
  | unsubAll c' => exact cancelCase _ _ _
  | pub m =>
    simp only [step]
    rw [filter_map_comm _ _ (deliver_id (idOnly_isFor c q) m), hf]
    exact ⟨_, rfl, rfl⟩
  | read c' q' =>
    simp only [step]
    by_cases he : c' = c ∧ q' = q
    · obtain ⟨rfl, rfl⟩ := he
      have := (mapFirst_filter_own (·.isFor c' q') (·.isFor c' q') readRec (fun _ h => h)
        (readRec_id (idOnly_isFor c' q')) s.recs).1
      rw [this, hf]
      simp only [mapFirst, hr, if_true]
      exact ⟨_, rfl, Or.inr (Or.inr rfl)⟩
    · refine ⟨r, ?_, Or.inl rfl⟩
      rw [mapFirst_filter_other _ _ _ _ (readRec_id (idOnly_isFor c q)), hf]
      intro x hx
      exact Bool.eq_false_iff.mpr fun h' => by rw [isFor_other h' he] at hx; cases hx

theorem owed_append (ast : Query) (a b : List PsOp) : owed ast (a ++ b) = owed ast a ++ owed ast b := by
  induction a with
  | nil => rfl
  | cons o rest ih =>
    cases o <;> simp only [List.cons_append, owed, ih]
    split <;> simp

theorem owed_pub_match {ast : Query} {m : Msg} (h : «matches» ast m.2 = .ok true) :
    owed ast [.pub m] = [m] := by
  simp only [owed, h]

theorem owed_pub_nomatch {ast : Query} {m : Msg} (h : «matches» ast m.2 ≠ .ok true) :
    owed ast [.pub m] = [] := by
  simp only [owed]

/-- the subscription object of a `Subscribe(_, _, ast, cap)` once the publications `seen` that its
own query matches have gone by -/
structure SubInv (ast : Query) (cap : Nat) (seen : List Msg) (r : Rec) : Prop where
  query_eq : r.query = ast
  cap_eq : r.cap = cap
  /-- received and buffered: a prefix of what was owed, without gaps, repetitions or reordering -/
  pre : r.content <+: seen
  all : r.status = .active → r.content = seen
  room : cap > 0 → r.queue.length ≤ cap
  unbuffered : cap = 0 → r.status ≠ .cancelled .outOfCapacity

theorem SubInv.deliver {ast : Query} {cap : Nat} {seen : List Msg} {r : Rec}
    (h : SubInv ast cap seen r) (m : Msg) : SubInv ast cap (seen ++ owed ast [.pub m]) (deliver m r) := by
  obtain ⟨hq, hcap, hpre, hall, hroom, hunb⟩ := h
  rcases deliver_cases m r with ⟨e, hno⟩ | ⟨ha, hm, ⟨e, hlt⟩ | ⟨e, hpos⟩⟩ <;> rw [e]
  · refine ⟨hq, hcap, hpre.trans (List.prefix_append _ _), fun ha => ?_, hroom, hunb⟩
    rw [owed_pub_nomatch (hq ▸ hno ha), List.append_nil]
    exact hall ha
  · rw [owed_pub_match (hq ▸ hm)]
    have hc : ({ r with queue := r.queue ++ [m] } : Rec).content = seen ++ [m] := by
      rw [← hall ha, Rec.content, Rec.content, List.append_assoc]
    refine ⟨hq, hcap, hc ▸ List.prefix_refl _, fun _ => hc, fun hc0 => ?_, hunb⟩
    have := hlt (hcap ▸ hc0)
    rw [← hcap]
    simp only [List.length_append, List.length_singleton]
    omega
  · refine ⟨hq, hcap, hpre.trans (List.prefix_append _ _), fun ha' => (by cases ha'), hroom, fun hc0 => ?_⟩
    exact absurd (hcap.trans hc0) (Nat.ne_of_gt hpos)

theorem SubInv.quiet {ast : Query} {cap : Nat} {seen : List Msg} {r r' : Rec} (h : SubInv ast cap seen r)
    (hs : r' = r ∨ r' = cancel .unsubscribed r ∨ r' = (readRec r).1) : SubInv ast cap seen r' := by
  obtain ⟨hq, hcap, hpre, hall, hroom, hunb⟩ := h
  rcases hs with rfl | rfl | rfl
  · exact ⟨hq, hcap, hpre, hall, hroom, hunb⟩
  · unfold cancel
    split
    · exact ⟨hq, hcap, hpre, fun ha' => (by cases ha'), hroom, fun _ hs => (by cases hs)⟩
    · exact ⟨hq, hcap, hpre, hall, hroom, hunb⟩
  · unfold readRec
    split
    · rename_i m rest hqu
      have hc : ({ r with queue := rest, taken := r.taken ++ [m] } : Rec).content = r.content := by
        simp only [Rec.content, hqu, List.append_assoc, List.singleton_append]
      refine ⟨hq, hcap, hc ▸ hpre, fun ha => hc ▸ hall ha, fun hc0 => ?_, hunb⟩
      have := hroom hc0
      rw [hqu, List.length_cons] at this
      exact Nat.le_of_succ_le this
    · split <;> exact ⟨hq, hcap, hpre, hall, hroom, hunb⟩

theorem SubInv.next {ast : Query} {cap : Nat} {seen : List Msg} {r r' : Rec} {o : PsOp}
    (h : SubInv ast cap seen r) (hs : RecStep o r r') : SubInv ast cap (seen ++ owed ast [o]) r' :=
  match o, hs with
  | .pub m, hs => hs ▸ h.deliver m
  | .sub .., hs | .unsub .., hs | .unsubAll .., hs | .read .., hs => (List.append_nil seen).symm ▸ h.quiet hs

theorem SubInv.along (c q : Str) {ast : Query} {cap : Nat} (post : List PsOp) :
    ∀ (seen : List Msg) (s : State) (r : Rec), SubInv ast cap seen r →
      s.recs.filter (·.isFor c q) = [r] → (∀ o ∈ post, isSub c q o = false) →
      ∃ r', (PubSub.run s post).recs.filter (·.isFor c q) = [r'] ∧
        SubInv ast cap (seen ++ owed ast post) r' := by
  induction post with
  | nil =>
    intro seen s r h hf _
    exact ⟨r, hf, by rw [show owed ast [] = [] from rfl, List.append_nil]; exact h⟩
  | cons o rest ih =>
    intro seen s r h hf hp
    obtain ⟨r1, hf1, hcase⟩ := step_rec_cases c q s r o hf (hp o List.mem_cons_self)
    obtain ⟨r', hf', h'⟩ := ih _ (PubSub.step s o).1 r1 (h.next hcase) hf1
      fun o' ho' => hp o' (List.mem_cons_of_mem _ ho')
    refine ⟨r', hf', ?_⟩
    rw [List.append_assoc, ← owed_append] at h'
    exact h'

/-- **The subscription object** created by a successful `Subscribe(c, q, ast, cap)`, after any later
history without a re-subscription of the pair: it is the pair's only one and satisfies `SubInv` for
the publications of that history its query matches.  `once_in_order_or_cancelled` and
`capacity_respected` (Props/C19) are its clauses. -/
theorem sub_object (s : State) (c q : Str) (ast : Query) (cap : Nat) (post : List PsOp)
    (hsub : (step s (.sub c q ast cap)).2 = .ok) (hpost : ∀ o ∈ post, isSub c q o = false) :
    ∃ r, (run (step s (.sub c q ast cap)).1 post).recs.filter (·.isFor c q) = [r] ∧
      SubInv ast cap (owed ast post) r := by
  have := SubInv.along c q post [] _ _ (ast := ast) (cap := cap)
    ⟨rfl, rfl, List.prefix_refl _, fun _ => rfl, fun _ => Nat.zero_le _, fun _ h => by cases h⟩
    (sub_fresh s c q ast cap hsub) hpost
  rwa [List.nil_append] at this

end Tmv.PubSub
