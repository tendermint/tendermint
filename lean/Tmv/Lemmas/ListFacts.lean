/-! Facts about lists, and the guard step of an if-chain, that regions without a common import share. -/
namespace Tmv

theorem nodup_concat {α : Type} {l : List α} {k : α} (h : l.Nodup) (hk : k ∉ l) : (l ++ [k]).Nodup :=
  (List.perm_append_singleton k l).nodup_iff.2 (List.nodup_cons.2 ⟨hk, h⟩)

theorem foldl_frame {α β γ : Type} (f : β → α → β) (p : β → γ) (l : List α) (b : β)
    (h : ∀ a ∈ l, ∀ b, p (f b a) = p b) : p (l.foldl f b) = p b :=
  List.foldlRecOn (motive := fun b' => p b' = p b) l f rfl fun b' hb a ha => (h a ha b').trans hb

theorem perm_sum_int {l l' : List Int} (h : l.Perm l') : l.sum = l'.sum := by
  induction h with
  | nil => rfl
  | cons x _ ih => rw [List.sum_cons, List.sum_cons, ih]
  | swap x y l => rw [List.sum_cons, List.sum_cons, List.sum_cons, List.sum_cons, Int.add_left_comm]
  | trans _ _ ih₁ ih₂ => exact ih₁.trans ih₂

theorem getElem?_map_range {α : Type} (f : Nat → α) (n i : Nat) :
    ((List.range n).map f)[i]? = if i < n then some (f i) else none := by
  by_cases h : i < n
  · rw [if_pos h, List.getElem?_map, List.getElem?_range h]; rfl
  · rw [if_neg h, List.getElem?_eq_none_iff]; simpa using h

theorem getElem?_map_range_some {α : Type} (f : Nat → α) {n i : Nat} {x : α}
    (h : ((List.range n).map f)[i]? = some x) : i < n ∧ x = f i := by
  rw [getElem?_map_range] at h
  split at h <;> cases h
  exact ⟨‹_›, rfl⟩

theorem getD_map_range {α : Type} (f : Nat → α) (n i : Nat) (d : α) (h : i < n) :
    ((List.range n).map f).getD i d = f i := by
  rw [List.getD_eq_getElem?_getD, getElem?_map_range, if_pos h]; rfl

theorem of_ite_ne {α : Type} {c : Prop} [Decidable c] {bad x good : α}
    (h : (if c then bad else x) = good) (hne : bad ≠ good) : ¬ c ∧ x = good := by
  by_cases hc : c
  · rw [if_pos hc] at h; exact absurd h hne
  · rw [if_neg hc] at h; exact ⟨hc, h⟩

end Tmv
