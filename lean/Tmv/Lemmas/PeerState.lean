import Tmv.Model.PeerState
/-! Invariant of the consensus peer state under validated messages and the node's gossip calls. -/
namespace Tmv.PeerState
open Tmv.PeerMsgs

/-- a bit array the peer state may hold: nil, or consistent, non-empty and at most `B` bits -/
def Good (B : Int) : Option BitArr → Prop
  | none => True
  | some b => 1 ≤ b.bits ∧ b.bits ≤ B ∧ (b.elems : Int) = (b.bits + 63) / 64

structure Inv (B : Int) (p : PRS) : Prop where
  pbp : Good B p.pbp
  pol : Good B p.pol
  prevotes : Good B p.prevotes
  precommits : Good B p.precommits
  lastCommit : Good B p.lastCommit
  catchup : Good B p.catchup

/-- consistent (possibly empty) array, as the node or a validated VoteSetBits provides -/
def Consistent : Option BitArr → Prop
  | none => True
  | some b => 0 ≤ b.bits ∧ (b.elems : Int) = (b.bits + 63) / 64

theorem good_none (B : Int) : Good B none := trivial

theorem Good.ite {B : Int} {c : Prop} [Decidable c] {a b : Option BitArr} (ha : Good B a)
    (hb : Good B b) : Good B (if c then a else b) := by
  split <;> assumption

theorem Inv.ite {B : Int} {c : Prop} [Decidable c] {p q : PRS} (hp : Inv B p) (hq : Inv B q) :
    Inv B (if c then p else q) := by
  split <;> assumption

theorem inv_init (B : Int) : Inv B {} := ⟨trivial, trivial, trivial, trivial, trivial, trivial⟩

theorem good_consistent (B : Int) (a : Option BitArr) (h : Good B a) : Consistent a := by
  cases a with
  | none => trivial
  | some b => exact ⟨by have := h.1; omega, h.2.2⟩

theorem consistent_of_validateBasic (a : Option BitArr) (h : BitArr.validateBasic a = true) : Consistent a := by
  cases a with
  | none => trivial
  | some b =>
    simp only [BitArr.validateBasic, Bool.and_eq_true, decide_eq_true_eq] at h
    exact h

theorem good_of_validateBasic (B : Int) (a : Option BitArr) (hv : BitArr.validateBasic a = true)
    (h0 : size a ≠ 0) (hB : size a ≤ B) : Good B a := by
  cases a with
  | none => trivial
  | some b =>
    have hc := consistent_of_validateBasic _ hv
    simp only [size] at h0 hB
    exact ⟨by have := hc.1; omega, hB, hc.2⟩

theorem good_newBitArray (B n : Int) (h : n ≤ B) : Good B (newBitArray n) := by
  unfold newBitArray
  split
  · trivial
  · simp only [Good]
    omega

/-- with `len(Elems) = (Bits+63)/64` no non-negative index leaves `Elems` (at or above `Bits` the
code returns early) -/
theorem indexPanics_consistent (b : Option BitArr) (h : Consistent b) (i : Int) (hi : 0 ≤ i) :
    indexPanics b i = false := by
  cases b with
  | none => rfl
  | some a =>
    simp only [indexPanics]
    split
    · rfl
    · have h1 : ¬ (Int.tdiv i 64 < 0) := by
        have := Int.tdiv_nonneg hi (by decide : (0:Int) ≤ 64); omega
      have h2 : ¬ (Int.tdiv i 64 ≥ (a.elems : Int)) := by
        rw [h.2, Int.tdiv_eq_ediv_of_nonneg hi]; omega
      simp [h1, h2]

theorem good_setIndex (B : Int) (b : Option BitArr) (h : Good B b) (i : Int) (hi : 0 ≤ i) :
    setIndex b i = some () := by
  simp [setIndex, indexPanics_consistent b (good_consistent B b h) i hi]

/-- in sizes, the copy of a consistent array is the array -/
theorem copyBits_self (x : BitArr) (h : Consistent (some x)) : copyBits x.bits = some x := by
  obtain ⟨h0, he⟩ := h
  have hn : numElems x.bits = (x.bits + 63) / 64 := Int.tdiv_eq_ediv_of_nonneg (by omega)
  rw [copyBits, hn, if_neg (by omega), ← he, Int.toNat_natCast]

/-- `Sub` from a consistent array does not panic, whatever the argument (the loop runs over the shorter
of the two `Elems`); in sizes the result is nil or the first operand -/
theorem sub_ok (a o : Option BitArr) (ha : Consistent a) : sub a o = some none ∨ sub a o = some a := by
  cases a with
  | none => exact Or.inl rfl
  | some x =>
    cases o with
    | none => exact Or.inl rfl
    | some y =>
      have : subLoopOk (min x.elems y.elems) x.elems y.elems = true := by
        simp only [subLoopOk, Bool.and_eq_true, decide_eq_true_eq]; omega
      right
      simp only [sub, subWith, copyBits_self x ha, this, if_true]

/-- `Or` of consistent arrays does not panic; in sizes the result is the longer operand -/
theorem or_ok (a o : Option BitArr) (ha : Consistent a) (ho : Consistent o) :
    or a o = some a ∨ or a o = some o := by
  cases a with
  | none => cases o <;> exact Or.inr rfl
  | some x =>
    cases o with
    | none => exact Or.inl rfl
    | some y =>
      by_cases hxy : y.bits ≤ x.bits
      · left
        simp only [or, Int.max_eq_left hxy, copyBits_self x ha]
        rw [if_neg (by omega)]
      · right
        simp only [or, Int.max_eq_right (Int.le_of_not_le hxy), copyBits_self y ho]
        rw [if_neg (by omega)]

theorem pickRandomOk_good (B : Int) (a : Option BitArr) (h : Good B a) : pickRandomOk a = true := by
  cases a with
  | none => rfl
  | some x =>
    obtain ⟨h1, _, h2⟩ := h
    simp only [pickRandomOk, Bool.and_eq_true, decide_eq_true_eq]
    omega

/-- what the gossip routines do with an array `o` of the peer: `ours.Sub(o).PickRandom()` on a
fresh array of the node's size -/
theorem sub_pickRandom_ok (n : Int) (o : Option BitArr) :
    ∃ d, sub (newBitArray n) o = some d ∧ pickRandomOk d = true := by
  have gn := good_newBitArray n n (Int.le_refl n)
  rcases sub_ok _ o (good_consistent n _ gn) with h | h
  · exact ⟨_, h, rfl⟩
  · exact ⟨_, h, pickRandomOk_good n _ gn⟩

theorem good_getVoteBitArray (B : Int) (p : PRS) (h : Inv B p) (height round t : Int) :
    Good B (getVoteBitArray p height round t) :=
  -- leaf by leaf along the `if`s of `getVoteBitArray`
  .ite trivial <| .ite
    (.ite (.ite h.prevotes h.precommits) <| .ite (.ite trivial h.catchup) <|
      .ite (.ite h.pol trivial) trivial) <|
    .ite (.ite (.ite trivial h.lastCommit) trivial) trivial

theorem inv_applyNewRoundStep (B : Int) (p : PRS) (m : NewRoundStep) (h : Inv B p) :
    Inv B (applyNewRoundStep p m) := by
  unfold applyNewRoundStep
  extract_lets step psHeight psRound psCatchupRound psCatchup p1 p2 p3 p4
  have i1 : Inv B p1 := ⟨h.pbp, h.pol, h.prevotes, h.precommits, h.lastCommit, h.catchup⟩
  have i2 : Inv B p2 := .ite ⟨trivial, trivial, trivial, trivial, i1.lastCommit, i1.catchup⟩ i1
  have i3 : Inv B p3 :=
    .ite ⟨i2.pbp, i2.pol, i2.prevotes, h.catchup, i2.lastCommit, i2.catchup⟩ i2
  have i4 : Inv B p4 :=
    .ite ⟨i3.pbp, i3.pol, i3.prevotes, i3.precommits, i3.precommits, i3.catchup⟩
      ⟨i3.pbp, i3.pol, i3.prevotes, i3.precommits, trivial, i3.catchup⟩
  exact .ite h (.ite ⟨i4.pbp, i4.pol, i4.prevotes, i4.precommits, i4.lastCommit, trivial⟩ i3)

theorem inv_ensureVoteBitArrays (B : Int) (p : PRS) (height n : Int) (hn : n ≤ B) (h : Inv B p) :
    Inv B (ensureVoteBitArrays p height n) :=
  have g := good_newBitArray B n hn
  .ite ⟨h.pbp, .ite g h.pol, .ite g h.prevotes, .ite g h.precommits, h.lastCommit, .ite g h.catchup⟩ <|
    .ite ⟨h.pbp, h.pol, h.prevotes, h.precommits, .ite g h.lastCommit, h.catchup⟩ h

theorem inv_ensureCatchupCommitRound (B : Int) (p : PRS) (height round n : Int) (hn : n ≤ B) (h : Inv B p) :
    Inv B (ensureCatchupCommitRound p height round n) :=
  .ite h <| .ite h
    ⟨h.pbp, h.pol, h.prevotes, h.precommits, h.lastCommit, .ite h.precommits (good_newBitArray B n hn)⟩

theorem setHasVote_ok (B : Int) (p : PRS) (h : Inv B p) (height round t i : Int) (hi : 0 ≤ i) :
    setHasVote p height round t i = some p := by
  unfold setHasVote
  have g := good_getVoteBitArray B p h height round t
  cases hb : getVoteBitArray p height round t with
  | none => rfl
  | some b =>
    rw [hb] at g
    simp [good_setIndex B (some b) g i hi]

theorem setHasProposalBlockPart_ok (B : Int) (p : PRS) (h : Inv B p) (height round i : Int) (hi : 0 ≤ i) :
    setHasProposalBlockPart p height round i = some p := by
  unfold setHasProposalBlockPart
  split
  · rfl
  · simp [good_setIndex B p.pbp h.pbp i hi]

theorem newValidBlock_valid (m : NewValidBlock) (h : m.valid = true) :
    BitArr.validateBasic m.parts = true ∧ size m.parts ≠ 0 ∧ size m.parts ≤ maxBlockPartsCount := by
  simp only [NewValidBlock.valid, Bool.ite_then_false] at h
  exact ⟨Decidable.not_not.mp h.2.2.2.1, h.2.2.2.2.1, Int.not_lt.mp h.2.2.2.2.2.2.1⟩

theorem proposalPOL_valid (m : ProposalPOL) (h : m.valid = true) :
    BitArr.validateBasic m.pol = true ∧ size m.pol ≠ 0 ∧ size m.pol ≤ maxVotesCount := by
  simp only [ProposalPOL.valid, Bool.ite_then_false] at h
  exact ⟨Decidable.not_not.mp h.2.2.1, h.2.2.2.1, Int.not_lt.mp h.2.2.2.2.1⟩

theorem voteSetBits_valid (m : VoteSetBits) (h : m.valid = true) :
    BitArr.validateBasic m.votes = true := by
  simp only [VoteSetBits.valid, Bool.ite_then_false] at h
  exact Decidable.not_not.mp h.2.2.2.1

theorem hasVote_index (m : HasVote) (h : m.valid = true) : 0 ≤ m.index := by
  simp only [HasVote.valid, Bool.ite_then_false] at h
  exact Int.not_lt.mp h.2.2.2.1

/-- everything that can touch a peer's state: the peer's messages (after `ValidateBasic`) and the
calls of the node's own gossip routines, with the node-side inputs they use -/
inductive Op
  | newRoundStep (m : NewRoundStep)
  | newValidBlock (m : NewValidBlock) (isCommit : Bool)
  | proposalPOL (m : ProposalPOL)
  | hasVote (m : HasVote)
  | voteSetBits (m : VoteSetBits) (t : Int) (ourVotes : Option BitArr)
  | proposal (height round polRound : Int) (total : Nat)
  | blockPart (height round : Int) (index : Nat)
  | vote (nodeHeight valSize lastCommitSize vh vr vt vidx : Int)
  | pickSendVote (v : OurVotes) (pick : Option Int)
  | gossipPart (ourTotal : Int) (pick : Option Int)
  | catchupPart (pick : Option Int)
  | initParts (total : Nat)

/-- the transition; `none` = the Go code panics -/
def step (p : PRS) : Op → Option PRS
  | .newRoundStep m => some (applyNewRoundStep p m)
  | .newValidBlock m c => some (applyNewValidBlock p m c)
  | .proposalPOL m => some (applyProposalPOL p m)
  | .hasVote m => applyHasVote p m
  | .voteSetBits m t our => applyVoteSetBits p m t our
  | .proposal h r pr total => some (setHasProposal p h r pr total)
  | .blockPart h r i => setHasProposalBlockPart p h r i
  | .vote nh vs lcs vh vr vt vi => receiveVote p nh vs lcs vh vr vt vi
  | .pickSendVote v pick => pickSendVote p v pick
  | .gossipPart t pick => gossipPart p t pick
  | .catchupPart pick => gossipCatchupPart p pick
  | .initParts total => some (initProposalBlockParts p total)

/-- what is known about an op: messages passed `ValidateBasic` (for a proposal: the part-count
bound); what the node supplies is consistent and at most `B` (its validator count / part count);
an index returned by `PickRandom` is non-negative. `True` where nothing of the message sizes or
indexes an array: a NewRoundStep only moves or clears arrays, a BlockPart's index is a `uint32`
(`Nat` in `Op.blockPart`). `0 ≤ vi` for a vote is `Vote.ValidateBasic` ("negative ValidatorIndex").
`step_ok` does not use the `Consistent our` of a VoteSetBits (`sub_ok` asks nothing of its second
argument) nor the `t ≤ B` of a gossipPart (`sub_pickRandom_ok` holds for any size of the node's array). -/
def Op.admissible (B : Int) : Op → Prop
  | .newRoundStep _ => True
  | .newValidBlock m _ => m.valid = true
  | .proposalPOL m => m.valid = true
  | .hasVote m => m.valid = true
  | .voteSetBits m _ our => m.valid = true ∧ Consistent our
  | .proposal _ _ _ total => (total : Int) ≤ maxBlockPartsCount
  | .blockPart _ _ _ => True
  | .vote _ vs lcs _ _ _ vi => vs ≤ B ∧ lcs ≤ B ∧ 0 ≤ vi
  | .pickSendVote v pick => v.size ≤ B ∧ ∀ i, pick = some i → 0 ≤ i
  | .gossipPart t pick => t ≤ B ∧ ∀ i, pick = some i → 0 ≤ i
  | .catchupPart pick => ∀ i, pick = some i → 0 ≤ i
  | .initParts total => (total : Int) ≤ B

/-- `validated_handlers_in_bounds`, one step: from a peer state whose arrays are all `Good`, an
admissible op never panics and leaves all arrays `Good` -/
theorem step_ok (B : Int) (hB1 : maxBlockPartsCount ≤ B) (hB2 : maxVotesCount ≤ B)
    (p : PRS) (h : Inv B p) (op : Op) (ha : op.admissible B) :
    ∃ p', step p op = some p' ∧ Inv B p' := by
  cases op with
  | newRoundStep m => exact ⟨_, rfl, inv_applyNewRoundStep B p m h⟩
  | newValidBlock m c =>
    obtain ⟨hv, h0, hmax⟩ := newValidBlock_valid m ha
    have g := good_of_validateBasic B m.parts hv h0 (Int.le_trans hmax hB1)
    exact ⟨_, rfl, .ite h (.ite h ⟨g, h.pol, h.prevotes, h.precommits, h.lastCommit, h.catchup⟩)⟩
  | proposalPOL m =>
    obtain ⟨hv, h0, hmax⟩ := proposalPOL_valid m ha
    have g := good_of_validateBasic B m.pol hv h0 (Int.le_trans hmax hB2)
    exact ⟨_, rfl, .ite h (.ite h ⟨h.pbp, g, h.prevotes, h.precommits, h.lastCommit, h.catchup⟩)⟩
  | hasVote m =>
    refine ⟨p, ?_, h⟩
    simp only [step, applyHasVote]
    split
    · rfl
    · exact setHasVote_ok B p h _ _ _ _ (hasVote_index m ha)
  | voteSetBits m t our =>
    refine ⟨p, ?_, h⟩
    simp only [step, applyVoteSetBits]
    have g := good_getVoteBitArray B p h m.height m.round t
    cases hb : getVoteBitArray p m.height m.round t with
    | none => rfl
    | some v =>
      rw [hb] at g
      cases our with
      | none => rfl
      | some o =>
        have hv := consistent_of_validateBasic _ (voteSetBits_valid m ha.1)
        have gc := good_consistent B _ g
        rcases sub_ok (some v) (some o) gc with hr | hr
        · rcases or_ok none m.votes trivial hv with h2 | h2 <;> simp [hr, h2]
        · rcases or_ok (some v) m.votes gc hv with h2 | h2 <;> simp [hr, h2]
  | proposal hh r pr total =>
    have g := good_newBitArray B total (Int.le_trans ha hB1)
    have h1 : Inv B { p with proposal := true } :=
      ⟨h.pbp, h.pol, h.prevotes, h.precommits, h.lastCommit, h.catchup⟩
    exact ⟨_, rfl, .ite h (.ite h (.ite h1
      ⟨g, trivial, h.prevotes, h.precommits, h.lastCommit, h.catchup⟩))⟩
  | blockPart hh r i => exact ⟨p, setHasProposalBlockPart_ok B p h hh r i (by omega), h⟩
  | vote nh vs lcs vh vr vt vi =>
    obtain ⟨a1, a2, a3⟩ := ha
    have i2 := inv_ensureVoteBitArrays B _ (nh - 1) lcs a2 (inv_ensureVoteBitArrays B p nh vs a1 h)
    exact ⟨_, setHasVote_ok B _ i2 vh vr vt vi a3, i2⟩
  | pickSendVote v pick =>
    obtain ⟨a1, a2⟩ := ha
    simp only [step, pickSendVote]
    split
    · exact ⟨p, rfl, h⟩
    · have i2 := inv_ensureVoteBitArrays B _ v.height v.size a1
        (Inv.ite (c := v.isCommit = true) (inv_ensureCatchupCommitRound B p v.height v.round v.size a1 h) h)
      generalize ensureVoteBitArrays _ v.height v.size = p2 at i2
      cases hb : getVoteBitArray p2 v.height v.round v.type with
      | none => exact ⟨p2, rfl, i2⟩
      | some ps =>
        obtain ⟨d, hd, hpk⟩ := sub_pickRandom_ok v.size (some ps)
        simp only [hd, hpk]
        cases pick with
        | none => exact ⟨p2, by simp, i2⟩
        | some i => exact ⟨p2, by simpa using setHasVote_ok B p2 i2 _ _ _ i (a2 i rfl), i2⟩
  | gossipPart t pick =>
    obtain ⟨d, hd, hpk⟩ := sub_pickRandom_ok t p.pbp
    simp only [step, gossipPart, hd, hpk]
    cases pick with
    | none => exact ⟨p, by simp, h⟩
    | some i => exact ⟨p, by simpa using setHasProposalBlockPart_ok B p h _ _ i (ha.2 i rfl), h⟩
  | catchupPart pick =>
    simp only [step, gossipCatchupPart, not, pickRandomOk_good B p.pbp h.pbp]
    cases pick with
    | none => exact ⟨p, by simp, h⟩
    | some i => exact ⟨p, by simpa using setHasProposalBlockPart_ok B p h _ _ i (ha i rfl), h⟩
  | initParts total =>
    exact ⟨_, rfl, .ite h ⟨good_newBitArray B total ha, h.pol, h.prevotes, h.precommits, h.lastCommit, h.catchup⟩⟩

/-- a run of ops from a peer state; `none` as soon as one step panics -/
def run : PRS → List Op → Option PRS
  | p, [] => some p
  | p, op :: ops => (step p op).bind fun p' => run p' ops

theorem run_ok (B : Int) (hB1 : maxBlockPartsCount ≤ B) (hB2 : maxVotesCount ≤ B) (ops : List Op) :
    ∀ (p : PRS), Inv B p → (∀ op ∈ ops, op.admissible B) → ∃ p', run p ops = some p' ∧ Inv B p' := by
  induction ops with
  | nil => intro p h _; exact ⟨p, rfl, h⟩
  | cons op ops ih =>
    intro p h ha
    obtain ⟨p1, h1, i1⟩ := step_ok B hB1 hB2 p h op (ha op (by simp))
    obtain ⟨p2, h2, i2⟩ := ih p1 i1 (fun o ho => ha o (by simp [ho]))
    exact ⟨p2, by simp [run, h1, h2], i2⟩

end Tmv.PeerState
