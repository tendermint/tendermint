import Tmv.Lemmas.Evidence
/-! The invariant of the evidence pool (`PoolInv`, with `Fresh`; `Inv` for the system) and what each
operation does to it. Each part of the pool's code gets a relation between the pool before and the pool
after (`Keeps`, `KeepsW`, `KeepsC`, `KeepsP`, `UpdateOk`), which carries the invariant of the pool
after, the fields left alone, and what happens to pending items and committed keys. `Later` is what
all of them imply; `step_spec` states it, together with the invariant, of every operation of the
system, and `committed_forever` and `pending_survives` of Props/C11 are its two halves.

The system the theorems of Props/C11 quantify over is defined here too: `Reach`, with `GoodOp` and
`MonoTime`, next to `reach_inv`. It cannot stand in the model file: `GoodOp` is `GoodPair`, which
speaks of `DVProves` (Lemmas/Evidence). -/
namespace Tmv.Evidence
variable (c : Ctx)

/-- a vote pair reported by consensus is genuine: the evidence formed from it against the
validator set of its height verifies (consensus only reports votes whose signatures it checked) -/
def GoodPair (v1 v2 : Vote) : Prop :=
  ∀ b, blockAt c v1.height = some b → ∀ t d, newDVE v1 v2 t b.vals = some d → DVProves c d b.vals

structure PoolInv (storeH : Int) (p : Pool) : Prop where
  size : p.size = u32 p.pending.length
  sorted : Sorted c p.pending
  disj : ∀ e ∈ p.pending, key c e ∉ p.committed
  proven : ∀ e ∈ p.pending, Proves c storeH e
  buf : ∀ pr ∈ p.buffer, GoodPair c pr.1 pr.2

/-- no pending item has expired (by both limits) under the pool's state -/
def Fresh (p : Pool) : Prop := ∀ e ∈ p.pending, expired p.state e.height e.time = false

theorem PoolInv.not_pending {c : Ctx} {storeH : Int} {p : Pool} (hi : PoolInv c storeH p) {e : Ev}
    (hc : isCommitted c p e = true) : isPending c p e = false :=
  (isPending_false_iff c p e).2 fun x hx hk => hi.disj x hx (hk ▸ (isCommitted_iff c p e).1 hc)

@[simp] theorem addPending_state (p : Pool) (e : Ev) : (addPending c p e).state = p.state := rfl
@[simp] theorem addPending_committed (p : Pool) (e : Ev) : (addPending c p e).committed = p.committed := rfl
@[simp] theorem addPending_buffer (p : Pool) (e : Ev) : (addPending c p e).buffer = p.buffer := rfl
@[simp] theorem addPending_pending (p : Pool) (e : Ev) :
    (addPending c p e).pending = setPending c e p.pending := rfl
@[simp] theorem removePending_state (p : Pool) (e : Ev) : (removePending c p e).state = p.state := rfl
@[simp] theorem removePending_committed (p : Pool) (e : Ev) :
    (removePending c p e).committed = p.committed := rfl
@[simp] theorem removePending_buffer (p : Pool) (e : Ev) : (removePending c p e).buffer = p.buffer := rfl
@[simp] theorem removePending_pending (p : Pool) (e : Ev) :
    (removePending c p e).pending = p.pending.filter (fun x => !(key c x == key c e)) := rfl

theorem addPending_inv {storeH : Int} {p : Pool} {e : Ev} (hi : PoolInv c storeH p)
    (hp : isPending c p e = false) (hc : isCommitted c p e = false) (hv : Proves c storeH e) :
    PoolInv c storeH (addPending c p e) := by
  have hp' := (isPending_false_iff c p e).1 hp
  refine ⟨?_, ?_, ?_, ?_, hi.buf⟩
  · show u32 (p.size + 1) = u32 (setPending c e p.pending).length
    rw [length_setPending_new c hp']
    exact u32_succ _ _ hi.size
  · exact setPending_sorted c hi.sorted
  · intro x hx
    rcases mem_of_mem_setPending c hx with h | h
    · subst h; exact (isCommitted_false_iff c p x).1 hc
    · exact hi.disj x h
  · intro x hx
    rcases mem_of_mem_setPending c hx with h | h
    · subst h; exact hv
    · exact hi.proven x h

theorem addPending_fresh {p : Pool} {e : Ev} (hf : Fresh p)
    (he : expired p.state e.height e.time = false) : Fresh (addPending c p e) := by
  intro x hx
  rcases mem_of_mem_setPending c hx with h | h
  · subst h; exact he
  · exact hf x h

theorem isPending_addPending_self (p : Pool) (e : Ev) : isPending c (addPending c p e) e = true := by
  rw [isPending_iff]; exact ⟨e, mem_setPending_self c e _, rfl⟩

theorem isPending_addPending_of (p : Pool) (e x : Ev) (h : isPending c p x = true) :
    isPending c (addPending c p e) x = true := by
  rw [isPending_iff] at *
  obtain ⟨y, hy, hk⟩ := h
  by_cases hye : key c y = key c e
  · exact ⟨e, mem_setPending_self c e _, by rw [← hye, hk]⟩
  · exact ⟨y, mem_setPending_of_mem c hy hye, hk⟩

theorem removePending_inv {storeH : Int} {p : Pool} {e : Ev} (hi : PoolInv c storeH p)
    (hp : isPending c p e = true) : PoolInv c storeH (removePending c p e) := by
  have hp' := (isPending_iff c p e).1 hp
  refine ⟨?_, ?_, ?_, ?_, hi.buf⟩
  · show u32 (p.size + 4294967295) = u32 (p.pending.filter _).length
    have := length_filter_key c hi.sorted hp'
    apply u32_pred
    rw [this]; exact hi.size
  · exact hi.sorted.filter _
  · intro x hx; simp at hx; exact hi.disj x hx.1
  · intro x hx; simp at hx; exact hi.proven x hx.1

theorem removePending_fresh {p : Pool} {e : Ev} (hf : Fresh p) : Fresh (removePending c p e) := by
  intro x hx; simp at hx; exact hf x hx.1

theorem mem_removePending {p : Pool} {e x : Ev} :
    x ∈ (removePending c p e).pending ↔ x ∈ p.pending ∧ key c x ≠ key c e := by
  simp

/-- what `AddEvidence` and the loop of `CheckEvidence` keep -/
structure Keeps (storeH : Int) (p q : Pool) : Prop where
  inv : PoolInv c storeH q
  fresh : Fresh p → Fresh q
  state : q.state = p.state
  committed : q.committed = p.committed
  buffer : q.buffer = p.buffer
  grows : ∀ x, isPending c p x = true → isPending c q x = true
  len : p.pending.length ≤ q.pending.length
  mem : ∀ x ∈ p.pending, x ∈ q.pending

theorem Keeps.refl {storeH : Int} {p : Pool} (hi : PoolInv c storeH p) : Keeps c storeH p p :=
  ⟨hi, id, rfl, rfl, rfl, fun _ h => h, Nat.le_refl _, fun _ h => h⟩

theorem Keeps.trans {storeH : Int} {p q r : Pool} (h1 : Keeps c storeH p q) (h2 : Keeps c storeH q r) :
    Keeps c storeH p r :=
  ⟨h2.inv, fun h => h2.fresh (h1.fresh h), h2.state.trans h1.state, h2.committed.trans h1.committed,
   h2.buffer.trans h1.buffer, fun x h => h2.grows x (h1.grows x h), Nat.le_trans h1.len h2.len,
   fun x h => h2.mem x (h1.mem x h)⟩

/-- what the flush of the consensus buffer in `Update` keeps: `Keeps` without `fresh` and `len`
(`Keeps.toW`), as the flush may add evidence that has expired -/
structure KeepsW (storeH : Int) (p q : Pool) : Prop where
  inv : PoolInv c storeH q
  state : q.state = p.state
  committed : q.committed = p.committed
  buffer : q.buffer = p.buffer
  grows : ∀ x, isPending c p x = true → isPending c q x = true
  mem : ∀ x ∈ p.pending, x ∈ q.pending

theorem KeepsW.refl {storeH : Int} {p : Pool} (hi : PoolInv c storeH p) : KeepsW c storeH p p :=
  ⟨hi, rfl, rfl, rfl, fun _ h => h, fun _ h => h⟩

theorem KeepsW.trans {storeH : Int} {p q r : Pool} (h1 : KeepsW c storeH p q) (h2 : KeepsW c storeH q r) :
    KeepsW c storeH p r :=
  ⟨h2.inv, h2.state.trans h1.state, h2.committed.trans h1.committed,
   h2.buffer.trans h1.buffer, fun x h => h2.grows x (h1.grows x h), fun x h => h2.mem x (h1.mem x h)⟩

theorem Keeps.toW {storeH : Int} {p q : Pool} (h : Keeps c storeH p q) : KeepsW c storeH p q :=
  ⟨h.inv, h.state, h.committed, h.buffer, h.grows, h.mem⟩

/-- the one change that `AddEvidence`, `CheckEvidence` and the flush of the buffer make: a proven item
with a new key becomes pending -/
theorem KeepsW.add {storeH : Int} {p : Pool} {e : Ev} (hi : PoolInv c storeH p)
    (hp : isPending c p e = false) (hc : isCommitted c p e = false) (hv : Proves c storeH e) :
    KeepsW c storeH p (addPending c p e) :=
  ⟨addPending_inv c hi hp hc hv, rfl, rfl, rfl, fun x hx => isPending_addPending_of c p e x hx,
   fun x hx => mem_setPending_of_mem c hx ((isPending_false_iff c p e).1 hp x hx)⟩

theorem Keeps.add {storeH : Int} {p : Pool} {e : Ev} (hi : PoolInv c storeH p)
    (hp : isPending c p e = false) (hc : isCommitted c p e = false)
    (hv : verify c storeH p.state e = .ok ()) : Keeps c storeH p (addPending c p e) :=
  have h := (verify_ok_iff c _ _ _).1 hv
  have w := KeepsW.add c hi hp hc h.1
  ⟨w.inv, fun hf => addPending_fresh c hf h.2, rfl, rfl, rfl, w.grows,
   by simp [length_setPending_new c ((isPending_false_iff c p e).1 hp)], w.mem⟩

theorem addEvidence_cases (storeH : Int) (p : Pool) (e : Ev) :
    (addEvidence c storeH p e).1 = p ∨
    (isPending c p e = false ∧ isCommitted c p e = false ∧ verify c storeH p.state e = .ok () ∧
      (addEvidence c storeH p e).1 = addPending c p e) := by
  unfold addEvidence
  split
  · exact .inl rfl
  · split
    · exact .inl rfl
    · split
      · exact .inl rfl
      · rename_i hp hc _ _ hv
        exact .inr ⟨by simpa using hp, by simpa using hc, hv, rfl⟩

theorem addEvidence_keeps {storeH : Int} {p : Pool} (e : Ev) (hi : PoolInv c storeH p) :
    Keeps c storeH p (addEvidence c storeH p e).1 := by
  rcases addEvidence_cases c storeH p e with h | ⟨hp, hc, hv, h⟩
  · rw [h]; exact Keeps.refl c hi
  · rw [h]; exact Keeps.add c hi hp hc hv

theorem addEvidence_inv {storeH : Int} {p : Pool} (e : Ev) (hi : PoolInv c storeH p) :
    PoolInv c storeH (addEvidence c storeH p e).1 :=
  (addEvidence_keeps c e hi).inv

theorem addEvidence_fresh {storeH : Int} {p : Pool} (e : Ev) (hf : Fresh p) :
    Fresh (addEvidence c storeH p e).1 := by
  rcases addEvidence_cases c storeH p e with h | ⟨_, _, hv, h⟩
  · rw [h]; exact hf
  · rw [h]; exact addPending_fresh c hf ((verify_ok_iff c _ _ _).1 hv).2

theorem addEvidence_same {storeH : Int} (p : Pool) (e : Ev) :
    (addEvidence c storeH p e).1.state = p.state ∧ (addEvidence c storeH p e).1.committed = p.committed ∧
    (addEvidence c storeH p e).1.buffer = p.buffer := by
  rcases addEvidence_cases c storeH p e with h | ⟨_, _, _, h⟩
  · rw [h]; exact ⟨rfl, rfl, rfl⟩
  · rw [h]; exact ⟨rfl, rfl, rfl⟩

/-- what `CheckEvidence` does with one item before the duplicate test: a verdict that ends the
call, or the pool to go on with -/
def checkStep (storeH : Int) (p : Pool) (e : Ev) : Pool × Option Res :=
  if e.isLCA || !(isPending c p e) then
    if isCommitted c p e then (p, some .committed)
    else match verify c storeH p.state e with
      | .error x => (p, some (.invalid x))
      | .ok _ => (if isPending c p e then p else addPending c p e, none)
  else (p, none)

theorem checkLoop_cons (storeH : Int) (p : Pool) (seen : List Nat) (e : Ev) (rest : List Ev) :
    checkLoop c storeH p seen (e :: rest) =
      match checkStep c storeH p e with
      | (p', some r) => (p', r)
      | (p', none) =>
        if seen.contains (c.H e) then (p', .duplicate)
        else checkLoop c storeH p' (c.H e :: seen) rest := rfl

theorem checkStep_some {storeH : Int} {p p' : Pool} {e : Ev} {r : Res}
    (h : checkStep c storeH p e = (p', some r)) : p' = p ∧ r ≠ .ok := by
  unfold checkStep at h
  split at h
  · split at h
    · cases h; exact ⟨rfl, by simp⟩
    · split at h
      · cases h; exact ⟨rfl, by simp⟩
      · cases h
  · cases h

theorem checkStep_none {storeH : Int} {p p' : Pool} {e : Ev} (hi : PoolInv c storeH p)
    (h : checkStep c storeH p e = (p', none)) :
    Keeps c storeH p p' ∧ key c e ∉ p.committed ∧
      ((Proves c storeH e ∧ (Fresh p → expired p.state e.height e.time = false)) ∨
        ∃ x, x ≠ e ∧ key c x = key c e) := by
  unfold checkStep at h
  split at h
  · split at h
    · cases h
    · rename_i hc
      split at h
      · cases h
      · rename_i hv
        have hvv := (verify_ok_iff c _ _ _).1 hv
        have hnc : key c e ∉ p.committed := fun hm => hc ((isCommitted_iff c p e).2 hm)
        refine ⟨?_, hnc, Or.inl ⟨hvv.1, fun _ => hvv.2⟩⟩
        simp only [Prod.mk.injEq, and_true] at h
        rw [← h]
        split
        · exact Keeps.refl c hi
        · rename_i hp
          exact Keeps.add c hi (by simpa using hp) (by simpa using hc) hv
  · rename_i hcond
    cases h
    refine ⟨Keeps.refl c hi, ?_⟩
    simp only [Bool.or_eq_true, Bool.not_eq_eq_eq_not, Bool.not_true, not_or, Bool.not_eq_true,
      Bool.not_eq_false] at hcond
    obtain ⟨x, hx, hxe⟩ := (isPending_iff c p e).1 hcond.2
    refine ⟨by rw [← hxe]; exact hi.disj x hx, ?_⟩
    by_cases hxx : x = e
    · subst hxx; exact Or.inl ⟨hi.proven x hx, fun hf => hf x hx⟩
    · exact Or.inr ⟨x, hxx, hxe⟩

theorem checkStep_of_ok {storeH : Int} {p : Pool} {e : Ev}
    (he : (e.isLCA = false ∧ isPending c p e = true) ∨
      (isCommitted c p e = false ∧ verify c storeH p.state e = .ok ())) :
    ∃ p', checkStep c storeH p e = (p', none) := by
  unfold checkStep
  split
  · rename_i hcond
    rcases he with ⟨h1, h2⟩ | ⟨h1, h2⟩
    · simp [h1, h2] at hcond
    · rw [h1, h2]; exact ⟨_, rfl⟩
  · exact ⟨_, rfl⟩

theorem checkLoop_keeps {storeH : Int} (l : List Ev) :
    ∀ (p : Pool) (seen : List Nat), PoolInv c storeH p → Keeps c storeH p (checkLoop c storeH p seen l).1 := by
  induction l with
  | nil => intro p seen hi; exact Keeps.refl c hi
  | cons e rest ih =>
    intro p seen hi
    rw [checkLoop_cons]
    split
    · rename_i p' r hstep
      rw [(checkStep_some c hstep).1]; exact Keeps.refl c hi
    · rename_i p' hstep
      have hk := (checkStep_none c hi hstep).1
      split
      · exact hk
      · exact Keeps.trans c hk (ih p' _ hk.inv)

theorem checkLoop_sound {storeH : Int} (l : List Ev) :
    ∀ (p : Pool) (seen : List Nat), PoolInv c storeH p →
      (checkLoop c storeH p seen l).2 = .ok →
      ∀ e ∈ l, key c e ∉ p.committed ∧
        ((Proves c storeH e ∧ (Fresh p → expired p.state e.height e.time = false)) ∨
          ∃ x, x ≠ e ∧ key c x = key c e) := by
  induction l with
  | nil => intro p seen _ _ e he; cases he
  | cons e rest ih =>
    intro p seen hi hok
    rw [checkLoop_cons] at hok
    split at hok
    · rename_i p' r hstep
      exact absurd hok (checkStep_some c hstep).2
    · rename_i p' hstep
      split at hok
      · cases hok
      · obtain ⟨hk, hhead⟩ := checkStep_none c hi hstep
        intro y hy
        rcases List.mem_cons.mp hy with rfl | hy
        · exact hhead
        · -- the rest is checked against `p'`, which has the state and committed set of `p`
          have := ih p' _ hk.inv hok y hy
          rw [hk.state, hk.committed] at this
          refine ⟨this.1, this.2.imp_left fun ⟨h1, h2⟩ => ⟨h1, fun hf => h2 (hk.fresh hf)⟩⟩

theorem checkLoop_nodup {storeH : Int} (l : List Ev) :
    ∀ (p : Pool) (seen : List Nat), (checkLoop c storeH p seen l).2 = .ok →
      (l.map c.H).Nodup ∧ ∀ e ∈ l, c.H e ∉ seen := by
  induction l with
  | nil => intro p seen _; simp
  | cons e rest ih =>
    intro p seen hok
    rw [checkLoop_cons] at hok
    split at hok
    · rename_i p' r hstep
      exact absurd hok (checkStep_some c hstep).2
    · rename_i p' hstep
      split at hok
      · cases hok
      · rename_i hns
        have ⟨h1, h2⟩ := ih p' _ hok
        simp only [List.contains_eq_mem, decide_eq_true_eq] at hns
        simp only [List.map_cons, List.nodup_cons, List.mem_map, not_exists, not_and,
          List.forall_mem_cons]
        refine ⟨⟨fun y hy hye => ?_, h1⟩, hns, fun y hy => ?_⟩
        · exact h2 y hy (by rw [hye]; exact List.mem_cons_self)
        · exact fun hm => h2 y hy (List.mem_cons_of_mem _ hm)

theorem newDVE_some {v1 v2 : Vote} {t : Int} {vals : List Validator} {d : DV}
    (h : newDVE v1 v2 t vals = some d) :
    d.time = t ∧ ((d.a = v1 ∧ d.b = v2) ∨ (d.a = v2 ∧ d.b = v1)) := by
  unfold newDVE at h
  split at h
  · simp at h
  · simp at h
    split at h <;> (subst h; simp)

theorem formed_proves {storeH : Int} {v1 v2 : Vote} {b : Block} {d : DV}
    (hb : blockAt c v1.height = some b) (hh : v1.height ≤ storeH) (hg : GoodPair c v1 v2)
    (hd : newDVE v1 v2 b.time b.vals = some d) : Proves c storeH (.dv d) := by
  have hp := hg b hb b.time d hd
  obtain ⟨ht, hab⟩ := newDVE_some hd
  have hheight : d.a.height = v1.height := by
    obtain ⟨val, _, hh2, _⟩ := hp
    rcases hab with ⟨h1, _⟩ | ⟨h1, h2⟩
    · rw [h1]
    · rw [hh2, h2]
  unfold Proves
  simp only [Ev.height, Ev.time, hheight, ht]
  refine ⟨?_, b.vals, ?_, hp⟩
  · simp [metaTime, hh, hb]
  · simp [loadVals, hh, hb]


theorem stateAt_height (h : Int) : (stateAt c h).height = h := by
  unfold stateAt; split <;> rfl

theorem formEvidence_some {storeH h : Int} {v1 v2 : Vote} {d : DV} (hh : h ≤ storeH)
    (hf : formEvidence c storeH (stateAt c h) v1 v2 = some (some d)) :
    ∃ b, blockAt c v1.height = some b ∧ v1.height ≤ h ∧ newDVE v1 v2 b.time b.vals = some d := by
  unfold formEvidence at hf
  rw [stateAt_height] at hf
  split at hf
  · rename_i heq
    cases hb : blockAt c h with
    | none =>
      simp [stateAt, hb, newDVE] at hf
    | some b =>
      simp [stateAt, hb] at hf
      exact ⟨b, by rw [heq]; exact hb, by omega, hf⟩
  · split at hf
    · rename_i hlt
      have hle : v1.height ≤ storeH := by omega
      cases hb : blockAt c v1.height with
      | none => simp [loadVals, hle, hb] at hf
      | some b =>
        simp [loadVals, metaTime, hle, hb] at hf
        exact ⟨b, rfl, by omega, hf⟩
    · simp at hf

theorem formEvidence_proves {storeH h : Int} {v1 v2 : Vote} {d : DV} (hh : h ≤ storeH)
    (hg : GoodPair c v1 v2) (hf : formEvidence c storeH (stateAt c h) v1 v2 = some (some d)) :
    Proves c storeH (.dv d) := by
  obtain ⟨b, hb, hle, hd⟩ := formEvidence_some c hh hf
  exact formed_proves c hb (by omega) hg hd

theorem formEvidence_of_block {storeH h : Int} {v1 v2 : Vote} {b : Block} (hh : h ≤ storeH)
    (hb : blockAt c v1.height = some b) (hle : v1.height ≤ h) :
    formEvidence c storeH (stateAt c h) v1 v2 = some (newDVE v1 v2 b.time b.vals) := by
  unfold formEvidence
  rw [stateAt_height]
  by_cases heq : v1.height = h
  · rw [if_pos heq]
    rw [heq] at hb
    simp [stateAt, hb]
  · rw [if_neg heq, if_pos (by omega)]
    have hle : v1.height ≤ storeH := by omega
    simp [loadVals, metaTime, hle, hb]

/-- the head of the buffer loop: it dies (evidence that cannot be formed), or goes on with a pool in which
the head's evidence is pending unless it was committed before -/
theorem flushBuffer_cons {storeH h : Int} (hh : h ≤ storeH) {p : Pool} {v1 v2 : Vote}
    (rest : List (Vote × Vote)) (hi : PoolInv c storeH p) (hg : GoodPair c v1 v2) :
    flushBuffer c storeH (stateAt c h) p ((v1, v2) :: rest) = (p, true) ∨
    ∃ p', flushBuffer c storeH (stateAt c h) p ((v1, v2) :: rest) =
        flushBuffer c storeH (stateAt c h) p' rest ∧ KeepsW c storeH p p' ∧
      ∀ d, formEvidence c storeH (stateAt c h) v1 v2 = some (some d) →
        isPending c p' (.dv d) = true ∨ isCommitted c p (.dv d) = true := by
  rw [flushBuffer]
  cases hf : formEvidence c storeH (stateAt c h) v1 v2 with
  | none => exact .inr ⟨p, by dsimp only, .refl c hi, fun _ hd => nomatch hd⟩
  | some o =>
    cases o with
    | none => exact .inl (by dsimp only)
    | some d0 =>
      refine .inr ?_
      dsimp only
      by_cases hp : isPending c p (.dv d0) = true
      · exact ⟨p, by rw [if_pos hp], .refl c hi, fun d hd => by cases hd; exact .inl hp⟩
      rw [if_neg hp]
      by_cases hc : isCommitted c p (.dv d0) = true
      · exact ⟨p, by rw [if_pos hc], .refl c hi, fun d hd => by cases hd; exact .inr hc⟩
      rw [if_neg hc]
      exact ⟨_, rfl, .add c hi (by simpa using hp) (by simpa using hc) (formEvidence_proves c hh hg hf),
        fun d hd => by cases hd; exact .inl (isPending_addPending_self c p _)⟩

/-- every buffered pair whose evidence can be formed is pending afterwards, unless it was
committed already (or the loop died) -/
theorem flushBuffer_spec {storeH h : Int} (hh : h ≤ storeH) (l : List (Vote × Vote)) :
    ∀ p, PoolInv c storeH p → (∀ pr ∈ l, GoodPair c pr.1 pr.2) →
      KeepsW c storeH p (flushBuffer c storeH (stateAt c h) p l).1 ∧
      ((flushBuffer c storeH (stateAt c h) p l).2 = false →
        ∀ pr ∈ l, ∀ d, formEvidence c storeH (stateAt c h) pr.1 pr.2 = some (some d) →
          isPending c (flushBuffer c storeH (stateAt c h) p l).1 (.dv d) = true ∨ isCommitted c p (.dv d) = true) := by
  induction l with
  | nil => intro p hi _; exact ⟨.refl c hi, fun _ _ h => nomatch h⟩
  | cons pr0 rest ih =>
    intro p hi hg
    rcases flushBuffer_cons c hh rest hi (hg pr0 List.mem_cons_self) with e | ⟨p', e, hk, hd⟩
    · rw [e]; exact ⟨.refl c hi, nofun⟩
    · rw [e]
      obtain ⟨hr, hp⟩ := ih p' hk.inv fun pr h => hg pr (List.mem_cons_of_mem _ h)
      refine ⟨hk.trans c hr, fun hok pr hpr d hf => ?_⟩
      rcases List.mem_cons.1 hpr with rfl | hpr
      · exact (hd d hf).imp_left (hr.grows _)
      · exact (hp hok pr hpr d hf).imp_right ((isCommitted_congr c hk.committed _).symm.trans ·)

/-- what `markEvidenceAsCommitted` keeps -/
structure KeepsC (storeH : Int) (p q : Pool) : Prop where
  inv : PoolInv c storeH q
  fresh : Fresh p → Fresh q
  state : q.state = p.state
  buffer : q.buffer = p.buffer
  sub : ∀ x ∈ q.pending, x ∈ p.pending
  comm : ∀ k ∈ p.committed, k ∈ q.committed
  keep : ∀ x ∈ p.pending, x ∈ q.pending ∨ key c x ∈ q.committed

theorem KeepsC.refl {storeH : Int} {p : Pool} (hi : PoolInv c storeH p) : KeepsC c storeH p p :=
  ⟨hi, id, rfl, rfl, fun _ h => h, fun _ h => h, fun _ h => Or.inl h⟩

theorem KeepsC.trans {storeH : Int} {p q r : Pool} (h1 : KeepsC c storeH p q) (h2 : KeepsC c storeH q r) :
    KeepsC c storeH p r :=
  ⟨h2.inv, fun h => h2.fresh (h1.fresh h), h2.state.trans h1.state, h2.buffer.trans h1.buffer,
   fun x h => h1.sub x (h2.sub x h), fun k h => h2.comm k (h1.comm k h),
   fun x h => by
     rcases h1.keep x h with h | h
     · exact h2.keep x h
     · exact Or.inr (h2.comm _ h)⟩

/-- one round of the loop of `markCommitted` -/
def commitOne (p : Pool) (e : Ev) : Pool :=
  let p1 := if isPending c p e then removePending c p e else p
  if p1.committed.contains (key c e) then p1 else { p1 with committed := key c e :: p1.committed }

theorem markCommitted_cons (p : Pool) (e : Ev) (rest : List Ev) :
    markCommitted c p (e :: rest) = markCommitted c (commitOne c p e) rest := by
  simp [markCommitted, commitOne]

theorem commitOne_spec {storeH : Int} {p : Pool} (e : Ev) (hi : PoolInv c storeH p) :
    KeepsC c storeH p (commitOne c p e) ∧ key c e ∈ (commitOne c p e).committed := by
  unfold commitOne
  by_cases hp : isPending c p e = true
  · simp only [hp, ↓reduceIte]
    have hi1 := removePending_inv c hi hp
    have hsub : ∀ x ∈ (removePending c p e).pending, x ∈ p.pending := by
      intro x hx; simp at hx; exact hx.1
    have hne : ∀ x ∈ (removePending c p e).pending, key c x ≠ key c e := by
      intro x hx; simp at hx; exact hx.2
    split
    · rename_i hc
      refine ⟨⟨hi1, fun hf => removePending_fresh c hf, rfl, rfl, hsub, fun k hk => hk, ?_⟩, by simpa using hc⟩
      intro x hx
      by_cases hk : key c x = key c e
      · right; rw [hk]; simpa using hc
      · left; simp; exact ⟨hx, hk⟩
    · refine ⟨⟨⟨hi1.size, hi1.sorted, ?_, hi1.proven, hi1.buf⟩, fun hf => removePending_fresh c hf, rfl, rfl,
        hsub, fun k hk => by simp [hk], ?_⟩, by simp⟩
      · intro x hx
        simp only [List.mem_cons, not_or]
        exact ⟨hne x hx, hi1.disj x hx⟩
      · intro x hx
        by_cases hk : key c x = key c e
        · right; simp [hk]
        · left; simp; exact ⟨hx, hk⟩
  · have hpf : isPending c p e = false := by simpa using hp
    simp only [hpf, Bool.false_eq_true, ↓reduceIte]
    have hp' := (isPending_false_iff c p e).1 hpf
    split
    · rename_i hc
      exact ⟨KeepsC.refl c hi, by simpa using hc⟩
    · refine ⟨⟨⟨hi.size, hi.sorted, ?_, hi.proven, hi.buf⟩, id, rfl, rfl, fun _ h => h,
        fun k hk => by simp [hk], fun x hx => Or.inl hx⟩, by simp⟩
      intro x hx
      simp only [List.mem_cons, not_or]
      exact ⟨hp' x hx, hi.disj x hx⟩

theorem markCommitted_spec {storeH : Int} (l : List Ev) :
    ∀ p, PoolInv c storeH p →
      KeepsC c storeH p (markCommitted c p l) ∧ ∀ e ∈ l, key c e ∈ (markCommitted c p l).committed := by
  induction l with
  | nil => intro p hi; exact ⟨by simpa [markCommitted] using KeepsC.refl c hi, by simp⟩
  | cons e rest ih =>
    intro p hi
    rw [markCommitted_cons]
    obtain ⟨h1, h2⟩ := commitOne_spec c e hi
    obtain ⟨h3, h4⟩ := ih _ h1.inv
    refine ⟨KeepsC.trans c h1 h3, ?_⟩
    intro x hx
    simp at hx
    rcases hx with hx | hx
    · subst hx; exact h3.comm _ h2
    · exact h4 x hx

/-- block times do not decrease with the height (chain validity: BFT time is monotone) -/
def MonoTime : Prop :=
  ∀ h1 h2 b1 b2, h1 ≤ h2 → blockAt c h1 = some b1 → blockAt c h2 = some b2 → b1.time ≤ b2.time

theorem MonoTime.of_pairwise {c : Ctx} (h : (c.blocks.map (·.time)).Pairwise (· ≤ ·)) : MonoTime c := by
  intro h1 h2 b1 b2 hle e1 e2
  unfold blockAt at e1 e2
  split at e1
  · split at e2
    · obtain ⟨i1, rfl⟩ := List.getElem?_eq_some_iff.1 e1
      obtain ⟨i2, rfl⟩ := List.getElem?_eq_some_iff.1 e2
      rcases Nat.lt_or_ge (h1 - 1).toNat (h2 - 1).toNat with hlt | hge
      · have := List.pairwise_iff_getElem.1 h (h1 - 1).toNat (h2 - 1).toNat (by simpa using i1) (by simpa using i2) hlt
        simpa using this
      · have : (h1 - 1).toNat = (h2 - 1).toNat := by omega
        simp only [this]; exact Int.le_refl _
    · cases e2
  · cases e1

theorem expired_mono {st : State} {h1 h2 t1 t2 : Int} (hh : h1 ≤ h2) (ht : t1 ≤ t2)
    (h : expired st h1 t1 = false) : expired st h2 t2 = false := by
  unfold expired at *
  simp at *
  omega

theorem proves_block {storeH : Int} {e : Ev} (h : Proves c storeH e) :
    ∃ b, blockAt c e.height = some b ∧ b.time = e.time := by
  have h1 := h.1
  unfold metaTime at h1
  split at h1
  · cases hb : blockAt c e.height with
    | none => simp [hb] at h1
    | some b => simp [hb] at h1; exact ⟨b, rfl, h1⟩
  · simp at h1

theorem fresh_of_head {storeH : Int} (hm : MonoTime c) {st : State} {y : Ev} {ys : List Ev}
    (hs : Sorted c (y :: ys)) (hp : ∀ x ∈ y :: ys, Proves c storeH x)
    (hy : expired st y.height y.time = false) : ∀ x ∈ y :: ys, expired st x.height x.time = false := by
  intro x hx
  simp at hx
  rcases hx with hx | hx
  · subst hx; exact hy
  · have hle : y.height ≤ x.height := keyLt_height (((Sorted_cons c).1 hs).1 x hx)
    obtain ⟨b1, hb1, ht1⟩ := proves_block c (hp y (by simp))
    obtain ⟨b2, hb2, ht2⟩ := proves_block c (hp x (by simp [hx]))
    have := hm _ _ _ _ hle hb1 hb2
    exact expired_mono hle (by omega) hy

/-- what `removeExpiredPendingEvidence` under the state `st` keeps; `head`: the walk stops at the
first item that has not expired -/
structure KeepsP (storeH : Int) (st : State) (p q : Pool) : Prop where
  inv : PoolInv c storeH q
  state : q.state = p.state
  committed : q.committed = p.committed
  buffer : q.buffer = p.buffer
  sub : ∀ x ∈ q.pending, x ∈ p.pending
  keep : ∀ x ∈ p.pending, x ∈ q.pending ∨ expired st x.height x.time = true
  head : ∀ y ys, q.pending = y :: ys → expired st y.height y.time = false

/-- the walk of `removeExpiredPendingEvidence` drops the expired prefix of the key-ordered pending list; `KeepsP`
and `Fresh` follow under `MonoTime` (`Pruned.spec`). `size` is conditional because `NewPool` runs the walk with
the counter at 0 -/
structure Pruned (st : State) (p q : Pool) : Prop where
  pending : q.pending = p.pending.dropWhile fun e => expired st e.height e.time
  committed : q.committed = p.committed
  buffer : q.buffer = p.buffer
  state : q.state = p.state
  size : p.size = u32 p.pending.length → q.size = u32 q.pending.length

theorem removeExpiredLoop_pruned (st : State) : ∀ (l : List Ev) (p : Pool), Sorted c l → p.pending = l →
    Pruned st p (removeExpiredLoop c st p l).1 := by
  intro l
  induction l with
  | nil => intro p _ hl; exact ⟨by show p.pending = _; rw [hl]; rfl, rfl, rfl, rfl, id⟩
  | cons e rest ih =>
    intro p hs hl
    unfold removeExpiredLoop
    by_cases hex : expired st e.height e.time = true
    · simp only [hex, Bool.not_true, Bool.false_eq_true, ↓reduceIte]
      -- keys are unique, so removing the head's key removes the head only
      have hl' : (removePending c p e).pending = rest := by
        rw [removePending_pending, hl]; exact filter_head c hs
      have h := ih (removePending c p e) (sorted_tail c hs) hl'
      refine ⟨by rw [h.pending, hl', hl, List.dropWhile_cons, if_pos hex], h.committed, h.buffer, h.state,
        fun hz => h.size (u32_pred _ _ ?_)⟩
      rw [hz, hl, hl']; rfl
    · simp only [hex, Bool.not_false, ↓reduceIte]
      exact ⟨by rw [hl, List.dropWhile_cons, if_neg hex], rfl, rfl, rfl, id⟩

theorem mem_dropWhile_or {α : Type} (f : α → Bool) {l : List α} {x : α} (hx : x ∈ l) :
    x ∈ l.dropWhile f ∨ f x = true := by
  induction l with
  | nil => cases hx
  | cons y ys ih =>
    rw [List.dropWhile_cons]
    by_cases hy : f y = true
    · rw [if_pos hy]
      rcases List.mem_cons.1 hx with rfl | h
      · exact .inr hy
      · exact ih h
    · rw [if_neg hy]; exact .inl hx

theorem Pruned.spec {storeH : Int} (hm : MonoTime c) {p q : Pool} (hi : PoolInv c storeH p)
    (h : Pruned p.state p q) (hz : q.size = u32 q.pending.length) :
    KeepsP c storeH p.state p q ∧ Fresh q := by
  have hsub : q.pending.Sublist p.pending := h.pending ▸ List.dropWhile_sublist _
  have hhead : ∀ y ys, q.pending = y :: ys → expired p.state y.height y.time = false := by
    intro y ys hy
    have := List.head?_dropWhile_not (fun e => expired p.state e.height e.time) p.pending
    rw [← h.pending, hy] at this
    exact this
  have hinv : PoolInv c storeH q :=
    ⟨hz, hi.sorted.sublist hsub, fun e he => h.committed ▸ hi.disj e (hsub.subset he),
      fun e he => hi.proven e (hsub.subset he), fun pr hpr => hi.buf pr (h.buffer ▸ hpr)⟩
  refine ⟨⟨hinv, h.state, h.committed, h.buffer, fun x hx => hsub.subset hx,
    fun x hx => h.pending ▸ mem_dropWhile_or _ hx, hhead⟩, ?_⟩
  -- the first item left has not expired, and the later ones are younger
  unfold Fresh
  rw [h.state]
  cases hpd : q.pending with
  | nil => intro x hx; cases hx
  | cons y ys =>
    have hs := hinv.sorted
    have hpr := hinv.proven
    rw [hpd] at hs hpr
    exact fresh_of_head c hm hs hpr (hhead y ys hpd)

theorem removeExpired_spec {storeH : Int} (hm : MonoTime c) {p : Pool} (hi : PoolInv c storeH p) :
    KeepsP c storeH p.state p (removeExpired c p) ∧ Fresh (removeExpired c p) :=
  have h := removeExpiredLoop_pruned c p.state p.pending p hi.sorted rfl
  Pruned.spec c hm hi ⟨h.pending, h.committed, h.buffer, h.state, h.size⟩ (h.size hi.size)

theorem newPool_spec {storeH : Int} (hm : MonoTime c) {p : Pool} (st : State) (hi : PoolInv c storeH p) :
    let q := newPool c st p.pending p.committed
    PoolInv c storeH q ∧ Fresh q ∧ q.state = st ∧ q.committed = p.committed ∧ q.buffer = [] ∧
    (∀ x ∈ q.pending, x ∈ p.pending) ∧
    (∀ x ∈ p.pending, x ∈ q.pending ∨ expired st x.height x.time = true) := by
  intro q
  -- NewPool prunes with the counter at 0 and sets it afterwards; the walk does not read the counter, so
  -- `q` is just as well the pruning of the pool whose counter is right
  have h := removeExpiredLoop_pruned c st p.pending ⟨p.pending, p.committed, 0, [], st, 0, 0⟩ hi.sorted rfl
  have hi1 : PoolInv c storeH ⟨p.pending, p.committed, u32 p.pending.length, [], st, 0, 0⟩ :=
    ⟨rfl, hi.sorted, hi.disj, hi.proven, fun _ h => nomatch h⟩
  obtain ⟨hk, hf⟩ := Pruned.spec c hm hi1 (q := q) ⟨h.pending, h.committed, h.buffer, h.state, fun _ => rfl⟩ rfl
  exact ⟨hk.inv, hf, hk.state, hk.committed, hk.buffer, hk.sub, hk.keep⟩

/-- what every later pool `q` keeps of `p`; `st`, under which expiry is judged, is the state of `q` -/
structure Later (st : State) (p q : Pool) : Prop where
  comm : ∀ k ∈ p.committed, k ∈ q.committed
  keep : ∀ x ∈ p.pending, x ∈ q.pending ∨ key c x ∈ q.committed ∨ expired st x.height x.time = true

variable {c}

theorem Later.of_eq {st : State} {p q : Pool} (h1 : q.pending = p.pending) (h2 : q.committed = p.committed) :
    Later c st p q :=
  ⟨fun _ hk => h2 ▸ hk, fun _ hx => .inl (h1 ▸ hx)⟩

theorem Later.trans {st : State} {p q r : Pool} (h1 : Later c st p q) (h2 : Later c st q r) : Later c st p r :=
  ⟨fun k hk => h2.comm k (h1.comm k hk), fun x hx =>
    (h1.keep x hx).elim (h2.keep x) fun h => .inr (h.imp_left (h2.comm _))⟩

theorem KeepsW.later {storeH : Int} {st : State} {p q : Pool} (h : KeepsW c storeH p q) : Later c st p q :=
  ⟨fun _ hk => h.committed ▸ hk, fun x hx => .inl (h.mem x hx)⟩

theorem Keeps.later {storeH : Int} {st : State} {p q : Pool} (h : Keeps c storeH p q) : Later c st p q :=
  (h.toW c).later

theorem KeepsC.later {storeH : Int} {st : State} {p q : Pool} (h : KeepsC c storeH p q) : Later c st p q :=
  ⟨h.comm, fun x hx => (h.keep x hx).imp_right .inl⟩

theorem KeepsP.later {storeH : Int} {st : State} {p q : Pool} (h : KeepsP c storeH st p q) : Later c st p q :=
  ⟨fun _ hk => h.committed ▸ hk, fun x hx => (h.keep x hx).imp_right .inr⟩

theorem proves_key {storeH : Int} {x y : Ev} (hx : Proves c storeH x) (hy : Proves c storeH y)
    (hk : key c y = key c x) : y.height = x.height ∧ y.time = x.time := by
  have hh : y.height = x.height := congrArg Prod.fst hk
  obtain ⟨b1, hb1, ht1⟩ := proves_block c hx
  obtain ⟨b2, hb2, ht2⟩ := proves_block c hy
  rw [hh, hb1] at hb2
  cases hb2
  exact ⟨hh, ht2.symm.trans ht1⟩

theorem Later.pending {storeH : Int} {st : State} {p q : Pool} (h : Later c st p q)
    (hp : PoolInv c storeH p) {x : Ev} (hx : Proves c storeH x) (hpx : isPending c p x = true) :
    isPending c q x = true ∨ key c x ∈ q.committed ∨ expired st x.height x.time = true := by
  obtain ⟨y, hy, hk⟩ := (isPending_iff c p x).1 hpx
  obtain ⟨e1, e2⟩ := proves_key hx (hp.proven y hy) hk
  rw [← hk, ← e1, ← e2]
  exact (h.keep y hy).imp_left fun h => (isPending_iff c q x).2 ⟨y, h, hk⟩

variable (c)

theorem u32_small {n : Nat} (h : n < 4294967296) : u32 n = n := by unfold u32; omega

/-- what a successful `Update` to height `h` leaves. `fresh` holds only while the uint32 counter is
exact (fewer than 2^32 pending items): `Update` prunes expired evidence only if `Size() > 0`, so
with a counter wrapped to 0 nothing would be pruned. The same bound is in `Inv.fresh`. -/
structure UpdateOk (storeH h : Int) (p q : Pool) (evs : List Ev) : Prop where
  inv : PoolInv c storeH q
  fresh : q.pending.length < 4294967296 → Fresh q
  state : q.state = stateAt c h
  buffer : q.buffer = []
  marked : ∀ e ∈ evs, key c e ∈ q.committed
  comm : ∀ k ∈ p.committed, k ∈ q.committed
  keep : ∀ x ∈ p.pending, x ∈ q.pending ∨ key c x ∈ q.committed ∨
          expired (stateAt c h) x.height x.time = true
  flushed : ∀ pr ∈ p.buffer, ∀ d, formEvidence c storeH (stateAt c h) pr.1 pr.2 = some (some d) →
          isPending c q (.dv d) = true ∨ key c (.dv d) ∈ q.committed ∨
          expired (stateAt c h) (Ev.dv d).height (Ev.dv d).time = true

theorem update_spec {storeH h : Int} (hm : MonoTime c) (hh : h ≤ storeH) {p : Pool} (evs : List Ev)
    (hi : PoolInv c storeH p) {u : Pool × Res} (hu : update c storeH p (stateAt c h) evs = u) :
    (u.2 = .panicked ∧ KeepsW c storeH p u.1) ∨ (u.2 = .ok ∧ UpdateOk c storeH h p u.1 evs) := by
  unfold update at hu
  by_cases hgt : (stateAt c h).height ≤ p.state.height
  · rw [if_pos hgt] at hu
    cases hu
    exact .inl ⟨rfl, .refl c hi⟩
  rw [if_neg hgt] at hu
  -- flush the buffer; reset buffer and state; mark the block's evidence; prune: each step is `Later`
  obtain ⟨hfl, hfp⟩ := flushBuffer_spec c hh p.buffer p hi hi.buf
  generalize flushBuffer c storeH (stateAt c h) p p.buffer = f at hu hfl hfp
  obtain ⟨p1, b⟩ := f
  cases b with
  | true =>
    cases hu
    exact .inl ⟨rfl, hfl⟩
  | false =>
    simp only at hu hfl hfp
    have hi2 : PoolInv c storeH { p1 with buffer := [], state := stateAt c h } :=
      ⟨hfl.inv.size, hfl.inv.sorted, hfl.inv.disj, hfl.inv.proven, by intro pr h; cases h⟩
    obtain ⟨hkc, hmk⟩ := markCommitted_spec c evs _ hi2
    generalize markCommitted c { p1 with buffer := [], state := stateAt c h } evs = p3 at hu hkc hmk
    -- expired items are pruned only while the counter is not 0
    have hq : u.2 = .ok ∧ PoolInv c storeH u.1 ∧ Later c (stateAt c h) p3 u.1 ∧
        u.1.committed = p3.committed ∧ u.1.state = p3.state ∧ u.1.buffer = p3.buffer ∧
        (u.1.pending.length < 4294967296 → Fresh u.1) := by
      by_cases hsz : p3.size > 0
      · rw [if_pos hsz] at hu
        cases hu
        obtain ⟨hkp, hfr⟩ := removeExpired_spec c hm hkc.inv
        rw [hkc.state] at hkp
        exact ⟨rfl, hkp.inv, hkp.later, hkp.committed, hkp.state, hkp.buffer, fun _ => hfr⟩
      · rw [if_neg hsz] at hu
        cases hu
        refine ⟨rfl, hkc.inv, .of_eq rfl rfl, rfl, rfl, rfl, fun (hlen : p3.pending.length < _) x hx => ?_⟩
        have hs := hkc.inv.size
        rw [u32_small hlen] at hs
        have : p3.pending = [] := List.length_eq_zero_iff.1 (by omega)
        rw [show (p3, Res.ok).1.pending = [] from this] at hx; cases hx
    obtain ⟨hr, hiq, hl3, hqc, hqs, hqb, hqf⟩ := hq
    have hl1 : Later c (stateAt c h) p1 u.1 :=
      Later.trans (q := { p1 with buffer := [], state := stateAt c h }) (.of_eq rfl rfl) (hkc.later.trans hl3)
    have hl : Later c (stateAt c h) p u.1 := hfl.later.trans hl1
    refine .inr ⟨hr, hiq, hqf, hqs.trans hkc.state, hqb.trans hkc.buffer, fun e he => hqc ▸ hmk e he,
      hl.comm, hl.keep, fun pr hpr d hf => ?_⟩
    rcases hfp trivial pr hpr d hf with h1 | h1
    · exact hl1.pending hfl.inv (formEvidence_proves c hh (hi.buf pr hpr) hf) h1
    · exact .inr (.inl (hl.comm _ ((isCommitted_iff c p _).1 h1)))

structure Inv (s : Sys) : Prop where
  pool : PoolInv c s.storeH s.pool
  fresh : s.dead = false → s.pool.pending.length < 4294967296 → Fresh s.pool

/-- consensus reports only genuine conflicting votes (it verified the signatures) -/
def GoodOp : Op → Prop
  | .report v1 v2 => GoodPair c v1 v2
  | _ => True

theorem PoolInv_mono {s1 s2 : Int} {p : Pool} (hs : s1 ≤ s2) (h : PoolInv c s1 p) : PoolInv c s2 p :=
  ⟨h.size, h.sorted, h.disj, fun e he => Proves_mono c hs (h.proven e he), h.buf⟩

theorem stepLive_spec (hm : MonoTime c) {s : Sys} (o : Op) (hi : Inv c s) :
    (GoodOp c o → Inv c (stepLive c s o).1) ∧
      Later c (stepLive c s o).1.pool.state s.pool (stepLive c s o).1.pool := by
  have same : ∀ {s' : Sys}, s'.pool = s.pool → s.storeH ≤ s'.storeH → s'.dead = s.dead →
      (GoodOp c o → Inv c s') ∧ Later c s'.pool.state s.pool s'.pool := fun hp hs hd =>
    ⟨fun _ => ⟨hp ▸ PoolInv_mono c hs hi.pool, hp ▸ hd ▸ hi.fresh⟩, .of_eq (hp ▸ rfl) (hp ▸ rfl)⟩
  have keeps : ∀ {q : Pool}, Keeps c s.storeH s.pool q →
      (GoodOp c o → Inv c { s with pool := q }) ∧ Later c q.state s.pool q := fun hk =>
    ⟨fun _ => ⟨hk.inv, fun hd hl => hk.fresh (hi.fresh hd (Nat.lt_of_le_of_lt hk.len hl))⟩, hk.later⟩
  cases o with
  | grow h =>
    simp only [stepLive]
    split
    · rename_i hcg
      simp [canGrow] at hcg
      exact same rfl hcg.1 rfl
    · exact same rfl (Int.le_refl _) rfl
  | saveBlock h =>
    simp only [stepLive]
    split
    · rename_i hcg
      simp [canGrow] at hcg
      exact same rfl hcg.1 rfl
    · exact same rfl (Int.le_refl _) rfl
  | saveState h => simp only [stepLive]; split <;> exact same rfl (Int.le_refl _) rfl
  | replay => simp only [stepLive]; split <;> exact same rfl (Int.le_refl _) rfl
  | add e => exact keeps (addEvidence_keeps c e hi.pool)
  | check l => exact keeps (checkLoop_keeps c l s.pool [] hi.pool)
  | report v1 v2 =>
    refine ⟨fun hg => ⟨⟨hi.pool.size, hi.pool.sorted, hi.pool.disj, hi.pool.proven, fun pr hpr => ?_⟩, hi.fresh⟩,
      .of_eq rfl rfl⟩
    rcases List.mem_append.1 hpr with h | h
    · exact hi.pool.buf pr h
    · cases List.mem_singleton.1 h; exact hg
  | restart =>
    obtain ⟨h1, h2, h3, h4, _, _, h7⟩ := newPool_spec c hm (stateAt c s.stateH) hi.pool
    exact ⟨fun _ => ⟨h1, fun _ _ => h2⟩, fun k hk => h4 ▸ hk, fun x hx => (h7 x hx).imp_right fun h => .inr (h3 ▸ h)⟩
  | update h evs =>
    simp only [stepLive]
    split
    · rename_i hh
      generalize hu : update c s.storeH s.pool (stateAt c h) evs = u
      obtain ⟨q, r⟩ := u
      rcases update_spec c hm hh evs hi.pool hu with ⟨rfl, hk⟩ | ⟨rfl, hk⟩
      · exact ⟨fun _ => ⟨hk.inv, nofun⟩, hk.later⟩
      · exact ⟨fun _ => ⟨hk.inv, fun _ => hk.fresh⟩, hk.comm, hk.state ▸ hk.keep⟩
    · exact same rfl (Int.le_refl _) rfl

theorem step_cases (s : Sys) (o : Op) :
    step c s o = stepLive c s o ∨ (s.dead = true ∧ step c s o = (s, .dead)) := by
  unfold step
  cases hd : s.dead with
  | false => exact .inl rfl
  | true => cases o <;> first | exact .inl rfl | exact .inr ⟨rfl, rfl⟩

theorem step_live {s : Sys} (hd : s.dead = false) (o : Op) : step c s o = stepLive c s o := by
  unfold step; rw [hd]

theorem step_update_ok (hm : MonoTime c) {s : Sys} (hi : Inv c s) (hd : s.dead = false) {h : Int}
    (evs : List Ev) (hh : h ≤ s.storeH) (hok : (step c s (.update h evs)).2 = .ok) :
    UpdateOk c s.storeH h s.pool (step c s (.update h evs)).1.pool evs := by
  rw [step_live c hd] at hok ⊢
  simp only [stepLive, hh, ↓reduceIte] at hok ⊢
  rcases update_spec c hm hh evs hi.pool rfl with ⟨h, -⟩ | ⟨-, hu⟩
  · rw [h] at hok; cases hok
  · exact hu

theorem step_spec (hm : MonoTime c) {s : Sys} (o : Op) (hi : Inv c s) :
    (GoodOp c o → Inv c (step c s o).1) ∧ Later c (step c s o).1.pool.state s.pool (step c s o).1.pool := by
  rcases step_cases c s o with h | ⟨_, h⟩
  · rw [h]; exact stepLive_spec c hm o hi
  · rw [h]; exact ⟨fun _ => hi, .of_eq rfl rfl⟩

theorem step_inv (hm : MonoTime c) {s : Sys} (o : Op) (hi : Inv c s) (hg : GoodOp c o) :
    Inv c (step c s o).1 :=
  (step_spec c hm o hi).1 hg

/-- states reachable from a fresh pool by any sequence of operations, consensus reporting genuine
vote pairs -/
inductive Reach : Sys → Prop
  | init (h0 : Int) : Reach (initSys c h0)
  | step {s : Sys} (o : Op) : Reach s → GoodOp c o → Reach (step c s o).1

theorem init_inv (hm : MonoTime c) (h0 : Int) : Inv c (initSys c h0) := by
  let p : Pool := { pending := [], committed := [], size := 0, buffer := [], state := stateAt c h0,
                    pruneH := 0, pruneT := 0 }
  have hp : PoolInv c h0 p := ⟨rfl, List.Pairwise.nil, by intro e h; simp [p] at h, by intro e h; simp [p] at h,
    by intro e h; simp [p] at h⟩
  obtain ⟨h1, h2, _⟩ := newPool_spec c hm (stateAt c h0) hp
  exact ⟨h1, fun _ _ => h2⟩

theorem reach_inv (hm : MonoTime c) {s : Sys} (hr : Reach c s) : Inv c s := by
  induction hr with
  | init h0 => exact init_inv c hm h0
  | step o _ hg ih => exact step_inv c hm o ih hg

theorem checkLoop_complete {storeH : Int} (l : List Ev) :
    ∀ (p : Pool) (seen : List Nat), PoolInv c storeH p →
      (∀ e ∈ l, (e.isLCA = false ∧ isPending c p e = true) ∨
        (isCommitted c p e = false ∧ verify c storeH p.state e = .ok ())) →
      (l.map c.H).Nodup → (∀ e ∈ l, c.H e ∉ seen) →
      (checkLoop c storeH p seen l).2 = .ok := by
  induction l with
  | nil => intro p seen _ _ _ _; simp [checkLoop]
  | cons e rest ih =>
    intro p seen hi hall hnd hseen
    have he := hall e (by simp)
    have hns : seen.contains (c.H e) = false := by
      simpa using hseen e (by simp)
    simp only [List.map_cons, List.nodup_cons] at hnd
    -- what the recursive call needs, for any pool the head step leaves
    have hrec : ∀ p', Keeps c storeH p p' → (checkLoop c storeH p' (c.H e :: seen) rest).2 = .ok := by
      intro p' hk
      apply ih p' _ hk.inv
      · intro x hx
        rcases hall x (by simp [hx]) with ⟨h1, h2⟩ | ⟨h1, h2⟩
        · exact Or.inl ⟨h1, hk.grows x h2⟩
        · exact Or.inr ⟨(isCommitted_congr c hk.committed x).trans h1, by rw [hk.state]; exact h2⟩
      · exact hnd.2
      · intro x hx
        simp only [List.mem_cons, not_or]
        refine ⟨?_, hseen x (by simp [hx])⟩
        intro hxe
        exact hnd.1 (by rw [← hxe]; exact List.mem_map_of_mem hx)
    obtain ⟨p', hstep⟩ := checkStep_of_ok c he
    rw [checkLoop_cons, hstep]
    simp only [hns, Bool.false_eq_true, ↓reduceIte]
    exact hrec p' (checkStep_none c hi hstep).1

end Tmv.Evidence
