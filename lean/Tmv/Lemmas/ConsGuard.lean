import Tmv.Lemmas.ConsPrim
/-! First line of defence: the step guards at the top of every `enterX` alone (whatever the signer
does) let the node sign at most one proposal, one prevote and one precommit per round — provided no
timeout names a round the node has not reached. -/
namespace Tmv.Cons
/-- the step from which on a signature of this kind may exist in the current round, as a `Step.rank`:
3, 4, 6 are the ranks of `propose`, `prevote`, `precommit` -/
def sigRank : Output → Option Nat
  | .signProposal _ _ _ => some 3
  | .signVote .prevote _ _ => some 4
  | .signVote .precommit _ _ => some 6
  | _ => none

def sigRound : Output → Nat
  | .signProposal r _ _ => r
  | .signVote _ r _ => r
  | _ => 0

/-- (G): every signature in `out` is of an earlier round, or of the current round with the step
already past the point where it is cast; and two signatures of one kind and round are equal -/
structure GI (r : Nat) (st : Step) (out : List Output) : Prop where
  past : ∀ o ∈ out, ∀ k, sigRank o = some k → sigRound o < r ∨ (sigRound o = r ∧ k ≤ st.rank)
  uniq : ∀ o₁ ∈ out, ∀ o₂ ∈ out, ∀ k, sigRank o₁ = some k → sigRank o₂ = some k → sigRound o₁ = sigRound o₂ → o₁ = o₂

abbrev G (s : NodeState) : Prop := GI s.round s.step s.out

theorem GI.init : GI 0 .newHeight [] := ⟨by simp, by simp⟩

/-- (round, step) only moves forward -/
theorem GI.mono {r r' st st' out} (h : GI r st out) (hm : r < r' ∨ (r = r' ∧ st.rank ≤ st'.rank)) : GI r' st' out :=
  ⟨fun o ho k hk => by have := h.past o ho k hk; omega, h.uniq⟩

theorem GI.push_other {r st out} (h : GI r st out) (o : Output) (ho : sigRank o = none) : GI r st (out ++ [o]) := by
  refine ⟨?_, ?_⟩
  · intro o' ho' k hk
    rcases List.mem_append.1 ho' with a | a
    · exact h.past o' a k hk
    · simp at a; subst a; rw [ho] at hk; cases hk
  · intro o₁ h₁ o₂ h₂ k k₁ k₂ e
    rcases List.mem_append.1 h₁ with a | a <;> rcases List.mem_append.1 h₂ with b | b
    · exact h.uniq o₁ a o₂ b k k₁ k₂ e
    · simp at b; subst b; rw [ho] at k₂; cases k₂
    · simp at a; subst a; rw [ho] at k₁; cases k₁
    · simp at a b; rw [a, b]

/-- casting the signature of rank `k` of the current round while the step is still before `k`, and
moving the step to `st'` at or past `k` -/
theorem GI.push_sig {r st out} (h : GI r st out) (o : Output) (k : Nat) (ho : sigRank o = some k)
    (hr : sigRound o = r) (hst : st.rank < k) (st' : Step) (hst' : k ≤ st'.rank) :
    GI r st' (out ++ [o]) := by
  refine ⟨?_, ?_⟩
  · intro o' ho' k' hk'
    rcases List.mem_append.1 ho' with a | a
    · have := h.past o' a k' hk'; omega
    · simp at a; subst a; rw [ho] at hk'; cases hk'; exact Or.inr ⟨hr, hst'⟩
  · intro o₁ h₁ o₂ h₂ k' k₁ k₂ e
    rcases List.mem_append.1 h₁ with a | a <;> rcases List.mem_append.1 h₂ with b | b
    · exact h.uniq o₁ a o₂ b k' k₁ k₂ e
    · simp at b; subst b; rw [ho] at k₂; cases k₂
      have := h.past o₁ a k k₁; omega
    · simp at a; subst a; rw [ho] at k₁; cases k₁
      have := h.past o₂ b k k₂; omega
    · simp at a b; rw [a, b]

/-- (G) read for votes: two signed votes of one type and round are the same vote -/
theorem GI.vote_uniq {r₀ : Nat} {st : Step} {out : List Output} (h : GI r₀ st out) {t : VType} {r : Nat} {x x' : Bid}
    (h1 : Output.signVote t r x ∈ out) (h2 : Output.signVote t r x' ∈ out) : x = x' := by
  cases t with
  | prevote => have := h.uniq _ h1 _ h2 Step.prevote.rank rfl rfl rfl; cases this; rfl
  | precommit => have := h.uniq _ h1 _ h2 Step.precommit.rank rfl rfl rfl; cases this; rfl

variable {c : Cfg}

theorem emit_GI {r : Nat} {st : Step} {s : NodeState} (o : Output) (ho : sigRank o = none) (h : GI r st s.out) :
    GI r st (emit s o).out := by
  rcases emit_out s o with e | e <;> rw [e]
  · exact h
  · exact h.push_other o ho
theorem emit_G {s : NodeState} (o : Output) (ho : sigRank o = none) (h : G s) : G (emit s o) := by
  show GI _ _ _
  rw [emit_round, emit_step]
  exact emit_GI o ho h
theorem panicWith_G {s : NodeState} (w : String) (h : G s) : G (panicWith s w) := by
  show GI _ _ _
  rw [panicWith_round, panicWith_step]
  rcases panicWith_out s w with e | e <;> rw [e]
  · exact h
  · exact h.push_other _ rfl
/-- the step moves on within the round, and whatever was appended to `out` is at most the signature of
rank `k` of this round, cast while the step was before `k` and now at or past it -/
theorem GI.cast {r : Nat} {st st' : Step} {out out' : List Output} (h : GI r st out) (k : Nat)
    (ho : out' = out ∨ ∃ o, out' = out ++ [o] ∧ sigRank o = some k ∧ sigRound o = r)
    (hst : st.rank < k) (hst' : k ≤ st'.rank) : GI r st' out' := by
  rcases ho with e | ⟨o, e, ho, hr⟩ <;> rw [e]
  · exact h.mono (.inr ⟨rfl, by omega⟩)
  · exact h.push_sig o k ho hr hst st' hst'

theorem newRoundReset_G {s : NodeState} (r : Nat) (hg : ¬(r < s.round ∨ s.round = r ∧ s.step ≠ Step.newHeight))
    (h : G s) : G (newRoundReset s r) := by
  have hf := newRoundReset_frame s r
  show GI _ _ _
  rw [hf.round, hf.step, hf.out]
  exact h.mono ((newRound_of_guard hg).imp_right fun ⟨e, hs⟩ => ⟨e, by rw [hs]; decide⟩)

theorem enter_G {s : NodeState} (i : Input) (h : G s) : G (enter c s i) := by
  have hf := enter_framed c s i
  show GI _ _ _
  rw [hf.round, hf.step, hf.out]; exact h

/-- every signing move is for a round reached (`r = s.round`), is guarded by "step before the rank of
the signature", and enters the step of that rank -/
theorem G_prim {cm : NodeState → Prop} {s t : NodeState} (hp : Prim c True cm s t) (h : G s) : G t := by
  cases hp with
  | panic w => exact panicWith_G w h
  | schedule r st | precommitWait r | decide b => exact emit_G _ rfl h
  | newRound r _ hg => exact newRoundReset_G r hg h
  | propose r _ hg hr | prevoteWait r _ hg hr =>
    have e := eq_of_guard hr hg
    subst e
    exact (emit_GI _ rfl h).mono (.inr ⟨rfl, Nat.le_of_lt (lt_of_guard hg)⟩)
  | proposeOwn r me _ hg hr =>
    have e := eq_of_guard hr hg
    subst e
    exact (emit_GI (.schedule s.round .propose) rfl h).cast Step.propose.rank
      ((decideProposal_out c _ s.round me).imp_right fun e => ⟨_, e, rfl, rfl⟩) (lt_of_guard hg) (Nat.le_refl _)
  | prevote r bid _ hg hr =>
    have e := eq_of_guard hr hg
    subst e
    exact h.cast Step.prevote.rank ((signAddVote_out c s .prevote bid).imp_right fun e => ⟨_, e, rfl, rfl⟩)
      (lt_of_guard hg) (Nat.le_refl _)
  | precommit r t x _ hg hr hc =>
    have e := eq_of_guard hr hg
    subst e
    have ho := signAddVote_out c t .precommit x
    rw [hc.frame.out, hc.frame.round] at ho
    exact h.cast Step.precommit.rank (ho.imp_right fun e => ⟨_, e, rfl, rfl⟩) (lt_of_guard hg) (Nat.le_refl _)
  | commit r | commitLocked r | commitFetch r => exact h.mono (.inr ⟨rfl, Step.rank_le _⟩)
  | _ => exact h

theorem handleInput_G {s : NodeState} (i : Input) (hi : i.notFuture s) (h : G s) : G (handleInput c s i) :=
  (handleInput_star (cm := fun _ => True) s i (fun _ => hi) fun _ _ => trivial).inv (fun _ _ hp => G_prim hp) (enter_G i h)

theorem handleInternal_G {s : NodeState} (m : Internal) (h : G s) : G (handleInternal c s m) := by
  rw [handleInternal_eq]
  exact handleInput_G _ (by cases m <;> trivial) h

theorem step_G {s : NodeState} (i : Input) (hi : i.notFuture s) (h : G s) : G (step c s i) :=
  step_invariant (fun _ _ hp => G_prim hp) (fun s m rest _ h => enter_G (s := { s with queue := rest }) m.asInput h)
    s i (fun _ => hi) (enter_G i) h

theorem run_G (is : List Input) {s : NodeState} (hnf : NoFutureTimeout c s is) (h : G s) : G (run c s is) :=
  run_invariant_noFuture (fun _ i hi => step_G i hi) is hnf h

theorem init_G : G NodeState.init := GI.init

end Tmv.Cons
