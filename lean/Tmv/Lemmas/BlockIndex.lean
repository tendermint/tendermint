import Tmv.Model.IndexerService
import Tmv.Lemmas.Index
/-! The rows of the block index (over the orderedcode tuple model): `Index` either refuses a block
(reserved key among its events) or sets one row per indexed attribute and one for the height; and
what the indexer service's two databases hold after a history of committed blocks. -/
namespace Tmv.BlockIndex
open Tmv.Query Tmv.Index Tmv.IndexerService

def attrsOfEvent (e : Event) : List (Str × Str) :=
  e.attrs.filterMap fun a =>
    if a.key.isEmpty then none
    else if a.index then some (e.type ++ dot :: a.key, a.value) else none

/-- `Index.indexedAttrs` is this function of the tx's events (`indexedAttrs_eq`) -/
def evAttrs (evs : List Event) : List (Str × Str) :=
  evs.flatMap fun e => if e.type.isEmpty then [] else attrsOfEvent e

theorem indexedAttrs_eq (r : TxResult) : indexedAttrs r = evAttrs r.events := rfl

def attrOK (e : Event) (a : Attr) : Bool :=
  a.key.isEmpty || !((e.type ++ dot :: a.key) == blockHeightKey)

/-- no attribute (indexed or not) uses the reserved composite key `block.height` -/
def reservedFree (evs : List Event) : Bool :=
  evs.all fun e => e.type.isEmpty || e.attrs.all (attrOK e)

def acceptable (b : Block) : Bool := reservedFree b.beginEvents && reservedFree b.endEvents

theorem dbSet_eq (db : DB) (k : BKey) (v : Nat) : dbSet db k v = kvSet db k v := rfl

def eventRows (kvs : List (Str × Str)) (h : Nat) (typ : Str) : DB :=
  kvs.map fun kv => (BKey.event kv.1 kv.2 h typ, h)

def attrPair (e : Event) (a : Attr) : Option (Str × Str) :=
  if a.key.isEmpty then none else if a.index then some (e.type ++ dot :: a.key, a.value) else none

theorem indexAttr_eq (e : Event) (typ : Str) (h : Nat) (d : DB) (a : Attr) :
    indexAttr e typ h d a =
      if attrOK e a then some (setAll d (eventRows (attrPair e a).toList h typ)) else none := by
  unfold indexAttr attrOK attrPair
  by_cases h1 : a.key.isEmpty = true
  · simp [h1, setAll, eventRows]
  · by_cases h2 : ((e.type ++ dot :: a.key) == blockHeightKey) = true
    · simp [h1, h2]
    · by_cases h3 : a.index = true <;> simp [h1, h2, h3, setAll, eventRows, dbSet_eq]

theorem attrs_fold (e : Event) (typ : Str) (h : Nat) (as : List Attr) (d : DB) :
    as.foldlM (indexAttr e typ h) d =
      if as.all (attrOK e) then some (setAll d (eventRows (as.filterMap (attrPair e)) h typ)) else none := by
  induction as generalizing d with
  | nil => rfl
  | cons a rest ih =>
    rw [List.foldlM_cons, indexAttr_eq]
    cases hok : attrOK e a
    · simp [hok]
    · simp only [if_true, Option.bind_eq_bind, Option.bind_some, ih, List.all_cons, hok, Bool.true_and,
        List.filterMap_cons]
      cases attrPair e a <;> simp [eventRows, setAll]

theorem indexEvent_eq (typ : Str) (h : Nat) (d : DB) (e : Event) :
    indexEvent typ h d e = if e.type.isEmpty || e.attrs.all (attrOK e)
      then some (setAll d (eventRows (if e.type.isEmpty then [] else attrsOfEvent e) h typ)) else none := by
  unfold indexEvent
  cases e.type.isEmpty
  · exact attrs_fold e typ h e.attrs d
  · rfl

theorem indexEvents_eq (d : DB) (evs : List Event) (typ : Str) (h : Nat) :
    indexEvents d evs typ h =
      if reservedFree evs then some (setAll d (eventRows (evAttrs evs) h typ)) else none := by
  unfold indexEvents reservedFree evAttrs
  induction evs generalizing d with
  | nil => rfl
  | cons e rest ih =>
    rw [List.foldlM_cons, indexEvent_eq, List.all_cons, List.flatMap_cons]
    cases e.type.isEmpty || e.attrs.all (attrOK e)
    · rfl
    · simp only [if_true, Option.bind_eq_bind, Option.bind_some, ih, Bool.true_and, setAll_append, eventRows,
        List.map_append]

def blockRows (b : Block) : DB :=
  (BKey.primary b.height, b.height) ::
    (eventRows (evAttrs b.beginEvents) b.height beginBlock ++ eventRows (evAttrs b.endEvents) b.height endBlock)

theorem index_eq (d : DB) (b : Block) :
    index d b.height b.beginEvents b.endEvents =
      if acceptable b then some (setAll d (blockRows b)) else none := by
  unfold index acceptable
  simp only [Option.bind_eq_bind, indexEvents_eq]
  cases reservedFree b.beginEvents
  · rfl
  · cases reservedFree b.endEvents
    · rfl
    · simp only [if_true, Option.bind_some, Bool.and_self, setAll_append, blockRows]
      rfl

theorem accepted_eq (s : IndexerService.State) (b : Block) : accepted s b = acceptable b := by
  rw [accepted, index_eq]
  cases acceptable b <;> rfl

/-- the block index after a history of committed blocks (refused blocks leave it unchanged) -/
def indexed (bs : List Block) : DB := setAll [] ((bs.filter acceptable).flatMap blockRows)

theorem run_bdb (H : Bytes → Bytes) (s : IndexerService.State) (bs : List Block) :
    (run H s bs).bdb = setAll s.bdb ((bs.filter acceptable).flatMap blockRows) := by
  induction bs generalizing s with
  | nil => rfl
  | cons b rest ih =>
    show (run H (step H s b) rest).bdb = _
    rw [ih, step, index_eq, List.filter_cons]
    cases acceptable b
    · rfl
    · simp only [if_true, Option.getD_some, List.flatMap_cons, setAll_append]

/-- the height a row's value must be: it is part of the key -/
def hOf : BKey → Nat
  | .primary h => h
  | .event _ _ h _ => h

theorem blockRows_val (b : Block) : ∀ row ∈ blockRows b, row.2 = b.height ∧ hOf row.1 = b.height := by
  simp only [blockRows, eventRows, List.mem_cons, List.mem_append, List.mem_map]
  rintro row (rfl | ⟨kv, _, rfl⟩ | ⟨kv, _, rfl⟩) <;> exact ⟨rfl, rfl⟩

/-- every value is the height its key carries, so indexing a block again changes nothing and
the database is the set of the accepted blocks' rows -/
theorem mem_indexed (bs : List Block) (row : BKey × Nat) :
    row ∈ indexed bs ↔ ∃ b ∈ bs, acceptable b = true ∧ row ∈ blockRows b := by
  have hval : ∀ x ∈ (bs.filter acceptable).flatMap blockRows, x.2 = hOf x.1 := by
    intro x hx
    obtain ⟨b, _, hb⟩ := List.mem_flatMap.mp hx
    rw [(blockRows_val b x hb).1, (blockRows_val b x hb).2]
  rw [indexed, mem_setAll _ _ fun a ha c hc e => Prod.ext e (by
    rw [hval a (by simpa using ha), hval c (by simpa using hc), e])]
  simp only [List.not_mem_nil, false_or, List.mem_flatMap, List.mem_filter, and_assoc]

theorem indexed_keys_nodup (bs : List Block) : ((indexed bs).map (·.1)).Nodup :=
  setAll_keys_nodup _ _ (by simp)

theorem has_indexed (bs : List Block) (x : Nat) :
    has (indexed bs) x = true ↔ ∃ b ∈ bs, acceptable b = true ∧ b.height = x := by
  simp only [has, List.any_eq_true, beq_iff_eq, mem_indexed]
  constructor
  · rintro ⟨row, ⟨b, hb, ha, hr⟩, hk⟩
    have := (blockRows_val b row hr).2
    rw [hk] at this
    exact ⟨b, hb, ha, this.symm⟩
  · rintro ⟨b, hb, ha, rfl⟩
    exact ⟨_, ⟨b, hb, ha, List.mem_cons_self⟩, rfl⟩

end Tmv.BlockIndex

namespace Tmv.IndexerService
open Tmv.Index

variable (H : Bytes → Bytes)

/-- every tx result the service batches over a history of committed blocks, in order -/
def allResults (bs : List Block) : List TxResult := bs.flatMap blockResults

theorem run_append (s : State) (a b : List Block) : run H s (a ++ b) = run H (run H s a) b := by
  simp [run, List.foldl_append]

theorem run_db (s : State) (bs : List Block) :
    (run H s bs).db = addBatch H s.db (allResults bs) := by
  induction bs generalizing s with
  | nil => rfl
  | cons b rest ih =>
    show (run H (step H s b) rest).db = _
    rw [ih]
    simp [step, allResults, addBatch, List.foldl_append]

end Tmv.IndexerService
