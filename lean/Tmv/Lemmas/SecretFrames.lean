import Tmv.Model.SecretFrames
import Tmv.Lemmas.Digits
/-! Lemmas for C16: frame layout, the writer on a working conn, the reader in step with an undisturbed
sender and against an arbitrary wire. -/
namespace Tmv.SecretFrames
open Tmv

theorem total_eq : totalFrameSize = dataMaxSize + dataLenSize := by decide
theorem lenSize_eq : dataLenSize = 4 := by decide
theorem max_lt : dataMaxSize < 2 ^ 32 := by decide
theorem max_pos : 0 < dataMaxSize := by decide
theorem le32_length (n : Nat) : (le32 n).length = 4 := rfl
theorem le32_eq (n : Nat) : le32 n = Digits.le 4 n := by
  simp only [Digits.le, List.range_succ, List.range_zero, List.nil_append, List.cons_append, List.map_cons, List.map_nil,
    Nat.pow_zero, Nat.div_one, Nat.reducePow, le32]
theorem le64_eq (n : Nat) : le64 n = Digits.le 8 n := rfl
theorem unle32_eq (x rest : Bytes) (h : x.length = 4) : unle32 (x ++ rest) = Digits.val x := by
  match x, h with
  | [a, b, c, d], _ =>
    simp +arith only [unle32, Digits.val, List.cons_append, List.getD_cons_zero, List.getD_cons_succ]
theorem unle32_le32 (n : Nat) (h : n < 2 ^ 32) (rest : Bytes) : unle32 (le32 n ++ rest) = n := by
  rw [le32_eq, unle32_eq _ _ (Digits.le_length 4 n), Digits.val_le]
  exact Nat.mod_eq_of_lt h
theorem mkFrame_length (chunk junk : Bytes) (h : chunk.length ≤ dataMaxSize) :
    (mkFrame chunk junk).length = totalFrameSize := by
  simp [mkFrame, le32_length, total_eq, lenSize_eq]
  omega
theorem mkFrame_len (chunk junk : Bytes) (h : chunk.length ≤ dataMaxSize) :
    unle32 (mkFrame chunk junk) = chunk.length := by
  unfold mkFrame
  rw [List.append_assoc]
  exact unle32_le32 _ (by have := max_lt; omega) _
theorem mkFrame_chunk (chunk junk : Bytes) :
    ((mkFrame chunk junk).drop dataLenSize).take chunk.length = chunk := by
  unfold mkFrame
  rw [List.append_assoc, List.drop_left' (by simp [le32_length, lenSize_eq])]
  simp

theorem incrNonce_some (c : Nat) (h : c < maxU64) : incrNonce c = some (c + 1) := by
  simp [incrNonce]; omega

theorem incrNonce_eq (c n : Nat) (h : incrNonce c = some n) : n = c + 1 ∧ c ≠ maxU64 := by
  unfold incrNonce at h
  split at h
  · cases h
  · exact ⟨(Option.some.inj h).symm, ‹_›⟩

variable (enc : Nat → Bytes → Bytes) (dec : Nat → Bytes → Option Bytes) (junk : Nat → Bytes)

def Correct : Prop := ∀ n m, dec n (enc n m) = some m
/-- a sealed frame is `aeadSizeOverhead` longer than its plaintext -/
def LenOK : Prop := ∀ n m, (enc n m).length = m.length + aeadSizeOverhead

theorem read_buf (s : RState) (k : Nat) (h : s.buf ≠ []) :
    read dec s k = ({ s with buf := s.buf.drop k }, .ok (s.buf.take k)) := by
  have : 0 < s.buf.length := List.length_pos_iff.mpr h
  simp [read, this]

theorem read_eof (s : RState) (k : Nat) (hb : s.buf = []) (hw : s.wire = []) :
    read dec s k = (s, .error .eof) := by
  simp [read, hb, hw]

theorem read_ueof (s : RState) (k : Nat) (hb : s.buf = []) (hw : s.wire ≠ [])
    (hlt : s.wire.length < sealedFrameSize) :
    read dec s k = ({ s with wire := [] }, .error .ueof) := by
  simp [read, hb, hw, hlt]

theorem ne_nil_of_block {w : Bytes} (h : sealedFrameSize ≤ w.length) : w ≠ [] :=
  fun e => absurd (e ▸ h) (by decide)

theorem read_undecryptable (s : RState) (k : Nat) (hb : s.buf = [])
    (hlen : sealedFrameSize ≤ s.wire.length)
    (hd : dec s.nonce (s.wire.take sealedFrameSize) = none) :
    read dec s k = ({ s with wire := s.wire.drop sealedFrameSize }, .error .decrypt) := by
  have h0 := ne_nil_of_block hlen
  simp [read, hb, h0, Nat.not_lt.mpr hlen, hd]

theorem read_panic (s : RState) (k : Nat) (hb : s.buf = []) (hlen : sealedFrameSize ≤ s.wire.length)
    (frame : Bytes) (hd : dec s.nonce (s.wire.take sealedFrameSize) = some frame)
    (hn : s.nonce = maxU64) :
    read dec s k = ({ s with wire := s.wire.drop sealedFrameSize }, .error .panic) := by
  have h0 := ne_nil_of_block hlen
  rw [hn] at hd
  simp [read, hb, h0, Nat.not_lt.mpr hlen, hd, hn, incrNonce]

theorem read_opened (s : RState) (k : Nat) (hb : s.buf = []) (hlen : sealedFrameSize ≤ s.wire.length)
    (frame : Bytes) (hd : dec s.nonce (s.wire.take sealedFrameSize) = some frame)
    (hn : s.nonce ≠ maxU64) :
    read dec s k =
      if unle32 frame > dataMaxSize then
        (⟨[], s.nonce + 1, s.wire.drop sealedFrameSize⟩, .error .tooLong)
      else
        (⟨((frame.drop dataLenSize).take (unle32 frame)).drop k, s.nonce + 1,
            s.wire.drop sealedFrameSize⟩,
          .ok (((frame.drop dataLenSize).take (unle32 frame)).take k)) := by
  have h0 := ne_nil_of_block hlen
  simp [read, hb, h0, Nat.not_lt.mpr hlen, hd, hn, incrNonce]

theorem read_honest (hc : Correct enc dec) (s : RState) (k : Nat) (ch j : Bytes) (hb : s.buf = [])
    (hlen : sealedFrameSize ≤ s.wire.length)
    (hblk : s.wire.take sealedFrameSize = enc s.nonce (mkFrame ch j))
    (hch : ch.length ≤ dataMaxSize) (hn : s.nonce ≠ maxU64) :
    read dec s k = (⟨ch.drop k, s.nonce + 1, s.wire.drop sealedFrameSize⟩, .ok (ch.take k)) := by
  rw [read_opened dec s k hb hlen _ (hblk ▸ hc _ _) hn, mkFrame_len _ _ hch, mkFrame_chunk,
    if_neg (Nat.not_lt.mpr hch)]

theorem read_cases (s : RState) (k : Nat) (hb : s.buf = []) :
    (∃ s' e, read dec s k = (s', .error e) ∧ (e = .eof ∨ e = .ueof ∨ e = .decrypt) ∧
      s'.buf = [] ∧ s'.nonce = s.nonce) ∨
    ∃ frame, sealedFrameSize ≤ s.wire.length ∧ dec s.nonce (s.wire.take sealedFrameSize) = some frame := by
  by_cases h0 : s.wire = []
  · exact Or.inl ⟨_, _, read_eof dec s k hb h0, Or.inl rfl, hb, rfl⟩
  by_cases hlen : s.wire.length < sealedFrameSize
  · exact Or.inl ⟨_, _, read_ueof dec s k hb h0 hlen, Or.inr (Or.inl rfl), hb, rfl⟩
  cases hd : dec s.nonce (s.wire.take sealedFrameSize) with
  | none =>
    exact Or.inl ⟨_, _, read_undecryptable dec s k hb (Nat.not_lt.mp hlen) hd, Or.inr (Or.inr rfl), hb, rfl⟩
  | some frame => exact Or.inr ⟨frame, Nat.not_lt.mp hlen, rfl⟩

theorem chunksF_spec : ∀ (fuel : Nat) (data : Bytes), data.length ≤ fuel →
    (chunksF fuel data).flatten = data ∧
    ∀ ch ∈ chunksF fuel data, 0 < ch.length ∧ ch.length ≤ dataMaxSize
  | 0, d, h => by
    obtain rfl : d = [] := List.length_eq_zero_iff.mp (by omega)
    exact ⟨rfl, fun _ h => nomatch h⟩
  | f + 1, d, h => by
    have := max_pos
    unfold chunksF
    split
    · obtain rfl : d = [] := List.length_eq_zero_iff.mp (by omega)
      exact ⟨rfl, fun _ h => nomatch h⟩
    · split
      · obtain ⟨ih1, ih2⟩ := chunksF_spec f (d.drop dataMaxSize) (by rw [List.length_drop]; omega)
        refine ⟨by rw [List.flatten_cons, ih1, List.take_append_drop], fun ch hch => ?_⟩
        rcases List.mem_cons.mp hch with rfl | h1
        · rw [List.length_take]; omega
        · exact ih2 ch h1
      · exact ⟨by simp, fun ch hch => by obtain rfl := List.mem_singleton.mp hch; omega⟩

theorem chunks_flatten (d : Bytes) : (chunks d).flatten = d := (chunksF_spec _ d (Nat.le_refl _)).1
theorem chunks_bounds (d : Bytes) : ∀ ch ∈ chunks d, 0 < ch.length ∧ ch.length ≤ dataMaxSize :=
  (chunksF_spec _ d (Nat.le_refl _)).2

theorem count_le_flatten : ∀ (l : List Bytes), (∀ x ∈ l, 0 < x.length) → l.length ≤ l.flatten.length
  | [], _ => Nat.le_refl _
  | x :: xs, h => by
    have h1 := h x List.mem_cons_self
    have h2 := count_le_flatten xs fun y hy => h y (List.mem_cons_of_mem _ hy)
    simp only [List.flatten_cons, List.length_append, List.length_cons]
    omega

theorem allChunks_flatten (ws : List Bytes) : (ws.flatMap chunks).flatten = ws.flatten := by
  induction ws with
  | nil => rfl
  | cons d ds ih => simp [List.flatMap_cons, chunks_flatten, ih]

theorem allChunks_bounds (ws : List Bytes) : ∀ ch ∈ ws.flatMap chunks, 0 < ch.length ∧ ch.length ≤ dataMaxSize := by
  intro ch h
  obtain ⟨d, _, hd⟩ := List.mem_flatMap.mp h
  exact chunks_bounds d ch hd

theorem allChunks_count (ws : List Bytes) : (ws.flatMap chunks).length ≤ ws.flatten.length := by
  rw [← allChunks_flatten]
  exact count_le_flatten _ (fun x hx => (allChunks_bounds ws x hx).1)

/-- the chunks paired with their counters, each sealed under its own -/
theorem sealFrom_eq : ∀ (l : List Bytes) (c : Nat),
    sealFrom enc junk c l = (l.zipIdx c).map fun x => (x.2, enc x.2 (mkFrame x.1 (junk x.2)))
  | [], _ => rfl
  | x :: xs, c => by rw [sealFrom, sealFrom_eq xs (c + 1)]; rfl

theorem sealFrom_append (a b : List Bytes) (c : Nat) :
    sealFrom enc junk c (a ++ b) = sealFrom enc junk c a ++ sealFrom enc junk (c + a.length) b := by
  simp only [sealFrom_eq, List.zipIdx_append, List.map_append]

theorem chunksF_nil : ∀ fuel, chunksF fuel [] = []
  | 0 => rfl
  | _ + 1 => rfl

/-- `writeLoop` and `chunksF` cut the data at the same places -/
theorem writeLoop_ok : ∀ (fuel nonce : Nat) (data : Bytes) (n : Nat) (acc : List (Nat × Bytes)),
    data.length ≤ fuel → nonce + (chunksF fuel data).length ≤ maxU64 →
    writeLoop enc junk fuel nonce data true n acc =
      ⟨nonce + (chunksF fuel data).length, acc ++ sealFrom enc junk nonce (chunksF fuel data),
        n + data.length, .ok⟩
  | 0, nonce, d, n, acc, h, _ => by
    obtain rfl : d = [] := List.length_eq_zero_iff.mp (by omega)
    simp [writeLoop, chunksF, sealFrom]
  | f + 1, nonce, d, n, acc, h, hno => by
    by_cases h0 : 0 < d.length
    · have hcut : ∃ chunk rest, chunk ++ rest = d ∧ rest.length ≤ f ∧
          chunksF (f + 1) d = chunk :: chunksF f rest ∧
          ∀ (h : nonce < maxU64), writeLoop enc junk (f + 1) nonce d true n acc =
            writeLoop enc junk f (nonce + 1) rest true (n + chunk.length)
              (acc ++ [(nonce, enc nonce (mkFrame chunk (junk nonce)))]) := by
        by_cases hlt : dataMaxSize < d.length
        · refine ⟨d.take dataMaxSize, d.drop dataMaxSize, List.take_append_drop _ _,
            by have := max_pos; rw [List.length_drop]; omega, by simp [chunksF, h0, hlt], fun hn => ?_⟩
          simp [writeLoop, h0, hlt, incrNonce_some _ hn]
        · refine ⟨d, [], List.append_nil _, Nat.zero_le _,
            by simp [chunksF, h0, hlt, chunksF_nil], fun hn => ?_⟩
          simp [writeLoop, h0, hlt, incrNonce_some _ hn]
      obtain ⟨chunk, rest, rfl, hr, hc, hw⟩ := hcut
      rw [hc, List.length_cons] at hno
      rw [hw (by omega), hc, writeLoop_ok f _ rest _ _ hr (by omega)]
      simp only [sealFrom, List.length_cons, List.length_append, List.append_assoc,
        List.singleton_append, WResult.mk.injEq, and_true, true_and]
      omega
    · obtain rfl : d = [] := List.length_eq_zero_iff.mp (by omega)
      simp [writeLoop, chunksF, sealFrom]
theorem write_ok (c : Nat) (data : Bytes) (hroom : c + (chunks data).length ≤ maxU64) :
    write enc junk c data true =
      ⟨c + (chunks data).length, sealFrom enc junk c (chunks data), data.length, .ok⟩ := by
  unfold write
  rw [writeLoop_ok enc junk _ _ _ _ _ (Nat.le_refl _) hroom]
  simp [chunks]

theorem writeAll_ok : ∀ (ws : List Bytes) (c : Nat), c + (ws.flatMap chunks).length ≤ maxU64 →
    writeAll enc junk c (ws.map (·, true)) =
      (c + (ws.flatMap chunks).length, sealFrom enc junk c (ws.flatMap chunks)) := by
  intro ws
  induction ws with
  | nil => intro c _; rfl
  | cons d ds ih =>
    intro c h
    simp only [List.flatMap_cons, List.length_append] at h
    simp only [List.map_cons, writeAll, write_ok enc junk c d (by omega)]
    rw [ih _ (by omega)]
    simp only [List.flatMap_cons, List.length_append, sealFrom_append, Nat.add_assoc]

theorem runReads_cons (s : RState) (k : Nat) (ks : List Nat) :
    runReads dec s (k :: ks) =
      ((read dec s k).2 :: (runReads dec (read dec s k).1 ks).1, (runReads dec (read dec s k).1 ks).2) :=
  rfl

theorem runReads_append (s : RState) (a b : List Nat) :
    runReads dec s (a ++ b) =
      ((runReads dec s a).1 ++ (runReads dec (runReads dec s a).2 b).1,
        (runReads dec (runReads dec s a).2 b).2) := by
  induction a generalizing s with
  | nil => rfl
  | cons k ks ih => simp [runReads_cons, ih]

theorem okBytes_append (a b : List RResult) : okBytes (a ++ b) = okBytes a ++ okBytes b := by
  induction a with
  | nil => rfl
  | cons r rs ih =>
    cases r with
    | ok x => simp [okBytes, ih]
    | error e => simp [okBytes, ih]

theorem run_eof (n : Nat) : ∀ rs : List Nat,
    runReads dec ⟨[], n, []⟩ rs = (rs.map (fun _ => .error .eof), ⟨[], n, []⟩) := by
  intro rs
  induction rs with
  | nil => rfl
  | cons k ks ih => simp [runReads_cons, read_eof, ih]

theorem okBytes_eofs (rs : List Nat) : okBytes (rs.map (fun _ => (.error .eof : RResult))) = [] := by
  induction rs with
  | nil => rfl
  | cons k ks ih => simpa [okBytes] using ih

/-- the reader is in step with an undisturbed sender: its wire starts with the sealed frames of
the chunks `pre` under its own counter, followed by `rest`. `bounds` asks for non-empty chunks only
for progress (a `Read` of positive size hands out a byte); the prefix property needs the upper bound
alone (`pfx_step`). -/
structure Hon (s : RState) (pre : List Bytes) (rest : Bytes) : Prop where
  wire : s.wire = wireOf (sealFrom enc junk s.nonce pre) ++ rest
  bounds : ∀ ch ∈ pre, 0 < ch.length ∧ ch.length ≤ dataMaxSize
  room : s.nonce + pre.length ≤ maxU64

theorem honest_step (hc : Correct enc dec) (hl : LenOK enc) (s : RState) (pre : List Bytes)
    (rest : Bytes) (k : Nat) (h : Hon enc junk s pre rest) (hne : s.buf ≠ [] ∨ pre ≠ []) :
    ∃ s' bs pre', read dec s k = (s', .ok bs) ∧ Hon enc junk s' pre' rest ∧
      bs ++ (s'.buf ++ pre'.flatten) = s.buf ++ pre.flatten ∧ (0 < k → bs ≠ []) ∧
      s'.nonce + pre'.length = s.nonce + pre.length := by
  have htake : ∀ b : Bytes, b ≠ [] → 0 < k → b.take k ≠ [] := fun b hb hk h0 => by
    rcases List.take_eq_nil_iff.mp h0 with h1 | h1
    · omega
    · exact hb h1
  by_cases hb : s.buf = []
  · obtain ⟨ch, pre', rfl⟩ : ∃ ch pre', pre = ch :: pre' := by
      cases pre with
      | nil => exact absurd hb (hne.resolve_right (· rfl))
      | cons ch pre' => exact ⟨ch, pre', rfl⟩
    have hbd := h.bounds ch List.mem_cons_self
    have hroom : s.nonce + pre'.length + 1 ≤ maxU64 := h.room
    have hlen : (enc s.nonce (mkFrame ch (junk s.nonce))).length = sealedFrameSize := by
      rw [hl, mkFrame_length _ _ hbd.2]; rfl
    have hw : s.wire = enc s.nonce (mkFrame ch (junk s.nonce)) ++
        (wireOf (sealFrom enc junk (s.nonce + 1) pre') ++ rest) := by
      rw [h.wire]; simp [sealFrom, wireOf]
    refine ⟨_, _, pre', read_honest enc dec hc s k ch _ hb (by rw [hw, List.length_append]; omega)
      (by rw [hw]; exact List.take_left' hlen) hbd.2 (by omega), ?_, ?_, htake ch ?_, ?_⟩
    · exact ⟨by rw [hw]; exact List.drop_left' hlen, fun c hc' => h.bounds c (List.mem_cons_of_mem _ hc'),
        by show s.nonce + 1 + pre'.length ≤ maxU64; omega⟩
    · simp only [hb, List.nil_append, List.flatten_cons]
      rw [← List.append_assoc, List.take_append_drop]
    · exact fun h0 => by rw [h0] at hbd; exact absurd hbd.1 (by decide)
    · show s.nonce + 1 + pre'.length = s.nonce + (pre'.length + 1)
      omega
  · refine ⟨_, _, pre, read_buf dec s k hb, ⟨h.wire, h.bounds, h.room⟩, ?_, htake _ hb, rfl⟩
    show s.buf.take k ++ (s.buf.drop k ++ pre.flatten) = s.buf ++ pre.flatten
    rw [← List.append_assoc, List.take_append_drop]

/-- As long as honest frames (or buffered bytes) remain every `Read` succeeds and hands out the next
bytes: `rs` splits into `rs1`, served from the honest frames, and `rs2`, whose first read (if any)
meets the boundary state `⟨[], nonce + |pre|, rest⟩` with everything honest handed out. -/
theorem honest_run (hc : Correct enc dec) (hl : LenOK enc) (rest : Bytes) :
    ∀ (rs : List Nat) (s : RState) (pre : List Bytes), Hon enc junk s pre rest →
    ∃ rs1 rs2 res1 s1, rs = rs1 ++ rs2 ∧ runReads dec s rs1 = (res1, s1) ∧
      (∀ r ∈ res1, isOk r = true) ∧
      ((∀ k ∈ rs1, 0 < k) → rs1.length ≤ (okBytes res1).length) ∧
      okBytes res1 <+: s.buf ++ pre.flatten ∧
      (rs2 ≠ [] → okBytes res1 = s.buf ++ pre.flatten ∧ s1 = ⟨[], s.nonce + pre.length, rest⟩) := by
  intro rs
  induction rs with
  | nil =>
    intro s pre h
    exact ⟨[], [], [], s, rfl, rfl, nofun, fun _ => Nat.le_refl _, List.nil_prefix, fun h => absurd rfl h⟩
  | cons k ks ih =>
    intro s pre h
    by_cases hne : s.buf ≠ [] ∨ pre ≠ []
    · obtain ⟨s', bs, pre', hrd, hh, hpend, hprog, hnon⟩ := honest_step enc dec junk hc hl s pre rest k h hne
      obtain ⟨rs1, rs2, res1, s1, hsplit, hrun, hok, hlen, hpre, hbd⟩ := ih s' pre' hh
      refine ⟨k :: rs1, rs2, .ok bs :: res1, s1, by rw [hsplit]; rfl, ?_, ?_, ?_, ?_, fun h2 => ?_⟩
      · rw [runReads_cons, hrd, hrun]
      · intro r hr
        rcases List.mem_cons.mp hr with rfl | h1
        · rfl
        · exact hok r h1
      · intro hpos
        have h1 := hlen fun x hx => hpos x (List.mem_cons_of_mem _ hx)
        have h3 : 0 < bs.length := List.length_pos_iff.mpr (hprog (hpos k List.mem_cons_self))
        simp only [okBytes, List.length_append, List.length_cons]
        omega
      · rw [← hpend, okBytes]
        exact (List.prefix_append_right_inj bs).mpr hpre
      · rw [okBytes, (hbd h2).1, (hbd h2).2, hnon]
        exact ⟨hpend, rfl⟩
    · obtain ⟨hb, rfl⟩ : s.buf = [] ∧ pre = [] := by
        constructor <;> apply Decidable.byContradiction <;> intro hx
        · exact hne (Or.inl hx)
        · exact hne (Or.inr hx)
      refine ⟨[], k :: ks, [], s, rfl, rfl, nofun, fun _ => Nat.le_refl _, List.nil_prefix,
        fun _ => ⟨by rw [hb]; rfl, ?_⟩⟩
      obtain ⟨buf, nonce, wire⟩ := s
      obtain rfl : buf = [] := hb
      obtain rfl : wire = rest := h.wire
      rfl

/-- a ciphertext that opens under a counter although the sender never produced it under that
counter (the INT-CTXT winning condition) -/
structure Forgery (sent : List (Nat × Bytes)) where
  n : Nat
  c : Bytes
  m : Bytes
  opens : dec n c = some m
  fresh : (n, c) ∉ sent

theorem mem_sealFrom (l : List Bytes) (c n : Nat) (b : Bytes) :
    (n, b) ∈ sealFrom enc junk c l ↔
      ∃ i, ∃ h : i < l.length, n = c + i ∧ b = enc (c + i) (mkFrame l[i] (junk (c + i))) := by
  rw [sealFrom_eq, List.mem_map]
  constructor
  · rintro ⟨⟨x, m⟩, hx, he⟩
    obtain ⟨hcm, hget⟩ : c ≤ m ∧ l[m - c]? = some x := List.mem_zipIdx_iff_le_and_getElem?_sub.mp hx
    obtain ⟨hi, rfl⟩ := List.getElem?_eq_some_iff.mp hget
    obtain ⟨rfl, rfl⟩ := Prod.mk.inj he
    exact ⟨m - c, hi, by omega, by rw [show c + (m - c) = m by omega]⟩
  · rintro ⟨i, hi, rfl, rfl⟩
    exact ⟨(l[i], c + i), List.mem_zipIdx_iff_le_and_getElem?_sub.mpr
      ⟨Nat.le_add_right _ _, by simp [hi]⟩, rfl⟩

/-- at the boundary: a block that the sender did not produce under the reader's counter makes
`Read` fail (or is a forgery) -/
theorem boundary_fails (sent : List (Nat × Bytes)) (n : Nat) (rest : Bytes) (k : Nat)
    (hfresh : (n, rest.take sealedFrameSize) ∉ sent) :
    (∃ e, (read dec ⟨[], n, rest⟩ k).2 = .error e ∧ (e = .eof ∨ e = .ueof ∨ e = .decrypt)) ∨
      Nonempty (Forgery dec sent) := by
  rcases read_cases dec ⟨[], n, rest⟩ k rfl with ⟨s', e, hr, he, _⟩ | ⟨frame, _, hd⟩
  · exact Or.inl ⟨e, by rw [hr], he⟩
  · exact Or.inr ⟨⟨n, _, frame, hd, hfresh⟩⟩

/-- whatever is on the wire: the reader's counter is `c + i` for some `i`, and what it has been
handed (`D`) plus what it buffers is exactly the first `i` chunks the sender sealed -/
def Pfx (c : Nat) (cs : List Bytes) (D : Bytes) (s : RState) : Prop :=
  ∃ i, i ≤ cs.length ∧ s.nonce = c + i ∧ D ++ s.buf = (cs.take i).flatten

theorem pfx_step (hc : Correct enc dec) (c : Nat) (cs : List Bytes)
    (hb : ∀ ch ∈ cs, ch.length ≤ dataMaxSize)
    (hno : ¬ Nonempty (Forgery dec (sealFrom enc junk c cs)))
    (D : Bytes) (s : RState) (k : Nat) (h : Pfx c cs D s) :
    Pfx c cs (D ++ okBytes [(read dec s k).2]) (read dec s k).1 := by
  obtain ⟨i, hi, hn, hd⟩ := h
  have stay : ∀ s' e, read dec s k = (s', .error e) → s.buf = [] → s'.buf = [] → s'.nonce = s.nonce →
      Pfx c cs (D ++ okBytes [(read dec s k).2]) (read dec s k).1 := by
    intro s' e hr hbuf hbuf' hn'
    rw [hr]
    exact ⟨i, hi, hn' ▸ hn, by rw [hbuf] at hd; simpa [okBytes, hbuf'] using hd⟩
  by_cases hbuf : s.buf = []
  case neg =>
    rw [read_buf dec s k hbuf]
    refine ⟨i, hi, hn, ?_⟩
    simp only [okBytes, List.append_nil, List.append_assoc, List.take_append_drop]
    exact hd
  rcases read_cases dec s k hbuf with ⟨s', e, hr, _, hbuf', hn'⟩ | ⟨frame, hlen', hopen⟩
  · exact stay s' e hr hbuf hbuf' hn'
  · by_cases hmax : s.nonce = maxU64
    · exact stay _ _ (read_panic dec s k hbuf hlen' frame hopen hmax) hbuf hbuf rfl
    -- the block opens, so it is the one the sender sealed under this counter
    have hmem : (s.nonce, s.wire.take sealedFrameSize) ∈ sealFrom enc junk c cs :=
      Decidable.byContradiction fun h1 => hno ⟨⟨_, _, frame, hopen, h1⟩⟩
    obtain ⟨i', hi', he1, he2⟩ := (mem_sealFrom enc junk cs c _ _).mp hmem
    obtain rfl : i' = i := by omega
    rw [← hn] at he2
    rw [read_honest enc dec hc s k _ _ hbuf hlen' he2 (hb _ (List.getElem_mem hi')) hmax]
    refine ⟨i' + 1, by omega, by show s.nonce + 1 = _; omega, ?_⟩
    rw [hbuf, List.append_nil] at hd
    simp only [okBytes, List.append_nil, List.append_assoc, List.take_append_drop]
    rw [hd, List.take_succ_eq_append_getElem hi', List.flatten_append]
    simp

theorem pfx_run (hc : Correct enc dec) (c : Nat) (cs : List Bytes)
    (hb : ∀ ch ∈ cs, ch.length ≤ dataMaxSize)
    (hno : ¬ Nonempty (Forgery dec (sealFrom enc junk c cs))) :
    ∀ (rs : List Nat) (D : Bytes) (s : RState), Pfx c cs D s →
      Pfx c cs (D ++ okBytes (runReads dec s rs).1) (runReads dec s rs).2 := by
  intro rs
  induction rs with
  | nil => intro D s h; simpa [runReads, okBytes] using h
  | cons k ks ih =>
    intro D s h
    have h2 := ih _ _ (pfx_step enc dec junk hc c cs hb hno D s k h)
    rw [List.append_assoc, ← okBytes_append] at h2
    exact h2

/-- frames handed to the conn so far: counters strictly increasing, all in `[lo, hi)`, each frame
sealed under the counter it is listed with -/
def NonceOK (lo hi : Nat) (l : List (Nat × Bytes)) : Prop :=
  List.Pairwise (· < ·) (l.map (·.1)) ∧ ∀ x ∈ l, lo ≤ x.1 ∧ x.1 < hi ∧ ∃ m, x.2 = enc x.1 m

theorem nonceOK_nil (lo hi : Nat) : NonceOK enc lo hi [] :=
  ⟨List.Pairwise.nil, nofun⟩

theorem NonceOK.append {lo mid hi : Nat} {a b : List (Nat × Bytes)} (ha : NonceOK enc lo mid a)
    (hb : NonceOK enc mid hi b) (h1 : lo ≤ mid) (h2 : mid ≤ hi) : NonceOK enc lo hi (a ++ b) := by
  refine ⟨?_, fun x hx => ?_⟩
  · rw [List.map_append, List.pairwise_append]
    refine ⟨ha.1, hb.1, fun u hu v hv => ?_⟩
    obtain ⟨x, hx, rfl⟩ := List.mem_map.mp hu
    obtain ⟨y, hy, rfl⟩ := List.mem_map.mp hv
    exact Nat.lt_of_lt_of_le (ha.2 x hx).2.1 (hb.2 y hy).1
  · rcases List.mem_append.mp hx with h | h
    · exact ⟨(ha.2 x h).1, Nat.lt_of_lt_of_le (ha.2 x h).2.1 h2, (ha.2 x h).2.2⟩
    · exact ⟨Nat.le_trans h1 (hb.2 x h).1, (hb.2 x h).2.1, (hb.2 x h).2.2⟩

theorem writeLoop_nonces (lo : Nat) : ∀ (fuel nonce : Nat) (data : Bytes) (ok : Bool) (n : Nat)
    (acc : List (Nat × Bytes)), NonceOK enc lo nonce acc → lo ≤ nonce → nonce ≤ maxU64 →
    NonceOK enc lo (writeLoop enc junk fuel nonce data ok n acc).nonce
        (writeLoop enc junk fuel nonce data ok n acc).frames ∧
      nonce ≤ (writeLoop enc junk fuel nonce data ok n acc).nonce ∧
      (writeLoop enc junk fuel nonce data ok n acc).nonce ≤ maxU64 := by
  intro fuel
  induction fuel with
  | zero => intro nonce data ok n acc h hlo hmax; exact ⟨h, Nat.le_refl _, hmax⟩
  | succ f ih =>
    intro nonce data ok n acc h hlo hmax
    unfold writeLoop
    split
    · exact ⟨h, Nat.le_refl _, hmax⟩
    · simp only
      split
      · exact ⟨h, Nat.le_refl _, hmax⟩
      · rename_i nonce' hincr
        obtain ⟨rfl, hne⟩ := incrNonce_eq _ _ hincr
        have hlt : nonce < maxU64 := by omega
        split
        · -- the conn fails: the counter of the sealed frame is burnt
          refine ⟨?_, Nat.le_succ _, hlt⟩
          simpa using h.append enc (nonceOK_nil enc nonce (nonce + 1)) hlo (Nat.le_succ _)
        · have hone : ∀ m, NonceOK enc nonce (nonce + 1) [(nonce, enc nonce m)] := fun m =>
            ⟨List.pairwise_singleton _ _, fun x hx => by
              obtain rfl := List.mem_singleton.mp hx
              exact ⟨Nat.le_refl _, Nat.lt_succ_self _, m, rfl⟩⟩
          obtain ⟨a, b, c⟩ := ih (nonce + 1) _ ok _ _ (h.append enc (hone _) hlo (Nat.le_succ _))
            (by omega) (by omega)
          exact ⟨a, by omega, c⟩

theorem writeAll_nonces : ∀ (calls : List (Bytes × Bool)) (c : Nat), c ≤ maxU64 →
    NonceOK enc c (writeAll enc junk c calls).1 (writeAll enc junk c calls).2 ∧
      c ≤ (writeAll enc junk c calls).1 ∧ (writeAll enc junk c calls).1 ≤ maxU64 := by
  intro calls
  induction calls with
  | nil => intro c hc; exact ⟨nonceOK_nil enc c c, Nat.le_refl _, hc⟩
  | cons x xs ih =>
    intro c hc
    obtain ⟨d, ok⟩ := x
    have h1 : NonceOK enc c (write enc junk c d ok).nonce (write enc junk c d ok).frames ∧
        c ≤ (write enc junk c d ok).nonce ∧ (write enc junk c d ok).nonce ≤ maxU64 :=
      writeLoop_nonces enc junk c d.length c d ok 0 [] (nonceOK_nil enc c c) (Nat.le_refl _) hc
    have h2 := ih (write enc junk c d ok).nonce h1.2.2
    exact ⟨h1.1.append enc h2.1 h1.2.1 h2.2.1, Nat.le_trans h1.2.1 h2.2.1, h2.2.2⟩

end Tmv.SecretFrames
