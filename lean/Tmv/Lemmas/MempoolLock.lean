import Tmv.Model.MempoolLock
import Tmv.Lemmas.ListFacts
/-! Invariants of the mempool lock disciplines (C05), one per connection kind. For v0: the number of
read locks held equals the number of checkers whose call is blocking on the connection; the
committer's gate states hold the write lock. The local client (`v0`) is read off the general
connection (`v0g`), of which it is one schedule. -/
namespace Tmv.MempoolLock

def isGate (p : Nat × KPC) : Bool := p.2 == .atGate

def gateCount (l : List (Nat × KPC)) : Nat := (l.filter isGate).length

def setL (l : List (Nat × KPC)) (i : Nat) (k : KPC) : List (Nat × KPC) :=
  l.map fun p => if p.1 = i then (i, k) else p

theorem setK_chk (s : MS) (i : Nat) (k : KPC) : (setK s i k).chk = setL s.chk i k := rfl

theorem setL_keys (l : List (Nat × KPC)) (i : Nat) (k : KPC) :
    (setL l i k).map (·.1) = l.map (·.1) := by
  rw [setL, List.map_map]
  refine List.map_congr_left fun p _ => ?_
  by_cases h : p.1 = i
  · rw [Function.comp_apply, if_pos h]; exact h.symm
  · rw [Function.comp_apply, if_neg h]

theorem setL_absent (l : List (Nat × KPC)) (i : Nat) (k : KPC) (h : ∀ p ∈ l, p.1 ≠ i) :
    setL l i k = l :=
  (List.map_congr_left fun p hp => if_neg (h p hp)).trans (List.map_id' l)

/-- with distinct ids, re-labelling checker `i` from `k0` to `k` moves the gate count by exactly
its own contribution -/
theorem setL_count (l : List (Nat × KPC)) (i : Nat) (k0 k : KPC)
    (hn : (l.map (·.1)).Nodup) (hf : (l.find? (·.1 = i)).map (·.2) = some k0) :
    gateCount (setL l i k) + (if k0 = .atGate then 1 else 0)
      = gateCount l + (if k = .atGate then 1 else 0) := by
  -- `l = as ++ (i, k0) :: bs`, and the relabelling touches that one entry
  obtain ⟨p, hp, rfl⟩ := Option.map_eq_some_iff.1 hf
  obtain ⟨hi, as, bs, rfl, has⟩ := List.find?_eq_some_iff_append.1 hp
  obtain rfl : p.1 = i := by simpa using hi
  rw [List.map_append, List.map_cons] at hn
  have hbs : ∀ q ∈ bs, q.1 ≠ p.1 := fun q hq he =>
    (List.nodup_cons.1 (List.nodup_append.1 hn).2.1).1 (List.mem_map.2 ⟨q, hq, he⟩)
  have : setL (as ++ p :: bs) p.1 k = as ++ (p.1, k) :: bs := by
    have h1 := setL_absent as p.1 k (fun q hq => by simpa using has q hq)
    have h2 := setL_absent bs p.1 k hbs
    simp only [setL, List.map_append, List.map_cons, if_true] at h1 h2 ⊢
    rw [h1, h2]
  rw [this]
  simp only [gateCount, List.filter_append, List.filter_cons, isGate, List.length_append, beq_iff_eq]
  by_cases h1 : p.2 = .atGate <;> by_cases h2 : k = .atGate <;> simp [h1, h2] <;> omega

def holds : CPC → Bool
  | .flushGate => true
  | .commitGate => true
  | .recheckGate _ _ => true
  | _ => false

theorem kpc_none_absent (s : MS) (i : Nat) (h : (kpc s i).isNone) : ∀ p ∈ s.chk, p.1 ≠ i := by
  intro p hp he
  have : (s.chk.find? (·.1 = i)) = none := by
    simpa [kpc] using h
  have := List.find?_eq_none.mp this p hp
  simp [he] at this

/-- a step-wise simulation lifts to runs; with `v' = v` it is the induction for an invariant -/
theorem run_sim {v v' : Ver} {P : MS → Prop}
    (hstep : ∀ s s' e, P s → MempoolLock.step v s e = some s' → MempoolLock.step v' s e = some s' ∧ P s') :
    ∀ {es : List Ev} {s s' : MS}, P s → MempoolLock.run v s es = some s' → MempoolLock.run v' s es = some s' ∧ P s'
  | [], s, s', h, hs => by
    simp only [MempoolLock.run, Option.some.injEq] at hs ⊢
    exact ⟨hs, hs ▸ h⟩
  | e :: es, s, s', h, hs => by
    simp only [MempoolLock.run] at hs ⊢
    cases he : MempoolLock.step v s e with
    | none => simp [he] at hs
    | some s1 =>
      rw [he] at hs
      obtain ⟨h1, h2⟩ := hstep s s1 e h he
      rw [h1]
      exact run_sim hstep h2 hs

theorem run_invariant {v : Ver} {P : MS → Prop} (hstep : ∀ {s s' e}, P s → MempoolLock.step v s e = some s' → P s')
    {es : List Ev} {s s' : MS} (h : P s) (hs : MempoolLock.run v s es = some s') : P s' :=
  (run_sim (v' := v) (fun _ _ _ hp he => ⟨he, hstep hp he⟩) h hs).2

theorem any_gate_of_count (l : List (Nat × KPC)) (h : gateCount l = 0) :
    l.any (fun p => p.2 == KPC.atGate) = false :=
  List.any_eq_false.2 (List.filter_eq_nil_iff.1 (List.length_eq_zero_iff.1 h))

/-- v1 (over either connection): while the commit request is outstanding the committer holds the
exclusive lock -/
structure I1 (s : MS) : Prop where
  cw : s.cpc = .commitGate → s.writer = true

theorem I1.step {v : Ver} (hv : v = .v1 ∨ v = .v1a) {s s' : MS} {e : Ev} (h : I1 s)
    (hs : MempoolLock.step v s e = some s') : I1 s' := by
  -- the one event that matters is `relockCommit`: it alone enters the commit gate, and it takes the lock;
  -- `relCommit` alone drops the lock, and leaves the gate; no other event touches `writer`.
  -- `rcases hv` stands where the two connections have clauses of their own
  cases e <;> simp only [MempoolLock.step] at hs
  case spawnCheck i => split at hs <;> cases hs; exact ⟨h.cw⟩
  case prelude i => split at hs <;> rcases hv with rfl | rfl <;> cases hs <;> exact ⟨h.cw⟩
  case relCheck i =>
    -- over the queue the answer has a second guard; `hs` is read as `guard ∧ … ∧ update = s'`
    rcases hv with rfl | rfl <;>
      simp only [Option.ite_none_right_eq_some, Option.some.injEq, reduceCtorEq, false_and, ↓reduceIte] at hs
    · obtain ⟨-, rfl⟩ := hs; exact ⟨h.cw⟩
    · obtain ⟨-, -, rfl⟩ := hs; exact ⟨h.cw⟩
  case addCheck i => split at hs <;> cases hs; exact ⟨h.cw⟩
  case spawnCommit => split at hs <;> cases hs; exact ⟨by simp⟩
  case lockCommit => split at hs <;> rcases hv with rfl | rfl <;> cases hs <;> exact ⟨by simp⟩
  case relFlush =>
    rcases hv with rfl | rfl <;> simp only [Option.ite_none_right_eq_some, Option.some.injEq] at hs
    · obtain ⟨-, rfl⟩ := hs; exact ⟨by simp⟩
    · obtain ⟨-, -, rfl⟩ := hs; exact ⟨by simp⟩
  case relockCommit => split at hs <;> cases hs; exact ⟨by simp⟩
  case relCommit => split at hs <;> rcases hv with rfl | rfl <;> cases hs <;> exact ⟨by simp⟩
  case relRecheck j => rcases hv with rfl | rfl <;> simp only at hs <;> split at hs <;> cases hs <;> exact ⟨h.cw⟩
  case handleRecheck => split at hs <;> cases hs; exact ⟨h.cw⟩
  case retCheck i => rcases hv with rfl | rfl <;> simp at hs
  case retRecheck => rcases hv with rfl | rfl <;> simp at hs

/-! ## v0 over an asynchronous connection -/

/-- the queue is sorted: behind a check there are only checks -/
theorem ncbr_iff (q : List (Bool × Nat)) :
    noCheckBeforeRecheck q = true ↔ q.Pairwise fun x y => x.1 = false → y.1 = false := by
  induction q with
  | nil => exact ⟨fun _ => .nil, fun _ => rfl⟩
  | cons x r ih =>
    obtain ⟨b, i⟩ := x
    rw [List.pairwise_cons]
    cases b with
    | true => exact ih.trans ⟨fun h => ⟨nofun, h⟩, (·.2)⟩
    | false =>
      simp only [noCheckBeforeRecheck, List.all_eq_true, Bool.not_eq_true', forall_const]
      exact ⟨fun h => ⟨h, List.pairwise_of_forall_mem_list fun _ _ y hy _ => h y hy⟩, (·.1)⟩

theorem ncbr_append_check (q : List (Bool × Nat)) (i : Nat) (h : noCheckBeforeRecheck q = true) :
    noCheckBeforeRecheck (q ++ [(false, i)]) = true :=
  (ncbr_iff _).2 (List.pairwise_append.2 ⟨(ncbr_iff q).1 h, List.pairwise_singleton _ _,
    fun _ _ y hy _ => by rw [List.mem_singleton.1 hy]⟩)

theorem ncbr_tail (q : List (Bool × Nat)) (h : noCheckBeforeRecheck q = true) :
    noCheckBeforeRecheck q.tail = true :=
  (ncbr_iff _).2 (((ncbr_iff q).1 h).sublist (List.tail_sublist q))

theorem ncbr_rechecks (l : List Nat) : noCheckBeforeRecheck (l.map fun k => (true, k)) = true :=
  (ncbr_iff _).2 (List.pairwise_map.2 (List.pairwise_of_forall fun _ _ => nofun))

/-- invariant of v0 over an asynchronous connection; no recheck is outstanding and the committer is
never at a recheck gate, so that `inWindow` is exactly `cpc = .commitGate`. `cq`: the connection is drained at
the commit gate (`FlushSync` returned on an empty queue and the write lock, `cw`, has kept every prelude out
since); `fl`: a check at the gate is still in the queue — together: no check in flight at the commit gate -/
structure IA (s : MS) : Prop where
  cw : holds s.cpc = true → s.writer = true
  cq : s.cpc = .commitGate → s.queue = []
  fl : ∀ p ∈ s.chk, p.2 = .atGate → (false, p.1) ∈ s.queue
  ord : noCheckBeforeRecheck s.queue = true
  re : s.rechecks = []
  nrg : ∀ a b, s.cpc ≠ .recheckGate a b

theorem mem_setL {l : List (Nat × KPC)} {i : Nat} {k : KPC} {p : Nat × KPC} (h : p ∈ setL l i k) :
    (p = (i, k)) ∨ (p ∈ l ∧ p.1 ≠ i) := by
  simp only [setL, List.mem_map] at h
  obtain ⟨q, hq, rfl⟩ := h
  by_cases hqi : q.1 = i
  · left; simp [hqi]
  · right; simp [hqi, hq]

theorem mem_tail_of_head {α : Type} {q : List α} {x y : α} (hq : q.head? = some x) (hm : y ∈ q)
    (hne : y ≠ x) : y ∈ q.tail := by
  cases q with
  | nil => cases hm
  | cons z r =>
    obtain rfl : z = x := by simpa using hq
    exact (List.mem_cons.mp hm).resolve_left hne

theorem IA.step {s s' : MS} {e : Ev} (h : IA s) (hs : MempoolLock.step .v0a s e = some s') : IA s' := by
  -- the cases with an idea: `prelude` queues a check, which `cw` forbids at the commit gate (`cq` stays);
  -- `relCheck`/`relRecheck` pop the head, every other entry is still in the tail (`fl`); `relFlush` is where
  -- `cq` starts; `relCommit` appends the rechecks to a queue that `cq` says is empty (`ord`).
  -- `hs` is read as `guard ∧ update = s'`; the events this connection does not have go at once
  cases e <;> simp only [MempoolLock.step, Option.ite_none_right_eq_some, Option.some.injEq, reduceCtorEq,
    or_self, false_and, ↓reduceIte] at hs
  case spawnCheck i =>
    obtain ⟨-, rfl⟩ := hs
    refine ⟨h.cw, h.cq, ?_, h.ord, h.re, h.nrg⟩
    intro p hp hg
    rcases List.mem_append.mp hp with hp | hp
    · exact h.fl p hp hg
    · simp at hp; subst hp; simp at hg
  case prelude i =>
    obtain ⟨hk, rfl⟩ := hs
    refine ⟨h.cw, ?_, ?_, ncbr_append_check _ _ h.ord, h.re, h.nrg⟩
    · intro hc
      have hc' : s.cpc = .commitGate := hc
      have := h.cw (by simp [hc', holds])
      simp [hk.2] at this
    · intro p hp hg
      rcases mem_setL (by simpa [setK_chk] using hp) with rfl | ⟨hp', _⟩
      · simp
      · exact List.mem_append_left _ (h.fl p hp' hg)
  case relCheck i =>
    obtain ⟨hk, hq, rfl⟩ := hs
    refine ⟨h.cw, ?_, ?_, ncbr_tail _ h.ord, h.re, h.nrg⟩
    · intro hc
      have := h.cq hc
      simp [this]
    · intro p hp hg
      rcases mem_setL (by simpa [setK_chk] using hp) with rfl | ⟨hp', hne⟩
      · simp at hg
      · exact mem_tail_of_head hq (h.fl p hp' hg) (by simpa using hne)
  case spawnCommit =>
    obtain ⟨-, rfl⟩ := hs
    exact ⟨by simp [holds], by simp, h.fl, h.ord, h.re, by simp⟩
  case lockCommit =>
    obtain ⟨-, rfl⟩ := hs
    exact ⟨by simp, by simp, h.fl, h.ord, h.re, by simp⟩
  case relFlush =>
    obtain ⟨hk, hq, rfl⟩ := hs
    exact ⟨fun _ => h.cw (by simp [hk, holds]), fun _ => hq, h.fl, h.ord, h.re, by simp⟩
  case relCommit =>
    obtain ⟨hk, rfl⟩ := hs
    have hq := h.cq hk
    refine ⟨by simp [holds], by simp, ?_, ?_, h.re, by simp⟩
    · intro p hp hg
      have := h.fl p hp hg
      simp [hq] at this
    · show noCheckBeforeRecheck (s.queue ++ _) = true
      rw [hq, List.nil_append]
      have := ncbr_rechecks ((List.range s.pool).map (· + s.nextRecheck))
      rw [List.map_map] at this
      exact this
  case relRecheck j =>
    obtain ⟨hq, rfl⟩ := hs
    refine ⟨h.cw, ?_, ?_, ncbr_tail _ h.ord, h.re, h.nrg⟩
    · intro hc
      have := h.cq hc
      simp [this]
    · intro p hp hg
      exact mem_tail_of_head hq (h.fl p hp hg) (by simp)

theorem IA.init (p : Nat) : IA { pool := p } :=
  ⟨by simp [holds], by simp, by simp, rfl, rfl, by simp⟩

/-! ## v0 over a general connection -/

/-- invariant: read locks = blocking checker calls; the write lock excludes them; the committer's
gate states hold the write lock; inside the commit window no checker call has returned unanswered -/
structure IG (s : MS) : Prop where
  nodup : (s.chk.map (·.1)).Nodup
  cnt : s.readers = gateCount s.chk
  wr : s.writer = true → s.readers = 0
  cw : holds s.cpc = true → s.writer = true
  cq : inCommitWindow s = true → ∀ p ∈ s.chk, p.2 ≠ .queued

theorem window_holds {s : MS} (h : inCommitWindow s = true) : holds s.cpc = true := by
  revert h; simp only [inCommitWindow]; cases s.cpc <;> simp [holds]

theorem IG.relabel {s s' : MS} (h : IG s) {i : Nat} {k0 k : KPC} (hk : kpc s i = some k0)
    (hchk : s'.chk = setL s.chk i k) (hw : s'.writer = s.writer) (hc : s'.cpc = s.cpc)
    (hr : s'.readers = s.readers + (if k = .atGate then 1 else 0) - (if k0 = .atGate then 1 else 0))
    (hwr : s.writer = true → s'.readers = 0) (hq : inCommitWindow s = true → k ≠ .queued) : IG s' := by
  have hcount := setL_count s.chk i k0 k h.nodup (by simpa [kpc] using hk)
  have hcnt := h.cnt
  refine ⟨?_, ?_, ?_, ?_, ?_⟩
  · rw [hchk, setL_keys]; exact h.nodup
  · rw [hchk]; omega
  · rw [hw]; exact hwr
  · rw [hc, hw]; exact h.cw
  · intro hwin p hp
    have hwin' : inCommitWindow s = true := by simpa only [inCommitWindow, hc] using hwin
    rw [hchk] at hp
    rcases mem_setL hp with rfl | ⟨hp', _⟩
    · exact hq hwin'
    · exact h.cq hwin' p hp'

theorem IG.unlock {s : MS} (h : IG s) (r : List Nat) :
    IG { s with cpc := .idle, writer := false, rechecks := r } :=
  ⟨h.nodup, h.cnt, nofun, nofun, nofun⟩

theorem IG.hold {s : MS} (h : IG s) (hwin : inCommitWindow s = true) (cp : CPC) (r : List Nat) (n : Nat) :
    IG { s with cpc := cp, rechecks := r, nextRecheck := n } :=
  ⟨h.nodup, h.cnt, h.wr, fun _ => h.cw (window_holds hwin), fun _ => h.cq hwin⟩

theorem IG.answered {s : MS} (h : IG s) (r : List Nat) : IG { s with rechecks := r } :=
  ⟨h.nodup, h.cnt, h.wr, h.cw, h.cq⟩

theorem IG.step {s s' : MS} {e : Ev} (h : IG s) (hs : MempoolLock.step .v0g s e = some s') : IG s' := by
  cases e <;> simp only [MempoolLock.step, Option.ite_none_right_eq_some, Option.some.injEq, reduceCtorEq,
    or_self, false_and, true_and] at hs
  case spawnCheck i =>
    obtain ⟨hk, rfl⟩ := hs
    have habs := kpc_none_absent s i hk
    refine ⟨?_, ?_, h.wr, h.cw, ?_⟩
    · simp only [List.map_append, List.map_cons, List.map_nil]
      refine nodup_concat h.nodup fun ha => ?_
      obtain ⟨p, hp, e⟩ := List.mem_map.mp ha
      exact habs p hp e
    · simp [gateCount, List.filter_append, isGate, h.cnt]
    · intro hw p hp
      rcases List.mem_append.mp hp with hp | hp
      · exact h.cq hw p hp
      · simp at hp; subst hp; simp
  case prelude i =>
    obtain ⟨hk, rfl⟩ := hs
    exact h.relabel hk.1 rfl rfl rfl (by simp) (fun hw => by simp [hk.2] at hw) (fun _ => by simp)
  case relCheck i =>
    split at hs
    · rename_i hk
      cases hs
      exact h.relabel hk rfl rfl rfl (by simp) (fun hw => by simp [h.wr hw]) (fun _ => by simp)
    · split at hs <;> cases hs
      rename_i hk
      exact h.relabel hk rfl rfl rfl (by simp [setK]) h.wr (fun _ => by simp)
  case spawnCommit =>
    obtain ⟨-, rfl⟩ := hs
    exact ⟨h.nodup, h.cnt, h.wr, nofun, nofun⟩
  case lockCommit =>
    obtain ⟨hk, rfl⟩ := hs
    refine ⟨h.nodup, h.cnt, fun _ => ?_, fun _ => rfl, nofun⟩
    have := hk.2
    simp [lockFree] at this
    exact this.2
  case relFlush =>
    obtain ⟨hk, hq, rfl⟩ := hs
    refine ⟨h.nodup, h.cnt, h.wr, fun _ => h.cw (by rw [hk]; rfl), ?_⟩
    intro _ p hp
    have := hq.1
    simp only [List.all_eq_true] at this
    simpa using this p hp
  case relCommit =>
    obtain ⟨hk, hs⟩ := hs
    have hwin : inCommitWindow s = true := by rw [inCommitWindow, hk]
    split at hs <;> cases hs
    · exact h.unlock _
    · exact h.hold hwin _ _ _
  case relRecheck j =>
    split at hs
    · rename_i cur left hk
      have hwin : inCommitWindow s = true := by rw [inCommitWindow, hk]
      split at hs
      · split at hs <;> cases hs
        · exact h.unlock _
        · exact h.hold hwin _ _ _
      · split at hs <;> cases hs
        exact h.answered _
    · split at hs <;> cases hs
      exact h.answered _
  case retCheck i =>
    obtain ⟨hk, rfl⟩ := hs
    -- checker `i` is at the gate, so it is counted among the read locks held: the write lock is
    -- not held, and the state is not inside the window
    have hpos : 0 < s.readers := by
      have hc := setL_count s.chk i .atGate .done h.nodup (by simpa [kpc] using hk)
      simp only [reduceCtorEq, ↓reduceIte] at hc
      have := h.cnt
      omega
    exact h.relabel hk rfl rfl rfl (by simp) (fun hw => by simp [h.wr hw])
      (fun hwin => by have := h.wr (h.cw (window_holds hwin)); omega)
  case retRecheck =>
    split at hs
    · rename_i cur left hk
      have hwin : inCommitWindow s = true := by rw [inCommitWindow, hk]
      split at hs <;> cases hs
      · exact h.unlock _
      · exact h.hold hwin _ _ _
    · cases hs

theorem IG.init (p : Nat) : IG { pool := p } :=
  ⟨by simp, by simp [gateCount], by simp, by simp [holds], by simp [inCommitWindow]⟩

/-! every run of the local-client discipline `v0` is a run of the general discipline `v0g` -/

def noQ (s : MS) : Prop := (∀ p ∈ s.chk, p.2 ≠ KPC.queued) ∧ s.rechecks = []

theorem noQ_setK {s : MS} {i : Nat} {k : KPC} (h : ∀ p ∈ s.chk, p.2 ≠ KPC.queued) (hk : k ≠ .queued) :
    ∀ p ∈ (setK s i k).chk, p.2 ≠ KPC.queued := by
  intro p hp
  rcases mem_setL (by simpa [setK_chk] using hp) with rfl | ⟨hp', _⟩
  · exact hk
  · exact h p hp'

theorem v0_step_in_v0g {s s' : MS} {e : Ev} (hq : noQ s) (h : MempoolLock.step .v0 s e = some s') :
    MempoolLock.step .v0g s e = some s' ∧ noQ s' := by
  cases e <;> simp only [MempoolLock.step, Option.ite_none_right_eq_some, Option.some.injEq, reduceCtorEq,
    or_self, false_and, true_and, ↓reduceIte] at h ⊢
  -- where the two disciplines have the same clause, `h` itself is the step of the general one
  case spawnCheck i =>
    refine ⟨h, ?_⟩
    obtain ⟨-, rfl⟩ := h
    refine ⟨fun p hp => ?_, hq.2⟩
    rcases List.mem_append.mp hp with hp | hp
    · exact hq.1 p hp
    · simp at hp; subst hp; simp
  case prelude i =>
    refine ⟨h, ?_⟩
    obtain ⟨-, rfl⟩ := h
    exact ⟨noQ_setK hq.1 (by simp), hq.2⟩
  case relCheck i =>
    obtain ⟨hk, rfl⟩ := h
    exact ⟨if_pos hk, noQ_setK hq.1 (by simp), hq.2⟩
  case spawnCommit =>
    refine ⟨h, ?_⟩
    obtain ⟨-, rfl⟩ := h
    exact hq
  case lockCommit =>
    refine ⟨h, ?_⟩
    obtain ⟨-, rfl⟩ := h
    exact hq
  case relFlush =>
    obtain ⟨hk, rfl⟩ := h
    have : (s.chk.all fun p => p.2 != KPC.queued) = true := by
      simp only [List.all_eq_true]; intro p hp; simpa using hq.1 p hp
    exact ⟨⟨hk, ⟨this, hq.2⟩, rfl⟩, hq⟩
  case relCommit =>
    refine ⟨h, ?_⟩
    obtain ⟨-, h⟩ := h
    split at h <;> cases h <;> exact hq
  case relRecheck j =>
    split at h
    · rename_i cur left hk
      split at h
      · rename_i hj
        split at h <;> cases h
        · rename_i hl; exact ⟨by simp [hj, hl], hq⟩
        · rename_i hl; exact ⟨by simp [hj, hl], hq⟩
      · cases h
    · cases h

theorem v0_run_in_v0g {s s' : MS} {es : List Ev} (hq : noQ s) (h : MempoolLock.run .v0 s es = some s') :
    MempoolLock.run .v0g s es = some s' ∧ noQ s' :=
  run_sim (fun _ _ _ hq' he => v0_step_in_v0g hq' he) hq h

end Tmv.MempoolLock
