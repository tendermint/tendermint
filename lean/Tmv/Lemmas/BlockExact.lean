import Tmv.Lemmas.BlockIndex
import Tmv.Lemmas.MatchA
import Tmv.Lemmas.InsertSort
/-! The scans of `BlockerIndexer.Search` over the rows of the accepted blocks, in the form
`loops_exact` asks for (`block_range_scan`, `block_cond_scan`), the final sort, and `Search` past its
shortcut (`search_eq_loops`). -/
namespace Tmv.BlockIndex
open Tmv.Query Tmv.Index Tmv.IndexerService

/-- the attribute list a block is judged by: its indexed begin/end attributes and its height -/
def attrsB (b : Block) : List (Str × Str) :=
  evAttrs b.beginEvents ++ evAttrs b.endEvents ++ [(blockHeightKey, dec b.height)]

/-- a row read as an attribute: first component and value text; the primary row is the block's
`block.height` attribute -/
def attrOf : BKey → Str × Str
  | .primary h => (blockHeightKey, dec h)
  | .event k v _ _ => (k, v)

/-- the rows of a block, read as attributes, are its attribute list -/
theorem exists_blockRows (b : Block) (P : Str × Str → Prop) :
    (∃ row ∈ blockRows b, P (attrOf row.1)) ↔ ∃ kv ∈ attrsB b, P kv := by
  simp only [blockRows, eventRows, attrsB, List.mem_cons, List.mem_append, List.mem_map, List.not_mem_nil,
    or_false]
  constructor
  · rintro ⟨row, (rfl | ⟨kv, h, rfl⟩ | ⟨kv, h, rfl⟩), hp⟩
    · exact ⟨_, Or.inr rfl, hp⟩
    · exact ⟨kv, Or.inl (Or.inl h), hp⟩
    · exact ⟨kv, Or.inl (Or.inr h), hp⟩
  · rintro ⟨kv, ((h | h) | rfl), hp⟩
    · exact ⟨_, Or.inr (Or.inl ⟨kv, h, rfl⟩), hp⟩
    · exact ⟨_, Or.inr (Or.inr ⟨kv, h, rfl⟩), hp⟩
    · exact ⟨_, Or.inl rfl, hp⟩

/-- a scan whose filter reads the row as an attribute: the heights it yields -/
theorem scan_heights (bs : List Block) (P : Str × Str → Bool) (x : Nat) :
    x ∈ ((indexed bs).filter fun row => P (attrOf row.1)).map (·.2) ↔
      ∃ b ∈ bs.filter acceptable, b.height = x ∧ ∃ kv ∈ attrsB b, P kv = true := by
  simp only [List.mem_map, List.mem_filter, mem_indexed]
  constructor
  · rintro ⟨row, ⟨⟨b, hb, ha, hr⟩, ht⟩, rfl⟩
    exact ⟨b, ⟨hb, ha⟩, (blockRows_val b row hr).1.symm, (exists_blockRows b (P · = true)).mp ⟨row, hr, ht⟩⟩
  · rintro ⟨b, ⟨hb, ha⟩, rfl, hkv⟩
    obtain ⟨row, hr, ht⟩ := (exists_blockRows b (P · = true)).mpr hkv
    exact ⟨row, ⟨⟨b, hb, ha, hr⟩, ht⟩, (blockRows_val b row hr).1⟩

theorem evAttrs_key_ne (evs : List Event) (h : reservedFree evs = true) :
    ∀ kv ∈ evAttrs evs, kv.1 ≠ blockHeightKey := by
  intro kv hkv
  obtain ⟨e, he, hkv⟩ := List.mem_flatMap.mp hkv
  have hok := List.all_eq_true.mp h e he
  split at hkv
  · cases hkv
  · rename_i h1
    obtain ⟨a, ha, hk⟩ := List.mem_filterMap.mp hkv
    have hoka := List.all_eq_true.mp (by simpa [h1] using hok) a ha
    split at hk
    · cases hk
    · rename_i h2
      split at hk
      · cases hk
        simpa [attrOK, h2] using hoka
      · cases hk

/-- in the database, a row's first component tells how `matchRange` reads its value -/
theorem rangeValue_indexed (bs : List Block) : ∀ row ∈ indexed bs,
    rangeValue (attrOf row.1).1 row.1 = some (attrOf row.1).2 := by
  intro row hrow
  obtain ⟨b, _, ha, hr⟩ := (mem_indexed bs row).mp hrow
  simp only [acceptable, Bool.and_eq_true] at ha
  simp only [blockRows, eventRows, List.mem_cons, List.mem_append, List.mem_map] at hr
  rcases hr with rfl | ⟨kv, h, rfl⟩ | ⟨kv, h, rfl⟩
  · simp [rangeValue, attrOf]
  · simp [rangeValue, attrOf, evAttrs_key_ne _ ha.1 kv h]
  · simp [rangeValue, attrOf, evAttrs_key_ne _ ha.2 kv h]

theorem inRange_eq (r : QRange) (m : Nat) : inRange r (m : Int) = inR r m := rfl

theorem rangeRows_B (bs : List Block) (r : QRange) :
    rangeRows (indexed bs) r = (indexed bs).filter fun row =>
      (fun kv : Str × Str => kv.1 == r.key && rangeTest r kv.2) (attrOf row.1) := by
  rw [rangeRows, List.filter_filter]
  refine List.filter_congr fun row hrow => ?_
  have hfc : firstComp row.1 = (attrOf row.1).1 := by cases row.1 <;> rfl
  rw [hfc]
  by_cases hk : (attrOf row.1).1 = r.key
  · rw [← hk, rangeValue_indexed bs row hrow]
    simp only [beq_self_eq_true, Bool.and_true, Bool.true_and]
    rfl
  · simp only [beq_eq_false_iff_ne.mpr hk, Bool.and_false, Bool.false_and]

/-- conditions the block-index theorem covers: the classes of the language, and on the key
`block.height` only `EXISTS` and ranges (`block.height = n` is the shortcut, see
`block_search_by_height`; string conditions on it never match: known finding) -/
def CleanCondB (c : Cond) : Prop :=
  CondClass c ∧ (c.key = blockHeightKey → c.op = .exists ∨ isRangeOp c.op = true)

/-- the scan of a non-range condition keeps the rows that, read as attributes, are under the
condition's key and pass its test -/
theorem condRows_B (d : DB) (c : Cond) (hc : CleanCondB c) (hnr : isRangeOp c.op = false) :
    condRows d c = .rows (d.filter fun row =>
      (fun kv : Str × Str => kv.1 == c.key && valTestG c kv.2) (attrOf row.1)) := by
  obtain ⟨hclass, hkey⟩ := hc
  -- `=` and `CONTAINS` skip the primary rows; their key is not `block.height`
  have hne : c.op = .eq ∨ c.op = .contains → (blockHeightKey == c.key) = false := by
    intro h
    refine beq_eq_false_iff_ne.mpr fun e => ?_
    rcases hkey e.symm with h' | h' <;> rcases h with h | h <;> rw [h] at h' <;> cases h'
  cases hclass.view with
  | range _ _ _ hr _ _ => rw [hr] at hnr; cases hnr
  | eqStr k s =>
    refine congrArg Scan.rows (List.filter_congr fun row _ => ?_)
    cases row.1 <;> simp [attrOf, valTestG, operandStr, hne (Or.inl rfl)]
  | eqInt k n _ =>
    refine congrArg Scan.rows (List.filter_congr fun row _ => ?_)
    cases row.1 <;> simp [attrOf, valTestG, operandStr, hne (Or.inl rfl)]
  | exist k _ =>
    refine congrArg Scan.rows (List.filter_congr fun row _ => ?_)
    cases row.1 <;> simp [attrOf, valTestG, firstComp]
  | contains k s =>
    refine congrArg Scan.rows (List.filter_congr fun row _ => ?_)
    cases row.1 <;> simp [attrOf, valTestG, hne (Or.inr rfl)]

def heightsOfScan : Scan → List Nat
  | .rows d => d.map (·.2)
  | _ => []

theorem scanOK_rows (d : DB) : ScanOK scanStep (Scan.rows d) (heightsOfScan (.rows d)) := by
  intro st
  simp only [scanStep, interStep, heightsOfScan]
  split <;> rfl

theorem block_range_scan (bs : List Block) (W : QRange) :
    ScanOK scanStep (.rows (rangeRows (indexed bs) W)) (heightsOfScan (.rows (rangeRows (indexed bs) W))) ∧
    ∀ x, x ∈ heightsOfScan (.rows (rangeRows (indexed bs) W)) ↔
      ∃ b ∈ bs.filter acceptable, b.height = x ∧ ∃ kv ∈ attrsB b, kv.1 = W.key ∧ rangeTest W kv.2 = true := by
  refine ⟨scanOK_rows _, fun x => ?_⟩
  rw [rangeRows_B, heightsOfScan, scan_heights bs (fun kv => kv.1 == W.key && rangeTest W kv.2) x]
  simp only [Bool.and_eq_true, beq_iff_eq]

theorem block_cond_scan (bs : List Block) (c : Cond) (hc : CleanCondB c) (hnr : isRangeOp c.op = false) :
    ScanOK scanStep (condRows (indexed bs) c) (heightsOfScan (condRows (indexed bs) c)) ∧
    ∀ x, x ∈ heightsOfScan (condRows (indexed bs) c) ↔
      ∃ b ∈ bs.filter acceptable, b.height = x ∧ ∃ kv ∈ attrsB b, kv.1 = c.key ∧ valTestG c kv.2 = true := by
  rw [condRows_B _ c hc hnr]
  refine ⟨scanOK_rows _, fun x => ?_⟩
  rw [heightsOfScan, scan_heights bs (fun kv => kv.1 == c.key && valTestG c kv.2) x]
  simp only [Bool.and_eq_true, beq_iff_eq]

theorem sorts : InsertionSort (· ≤ ·) insertNat sortNat :=
  ⟨fun _ => rfl, fun _ _ _ => rfl, rfl, fun _ _ => rfl⟩

/-- `sort.Slice` on a duplicate-free list: strictly ascending -/
theorem sortNat_sorted (l : List Nat) (hn : l.Nodup) : (sortNat l).Pairwise (· < ·) :=
  sorts.pairwise (R := (· < ·)) (fun _ _ _ => Nat.lt_trans)
    (hn.imp fun hne => ⟨(Nat.lt_of_le_of_ne · hne), Nat.not_le.1⟩)

/-! ### hypotheses and the computation of `Search` -/

/-- a query the block-index theorem covers, relative to the indexed blocks -/
structure CleanQueryB (bs : List Block) (q : Query) : Prop where
  nonempty : q ≠ []
  conds : ∀ c ∈ q, CleanCondB c
  oneLower : ∀ k, ((rangeConds q).filter fun c => decide (c.key = k) && isLower c.op).length ≤ 1
  oneUpper : ∀ k, ((rangeConds q).filter fun c => decide (c.key = k) && isUpper c.op).length ≤ 1
  canon : ∀ c ∈ q, ∀ b ∈ bs, acceptable b = true → CanonForA c (attrsB b)
  single : ∀ k, 2 ≤ ((rangeConds q).filter fun c => decide (c.key = k)).length →
    ∀ b ∈ bs, acceptable b = true → (valuesOf (attrsB b) k).length ≤ 1

theorem CleanQueryB.fits {bs : List Block} {q : Query} (hq : CleanQueryB bs q) {b : Block}
    (hb : b ∈ bs.filter acceptable) : Fits q (attrsB b) :=
  have hb := List.mem_filter.mp hb
  ⟨⟨(blockHeightKey, dec b.height), by simp [attrsB]⟩, fun c hc => (hq.conds c hc).1, hq.oneLower, hq.oneUpper,
    fun c hc => hq.canon c hc b hb.1 hb.2, fun k h => hq.single k h b hb.1 hb.2⟩

/-- accepted blocks have distinct heights (a height is committed once) -/
def DistinctHeights (bs : List Block) : Prop :=
  ∀ b ∈ bs, ∀ b' ∈ bs, acceptable b = true → acceptable b' = true → b.height = b'.height → b = b'

theorem CleanQueryB.noHeight {bs : List Block} {q : Query} (hq : CleanQueryB bs q) :
    lookForHeight q = none := by
  simp only [lookForHeight, List.findSome?_eq_none_iff]
  intro c hcq
  split
  · rename_i hk
    simp only [Bool.and_eq_true, beq_iff_eq] at hk
    rcases (hq.conds c hcq).2 hk.1 with h | h <;> rw [hk.2] at h <;> cases h
  · rfl

theorem search_eq_loops (db : DB) (q : Query) (h1 : conditionsOK q = true) (h2 : lookForHeight q = none) :
    search db q =
      match (otherConds q).foldl (fun st c => scanStep st (condRows db c))
        ((lookForRanges q).foldl (fun st W => scanStep st (.rows (rangeRows db W))) (.ok none)) with
      | .error e => e
      | .ok none => .heights []
      | .ok (some hs) => .heights (sortNat (hs.filter (has db))) := by
  simp only [search, h1, h2, Bool.not_true, Bool.false_eq_true, if_false]
  rfl

end Tmv.BlockIndex
