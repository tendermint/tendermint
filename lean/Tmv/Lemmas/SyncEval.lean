import Tmv.Model.Sync
/-! Evaluating `closure` on a concrete net. `closureLoop` detects its fixpoint with the derived
`DecidableEq` of `NetSig`; on EQUAL signatures the kernel reduces that instance through the equality
proofs it carries, which a Boolean comparison does not have. `closureLoopB` is the same loop with `==`;
concrete runs are rewritten to it before they are evaluated. -/
namespace Tmv.Sync

deriving instance BEq, ReflBEq, LawfulBEq for VsSig
deriving instance BEq, ReflBEq, LawfulBEq for RoundSig
deriving instance BEq, ReflBEq, LawfulBEq for NodeSig
deriving instance BEq, ReflBEq, LawfulBEq for NetSig

def closureLoopB (c : SCfg) : Nat → Net → Net
  | 0, net => net
  | fuel + 1, net =>
    let net' := net.pass c
    if net'.sig == net.sig then net' else closureLoopB c fuel net'

theorem closureLoop_eq_B (c : SCfg) (fuel : Nat) (net : Net) :
    closureLoop c fuel net = closureLoopB c fuel net := by
  induction fuel generalizing net with
  | zero => rfl
  | succ n ih => simp only [closureLoop, closureLoopB, ih, beq_iff_eq]

def closureCountB (c : SCfg) : Nat → Net → Option Nat
  | 0, _ => none
  | fuel + 1, net =>
    let net' := net.pass c
    if net'.sig == net.sig then some 1 else (closureCountB c fuel net').map (· + 1)

theorem closureCount_eq_B (c : SCfg) (fuel : Nat) (net : Net) :
    closureCount c fuel net = closureCountB c fuel net := by
  induction fuel generalizing net with
  | zero => rfl
  | succ n ih => simp only [closureCount, closureCountB, ih, beq_iff_eq]

end Tmv.Sync
