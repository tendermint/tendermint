import Tmv.Lemmas.Index
import Tmv.Lemmas.Ranges
/-! The match-side lemmas over an arbitrary attribute list `A` (composite key, value), so that they
serve both the events of a tx (`attrsAll r`) and the begin/end events of a block; and the argument
both indexes share: an item matches the query iff every scan of `Search` finds it. -/
namespace Tmv.Index
open Tmv.Query

def valuesOf (l : List (Str × Str)) (k : Str) : List Str := (l.filter (fun kv => kv.1 == k)).map (·.2)

/-- the event map built from an attribute list (what `validateAndStringifyEvents` + the reserved
keys produce: values grouped per composite key, in order) -/
def evOf (A : List (Str × Str)) : Events := A.foldl (fun ev kv => groupInsert ev kv.1 kv.2) []

theorem eventsOf_evOf (r : TxResult) : eventsOf r = evOf (attrsAll r) := by
  simp [eventsOf, evOf, attrsAll, List.foldl_append]

theorem mem_valuesOf (l : List (Str × Str)) (k v : Str) : v ∈ valuesOf l k ↔ (k, v) ∈ l := by
  simp only [valuesOf, List.mem_map, List.mem_filter]
  constructor
  · rintro ⟨kv, ⟨hm, hk⟩, rfl⟩
    have : kv.1 = k := by simpa using hk
    rw [← this]; exact hm
  · intro h
    exact ⟨(k, v), ⟨h, by simp⟩, rfl⟩

theorem any_valuesOf_iff (A : List (Str × Str)) (k : Str) (t : Str → Bool) :
    (valuesOf A k).any t = true ↔ ∃ kv ∈ A, kv.1 = k ∧ t kv.2 = true := by
  rw [List.any_eq_true]
  constructor
  · rintro ⟨v, hv, ht⟩
    exact ⟨(k, v), (mem_valuesOf _ _ _).mp hv, rfl, ht⟩
  · rintro ⟨kv, hkv, rfl, ht⟩
    exact ⟨kv.2, (mem_valuesOf _ _ _).mpr hkv, ht⟩

/-- what `lookup` gives for a key after the values `vs` are appended under it -/
def optApp (o : Option (List Str)) (vs : List Str) : Option (List Str) :=
  if vs = [] then o else some (o.getD [] ++ vs)

theorem optApp_optApp (o : Option (List Str)) (a b : List Str) :
    optApp (optApp o a) b = optApp o (a ++ b) := by
  unfold optApp
  by_cases ha : a = [] <;> by_cases hb : b = [] <;> simp [ha, hb]

theorem lookup_cons (x : Str × List Str) (xs : Events) (k : Str) :
    lookup (x :: xs) k = if x.1 = k then some x.2 else lookup xs k := by
  unfold lookup
  by_cases h : x.1 = k <;> simp [h]

theorem lookup_eq_none (ev : Events) (k : Str) : lookup ev k = none ↔ ev.any (·.1 == k) = false := by
  simp [lookup, List.find?_eq_none]

theorem lookup_map_append (ev : Events) (k' v k : Str) :
    lookup (ev.map fun p => if (p.1 == k') = true then (p.1, p.2 ++ [v]) else p) k =
    (lookup ev k).map (fun vs => if k = k' then vs ++ [v] else vs) := by
  induction ev with
  | nil => rfl
  | cons p rest ih =>
    have hfst : (if (p.1 == k') = true then (p.1, p.2 ++ [v]) else p).1 = p.1 := by split <;> rfl
    rw [List.map_cons, lookup_cons, lookup_cons, hfst, ih]
    by_cases hpk : p.1 = k
    · subst hpk
      by_cases hpk' : p.1 = k' <;> simp [hpk']
    · rw [if_neg hpk, if_neg hpk]

theorem lookup_append_new (ev : Events) (k' v k : Str) (hno : lookup ev k' = none) :
    lookup (ev ++ [(k', [v])]) k = if k = k' then some [v] else lookup ev k := by
  by_cases hk : k = k'
  · subst hk
    unfold lookup at hno ⊢
    rw [Option.map_eq_none_iff] at hno
    simp [List.find?_append, hno]
  · have : ¬ k' = k := fun e => hk e.symm
    unfold lookup
    cases h : ev.find? (fun p => p.1 == k) <;> simp [List.find?_append, h, hk, this]

theorem lookup_groupInsert (ev : Events) (k' v k : Str) :
    lookup (groupInsert ev k' v) k = optApp (lookup ev k) (if k = k' then [v] else []) := by
  unfold groupInsert
  split
  · rename_i hany
    rw [lookup_map_append]
    by_cases hk : k = k'
    · subst hk
      cases h : lookup ev k with
      | none => rw [(lookup_eq_none ev k).mp h] at hany; cases hany
      | some vs => simp [optApp]
    · simp [hk, optApp]
  · rename_i hany
    have hno : lookup ev k' = none := (lookup_eq_none ev k').mpr ((Bool.not_eq_true _).mp hany)
    rw [lookup_append_new ev k' v k hno]
    by_cases hk : k = k'
    · subst hk; simp [optApp, hno]
    · simp [hk, optApp]

theorem lookup_fold (l : List (Str × Str)) (ev : Events) (k : Str) :
    lookup (l.foldl (fun ev kv => groupInsert ev kv.1 kv.2) ev) k = optApp (lookup ev k) (valuesOf l k) := by
  induction l generalizing ev with
  | nil => simp [valuesOf, optApp]
  | cons kv rest ih =>
    simp only [List.foldl_cons]
    rw [ih, lookup_groupInsert, optApp_optApp]
    congr 1
    by_cases h : kv.1 = k
    · simp [valuesOf, h]
    · have : ¬ k = kv.1 := fun e => h e.symm
      simp [valuesOf, h, this]

theorem lookup_evOf (A : List (Str × Str)) (k : Str) :
    lookup (evOf A) k = if valuesOf A k = [] then none else some (valuesOf A k) := by
  rw [evOf, lookup_fold]
  simp [optApp, lookup]

theorem evOf_nonempty (A : List (Str × Str)) (kv : Str × Str) (h : kv ∈ A) : (evOf A).isEmpty = false := by
  have hl := lookup_evOf A kv.1
  have hne : valuesOf A kv.1 ≠ [] := List.ne_nil_of_mem ((mem_valuesOf _ _ _).mpr h)
  rw [if_neg hne] at hl
  cases he : evOf A with
  | nil => rw [he] at hl; cases hl
  | cons _ _ => rfl

/-- the test a condition puts on ONE value of its key, as `matchValue` (on canonical decimals) and
the index scans both evaluate it.  G: every condition class; `valTest` (IndexExact) is the string
class only -/
def valTestG (c : Cond) (v : Str) : Bool :=
  match c.op, c.operand with
  | .eq, .str s => v == s
  | .eq, .int n => v == dec n
  | .exists, _ => true
  | .contains, .str s => isInfix s v
  | op, .int n => cmpInt op (digitsVal v) n
  | _, _ => false

/-- the condition classes of the language the theorems cover (no float/TIME/DATE; numbers within
int64; `EXISTS` on a dotted key; `> MaxInt64` excluded) -/
def CondClass (c : Cond) : Prop :=
  (c.op = .eq ∧ ∃ s, c.operand = .str s) ∨
  (c.op = .eq ∧ ∃ n, c.operand = .int n ∧ n ≤ maxInt64) ∨
  (c.op = .exists ∧ c.operand = .none ∧ c.key.contains dot = true) ∨
  (c.op = .contains ∧ ∃ s, c.operand = .str s) ∨
  (isRangeOp c.op = true ∧ RangeCondOK c)

/-- `CondClass` as an inductive family: `cases` substitutes the shape of the condition -/
inductive CondView : Cond → Prop
  | eqStr (k s : Str) : CondView ⟨k, .eq, .str s⟩
  | eqInt (k : Str) (n : Nat) (hle : n ≤ maxInt64) : CondView ⟨k, .eq, .int n⟩
  | exist (k : Str) (hdot : k.contains dot = true) : CondView ⟨k, .exists, .none⟩
  | contains (k s : Str) : CondView ⟨k, .contains, .str s⟩
  | range (k : Str) (op : Op) (n : Nat) (hr : isRangeOp op = true) (hle : n ≤ maxInt64)
      (hgt : op = .gt → n < maxInt64) : CondView ⟨k, op, .int n⟩

theorem CondClass.view {c : Cond} (h : CondClass c) : CondView c := by
  obtain ⟨k, op, operand⟩ := c
  rcases h with ⟨hop, s, hs⟩ | ⟨hop, n, hn, hle⟩ | ⟨hop, hnone, hdot⟩ | ⟨hop, s, hs⟩ | ⟨hr, n, hn, hle, hgt⟩ <;>
    simp only at * <;> subst_vars
  · exact .eqStr k s
  · exact .eqInt k n hle
  · exact .exist k hdot
  · exact .contains k s
  · exact .range k op n hr hle hgt

theorem CondView.toClass {c : Cond} (h : CondView c) : CondClass c := by
  cases h with
  | eqStr k s => exact Or.inl ⟨rfl, s, rfl⟩
  | eqInt k n hle => exact Or.inr (Or.inl ⟨rfl, n, rfl, hle⟩)
  | exist k hdot => exact Or.inr (Or.inr (Or.inl ⟨rfl, rfl, hdot⟩))
  | contains k s => exact Or.inr (Or.inr (Or.inr (Or.inl ⟨rfl, s, rfl⟩)))
  | range k op n hr hle hgt => exact Or.inr (Or.inr (Or.inr (Or.inr ⟨hr, n, rfl, hle, hgt⟩)))

theorem CondClass.int_le {c : Cond} (hc : CondClass c) {n : Nat} (hn : c.operand = .int n) :
    n ≤ maxInt64 := by
  cases hc.view with
  | eqInt _ _ hle => cases hn; exact hle
  | range _ _ _ _ hle _ => cases hn; exact hle
  | _ => cases hn

theorem CondClass.rangeOK {c : Cond} (hc : CondClass c) (hr : isRangeOp c.op = true) : RangeCondOK c := by
  cases hc.view with
  | range _ _ n _ hle hgt => exact ⟨n, rfl, hle, hgt⟩
  | _ => cases hr

theorem conditionsOK_of_class (q : Query) (hq : ∀ c ∈ q, CondClass c) : conditionsOK q = true := by
  simp only [conditionsOK, List.all_eq_true]
  intro c hc
  cases ho : c.operand with
  | int n => simpa using (hq c hc).int_le ho
  | _ => rfl

/-- A: any attribute list; `condHolds c r` (IndexExact) is `holdsA c (attrsAll r)` for the string class -/
def holdsA (c : Cond) (A : List (Str × Str)) : Bool := (valuesOf A c.key).any (valTestG c)

theorem holdsA_iff (c : Cond) (A : List (Str × Str)) :
    holdsA c A = true ↔ ∃ kv ∈ A, kv.1 = c.key ∧ valTestG c kv.2 = true :=
  any_valuesOf_iff A c.key (valTestG c)

/-- a numeric condition meets canonical decimals within int64 only — otherwise `matchValue` (first
digit run) and the index (exact text, `ParseInt`) read the value differently: known finding
`noncanonical-number-value`.  `CanonFor c r` (IndexExact) is this at `attrsAll r` -/
def CanonForA (c : Cond) (A : List (Str × Str)) : Prop :=
  ∀ n, c.operand = .int n → ∀ v ∈ valuesOf A c.key, ∃ m, m ≤ maxInt64 ∧ v = dec m

/-- a decidable test for "canonical decimal within int64" -/
theorem canon_of_check {v : Str} (h : (v == dec (digitsVal v) && decide (digitsVal v ≤ maxInt64)) = true) :
    ∃ m, m ≤ maxInt64 ∧ v = dec m := by
  simp only [Bool.and_eq_true, beq_iff_eq, decide_eq_true_eq] at h
  exact ⟨_, h.2, h.1⟩

theorem valTestG_range (c : Cond) (n m : Nat) (hr : isRangeOp c.op = true) (hn : c.operand = .int n) :
    valTestG c (dec m) = cSem c m := by
  unfold valTestG cSem
  rw [hn, digitsVal_dec]
  cases hop : c.op <;> first | rfl | (rw [hop] at hr; cases hr)

theorem matchValue_class (c : Cond) (hc : CondClass c) (v : Str)
    (hcan : ∀ n, c.operand = .int n → ∃ m, m ≤ maxInt64 ∧ v = dec m) :
    c.op ≠ .exists → matchValue v c.op c.operand = .ok (valTestG c v) := by
  intro hne
  cases hc.view with
  | eqStr k s => rfl
  | contains k s => rfl
  | exist k _ => exact absurd rfl hne
  | eqInt k n _ =>
    obtain ⟨m, hm, rfl⟩ := hcan n rfl
    simp only [matchValue, convInt_dec m hm, cmpInt, valTestG]
    by_cases e : m = n
    · simp [e]
    · have : ¬ dec m = dec n := fun h => e (dec_inj h)
      rw [beq_eq_false_iff_ne.mpr e, beq_eq_false_iff_ne.mpr this]
  | range k op n hr _ _ =>
    obtain ⟨m, hm, rfl⟩ := hcan n rfl
    rw [valTestG_range _ n m hr rfl]
    simp only [matchValue, convInt_dec m hm, cSem]

theorem matchValues_class (c : Cond) (hc : CondClass c) (hne : c.op ≠ .exists) (vs : List Str)
    (hcan : ∀ n, c.operand = .int n → ∀ v ∈ vs, ∃ m, m ≤ maxInt64 ∧ v = dec m) :
    matchValues c.op c.operand vs = .ok (vs.any (valTestG c)) := by
  induction vs with
  | nil => rfl
  | cons v rest ih =>
    rw [matchValues, matchValue_class c hc v (fun n hn => hcan n hn v List.mem_cons_self) hne,
      List.any_cons]
    cases valTestG c v
    · exact ih (fun n hn v hv => hcan n hn v (List.mem_cons_of_mem _ hv))
    · rfl

theorem condMatch_of_ne_exists (c : Cond) (hne : c.op ≠ .exists)
    (hle : ∀ n, c.operand = .int n → n ≤ maxInt64) (ev : Events) :
    condMatch c ev = match lookup ev c.key with
      | none => .ok false
      | some vs => matchValues c.op c.operand vs := by
  unfold condMatch
  cases ho : c.operand with
  | int n =>
    have hgt : ¬ n > maxInt64 := Nat.not_lt.mpr (hle n ho)
    cases hop : c.op <;> first | exact if_neg hgt | exact absurd hop hne
  | _ => cases hop : c.op <;> first | rfl | exact absurd hop hne

theorem condMatch_A (c : Cond) (hc : CondClass c) (A : List (Str × Str)) (hcan : CanonForA c A) :
    condMatch c (evOf A) = .ok (holdsA c A) := by
  unfold holdsA
  by_cases hex : c.op = .exists
  · cases hc.view with
    | exist k hdot =>
      have ht : valTestG ⟨k, .exists, .none⟩ = fun _ => true := rfl
      simp only [condMatch, hdot, if_true, lookup_evOf, ht]
      cases valuesOf A k <;> rfl
    | range _ _ _ hr _ _ => cases hex; cases hr
    | _ => cases hex
  · rw [condMatch_of_ne_exists c hex (fun n hn => hc.int_le hn), lookup_evOf]
    by_cases he : valuesOf A c.key = []
    · rw [if_pos he, he]; rfl
    · rw [if_neg he]
      exact matchValues_class c hc hex _ hcan

theorem matchConds_A (q : Query) (A : List (Str × Str)) (hq : ∀ c ∈ q, CondClass c)
    (hcan : ∀ c ∈ q, CanonForA c A) :
    matchConds q (evOf A) = .ok (q.all fun c => holdsA c A) := by
  induction q with
  | nil => rfl
  | cons c rest ih =>
    unfold matchConds
    rw [condMatch_A c (hq c List.mem_cons_self) A (hcan c List.mem_cons_self)]
    cases h : holdsA c A with
    | false => simp [h]
    | true => simp [h, ih (fun c' hc' => hq c' (List.mem_cons_of_mem _ hc'))
        (fun c' hc' => hcan c' (List.mem_cons_of_mem _ hc'))]

theorem matches_A (q : Query) (A : List (Str × Str)) (hne : ∃ kv, kv ∈ A)
    (hq : ∀ c ∈ q, CondClass c) (hcan : ∀ c ∈ q, CanonForA c A) :
    «matches» q (evOf A) = .ok true ↔ ∀ c ∈ q, holdsA c A = true := by
  obtain ⟨kv, hkv⟩ := hne
  simp only [«matches», evOf_nonempty A kv hkv, Bool.false_eq_true, if_false, matchConds_A q A hq hcan]
  constructor
  · intro h; injection h with h; exact List.all_eq_true.mp h
  · intro h; rw [List.all_eq_true.mpr h]

/-- what the exactness theorems ask of a query relative to the attribute list of one item -/
structure Fits (q : Query) (A : List (Str × Str)) : Prop where
  nonempty : ∃ kv, kv ∈ A
  conds : ∀ c ∈ q, CondClass c
  /-- at most one lower and one upper bound per key (else: finding `range-conditions-merged-per-key`) -/
  oneLower : ∀ k, ((rangeConds q).filter fun c => decide (c.key = k) && isLower c.op).length ≤ 1
  oneUpper : ∀ k, ((rangeConds q).filter fun c => decide (c.key = k) && isUpper c.op).length ≤ 1
  /-- numerically compared values are canonical decimals (else: `noncanonical-number-value`) -/
  canon : ∀ c ∈ q, CanonForA c A
  /-- a key with both bounds carries one value (else: `range-conditions-merged-per-key`) -/
  single : ∀ k, 2 ≤ ((rangeConds q).filter fun c => decide (c.key = k)).length → (valuesOf A k).length ≤ 1

/-- the values under the key of a merged interval are canonical decimals, because some numeric
condition of the query is on that key -/
theorem canon_of_range (q : Query) (hconds : ∀ c ∈ q, CondClass c) (A : List (Str × Str))
    (hcanA : ∀ c ∈ q, CanonForA c A) (W : QRange) (hW : W ∈ lookForRanges q) :
    ∀ v ∈ valuesOf A W.key, ∃ m, m ≤ maxInt64 ∧ v = dec m := by
  obtain ⟨c0, hc0, hk0⟩ := (lookForRanges_spec q).onlyKeys W hW
  obtain ⟨hc0q, hr0⟩ := List.mem_filter.mp hc0
  obtain ⟨n0, hn0, _⟩ := (hconds c0 hc0q).rangeOK hr0
  rw [← hk0]
  exact hcanA c0 hc0q n0 hn0

/-- the test `matchRange` applies to the value text of a row -/
def rangeTest (r : QRange) (v : Str) : Bool :=
  match parseInt v with
  | none => false
  | some x =>
    (match lowerBoundValue r with | some lo => decide (lo ≤ x) | none => true) &&
    (match upperBoundValue r with | some hi => decide (x ≤ hi) | none => true)

theorem rangeTest_iff (A : List (Str × Str)) (r : QRange)
    (hcan : ∀ v ∈ valuesOf A r.key, ∃ m, m ≤ maxInt64 ∧ v = dec m) :
    (∃ kv ∈ A, kv.1 = r.key ∧ rangeTest r kv.2 = true) ↔ ∃ m, (r.key, dec m) ∈ A ∧ inR r m = true := by
  have hdec : ∀ m, m ≤ maxInt64 → rangeTest r (dec m) = inR r m := fun m hm => by
    rw [rangeTest, parseInt_dec m hm]; rfl
  constructor
  · rintro ⟨kv, hkv, hk, ht⟩
    have hmem : (r.key, kv.2) ∈ A := by rw [← hk]; exact hkv
    obtain ⟨m, hm, hv⟩ := hcan kv.2 ((mem_valuesOf _ _ _).mpr hmem)
    rw [hv] at hmem ht
    exact ⟨m, hmem, (hdec m hm).symm.trans ht⟩
  · rintro ⟨m, hmem, hin⟩
    obtain ⟨m', hm', hv⟩ := hcan _ ((mem_valuesOf _ _ _).mpr hmem)
    cases dec_inj hv
    exact ⟨_, hmem, rfl, (hdec m hm').trans hin⟩

/-- per item: the merged interval of a key accepts one of the item's values iff every range
condition on that key holds of the item -/
theorem range_item (q : Query) (hconds : ∀ c ∈ q, CondClass c)
    (oneLower : ∀ k, ((rangeConds q).filter fun c => decide (c.key = k) && isLower c.op).length ≤ 1)
    (oneUpper : ∀ k, ((rangeConds q).filter fun c => decide (c.key = k) && isUpper c.op).length ≤ 1)
    (A : List (Str × Str)) (hcanA : ∀ c ∈ q, CanonForA c A)
    (hsingle : ∀ k, 2 ≤ ((rangeConds q).filter fun c => decide (c.key = k)).length → (valuesOf A k).length ≤ 1)
    (W : QRange) (hW : W ∈ lookForRanges q) :
    (∃ m, (W.key, dec m) ∈ A ∧ inR W m = true) ↔
      ∀ c ∈ rangeConds q, c.key = W.key → holdsA c A = true := by
  have spec := lookForRanges_spec q
  have hcs : ∀ c ∈ rangeConds q, isRangeOp c.op = true ∧ c ∈ q := fun c hc =>
    ⟨(List.mem_filter.mp hc).2, (List.mem_filter.mp hc).1⟩
  have hok : ∀ c ∈ rangeConds q, RangeCondOK c := fun c hc =>
    (hconds c (hcs c hc).2).rangeOK (hcs c hc).1
  let Ck := (rangeConds q).filter fun c => decide (c.key = W.key)
  have hCk : ∀ c, c ∈ Ck ↔ c ∈ rangeConds q ∧ c.key = W.key := fun c => by simp [Ck, List.mem_filter]
  obtain ⟨c0, hc0, hk0⟩ := spec.onlyKeys W hW
  have hCkne : Ck ≠ [] := List.ne_nil_of_mem ((hCk c0).mpr ⟨hc0, hk0⟩)
  have hcan := canon_of_range q hconds A hcanA W hW
  have hin : ∀ m, inR W m = true ↔ ∀ c ∈ Ck, valTestG c (dec m) = true := by
    intro m
    have := rangeOf_sem (rangeConds q) W.key (fun c hc => (hcs c hc).1) hok (oneLower W.key)
      (oneUpper W.key) m
    rw [← spec.isFold W hW, ← inR_eq] at this
    rw [this, List.all_eq_true]
    refine forall₂_congr fun c hc => ?_
    obtain ⟨n, hn, _⟩ := hok c ((hCk c).mp hc).1
    rw [valTestG_range c n m (hcs c ((hCk c).mp hc).1).1 hn]
  have hlen : (valuesOf A W.key).length ≤ 1 ∨ Ck.length ≤ 1 := by
    by_cases h2 : 2 ≤ Ck.length
    · exact Or.inl (hsingle W.key h2)
    · exact Or.inr (by omega)
  have hswap := exists_forall_swap (valuesOf A W.key) Ck (fun c v => valTestG c v = true) hCkne hlen
  calc (∃ m, (W.key, dec m) ∈ A ∧ inR W m = true)
      ↔ ∃ v ∈ valuesOf A W.key, ∀ c ∈ Ck, valTestG c v = true := by
        constructor
        · rintro ⟨m, hm, hi⟩
          exact ⟨dec m, (mem_valuesOf _ _ _).mpr hm, (hin m).mp hi⟩
        · rintro ⟨v, hv, hall⟩
          obtain ⟨m, _, rfl⟩ := hcan v hv
          exact ⟨m, (mem_valuesOf _ _ _).mp hv, (hin m).mpr hall⟩
    _ ↔ ∀ c ∈ Ck, ∃ v ∈ valuesOf A W.key, valTestG c v = true := hswap
    _ ↔ ∀ c ∈ rangeConds q, c.key = W.key → holdsA c A = true := by
        simp only [hCk, holdsA, List.any_eq_true, and_imp]
        refine forall₃_congr fun c _ hk => ?_
        rw [hk]

theorem Fits.item {q : Query} {A : List (Str × Str)} (h : Fits q A) (W : QRange)
    (hW : W ∈ lookForRanges q) :
    (∃ m, (W.key, dec m) ∈ A ∧ inR W m = true) ↔
      ∀ c ∈ rangeConds q, c.key = W.key → holdsA c A = true :=
  range_item q h.conds h.oneLower h.oneUpper A h.canon h.single W hW

theorem Fits.canon_of_range {q : Query} {A : List (Str × Str)} (h : Fits q A) {W : QRange}
    (hW : W ∈ lookForRanges q) : ∀ v ∈ valuesOf A W.key, ∃ m, m ≤ maxInt64 ∧ v = dec m :=
  Index.canon_of_range q h.conds A h.canon W hW

/-- one item: `Query.Matches` accepts its event map iff every scan `Search` makes for the query
would find it — each merged interval one of its values, each other condition holds -/
theorem matches_iff_scans {q : Query} {A : List (Str × Str)} (h : Fits q A) :
    «matches» q (evOf A) = .ok true ↔
      (∀ W ∈ lookForRanges q, ∃ m, (W.key, dec m) ∈ A ∧ inR W m = true) ∧
      ∀ c ∈ otherConds q, holdsA c A = true := by
  rw [matches_A q A h.nonempty h.conds h.canon, forall_conds_iff]
  have hri := h.item
  refine and_congr_left' ⟨fun hR W hW => (hri W hW).mpr (fun c hc _ => hR c hc), fun hR c hc => ?_⟩
  obtain ⟨W, hW, hk⟩ := (lookForRanges_spec q).covers c hc
  exact (hri W hW).mp (hR W hW) c hc hk.symm

/-- a set of items told apart by `id`: `x` is yielded by every scan — for each scan as the id of
some item that passes it — iff `x` is the id of an item that matches the query.  `E` is a further
restriction a scan may put on the items it yields, provided the conditions imply it anyway (the
`tx.height` narrowing). -/
theorem scans_iff_matches {ι α : Type} (items : List ι) (A : ι → List (Str × Str)) (id : ι → α)
    (hinj : ∀ a ∈ items, ∀ b ∈ items, id a = id b → a = b) (q : Query) (hne : q ≠ [])
    (hfit : ∀ it ∈ items, Fits q (A it)) (E : Cond → ι → Prop)
    (hE : ∀ it ∈ items, (∀ c ∈ otherConds q, holdsA c (A it) = true) → ∀ c ∈ otherConds q, E c it)
    (x : α) :
    ((∀ W ∈ lookForRanges q, ∃ it ∈ items, id it = x ∧ ∃ m, (W.key, dec m) ∈ A it ∧ inR W m = true) ∧
      ∀ c ∈ otherConds q, ∃ it ∈ items, id it = x ∧ holdsA c (A it) = true ∧ E c it) ↔
    ∃ it ∈ items, id it = x ∧ «matches» q (evOf (A it)) = .ok true := by
  constructor
  · rintro ⟨hR, hC⟩
    -- some scan names an item with this id; the ids being distinct, every scan speaks of that item
    have hex : ∃ it ∈ items, id it = x := by
      rcases exists_scan q hne with ⟨W, hW⟩ | ⟨c, hc⟩
      · obtain ⟨it, hit, hx, _⟩ := hR W hW; exact ⟨it, hit, hx⟩
      · obtain ⟨it, hit, hx, _⟩ := hC c hc; exact ⟨it, hit, hx⟩
    obtain ⟨it, hit, hx⟩ := hex
    refine ⟨it, hit, hx, (matches_iff_scans (hfit it hit)).mpr ⟨fun W hW => ?_, fun c hc => ?_⟩⟩
    · obtain ⟨it', hit', hx', h⟩ := hR W hW
      cases hinj it' hit' it hit (hx'.trans hx.symm)
      exact h
    · obtain ⟨it', hit', hx', h, _⟩ := hC c hc
      cases hinj it' hit' it hit (hx'.trans hx.symm)
      exact h
  · rintro ⟨it, hit, hx, hm⟩
    obtain ⟨hR, hC⟩ := (matches_iff_scans (hfit it hit)).mp hm
    exact ⟨fun W hW => ⟨it, hit, hx, hR W hW⟩, fun c hc => ⟨it, hit, hx, hC c hc, hE it hit hC c hc⟩⟩

/-- **The two loops of `Search` are exact**, for any index whose scans (`fR W` of a merged interval,
`fC c` of another condition) succeed and yield the ids of the items with a value under the key that
passes the test: the loops end with the ids of the items that match the query, each once.  The tx
index and the block index are the two instances. -/
theorem loops_exact {ι ε σ α : Type} [BEq α] [LawfulBEq α] (items : List ι) (A : ι → List (Str × Str))
    (id : ι → α) (hinj : ∀ a ∈ items, ∀ b ∈ items, id a = id b → a = b) (q : Query) (hne : q ≠ [])
    (hfit : ∀ it ∈ items, Fits q (A it)) (E : Cond → ι → Prop)
    (hE : ∀ it ∈ items, (∀ c ∈ otherConds q, holdsA c (A it) = true) → ∀ c ∈ otherConds q, E c it)
    (step : Except ε (Option (List α)) → σ → Except ε (Option (List α))) (ids : σ → List α)
    (fR : QRange → σ) (fC : Cond → σ)
    (hR : ∀ W ∈ lookForRanges q, ScanOK step (fR W) (ids (fR W)) ∧ ∀ x, x ∈ ids (fR W) ↔
      ∃ it ∈ items, id it = x ∧ ∃ kv ∈ A it, kv.1 = W.key ∧ rangeTest W kv.2 = true)
    (hC : ∀ c ∈ otherConds q, ScanOK step (fC c) (ids (fC c)) ∧ ∀ x, x ∈ ids (fC c) ↔
      ∃ it ∈ items, id it = x ∧ ∃ kv ∈ A it, kv.1 = c.key ∧ valTestG c kv.2 = true ∧ E c it) :
    ∃ L, (otherConds q).foldl (fun st c => step st (fC c))
        ((lookForRanges q).foldl (fun st W => step st (fR W)) (.ok none)) = .ok (some L) ∧ L.Nodup ∧
      ∀ x, x ∈ L ↔ ∃ it ∈ items, id it = x ∧ «matches» q (evOf (A it)) = .ok true := by
  obtain ⟨L, eL, nL, mL⟩ := interFold_scans q hne (fun W => ids (fR W)) (fun c => ids (fC c))
  refine ⟨L, ?_, nL, fun x => ?_⟩
  · rw [foldl_scanOK step _ fR _ fun W hW => (hR W hW).1, foldl_scanOK step _ fC _ fun c hc => (hC c hc).1,
      interFold_append, eL]
  · rw [mL, ← scans_iff_matches items A id hinj q hne hfit E hE x]
    refine and_congr (forall₂_congr fun W hW => ?_) (forall₂_congr fun c hc => ?_)
    · rw [(hR W hW).2]
      refine exists_congr fun it => and_congr_right fun hit => and_congr_right fun _ => ?_
      exact rangeTest_iff (A it) W ((hfit it hit).canon_of_range hW)
    · rw [(hC c hc).2]
      refine exists_congr fun it => and_congr_right fun _ => and_congr_right fun _ => ?_
      rw [holdsA_iff]
      constructor
      · rintro ⟨kv, hkv, hk, ht, he⟩; exact ⟨⟨kv, hkv, hk, ht⟩, he⟩
      · rintro ⟨⟨kv, hkv, hk, ht⟩, he⟩; exact ⟨kv, hkv, hk, ht, he⟩

end Tmv.Index
