import Tmv.Lemmas.ConsErase
import Tmv.Model.SignCons
/-! Replaying a WAL in which the node's own messages are records gives the round state of
`Cons.step` / `Cons.run` over the external inputs, whatever the replaying node's signer does. -/
namespace Tmv.Cons
open Tmv.Node04

variable {c : Cfg}

theorem replayRec_own {b : NodeState} (m : Internal) (hg : ¬ (b.halted = true ∨ b.decided.isSome = true)) :
    replayRec c b (.own m) = handleInternal c b m := by
  unfold replayRec; simp only [hg, if_false]

theorem replayRec_ext {b : NodeState} (i : Input) (hg : ¬ (b.halted = true ∨ b.decided.isSome = true)) :
    replayRec c b (.ext i) = handleInput c b i := by
  unfold replayRec; simp only [hg, if_false]

theorem drain_replay (fuel : Nat) {a b : NodeState} (h : er a = er b) :
    er (drain c fuel a) = er (replayRecs c b ((drainLog c fuel a).map .own)) := by
  induction fuel generalizing a b with
  | zero => unfold drain drainLog; exact h
  | succ n ih =>
    have hh := er_halted h
    have hd := er_decided h
    unfold drain drainLog
    by_cases hg : a.halted = true ∨ a.decided.isSome = true
    · simp only [hg, if_true]; exact h
    · simp only [hg, if_false]
      have hgb : ¬ (b.halted = true ∨ b.decided.isSome = true) := by rw [← hh, ← hd]; exact hg
      cases hq : a.queue with
      | nil => exact h
      | cons m rest =>
        simp only [List.map_cons, replayRecs, List.foldl_cons]
        rw [replayRec_own m hgb]
        exact ih (er_handleInternal m (show er { a with queue := rest } = er b from h))

/-- one step of the consensus model = replaying the records it writes, whatever the replaying
node's signer state, outputs and queue are -/
theorem step_replay (i : Input) {a b : NodeState} (h : er a = er b) :
    er (step c a i) = er (replayRecs c b (stepLog c a i)) := by
  have hh := er_halted h
  have hd := er_decided h
  unfold step stepLog
  by_cases hg : a.halted = true ∨ a.decided.isSome = true
  · simp only [hg, if_true]; exact h
  · simp only [hg, if_false]
    have hgb : ¬ (b.halted = true ∨ b.decided.isSome = true) := by rw [← hh, ← hd]; exact hg
    simp only [replayRecs, List.foldl_cons]
    rw [replayRec_ext i hgb]
    exact drain_replay _ (er_handleInput i h)

theorem run_replay (is : List Input) {a b : NodeState} (h : er a = er b) :
    er (run c a is) = er (replayRecs c b (runLog c a is)) := by
  induction is generalizing a b with
  | nil => exact h
  | cons i is ih =>
    have h1 := step_replay (c := c) i h
    show er (run c (step c a i) is) = er (replayRecs c b (stepLog c a i ++ runLog c (step c a i) is))
    unfold replayRecs
    rw [List.foldl_append]
    exact ih h1

/-- replaying ANY record list: the round state does not depend on the signer state, the outputs or
the queue the replaying node starts with -/
theorem replayRecs_cong (w : List Rec) {a b : NodeState} (h : er a = er b) :
    er (replayRecs c a w) = er (replayRecs c b w) := by
  induction w generalizing a b with
  | nil => exact h
  | cons r w ih =>
    have hh := er_halted h
    have hd := er_decided h
    simp only [replayRecs, List.foldl_cons]
    apply ih
    have hgb : (b.halted = true ∨ b.decided.isSome = true) ↔ (a.halted = true ∨ a.decided.isSome = true) := by
      rw [← hh, ← hd]
    by_cases hg : a.halted = true ∨ a.decided.isSome = true
    · have hg' := hgb.2 hg
      cases r <;> simp only [replayRec, hg, hg', if_true] <;> exact h
    · have hg' : ¬ (b.halted = true ∨ b.decided.isSome = true) := fun x => hg (hgb.1 x)
      cases r with
      | ext i => rw [replayRec_ext i hg, replayRec_ext i hg']; exact er_handleInput i h
      | own m => rw [replayRec_own m hg, replayRec_own m hg']; exact er_handleInternal m h

theorem runCore_consCore (e : Env) (lss0 : Option (Nat × Nat × Payload)) (s : NodeState) (w : List Input) :
    SignNode.runCore (consCore e c lss0) s w = run c s w := by
  induction w generalizing s with
  | nil => rfl
  | cons i w ih => exact ih _

end Tmv.Cons
