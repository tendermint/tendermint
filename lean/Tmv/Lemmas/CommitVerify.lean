import Tmv.Model.CommitVerify
/-! Lemmas for C07: int64 arithmetic of the commit-verification model, the specification
vocabulary (`sumPower`, `pickedPower`, `GoodPick`, `AllValid`), and the check on one slot
(`checkSlot`); the loops are in `CommitTally`. Core-only. -/
namespace Tmv.CommitVerify

theorem wrap64_of_nonneg {x : Int} (h0 : 0 ≤ x) (h : x ≤ maxInt64) : wrap64 x = x := by
  unfold wrap64; unfold maxInt64 at h; omega

theorem maxTotal_bound : 0 ≤ maxTotalVotingPower ∧ maxTotalVotingPower * 8 ≤ maxInt64 := by decide

theorem safeMul_spec {a b : Int} (ha : 0 ≤ a) (hb : 0 ≤ b) (h : (safeMul a b).2 = false) :
    (safeMul a b).1 = a * b ∧ a * b ≤ maxInt64 := by
  unfold safeMul at h ⊢
  by_cases h0 : a = 0 ∨ b = 0
  · simp only [if_pos h0]
    rcases h0 with h0 | h0 <;> subst h0 <;> simp [maxInt64]
  · have ha' : ¬ a < 0 := by omega
    have hb' : ¬ b < 0 := by omega
    have hbpos : 0 < b := by omega
    simp only [if_neg h0, if_neg ha', if_neg hb'] at h ⊢
    by_cases hle : a > maxInt64.tdiv b
    · simp [if_pos hle] at h
    · simp only [if_neg hle]
      rw [Int.tdiv_eq_ediv_of_nonneg (by decide)] at hle
      have hle' : a ≤ maxInt64 / b := by omega
      have hm : a * b ≤ maxInt64 := (Int.le_ediv_iff_mul_le hbpos).mp hle'
      have h0 : 0 ≤ a * b := Int.mul_nonneg ha hb
      exact ⟨wrap64_of_nonneg h0 hm, hm⟩

def sumPower (vs : List Validator) : Int := (vs.map (·.power)).sum

def powerAt (vs : List Validator) (j : Nat) : Int :=
  match vs[j]? with
  | some v => v.power
  | none => 0

def pickedPower (vs : List Validator) (js : List Nat) : Int := (js.map (powerAt vs)).sum

def NonNeg (vs : List Validator) : Prop := ∀ v ∈ vs, 0 ≤ v.power

theorem sumPower_cons (v : Validator) (vs : List Validator) :
    sumPower (v :: vs) = v.power + sumPower vs := by
  simp [sumPower]

theorem pickedPower_cons (vs : List Validator) (j : Nat) (js : List Nat) :
    pickedPower vs (j :: js) = powerAt vs j + pickedPower vs js := by
  simp [pickedPower]

theorem powerAt_nonneg {vs : List Validator} (h : NonNeg vs) (j : Nat) : 0 ≤ powerAt vs j := by
  unfold powerAt
  split
  · rename_i v hv; exact h v (List.mem_of_getElem? hv)
  · omega

theorem pickedPower_nonneg {vs : List Validator} (h : NonNeg vs) (js : List Nat) :
    0 ≤ pickedPower vs js := by
  induction js with
  | nil => simp [pickedPower]
  | cons j js ih =>
    have := powerAt_nonneg h j
    rw [pickedPower_cons]; omega

theorem sumPower_nonneg {vs : List Validator} (h : NonNeg vs) : 0 ≤ sumPower vs := by
  induction vs with
  | nil => simp [sumPower]
  | cons v vs ih =>
    have h1 := h v (by simp)
    have h2 := ih (fun w hw => h w (by simp [hw]))
    rw [sumPower_cons]; omega

theorem pickedPower_erase (vs : List Validator) : ∀ (F : List Nat) (j : Nat), j ∈ F →
    pickedPower vs F = powerAt vs j + pickedPower vs (F.erase j) := by
  intro F; induction F with
  | nil => intro j h; simp at h
  | cons a F ih =>
    intro j h
    by_cases e : a = j
    · subst e; simp [pickedPower]
    · have hj : j ∈ F := by
        rcases List.mem_cons.mp h with h | h
        · exact absurd h.symm e
        · exact h
      have : (a :: F).erase j = a :: F.erase j := by simp [e]
      rw [this]
      have := ih j hj
      rw [pickedPower_cons, pickedPower_cons]
      omega

theorem pickedPower_subset_le {vs : List Validator} (hnn : NonNeg vs) :
    ∀ (js F : List Nat), js.Nodup → (∀ j ∈ js, j ∈ F ∨ powerAt vs j = 0) →
      pickedPower vs js ≤ pickedPower vs F := by
  intro js; induction js with
  | nil => intro F _ _; simpa [pickedPower] using pickedPower_nonneg hnn F
  | cons j js ih =>
    intro F hnd hsub
    rw [List.nodup_cons] at hnd
    rw [pickedPower_cons]
    rcases hsub j (by simp) with hj | h0
    · rw [pickedPower_erase vs F j hj]
      have := ih (F.erase j) hnd.2 (fun k hk => (hsub k (by simp [hk])).imp
        (List.mem_erase_of_ne (fun (e : k = j) => hnd.1 (e ▸ hk))).mpr id)
      omega
    · have := ih F hnd.2 (fun k hk => hsub k (by simp [hk]))
      omega

theorem pickedPower_range : ∀ vs : List Validator, pickedPower vs (List.range vs.length) = sumPower vs
  | [] => rfl
  | v :: vs => by
    rw [List.length_cons, List.range_succ_eq_map, pickedPower_cons, sumPower_cons, ← pickedPower_range vs]
    have e : ∀ j, powerAt (v :: vs) (j + 1) = powerAt vs j := fun _ => rfl
    simp [pickedPower, List.map_map, Function.comp_def, e, show powerAt (v :: vs) 0 = v.power from rfl]

theorem pickedPower_le_sum (vs : List Validator) (hnn : NonNeg vs) (js : List Nat) (hnd : js.Nodup) :
    pickedPower vs js ≤ sumPower vs := by
  rw [← pickedPower_range vs]
  refine pickedPower_subset_le hnn js _ hnd (fun j _ => ?_)
  by_cases h : j < vs.length
  · exact Or.inl (List.mem_range.mpr h)
  · exact Or.inr (by simp [powerAt, List.getElem?_eq_none (Nat.le_of_not_lt h)])

/-! ### TotalVotingPower -/

theorem safeAddClip_spec {s p : Int} (hp : 0 ≤ p) :
    (safeAddClip s p > maxTotalVotingPower ↔ s + p > maxTotalVotingPower) ∧
    (¬ s + p > maxTotalVotingPower → safeAddClip s p = s + p) := by
  have hb := maxTotal_bound
  unfold maxInt64 at hb
  unfold safeAddClip safeAdd
  by_cases c1 : p > 0 ∧ s > maxInt64 - p
  · have : ¬ p < 0 := by omega
    rw [if_pos c1]
    simp only [if_true, if_neg this]
    unfold maxInt64 at c1 ⊢
    omega
  · have c2 : ¬ (p < 0 ∧ s < minInt64 - p) := by omega
    rw [if_neg c1, if_neg c2]
    exact ⟨Iff.rfl, fun _ => rfl⟩

theorem totalLoop_eq : ∀ (vs : List Validator) (s : Int), NonNeg vs → 0 ≤ s → s ≤ maxTotalVotingPower →
    totalLoop vs s = if s + sumPower vs ≤ maxTotalVotingPower then some (s + sumPower vs) else none := by
  intro vs
  induction vs with
  | nil => intro s _ _ hs; simp [totalLoop, sumPower, hs]
  | cons v vs ih =>
    intro s hnn h0 hs
    have hv : 0 ≤ v.power := hnn v (by simp)
    have hnn' : NonNeg vs := fun w hw => hnn w (by simp [hw])
    have hr := sumPower_nonneg hnn'
    obtain ⟨hgt, heq⟩ := safeAddClip_spec (s := s) hv
    have e := sumPower_cons v vs
    simp only [totalLoop]
    by_cases hc : s + v.power > maxTotalVotingPower
    · rw [if_pos (hgt.mpr hc), if_neg (by omega)]
    · rw [if_neg (fun h => hc (hgt.mp h)), heq hc, ih _ hnn' (by omega) (by omega), e]
      simp only [Int.add_assoc]

theorem total_eq {vs : List Validator} (hnn : NonNeg vs) :
    totalVotingPower vs = if sumPower vs ≤ maxTotalVotingPower then some (sumPower vs) else none := by
  have := totalLoop_eq vs 0 hnn (Int.le_refl 0) maxTotal_bound.1
  simpa [totalVotingPower] using this

theorem total_spec {vs : List Validator} {T : Int} (hnn : NonNeg vs) (h : totalVotingPower vs = some T) :
    T = sumPower vs ∧ T ≤ maxTotalVotingPower := by
  rw [total_eq hnn] at h
  split at h
  · cases h; exact ⟨rfl, ‹_›⟩
  · cases h

/-! ### thresholds -/

theorem BlockID.equals_iff {a b : BlockID} : a.equals b = true ↔ a = b := by
  cases a; cases b; simp [BlockID.equals]

theorem div64_nonneg {a b : Int} (ha : 0 ≤ a) (ha' : a ≤ maxInt64) (hb : 0 < b) :
    div64 a b = a / b ∧ 0 ≤ a / b := by
  unfold div64
  rw [Int.tdiv_eq_ediv_of_nonneg ha]
  have h1 : 0 ≤ a / b := Int.ediv_nonneg ha (by omega)
  have h2 : a / b ≤ a := Int.ediv_le_self b ha
  exact ⟨wrap64_of_nonneg h1 (by omega), h1⟩

/-- the 2/3 threshold both index-based variants compute, for a total in range -/
theorem needed_two_thirds {T : Int} (h0 : 0 ≤ T) (hT : T ≤ maxTotalVotingPower) :
    div64 (wrap64 (T * 2)) 3 = (T * 2) / 3 ∧ 0 ≤ (T * 2) / 3 := by
  have hb := maxTotal_bound
  unfold maxInt64 at hb
  have hw : wrap64 (T * 2) = T * 2 := wrap64_of_nonneg (by omega) (by unfold maxInt64; omega)
  rw [hw]
  exact div64_nonneg (by omega) (by unfold maxInt64; omega) (by omega)

theorem safeMul_no_overflow {a b : Int} (ha : 0 ≤ a) (hb : 0 ≤ b) (h : a * b ≤ maxInt64) :
    (safeMul a b).2 = false := by
  unfold safeMul
  by_cases h0 : a = 0 ∨ b = 0
  · simp [h0]
  · have ha' : ¬ a < 0 := by omega
    have hb' : ¬ b < 0 := by omega
    have hbpos : 0 < b := by omega
    simp only [if_neg h0, if_neg ha', if_neg hb']
    have hle : a ≤ maxInt64 / b := (Int.le_ediv_iff_mul_le hbpos).mpr h
    rw [Int.tdiv_eq_ediv_of_nonneg (by decide)]
    have : ¬ a > maxInt64 / b := by omega
    simp [this]

theorem findByAddr_spec : ∀ (vs : List Validator) (a : Bytes) (i j : Nat) (v : Validator),
    findByAddr vs a i = some (j, v) → ∃ k, j = i + k ∧ vs[k]? = some v ∧ v.addr = a := by
  intro vs
  induction vs with
  | nil => intro a i j v h; simp [findByAddr] at h
  | cons w vs ih =>
    intro a i j v h
    simp only [findByAddr] at h
    split at h
    · rename_i hw; injection h with h; injection h with h1 h2; subst h1; subst h2
      exact ⟨0, by omega, by simp, hw⟩
    · obtain ⟨k, hk, hv, ha⟩ := ih a (i + 1) j v h
      exact ⟨k + 1, by omega, by simpa using hv, ha⟩

section
variable {σ : Type}

/-- the record a for-block signature of this commit must verify against -/
def expectSB (chainID : String) (c : Commit σ) (ts : Int) : SignBytes :=
  { type := precommitType, height := c.height, round := c.round,
    blockID := canonBlockID c.blockID, ts := ts, chainID := chainID }

/-- validator number `p.1` has a qualifying signature in slot `p.2`: the slot is flagged
for-the-block, (when members are looked up by address) carries that validator's address, and its
signature verifies under the validator's key over exactly this commit's canonical vote -/
def GoodPick (sigOK : Nat → SignBytes → σ → Bool) (vs : List Validator) (chainID : String)
    (c : Commit σ) (byAddr : Bool) (p : Nat × Nat) : Prop :=
  ∃ v s, vs[p.1]? = some v ∧ c.sigs[p.2]? = some s ∧ s.flag = flagCommit ∧
    (byAddr = true → s.addr = v.addr) ∧ sigOK v.key (expectSB chainID c s.ts) s.sig = true

theorem tally_step {vs : List Validator} (hnn : NonNeg vs) (hT : sumPower vs ≤ maxTotalVotingPower)
    {picks : List Nat} {j : Nat} {v : Validator} (hnd : (j :: picks).Nodup) (hv : vs[j]? = some v) :
    wrap64 (pickedPower vs picks + v.power) = pickedPower vs (j :: picks) := by
  have h1 := pickedPower_le_sum vs hnn _ hnd
  have h2 := pickedPower_nonneg hnn (j :: picks)
  have hp : powerAt vs j = v.power := by simp [powerAt, hv]
  have hb := maxTotal_bound
  rw [pickedPower_cons, hp] at h1 h2 ⊢
  unfold maxInt64 at hb
  rw [wrap64_of_nonneg (by omega) (by unfold maxInt64; omega)]; omega

variable (sigOK : Nat → SignBytes → σ → Bool) (vs : List Validator) (chainID : String) (c : Commit σ)

def checkSlot (v : Validator) (s : CommitSig σ) (idx : Nat) : Except Res Unit :=
  match voteSignBytes chainID c s with
  | .error p => .error p
  | .ok sb => if !sigOK v.key sb s.sig then .error (.wrongSig idx) else .ok ()

theorem checkSlot_ok_iff {v : Validator} {s : CommitSig σ} {idx : Nat} :
    checkSlot sigOK chainID c v s idx = .ok () ↔
      ∃ sb, voteSignBytes chainID c s = .ok sb ∧ sigOK v.key sb s.sig = true := by
  unfold checkSlot
  cases voteSignBytes chainID c s with
  | error p => simp
  | ok sb => cases h : sigOK v.key sb s.sig <;> simp [h]

theorem voteSignBytes_error {s : CommitSig σ} {p : Res} (h : voteSignBytes chainID c s = .error p) :
    (p = .panicFlag ∧ sigBlockID c.blockID s.flag = none) ∨
    (p = .panicBlockID ∧ ∃ b, sigBlockID c.blockID s.flag = some b ∧ b.validBasic = false) := by
  unfold voteSignBytes at h
  cases hb : sigBlockID c.blockID s.flag with
  | none => rw [hb] at h; cases h; exact Or.inl ⟨rfl, rfl⟩
  | some b =>
    rw [hb] at h
    dsimp only at h
    cases hv : b.validBasic with
    | false => rw [hv] at h; cases h; exact Or.inr ⟨rfl, b, rfl, hv⟩
    | true => rw [hv] at h; cases h

theorem voteSignBytes_commit {s : CommitSig σ} {sb : SignBytes}
    (hf : s.flag = flagCommit) (h : voteSignBytes chainID c s = .ok sb) :
    sb = expectSB chainID c s.ts ∧ c.blockID.validBasic = true := by
  unfold voteSignBytes sigBlockID at h
  have h1 : ¬ s.flag = flagAbsent := by rw [hf]; decide
  rw [if_neg h1, if_pos hf] at h
  dsimp only at h
  cases hv : c.blockID.validBasic with
  | false => rw [hv] at h; cases h
  | true => rw [hv] at h; cases h; exact ⟨rfl, rfl⟩

theorem checkSlot_error {v : Validator} {s : CommitSig σ} {idx : Nat} {e : Res}
    (h : checkSlot sigOK chainID c v s idx = .error e) :
    e = .wrongSig idx ∨ voteSignBytes chainID c s = .error e := by
  unfold checkSlot at h
  cases hsb : voteSignBytes chainID c s with
  | error p => rw [hsb] at h; cases h; exact Or.inr rfl
  | ok sb =>
    rw [hsb] at h
    dsimp only at h
    split at h
    · cases h; exact Or.inl rfl
    · cases h

theorem checkSlot_error_cases {v : Validator} {s : CommitSig σ} {idx : Nat} {e : Res}
    (h : checkSlot sigOK chainID c v s idx = .error e) :
    e = .wrongSig idx ∨ e = .panicFlag ∨ e = .panicBlockID := by
  rcases checkSlot_error sigOK chainID c h with h | h
  · exact Or.inl h
  · exact Or.inr ((voteSignBytes_error chainID c h).imp And.left And.left)

theorem checkSlot_error_ne_ok {v : Validator} {s : CommitSig σ} {idx : Nat} {e : Res}
    (h : checkSlot sigOK chainID c v s idx = .error e) : e ≠ .ok := by
  rintro rfl
  rcases checkSlot_error_cases sigOK chainID c h with h | h | h <;> cases h

theorem checkSlot_commit {v : Validator} {s : CommitSig σ} {idx : Nat} (hf : s.flag = flagCommit)
    (h : checkSlot sigOK chainID c v s idx = .ok ()) :
    sigOK v.key (expectSB chainID c s.ts) s.sig = true ∧ c.blockID.validBasic = true := by
  obtain ⟨sb, hsb, hok⟩ := (checkSlot_ok_iff sigOK chainID c).mp h
  obtain ⟨rfl, hv⟩ := voteSignBytes_commit chainID c hf hsb
  exact ⟨hok, hv⟩

end

/-- the loop variable `ss` is the rest of `l` from position `idx` on -/
theorem suffix_step {α : Type} {l : List α} {s : α} {ss : List α} {idx : Nat}
    (hal : ∀ k, (s :: ss)[k]? = l[idx + k]?) : l[idx]? = some s ∧ ∀ k, ss[k]? = l[idx + 1 + k]? := by
  refine ⟨by simpa using (hal 0).symm, fun k => ?_⟩
  have := hal (k + 1)
  rw [List.getElem?_cons_succ] at this
  rw [this]; congr 1; omega

section
variable {σ : Type}

/-- power of the for-block slots of `ss`, slot `k` of `ss` belonging to validator `idx + k` -/
def fbSum (vs : List Validator) : List (CommitSig σ) → Nat → Int
  | [], _ => 0
  | s :: ss, idx => (if s.flag = flagCommit then powerAt vs idx else 0) + fbSum vs ss (idx + 1)

theorem fbSum_nonneg {vs : List Validator} (hnn : NonNeg vs) :
    ∀ (ss : List (CommitSig σ)) (idx : Nat), 0 ≤ fbSum vs ss idx := by
  intro ss; induction ss with
  | nil => intro idx; simp [fbSum]
  | cons s ss ih =>
    intro idx
    have := ih (idx + 1)
    have := powerAt_nonneg hnn idx
    simp only [fbSum]; split <;> omega

theorem sumPower_drop (vs : List Validator) (idx : Nat) :
    sumPower (vs.drop idx) = powerAt vs idx + sumPower (vs.drop (idx + 1)) := by
  unfold powerAt
  cases hv : vs[idx]? with
  | none =>
    have hl : vs.length ≤ idx := by simpa using hv
    rw [List.drop_eq_nil_of_le hl, List.drop_eq_nil_of_le (by omega)]; simp [sumPower]
  | some v =>
    obtain ⟨hl, hv'⟩ := List.getElem?_eq_some_iff.mp hv
    rw [List.drop_eq_getElem_cons hl]
    simp [sumPower, hv']

theorem fbSum_le {vs : List Validator} (hnn : NonNeg vs) :
    ∀ (ss : List (CommitSig σ)) (idx : Nat), fbSum vs ss idx ≤ sumPower (vs.drop idx) := by
  intro ss; induction ss with
  | nil =>
    intro idx
    have : NonNeg (vs.drop idx) := fun v hv => hnn v (List.mem_of_mem_drop hv)
    simpa [fbSum] using sumPower_nonneg this
  | cons s ss ih =>
    intro idx
    have h1 := ih (idx + 1)
    have h2 := powerAt_nonneg hnn idx
    rw [sumPower_drop]
    simp only [fbSum]; split <;> omega

variable (sigOK : Nat → SignBytes → σ → Bool) (vs : List Validator) (chainID : String) (c : Commit σ)

/-- every non-absent slot carries a signature that verifies under the validator of its position
(for-block slots over the commit's block id, nil slots over nil) -/
def AllValid : Prop :=
  ∀ (i : Nat) (v : Validator) (s : CommitSig σ), vs[i]? = some v → c.sigs[i]? = some s →
    s.flag ≠ flagAbsent →
    ∃ sb, voteSignBytes chainID c s = .ok sb ∧ sigOK v.key sb s.sig = true

end

theorem findByAddr_distinct : ∀ (vs : List Validator) (k i : Nat) (v : Validator),
    (vs.map (·.addr)).Nodup → vs[i]? = some v → findByAddr vs v.addr k = some (k + i, v) := by
  intro vs; induction vs with
  | nil => intro k i v _ h; simp at h
  | cons w vs ih =>
    intro k i v hd h
    simp only [List.map_cons, List.nodup_cons] at hd
    cases i with
    | zero =>
      simp only [List.getElem?_cons_zero, Option.some.injEq] at h; subst h
      simp [findByAddr]
    | succ i =>
      simp only [List.getElem?_cons_succ] at h
      have hm : v.addr ∈ vs.map (·.addr) := List.mem_map.mpr ⟨v, List.mem_of_getElem? h, rfl⟩
      have hne : ¬ w.addr = v.addr := fun e => hd.1 (e ▸ hm)
      simp only [findByAddr, if_neg hne]
      rw [ih (k + 1) i v hd.2 h]; congr 2; omega

section
variable {σ : Type} (sigOK : Nat → SignBytes → σ → Bool) (vs : List Validator) (chainID : String)
  (c : Commit σ)

/-- every for-block slot carries the address of the validator of its position -/
def AddrConsistent : Prop :=
  ∀ (i : Nat) (v : Validator) (s : CommitSig σ), vs[i]? = some v → c.sigs[i]? = some s →
    s.flag = flagCommit → s.addr = v.addr

end

/-- the verdicts of the checks in front of the loops -/
def Res.early (r : Res) : Prop :=
  (∃ a b, r = .size a b) ∨ r = .height ∨ r = .blockID ∨ r = .panicTotal ∨ r = .zeroDen ∨
    r = .fractionRange ∨ r = .overflow

theorem Res.not_early_ok : ¬ Res.early .ok := by
  rintro (⟨_, _, h⟩ | h | h | h | h | h | h) <;> cases h

end Tmv.CommitVerify
