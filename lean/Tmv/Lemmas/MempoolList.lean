import Tmv.Model.MempoolCache
import Tmv.Lemmas.ListFacts
/-! What the two pools share: list lemmas, the accounting invariant on the list of keys (`V1.InvC`, kept by
appending a fresh key and by erasing one), and the cache (`Cache.Closed`: what push, remove and reset keep). -/
namespace Tmv.Mempool

theorem map_eraseP_key {β : Type} (f : β → Bytes) (k : Bytes) (l : List β) :
    (l.eraseP (fun e => decide (f e = k))).map f = (l.map f).erase k := by
  induction l with
  | nil => rfl
  | cons a r ih =>
    by_cases h : f a = k
    · rw [List.eraseP_cons_of_pos (by simpa using h), List.map_cons, h, List.erase_cons_head]
    · rw [List.eraseP_cons_of_neg (by simpa using h), List.map_cons, List.map_cons,
        List.erase_cons_tail (by simpa using h), ih]

theorem find_of_mem_map {β : Type} (f : β → Bytes) (l : List β) (k : Bytes) (h : k ∈ l.map f) :
    ∃ e, l.find? (fun e => decide (f e = k)) = some e ∧ f e = k ∧ e ∈ l := by
  cases hf : l.find? (fun e => decide (f e = k)) with
  | none =>
    obtain ⟨e, he, hek⟩ := List.mem_map.1 h
    exact absurd (decide_eq_true hek) (List.find?_eq_none.1 hf e he)
  | some e => exact ⟨e, rfl, by simpa using List.find?_some hf, List.mem_of_find?_eq_some hf⟩

theorem bytesOf_append (a b : List Bytes) : bytesOf (a ++ b) = bytesOf a + bytesOf b := by
  induction a with
  | nil => simp only [List.nil_append, bytesOf]; omega
  | cons x r ih => simp only [List.cons_append, bytesOf, ih]; omega

theorem bytesOf_concat (l : List Bytes) (k : Bytes) :
    bytesOf (l ++ [k]) = bytesOf l + (k.length : Int) := by
  rw [bytesOf_append]; exact congrArg _ (Int.add_zero _)

theorem bytesOf_erase (l : List Bytes) (k : Bytes) (h : k ∈ l) :
    bytesOf (l.erase k) = bytesOf l - (k.length : Int) := by
  induction l with
  | nil => cases h
  | cons a r ih =>
    by_cases e : a = k
    · rw [e, List.erase_cons_head]; simp only [bytesOf]; omega
    · have hk : k ∈ r := (List.mem_cons.1 h).resolve_left (fun h => e h.symm)
      rw [List.erase_cons_tail (by simpa using e)]
      simp only [bytesOf, ih hk]; omega

theorem bytesOf_nonneg (l : List Bytes) : 0 ≤ bytesOf l := by
  induction l with
  | nil => exact Int.le_refl 0
  | cons a r ih => simp only [bytesOf]; omega

theorem length_erase_mem (l : List Bytes) (k : Bytes) (h : k ∈ l) :
    (l.erase k).length + 1 = l.length := by
  have := List.length_erase_of_mem h
  have hp : 0 < l.length := List.length_pos_of_mem h
  omega

theorem erase_append_not_mem (c : Bytes) (kept rest : List Bytes) (h : c ∉ kept) :
    (kept ++ c :: rest).erase c = kept ++ rest := by
  rw [List.erase_append_right _ h, List.erase_cons_head]

namespace V1

/-- The accounting invariant of both pools, on the keys `ks` of the entries in list order, the key
index and the byte counter: `V1.Inv` is this of the state's three components, `V0.Inv` likewise
(`V0.inv_iff`). -/
structure InvC (ks : List Bytes) (map : List Bytes) (bytes : Int) : Prop where
  nodup : ks.Nodup
  map : map.Perm ks
  bytes : bytes = bytesOf ks

variable {ks map : List Bytes} {bytes : Int}

theorem InvC.concat (h : InvC ks map bytes) (k : Bytes) (hk : k ∉ map) :
    InvC (ks ++ [k]) (map ++ [k]) (bytes + (k.length : Int)) :=
  ⟨nodup_concat h.nodup fun hm => hk (h.map.mem_iff.2 hm), h.map.append_right _,
    by rw [bytesOf_concat, h.bytes]⟩

theorem InvC.erase (h : InvC ks map bytes) (k : Bytes) (hk : k ∈ ks) :
    InvC (ks.erase k) (map.erase k) (bytes - (k.length : Int)) :=
  ⟨h.nodup.erase _, h.map.erase _, by rw [bytesOf_erase _ _ hk, h.bytes]⟩

end V1

/-- A fold of keep-or-remove steps over a snapshot `l` of the pool; `Q` is whatever the steps need
and maintain. -/
theorem foldl_keep_or_erase {σ α : Type} (keys : σ → List Bytes) (tx : α → Bytes) (g : σ → α → σ)
    (keep : α → Bool) (Q : σ → Prop)
    (hg : ∀ st a, Q st → tx a ∈ keys st →
      Q (g st a) ∧ keys (g st a) = if keep a then keys st else (keys st).erase (tx a)) :
    ∀ (l : List α) (st : σ) (kept : List Bytes), Q st → keys st = kept ++ l.map tx → (keys st).Nodup →
      Q (l.foldl g st) ∧ keys (l.foldl g st) = kept ++ (l.filter keep).map tx := by
  intro l
  induction l with
  | nil => intro st kept hq hk _; exact ⟨hq, hk⟩
  | cons a r ih =>
    intro st kept hq hk hnd
    rw [List.map_cons] at hk
    obtain ⟨hq', hk'⟩ := hg st a hq (hk ▸ List.mem_append_right _ List.mem_cons_self)
    rw [List.foldl_cons]
    by_cases ha : keep a = true
    · rw [if_pos ha] at hk'
      rw [List.filter_cons_of_pos ha, List.map_cons]
      have := ih (g st a) (kept ++ [tx a]) hq' (by rw [hk', hk, List.append_assoc]; rfl) (hk' ▸ hnd)
      rwa [List.append_assoc] at this
    · rw [if_neg ha] at hk'
      rw [List.filter_cons_of_neg ha]
      have hnot : tx a ∉ kept := fun hm =>
        (List.nodup_append.1 (hk ▸ hnd)).2.2 _ hm _ List.mem_cons_self rfl
      have hk2 : keys (g st a) = kept ++ r.map tx := by rw [hk', hk, erase_append_not_mem _ _ _ hnot]
      exact ih (g st a) kept hq' hk2 (hk' ▸ hnd.erase _)

theorem foldl_erase_keys {σ : Type} (keys : σ → List Bytes) (g : σ → Bytes × Nat → σ) (Q : σ → Prop)
    (hg : ∀ s c, Q s → Q (g s c) ∧ (keys s).Nodup ∧ keys (g s c) = (keys s).erase c.1) :
    ∀ (block : List (Bytes × Nat)) (s : σ), Q s →
      ∀ k ∈ keys (block.foldl g s), k ∈ keys s ∧ ∀ c ∈ block, c.1 ≠ k := by
  intro block
  induction block with
  | nil => intro s _ k hk; exact ⟨hk, fun _ hc => nomatch hc⟩
  | cons d r ih =>
    intro s hq k hk
    obtain ⟨hq', hnd, he⟩ := hg s d hq
    obtain ⟨h1, h2⟩ := ih (g s d) hq' k hk
    rw [he, hnd.mem_erase_iff] at h1
    refine ⟨h1.2, fun c hc => ?_⟩
    rcases List.mem_cons.1 hc with rfl | hc
    · exact fun e => h1.1 e.symm
    · exact h2 c hc

/-- The loop of `ReapMaxBytesMaxGas` of both pools, given by its unfolding equations (`B`, `G`: the
byte limit, the gas limit is in force): its result is the longest prefix within both limits. -/
theorem greedy_prefix {α β : Type} (out : α → β) (cb cg : α → Int) (B G : Prop) (mb mg : Int)
    (go : List α → Int → Int → List β) (bs gs : List α → Int)
    (go_nil : ∀ b g, go [] b g = [])
    (go_stop : ∀ e r b g, (B ∧ b + cb e > mb) ∨ (G ∧ g + cg e > mg) → go (e :: r) b g = [])
    (go_next : ∀ e r b g, ¬ ((B ∧ b + cb e > mb) ∨ (G ∧ g + cg e > mg)) →
      go (e :: r) b g = out e :: go r (b + cb e) (g + cg e))
    (bs_nil : bs [] = 0) (bs_cons : ∀ e r, bs (e :: r) = cb e + bs r)
    (gs_nil : gs [] = 0) (gs_cons : ∀ e r, gs (e :: r) = cg e + gs r) :
    ∀ (l : List α) (b g : Int), (B → b ≤ mb) → (G → g ≤ mg) →
    ∃ k, k ≤ l.length ∧ go l b g = (l.take k).map out ∧
      (B → b + bs (l.take k) ≤ mb) ∧ (G → g + gs (l.take k) ≤ mg) ∧
      (∀ e, l[k]? = some e →
        (B ∧ b + bs (l.take k) + cb e > mb) ∨ (G ∧ g + gs (l.take k) + cg e > mg)) := by
  intro l
  induction l with
  | nil =>
    intro b g h1 h2
    exact ⟨0, Nat.le_refl _, go_nil b g, fun h => by rw [List.take_nil, bs_nil, Int.add_zero]; exact h1 h,
      fun h => by rw [List.take_nil, gs_nil, Int.add_zero]; exact h2 h, fun e he => nomatch he⟩
  | cons e rest ih =>
    intro b g h1 h2
    by_cases hstop : (B ∧ b + cb e > mb) ∨ (G ∧ g + cg e > mg)
    · refine ⟨0, Nat.zero_le _, go_stop e rest b g hstop, ?_, ?_, ?_⟩
      · intro h; rw [List.take_zero, bs_nil, Int.add_zero]; exact h1 h
      · intro h; rw [List.take_zero, gs_nil, Int.add_zero]; exact h2 h
      · intro e' he'
        rw [List.getElem?_cons_zero, Option.some.injEq] at he'
        subst he'
        rw [List.take_zero, bs_nil, gs_nil, Int.add_zero, Int.add_zero]; exact hstop
    · obtain ⟨k, hk, he, hbb, hgg, hmax⟩ := ih (b + cb e) (g + cg e)
        (fun h => Int.not_lt.1 fun h' => hstop (Or.inl ⟨h, h'⟩))
        (fun h => Int.not_lt.1 fun h' => hstop (Or.inr ⟨h, h'⟩))
      refine ⟨k + 1, Nat.succ_le_succ hk, ?_, ?_, ?_, ?_⟩
      · rw [go_next e rest b g hstop, he]; rfl
      · rw [List.take_succ_cons, bs_cons, ← Int.add_assoc]; exact hbb
      · rw [List.take_succ_cons, gs_cons, ← Int.add_assoc]; exact hgg
      · intro e' he'
        rw [List.getElem?_cons_succ] at he'
        rw [List.take_succ_cons, bs_cons, gs_cons, ← Int.add_assoc, ← Int.add_assoc]
        exact hmax e' he'

theorem Cache.push_off (c : Cache) (k : Bytes) (h : c.size ≤ 0) : c.push k = (c, true) := by
  rw [Cache.push, if_pos h]

theorem Cache.push_on (c : Cache) (k : Bytes) (h : 0 < c.size) :
    (c.push k).1 = { c with keys :=
      (if k ∈ c.keys then c.keys.erase k
       else if (c.keys.length : Int) ≥ c.size then c.keys.drop 1 else c.keys) ++ [k] } ∧
    (c.push k).2 = decide (k ∉ c.keys) := by
  have h0 : ¬ c.size ≤ 0 := by omega
  rw [Cache.push, if_neg h0]
  by_cases hk : k ∈ c.keys
  · rw [if_pos hk, if_pos hk]; exact ⟨rfl, by simp [hk]⟩
  · rw [if_neg hk, if_neg hk]; exact ⟨rfl, by simp [hk]⟩

theorem Cache.remove_on (c : Cache) (k : Bytes) (h : 0 < c.size) :
    c.remove k = { c with keys := c.keys.erase k } := by
  rw [Cache.remove, if_neg (by omega)]

theorem Cache.push_size (c : Cache) (k : Bytes) : (c.push k).1.size = c.size := by
  by_cases h : c.size ≤ 0
  · rw [Cache.push_off c k h]
  · rw [(Cache.push_on c k (by omega)).1]

theorem Cache.remove_size (c : Cache) (k : Bytes) : (c.remove k).size = c.size := by
  by_cases h : c.size ≤ 0
  · rw [Cache.remove, if_pos h]
  · rw [Cache.remove_on c k (by omega)]

theorem Cache.has_iff (c : Cache) (k : Bytes) : c.has k = true ↔ 0 < c.size ∧ k ∈ c.keys := by
  simp [Cache.has]

/-- the cache never forgets the key just pushed (when it is a real cache) -/
theorem Cache.push_has (c : Cache) (k : Bytes) (h : c.size > 0) : (c.push k).1.has k = true := by
  rw [Cache.has_iff, (Cache.push_on c k h).1]
  exact ⟨h, List.mem_append_right _ (List.mem_singleton.2 rfl)⟩

/-- a key present in the cache makes `Push` answer "already there" -/
theorem Cache.push_of_has (c : Cache) (k : Bytes) (h : c.has k = true) : (c.push k).2 = false := by
  obtain ⟨hp, hk⟩ := (Cache.has_iff c k).1 h
  rw [(Cache.push_on c k hp).2]; simp [hk]

/-- removing another key does not forget `k` -/
theorem Cache.remove_has_ne (c : Cache) (k k' : Bytes) (hne : k ≠ k') (h : c.has k = true) :
    (c.remove k').has k = true := by
  obtain ⟨hp, hk⟩ := (Cache.has_iff c k).1 h
  rw [Cache.has_iff, Cache.remove_on c k' hp]
  exact ⟨hp, (List.mem_erase_of_ne hne).2 hk⟩

/-- the cache holds each key once and never more than its size (nothing when disabled) -/
def Cache.OK (c : Cache) : Prop :=
  c.keys.Nodup ∧ (c.size ≤ 0 → c.keys = []) ∧ (0 < c.size → (c.keys.length : Int) ≤ c.size)

theorem Cache.ok_nil (n : Int) : ({ size := n, keys := [] } : Cache).OK :=
  ⟨List.nodup_nil, fun _ => rfl, fun h => Int.le_of_lt (show (0 : Int) < n from h)⟩

theorem Cache.ok_new (n : Int) : (Cache.new n).OK := Cache.ok_nil n

theorem Cache.ok_reset (c : Cache) : c.reset.OK := Cache.ok_nil c.size

theorem Cache.ok_remove (c : Cache) (k : Bytes) (h : c.OK) : (c.remove k).OK := by
  by_cases h0 : c.size ≤ 0
  · rw [Cache.remove, if_pos h0]; exact h
  · rw [Cache.remove_on c k (by omega)]
    refine ⟨h.1.erase _, fun h1 => absurd h1 h0, fun h1 => ?_⟩
    have := h.2.2 h1
    have := List.length_erase_le (a := k) (l := c.keys)
    show ((c.keys.erase k).length : Int) ≤ c.size
    omega

theorem Cache.push_front (c : Cache) (k : Bytes) (h : c.OK) (hp : 0 < c.size) :
    ∃ front, (c.push k).1 = { c with keys := front ++ [k] } ∧ front.Sublist c.keys ∧ k ∉ front ∧
      (front.length : Int) < c.size := by
  refine ⟨_, (Cache.push_on c k hp).1, ?_⟩
  have hlen := h.2.2 hp
  by_cases hk : k ∈ c.keys
  · rw [if_pos hk]
    have := length_erase_mem c.keys k hk
    exact ⟨List.erase_sublist, fun hm => ((h.1.mem_erase_iff).1 hm).1 rfl, by omega⟩
  · rw [if_neg hk]
    by_cases hfull : (c.keys.length : Int) ≥ c.size
    · rw [if_pos hfull]
      have : (c.keys.drop 1).length = c.keys.length - 1 := List.length_drop
      exact ⟨List.drop_sublist 1 _, fun hm => hk (List.mem_of_mem_drop hm), by omega⟩
    · rw [if_neg hfull]
      exact ⟨List.Sublist.refl _, hk, by omega⟩

theorem Cache.ok_push (c : Cache) (k : Bytes) (h : c.OK) : (c.push k).1.OK := by
  by_cases h0 : c.size ≤ 0
  · rw [Cache.push_off c k h0]; exact h
  · have hp : 0 < c.size := by omega
    obtain ⟨front, he, hsub, hk, hlen⟩ := Cache.push_front c k h hp
    rw [he]
    refine ⟨nodup_concat (h.1.sublist hsub) hk, fun h1 => absurd h1 h0, fun _ => ?_⟩
    show ((front ++ [k]).length : Int) ≤ c.size
    rw [List.length_append, List.length_singleton]
    omega

/-- … for a cache of configured size `n` -/
def Cache.OKn (n : Int) (c : Cache) : Prop := c.size = n ∧ c.OK

structure Cache.Closed (C : Cache → Prop) : Prop where
  push : ∀ c k, C c → C (c.push k).1
  remove : ∀ c k, C c → C (c.remove k)
  reset : ∀ c, C c → C c.reset

theorem Cache.closed_size (n : Int) : Cache.Closed (·.size = n) :=
  ⟨fun c k hc => (Cache.push_size c k).trans hc, fun c k hc => (Cache.remove_size c k).trans hc, fun _ hc => hc⟩

theorem Cache.closed_ok : Cache.Closed Cache.OK :=
  ⟨Cache.ok_push, Cache.ok_remove, fun c _ => Cache.ok_reset c⟩

theorem Cache.closed_okn (n : Int) : Cache.Closed (Cache.OKn n) :=
  ⟨fun c k h => ⟨(Cache.closed_size n).push c k h.1, Cache.ok_push c k h.2⟩,
    fun c k h => ⟨(Cache.closed_size n).remove c k h.1, Cache.ok_remove c k h.2⟩,
    fun c h => ⟨h.1, Cache.ok_reset c⟩⟩

/-- what the loop of `Update` does to the cache for one committed transaction: remember it when
delivered with code OK, else forget it unless invalid transactions are kept -/
def commitCache (c : Cache) (keepInvalid : Bool) (tx : Bytes × Nat) : Cache :=
  if tx.2 = codeOK then (c.push tx.1).1 else if !keepInvalid then c.remove tx.1 else c

theorem commitCache_elim {Q : Cache → Prop} {c : Cache} {tx : Bytes × Nat} (hpush : Q (c.push tx.1).1)
    (hremove : Q (c.remove tx.1)) (hsame : Q c) (keepInvalid : Bool) : Q (commitCache c keepInvalid tx) := by
  unfold commitCache
  by_cases h1 : tx.2 = codeOK
  · rw [if_pos h1]; exact hpush
  · rw [if_neg h1]
    by_cases h2 : (!keepInvalid) = true
    · rw [if_pos h2]; exact hremove
    · rw [if_neg h2]; exact hsame

/-- cache operations after the push of the key under observation -/
inductive CacheOp
  | push (k : Bytes)
  | remove (k : Bytes)

def CacheOp.key : CacheOp → Bytes
  | .push k => k
  | .remove k => k

def Cache.apply (c : Cache) : CacheOp → Cache
  | .push k => (c.push k).1
  | .remove k => c.remove k

def Cache.applyAll (c : Cache) (ops : List CacheOp) : Cache := ops.foldl Cache.apply c

def pushedKeys : List CacheOp → List Bytes
  | [] => []
  | .push k :: r => k :: pushedKeys r
  | .remove _ :: r => pushedKeys r

/-- `k` sits in the list with only keys from `D` behind it (more recent than it) -/
structure Cache.Holds (c : Cache) (k : Bytes) (D : List Bytes) : Prop where
  ok : c.OK
  pos : 0 < c.size
  split : ∃ pre post, c.keys = pre ++ k :: post ∧ (∀ x ∈ post, x ∈ D)

theorem Cache.holds_push (c : Cache) (k : Bytes) (D : List Bytes) (h : c.OK) (hp : 0 < c.size) :
    (c.push k).1.Holds k D := by
  refine ⟨Cache.ok_push c k h, by rw [Cache.push_size]; exact hp, ?_⟩
  rw [(Cache.push_on c k hp).1]
  exact ⟨_, [], rfl, fun _ hx => nomatch hx⟩

theorem Cache.holds_has {c : Cache} {k : Bytes} {D : List Bytes} (h : c.Holds k D) : c.has k = true := by
  obtain ⟨pre, post, hk, _⟩ := h.split
  rw [Cache.has_iff, hk]
  exact ⟨h.pos, List.mem_append_right _ List.mem_cons_self⟩

/-- one further operation on another key: `k` is still held, provided the keys behind it together
with a newly inserted one stay below the cache size -/
theorem Cache.holds_step {c : Cache} {k : Bytes} {D : List Bytes} (h : c.Holds k D) (op : CacheOp)
    (hne : op.key ≠ k) (hD : ∀ j, op = .push j → j ∈ D)
    (hsmall : ∀ l : List Bytes, l.Nodup → (∀ x ∈ l, x ∈ D) → k ∉ l → (l.length : Int) < c.size) :
    (c.apply op).Holds k D := by
  obtain ⟨pre, post, hk, hpost⟩ := h.split
  have hnd : (pre ++ k :: post).Nodup := hk ▸ h.ok.1
  obtain ⟨hknot, hkpost⟩ := List.nodup_cons.1 (List.nodup_append.1 hnd).2.1
  -- erasing another key `j` keeps the shape `pre' ++ k :: post'`
  have herase : ∀ j, j ≠ k → ∃ pre' post', c.keys.erase j = pre' ++ k :: post' ∧
      post'.Sublist post := by
    intro j hjk
    rw [hk]
    by_cases hjp : j ∈ pre
    · exact ⟨pre.erase j, post, List.erase_append_left _ hjp, List.Sublist.refl _⟩
    · refine ⟨pre, post.erase j, ?_, List.erase_sublist⟩
      rw [List.erase_append_right _ hjp, List.erase_cons_tail (by simpa using fun h : k = j => hjk h.symm)]
  cases op with
  | remove j =>
    refine ⟨Cache.ok_remove c j h.ok, by rw [Cache.apply, Cache.remove_size]; exact h.pos, ?_⟩
    obtain ⟨pre', post', he, hs⟩ := herase j hne
    rw [Cache.apply, Cache.remove_on c j h.pos]
    exact ⟨pre', post', he, fun x hx => hpost x (hs.subset hx)⟩
  | push j =>
    have hjk : j ≠ k := hne
    have hjD : j ∈ D := hD j rfl
    -- `j` goes behind whatever stays behind `k`
    have hbehind : ∀ post' : List Bytes, post'.Sublist post → ∀ x ∈ post' ++ [j], x ∈ D := by
      intro post' hs x hx
      rcases List.mem_append.1 hx with hx | hx
      · exact hpost x (hs.subset hx)
      · rw [List.mem_singleton.1 hx]; exact hjD
    refine ⟨Cache.ok_push c j h.ok, by rw [Cache.apply, Cache.push_size]; exact h.pos, ?_⟩
    rw [Cache.apply, (Cache.push_on c j h.pos).1]
    by_cases hjin : j ∈ c.keys
    · rw [if_pos hjin]
      obtain ⟨pre', post', he, hs⟩ := herase j hjk
      exact ⟨pre', post' ++ [j], by rw [he, List.append_assoc, List.cons_append], hbehind post' hs⟩
    · rw [if_neg hjin]
      have hjpost : j ∉ post := fun hm => hjin (hk ▸ List.mem_append_right _ (List.mem_cons_of_mem _ hm))
      -- the keys behind `k` plus the new one are few, so a full list has something in front of `k`
      have hfew : ((post ++ [j]).length : Int) < c.size :=
        hsmall _ (nodup_concat hkpost hjpost) (hbehind post (List.Sublist.refl _)) (by
          intro hm
          rcases List.mem_append.1 hm with hm | hm
          · exact hknot hm
          · exact hjk (List.mem_singleton.1 hm).symm)
      rw [List.length_append, List.length_singleton] at hfew
      by_cases hfull : (c.keys.length : Int) ≥ c.size
      · rw [if_pos hfull]
        cases pre with
        | nil =>
          rw [hk, List.nil_append, List.length_cons] at hfull
          omega
        | cons p pre' =>
          exact ⟨pre', post ++ [j], by rw [hk, List.cons_append, List.drop_one, List.tail_cons,
            List.append_assoc, List.cons_append], hbehind post (List.Sublist.refl _)⟩
      · rw [if_neg hfull]
        exact ⟨pre, post ++ [j], by rw [hk, List.append_assoc, List.cons_append],
          hbehind post (List.Sublist.refl _)⟩

theorem Cache.apply_size (c : Cache) (op : CacheOp) : (c.apply op).size = c.size := by
  cases op with
  | push j => exact Cache.push_size c j
  | remove j => exact Cache.remove_size c j

theorem Cache.holds_all (k : Bytes) (D : List Bytes) : ∀ (ops : List CacheOp) (c : Cache),
    c.Holds k D → (∀ o ∈ ops, o.key ≠ k) → (∀ j, CacheOp.push j ∈ ops → j ∈ D) →
    (∀ l : List Bytes, l.Nodup → (∀ x ∈ l, x ∈ D) → k ∉ l → (l.length : Int) < c.size) →
    (c.applyAll ops).Holds k D := by
  intro ops
  induction ops with
  | nil => intro c h _ _ _; exact h
  | cons o r ih =>
    intro c h hne hD hs
    have h1 := Cache.holds_step h o (hne o List.mem_cons_self)
      (fun j hj => hD j (hj ▸ List.mem_cons_self)) hs
    exact ih (c.apply o) h1 (fun o' ho' => hne o' (List.mem_cons_of_mem _ ho'))
      (fun j hj => hD j (List.mem_cons_of_mem _ hj)) (by rw [Cache.apply_size]; exact hs)

theorem mem_pushedKeys {ops : List CacheOp} {j : Bytes} (h : CacheOp.push j ∈ ops) : j ∈ pushedKeys ops := by
  induction ops with
  | nil => cases h
  | cons o r ih =>
    rcases List.mem_cons.1 h with ho | hr
    · rw [← ho]; exact List.mem_cons_self
    · cases o with
      | push k => exact List.mem_cons_of_mem k (ih hr)
      | remove k => exact ih hr

end Tmv.Mempool
