import Tmv.Lemmas.LightRpc
import Tmv.Lemmas.ProtoEnc
import Tmv.Lemmas.MerkleTraced
import Tmv.Lemmas.MerkleComplete
/-! Auxiliary definitions and lemmas for Props/C20: what an accepted
block shares with the verified header, the two loops of `BlockchainInfo`, the honest application
state used to state the ABCIQuery theorems and the loop of `ProofOperators.Verify`, and the concrete
one-block chain `Wit` used for witnesses and non-vacuity examples (its chain-level facts are in
Props/C20). -/
namespace Tmv.LightRpc
open Tmv.Merkle
variable (H : Bytes → Bytes)

theorem Header.root_fields_of_hash_eq (L : Nat) (hL : 0 < L) (hlen : ∀ x, (H x).length = L)
    {a b : Header} (hb : b.validatorsHash ≠ []) (h : a.hash H = b.hash H) :
    root H a.fields = root H b.fields := by
  unfold Header.hash at h
  rw [if_neg hb] at h
  by_cases ha : a.validatorsHash = []
  · -- a nil hash on one side, a root of length `L > 0` on the other
    rw [if_pos ha] at h
    have := rootF_len H L hlen b.fields.length b.fields
    rw [← root, ← h] at this
    exact absurd this (by simp; omega)
  · rwa [if_neg ha] at h

end Tmv.LightRpc

namespace Tmv.Props.C20
open Tmv Tmv.Merkle Tmv.LightRpc Tmv.TxProof
variable (H : Bytes → Bytes)

/-- A block that passed `ValidateBasic` and whose hashed header fields are those of header `th` has
the transaction, last-commit and evidence roots that `th` carries. -/
theorem block_roots_eq (L : Nat) (hlen : ∀ x, (H x).length = L) {b : Block} {th : Header}
    (hvb : b.validateBasic H = true) (hf : b.header.fields = th.fields)
    {txs sigs evs : List Bytes} (hd : th.dataHash = txsHash H txs)
    (hc : th.lastCommitHash = commitHash H sigs) (he : th.evidenceHash = evidenceHash H evs) :
    root H (b.txs.map H) = root H (txs.map H) ∧ root H b.lastCommitSigs = root H sigs ∧
      root H b.evidence = root H evs := by
  obtain ⟨hbc, hbd, hbe⟩ := Block.validateBasic_hashes H hvb
  simp only [Header.fields, List.cons.injEq] at hf
  obtain ⟨_, _, _, _, _, e6, e7, _, _, _, _, _, e13, _⟩ := hf
  rw [hbd, hd] at e7
  rw [hbc, hc] at e6
  rw [hbe, he] at e13
  have hl : ∀ xs ys, (root H xs).length = (root H ys).length := fun xs ys =>
    (rootF_len H L hlen _ _).trans (rootF_len H L hlen _ _).symm
  exact ⟨fBytes_inj_of_length_eq _ (hl _ _) e7, fBytes_inj_of_length_eq _ (hl _ _) e6,
    fBytes_inj_of_length_eq _ (hl _ _) e13⟩

/-- a height inside the requested range (`0` = bound not given) -/
def InRange (mn mx h : Int) : Prop := ¬ ((mn > 0 ∧ h < mn) ∨ (mx > 0 ∧ h > mx))

theorem checkMetas_eq_none (mn mx : Int) : ∀ (metas : List (Option BlockMeta)),
    checkMetas H mn mx metas = none ↔
      ∀ x ∈ metas, ∃ m, x = some m ∧ m.validateBasic H = true ∧ InRange mn mx m.header.height
  | [] => by simp [checkMetas]
  | none :: _ => by simp [checkMetas]
  | some m :: ys => by
    rw [checkMetas, List.forall_mem_cons, ← checkMetas_eq_none mn mx ys]
    simp only [Option.some.injEq, exists_eq_left']
    by_cases hv : m.validateBasic H = true
    · by_cases hr : InRange mn mx m.header.height
      · rw [if_neg (by simpa using hv), if_neg hr]; exact (and_iff_right ⟨hv, hr⟩).symm
      · rw [if_neg (by simpa using hv), if_pos (Decidable.of_not_not hr)]
        exact ⟨nofun, fun h => absurd h.1.2 hr⟩
    · rw [if_pos (by simpa using hv)]
      exact ⟨nofun, fun h => absurd h.1.1 hv⟩

theorem checkMetas_ne_ok (mn mx : Int) :
    ∀ (metas : List (Option BlockMeta)), checkMetas H mn mx metas ≠ some .ok := by
  intro metas
  induction metas with
  | nil => simp [checkMetas]
  | cons y ys ih =>
    cases y with
    | none => simp [checkMetas]
    | some m =>
      simp only [checkMetas]
      split; · simp
      split; · simp
      exact ih

theorem verifyMetas_sound :
    ∀ (metas : List (Option BlockMeta)) (lc lc' : LC), verifyMetas H lc metas = (.ok, lc') →
      lc'.chain = lc.chain ∧
      ∀ x ∈ metas, ∃ m t, x = some m ∧ lc.at? m.header.height = some t ∧
        m.header.hash H = t.header.hash H := by
  intro metas
  induction metas with
  | nil => intro lc lc' h; simp [verifyMetas] at h; subst h; simp
  | cons x rest ih =>
    intro lc lc' h
    cases x with
    | none => simp [verifyMetas] at h
    | some m =>
      rw [verifyMetas] at h
      obtain ⟨t, lc1, hat, hchain, h⟩ := of_upd h
      obtain ⟨hhash, h⟩ := of_ite_ne h nofun
      obtain ⟨hc2, hrest⟩ := ih lc1 lc' h
      refine ⟨hc2.trans hchain, ?_⟩
      intro y hy
      rcases List.mem_cons.mp hy with rfl | hy
      · exact ⟨m, t, rfl, hat, Decidable.of_not_not hhash⟩
      · obtain ⟨m', t', e1, e2, e3⟩ := hrest y hy
        exact ⟨m', t', e1, by rw [← at?_of_chain_eq lc lc1 hchain]; exact e2, e3⟩


/-- The hypotheses speak of one client `lc0`; the loop runs from any client that serves the same chain. -/
theorem verifyMetas_complete (lc0 : LC) :
    ∀ (metas : List (Option BlockMeta)),
      (∀ x ∈ metas, ∃ m t, x = some m ∧ lc0.at? m.header.height = some t ∧ m.header = t.header) →
      ∀ lc : LC, lc.chain = lc0.chain → ∃ lc', verifyMetas H lc metas = (.ok, lc') := by
  intro metas
  induction metas with
  | nil => exact fun _ lc _ => ⟨lc, rfl⟩
  | cons x rest ih =>
    intro hall lc hc
    obtain ⟨m, t, rfl, e2, e3⟩ := hall _ List.mem_cons_self
    rw [← at?_of_chain_eq lc0 lc hc] at e2
    obtain ⟨lc1, hupd⟩ := updateTo_some_complete lc _ t e2
    obtain ⟨lc2, h2⟩ := ih (fun y hy => hall y (List.mem_cons_of_mem _ hy)) lc1
      ((updateTo_ok lc lc1 _ t hupd).1.trans hc)
    refine ⟨lc2, ?_⟩
    rw [verifyMetas, hupd]
    simp only [e3, ne_eq, not_true_eq_false, if_false]
    exact h2

/-- The checks of `BlockchainInfo`: every meta passes the first loop, and the verification loop
accepts, started from a state with the same chain. -/
theorem verifyBlockchainInfo_ok {lc lc' : LC} {minH maxH : Int} {metas : List (Option BlockMeta)}
    (h : verifyBlockchainInfo H lc minH maxH metas = (.ok, lc')) :
    checkMetas H minH maxH metas = none ∧
      ∃ lcA, lcA.chain = lc.chain ∧ verifyMetas H lcA metas = (.ok, lc') := by
  unfold verifyBlockchainInfo at h
  cases hc : checkMetas H minH maxH metas with
  | some v =>
    rw [hc] at h
    obtain rfl : v = .ok := (Prod.mk.inj h).1
    exact absurd hc (checkMetas_ne_ok H minH maxH metas)
  | none =>
    rw [hc] at h
    refine ⟨rfl, ?_⟩
    dsimp only at h
    split at h
    · split at h
      · rename_i t lc1 hupd
        exact ⟨lc1, (updateTo_ok lc lc1 _ t hupd).1, h⟩
      · cases h
    · exact ⟨lc, rfl, h⟩

/-- the leaf bytes of a simple-map tree: `encodeByteSlice(key) ++ encodeByteSlice(H value)` -/
def kvBytes (k v : Bytes) : Bytes := encBS k ++ encBS (H v)

/-- a store: its key/value pairs in tree order; the application state: named stores in tree order -/
abbrev Store := List (Bytes × Bytes)
def storeLeaves (kvs : Store) : List Bytes := kvs.map fun kv => kvBytes H kv.1 kv.2
def storeRoot (kvs : Store) : Bytes := root H (storeLeaves H kvs)
def appLeaves (stores : List (Bytes × Store)) : List Bytes :=
  stores.map fun s => kvBytes H s.1 (storeRoot H s.2)
/-- the AppHash an application with these stores reports (root over the store roots) -/
def appHashOf (stores : List (Bytes × Store)) : Bytes := root H (appLeaves H stores)

/-- one `ValueOp`: if its output is the root of a tree, its (key, argument) leaf is in that tree -/
theorem runOp_inclusion (L : Nat) (hlen : ∀ x, (H x).length = L)
    (o : ProofOp) (value : Bytes) (leaves : List Bytes)
    (hrun : runOp H o value = some (root H leaves)) :
    kvBytes H o.key value ∈ leaves ∨ Nonempty (Collision H) := by
  unfold runOp at hrun
  split at hrun; · cases hrun
  rename_i hleaf
  obtain ⟨_, _, hf⟩ := (computeRoot_eq_some H).mp hrun
  rw [← Decidable.of_not_not hleaf] at hf
  exact (fromAunts_inclusion_traced H L hlen _ _ _ _ _ _ _ hf).imp_right (CollisionIn.toCollision H)

/-- the operator an honest node builds for leaf `i`, the pair `k ↦ v`, computes the root (the converse of
`runOp_inclusion`) -/
theorem runOp_proofOf (leaves : List Bytes) (i : Nat) (hi : i < leaves.length) (k v : Bytes)
    (hl : leaves[i] = kvBytes H k v) (ty da : Bool) :
    runOp H { typeOK := ty, key := k, dataOK := da, proof := proofOf H leaves i } v = some (root H leaves) := by
  have : kvLeaf H k v = (proofOf H leaves i).leafHash := by
    simp only [proofOf, List.getD_eq_getElem?_getD, List.getElem?_eq_getElem hi, Option.getD_some, hl]; rfl
  unfold runOp
  dsimp only
  rw [if_neg (not_not_intro this)]
  exact computeRoot_proofOf H leaves i hi

/-- equal KV leaves have equal keys and equal value hashes -/
theorem kvBytes_inj (L : Nat) (hL64 : L < 2 ^ 64) (hlen : ∀ x, (H x).length = L) (k k' v v' : Bytes)
    (hk : k.length < 2 ^ 64) (hk' : k'.length < 2 ^ 64) (h : kvBytes H k v = kvBytes H k' v') :
    k = k' ∧ H v = H v' := by
  unfold kvBytes at h
  obtain ⟨e1, e2⟩ := encBS_append_inj _ _ _ _ hk hk' h
  have e2' : encBS (H v) ++ [] = encBS (H v') ++ [] := by simpa using e2
  obtain ⟨e3, _⟩ := encBS_append_inj _ _ _ _ (by rw [hlen]; exact hL64) (by rw [hlen]; exact hL64) e2'
  exact ⟨e1, e3⟩

/-- key lengths an application can have (anything protobuf can carry) -/
def StoresWF (stores : List (Bytes × Store)) : Prop :=
  ∀ s ∈ stores, s.1.length < 2 ^ 64 ∧ ∀ kv ∈ s.2, kv.1.length < 2 ^ 64


theorem runOps_append (xs ys : List ProofOp) :
    ∀ (keys : List Bytes) (arg : Bytes),
      runOps H (xs ++ ys) keys arg = (runOps H xs keys arg).bind (fun p => runOps H ys p.1 p.2) := by
  induction xs with
  | nil => intro keys arg; simp [runOps]
  | cons o rest ih =>
    intro keys arg
    simp only [List.cons_append, runOps]
    split
    · simp
    · split
      · simp
      · exact ih _ _

/-- one round of the loop of `ProofOperators.Verify`: a keyed operator takes the last key of the path -/
theorem runOps_cons {o : ProofOp} {rest : List ProofOp} {keys keys' : List Bytes} {arg out : Bytes}
    (h : runOps H (o :: rest) keys arg = some (keys', out)) :
    ∃ keys1 out1, runOp H o arg = some out1 ∧ runOps H rest keys1 out1 = some (keys', out) ∧
      ((o.key = [] ∧ keys1 = keys) ∨ (o.key ≠ [] ∧ keys = keys1 ++ [o.key])) := by
  rw [runOps] at h
  by_cases hk : o.key = []
  · rw [if_neg (fun hn => hn hk)] at h
    dsimp only at h
    cases hr : runOp H o arg with
    | none => rw [hr] at h; cases h
    | some r => rw [hr] at h; exact ⟨keys, r, rfl, h, Or.inl ⟨hk, rfl⟩⟩
  · rw [if_pos hk] at h
    cases hl : keys.getLast? with
    | none => rw [hl] at h; cases h
    | some k =>
      rw [hl] at h
      dsimp only at h
      by_cases hkk : k = o.key
      · rw [if_neg (fun hn => hn hkk)] at h
        dsimp only at h
        cases hr : runOp H o arg with
        | none => rw [hr] at h; cases h
        | some r =>
          rw [hr] at h
          obtain ⟨ys, rfl⟩ := List.getLast?_eq_some_iff.mp hl
          exact ⟨ys, r, rfl, by simpa using h, Or.inr ⟨hk, by rw [hkk]⟩⟩
      · rw [if_pos hkk] at h; cases h

/-- a keyed operator that runs takes the last key of the path (the converse of `runOps_cons`) -/
theorem runOps_cons_keyed {o : ProofOp} (rest : List ProofOp) (keys : List Bytes) {arg out : Bytes}
    (hk : o.key ≠ []) (hr : runOp H o arg = some out) :
    runOps H (o :: rest) (keys ++ [o.key]) arg = runOps H rest keys out := by
  rw [runOps, if_pos hk, List.getLast?_concat, hr]
  simp

/-- the keys a run consumes are the keys of its keyed operators, the first operator taking the last key -/
theorem runOps_keys : ∀ (ops : List ProofOp) (keys : List Bytes) (arg : Bytes) (keys' : List Bytes) (out : Bytes),
    runOps H ops keys arg = some (keys', out) →
    keys = keys' ++ ((ops.filter (fun o => o.key ≠ [])).map (·.key)).reverse
  | [], keys, arg, keys', out, h => by
    rw [runOps] at h
    simp [(Prod.mk.inj (Option.some.inj h)).1]
  | o :: rest, keys, arg, keys', out, h => by
    obtain ⟨keys1, out1, _, hrest, hk⟩ := runOps_cons H h
    have ih := runOps_keys rest keys1 out1 keys' out hrest
    rcases hk with ⟨hk, rfl⟩ | ⟨hk, rfl⟩
    · simpa [hk] using ih
    · rw [ih]; simp [hk]

/-- the output of a `ValueOp` has the length of a hash -/
theorem runOp_len (L : Nat) (hlen : ∀ x, (H x).length = L) (o : ProofOp) (arg out : Bytes)
    (h : runOp H o arg = some out) : out.length = L := by
  unfold runOp at h
  split at h; · cases h
  rename_i hl
  obtain ⟨_, _, hf⟩ := (computeRoot_eq_some H).mp h
  exact fromAunts_len H L hlen (Decidable.of_not_not hl ▸ hlen _) hf

theorem runOps_snoc {pre : List ProofOp} {o : ProofOp} {keys keys' : List Bytes} {arg out : Bytes}
    (h : runOps H (pre ++ [o]) keys arg = some (keys', out)) :
    ∃ keys1 arg1, runOps H pre keys arg = some (keys1, arg1) ∧ runOp H o arg1 = some out ∧
      ((o.key = [] ∧ keys' = keys1) ∨ (o.key ≠ [] ∧ keys1 = keys' ++ [o.key])) := by
  rw [runOps_append] at h
  cases hp : runOps H pre keys arg with
  | none => rw [hp] at h; cases h
  | some p =>
    rw [hp] at h
    obtain ⟨keys1, out1, hr, hrest, hk⟩ := runOps_cons H (show runOps H [o] p.1 p.2 = some (keys', out) from h)
    rw [runOps] at hrest
    obtain ⟨rfl, rfl⟩ := Prod.mk.inj (Option.some.inj hrest)
    exact ⟨p.1, p.2, rfl, hr, hk⟩

/-- the output of a non-empty run has the length of a hash -/
theorem runOps_out_len (L : Nat) (hlen : ∀ x, (H x).length = L) {ops : List ProofOp} (hne : ops ≠ [])
    {keys keys' : List Bytes} {arg out : Bytes} (h : runOps H ops keys arg = some (keys', out)) :
    out.length = L := by
  obtain ⟨pre, o, rfl⟩ := (List.eq_nil_or_concat ops).resolve_left hne
  rw [List.concat_eq_append] at h
  obtain ⟨_, arg1, _, hr, _⟩ := runOps_snoc H h
  exact runOp_len H L hlen o _ _ hr

/-- One level of a value proof: the last operator proves a pair of the simple-map tree over `xs`
(values hashed as `val`), the operators before it computed that pair's value. Stated over pairs
with one value function: `appLeaves` and `storeLeaves` are then instances by unfolding (with separate
key and value functions that unification is slow). -/
theorem runOps_level (L : Nat) (hL64 : L < 2 ^ 64) (hlen : ∀ x, (H x).length = L)
    {β : Type} (val : β → Bytes) (xs : List (Bytes × β))
    (hkey : ∀ x ∈ xs, x.1 ≠ [] ∧ x.1.length < 2 ^ 64)
    {pre : List ProofOp} {o : ProofOp} {keys keys' : List Bytes} {arg : Bytes}
    (hkl : ∀ k ∈ keys, k.length < 2 ^ 64)
    (h : runOps H (pre ++ [o]) keys arg = some (keys', root H (xs.map fun x => kvBytes H x.1 (val x.2)))) :
    (∃ x ∈ xs, runOps H pre keys arg = some (keys' ++ [x.1], val x.2)) ∨ Nonempty (Collision H) := by
  obtain ⟨keys1, a, hp, hr, hk⟩ := runOps_snoc H h
  refine (runOp_inclusion H L hlen o a _ hr).elim (fun hm => ?_) Or.inr
  obtain ⟨x, hx, heq⟩ := List.mem_map.mp hm
  obtain ⟨hne, hl⟩ := hkey x hx
  rcases hk with ⟨hk, _⟩ | ⟨_, rfl⟩
  · exact absurd ((kvBytes_inj H L hL64 hlen _ _ _ _ hl (by rw [hk]; simp) heq).1.trans hk) hne
  · have hol : o.key.length < 2 ^ 64 := hkl _ (by rw [runOps_keys H _ _ _ _ _ hp]; simp)
    obtain ⟨e1, e2⟩ := kvBytes_inj H L hL64 hlen _ _ _ _ hl hol heq
    -- the value the operators computed hashes like the pair's: it is the pair's value, or they collide
    by_cases ha : val x.2 = a
    · exact Or.inl ⟨x, hx, e1 ▸ ha ▸ hp⟩
    · exact Or.inr ⟨⟨_, _, ha, e2⟩⟩

theorem verifyValue_eq_true {ops : List ProofOp} {r : Bytes} {keys : List Bytes} {v : Bytes} :
    verifyValue H ops r keys v = true ↔
      (∀ o ∈ ops, o.decodes = true) ∧ runOps H ops keys v = some ([], r) := by
  rw [verifyValue, Bool.and_eq_true, List.all_eq_true]
  refine and_congr_right fun _ => ?_
  cases runOps H ops keys v with
  | none => simp
  | some p =>
    obtain ⟨ks, out⟩ := p
    simp only [Bool.and_eq_true, decide_eq_true_eq, Option.some.injEq, Prod.mk.injEq]
    exact ⟨fun h => ⟨h.2, h.1.symm⟩, fun h => ⟨h.2.symm, h.1⟩⟩
/-- operators that all carry a key consume one key-path element each -/
theorem runOps_keyed_length :
    ∀ (ops : List ProofOp) (keys : List Bytes) (arg : Bytes) (keys' : List Bytes) (out : Bytes),
      (∀ o ∈ ops, o.key ≠ []) → runOps H ops keys arg = some (keys', out) →
      keys.length = ops.length + keys'.length := by
  intro ops keys arg keys' out hk h
  have hkeys := runOps_keys H ops keys arg keys' out h
  rw [List.filter_eq_self.mpr (by simpa using hk)] at hkeys
  rw [hkeys]
  simp
  omega

theorem verifyABCI_ok_verifyValue (lc lc' : LC) (store : Option Bytes) (r : ABCIResp)
    (hacc : verifyABCI H lc store r = (.ok, lc')) :
    ∃ (t : LightBlock) (v s' k' : Bytes), verifyValue H r.ops t.header.appHash [s', k'] v = true := by
  obtain ⟨_, _, _, _, t, v, _, s', k', _, _, _, _, _, _, hver⟩ := verifyABCI_ok H hacc
  exact ⟨t, v, s', k', hver⟩

theorem verify_inclusion_any_traced (L : Nat) (hL : 0 < L) (hlen : ∀ x, (H x).length = L)
    (items : List Bytes) (leaf : Bytes) (p : Proof)
    (hv : verify H (root H items) leaf p = .ok ()) :
    leaf ∈ items ∨
      CollisionIn H ((0 :: leaf) :: pathPre H p.total.toNat p.index.toNat p.total.toNat (leafHash H leaf) p.aunts)
        (rootPre H items.length items) :=
  verify_mem_traced H L hlen items leaf p hv

/-! ### a concrete one-block chain -/
namespace Wit
def z32 : Bytes := List.replicate 32 0
def H0 : Bytes → Bytes := fun _ => z32

theorem H0_len : ∀ x, (H0 x).length = 32 := by intro x; simp [H0, z32]

theorem root_H0 (xs : List Bytes) : root H0 xs = z32 := by
  unfold root
  cases h : xs.length with
  | zero => rfl
  | succ n =>
    match xs with
    | [] => rfl
    | [x] => rfl
    | a :: b :: c => rw [rootF_node Wit.H0 _ (by simp)]; rfl

def hdr : Header :=
  { versionBlock := 11, versionApp := 0, chainID := [99], height := 1, timeSec := 5, timeNanos := 0,
    lastBlockID := { hash := [], total := 0, psHash := [] }, lastCommitHash := z32, dataHash := z32,
    validatorsHash := z32, nextValidatorsHash := z32, consensusHash := z32, appHash := z32,
    lastResultsHash := [], evidenceHash := z32, proposer := List.replicate 20 0 }

def lb : LightBlock :=
  { header := hdr, commitBlockID := { hash := z32, total := 1, psHash := z32 },
    vals := [{ address := List.replicate 20 1, power := 10 }] }

def lc0 : LC := { chain := [lb], stored := [1] }

def blk : Block :=
  { header := hdr, txs := [], evidence := [], evidenceOK := true, lastCommitNil := false,
    lastCommitSigs := [], lastCommitOK := true }

theorem hdr_hash : hdr.hash H0 = z32 := by
  unfold Header.hash
  have : hdr.validatorsHash ≠ [] := by decide
  simp only [this, if_false]
  exact root_H0 _

theorem at_one : lc0.at? 1 = some lb := by simp [LC.at?, lc0]

theorem at_inv (k : Int) (t : LightBlock) (h : lc0.at? k = some t) : k = 1 ∧ t = lb := by
  unfold LC.at? at h
  split at h; · cases h
  rename_i hk
  simp only [lc0] at h
  cases hn : (k - 1).toNat with
  | zero =>
    rw [hn] at h
    simp at h
    exact ⟨by omega, h.symm⟩
  | succ n => rw [hn] at h; simp at h

end Wit

end Tmv.Props.C20
