import Tmv.Model.MempoolV0Async
import Tmv.Lemmas.MempoolList
/-! The v0 mempool model: its invariants, their preservation by every operation (`Stable`), what
`Update` leaves in the pool, and the specifications of the two reap loops. -/
namespace Tmv.Mempool.V0
open Tmv Tmv.Mempool

structure InvC (txs : List MemTx) (map : List Bytes) (bytes : Int) : Prop where
  nodup : (txs.map (·.tx)).Nodup
  map : map.Perm (txs.map (·.tx))
  bytes : bytes = bytesOf (txs.map (·.tx))

def Inv (s : State) : Prop := InvC s.txs s.txsMap s.txsBytes

def Bounded (s : State) : Prop :=
  (s.txs.length : Int) ≤ s.cfg.size ∧ s.txsBytes ≤ s.cfg.maxTxsBytes

/-- `MempoolConfig.ValidateBasic` (the part about these limits) -/
def CfgValid (c : Cfg) : Prop := 0 ≤ c.size ∧ 0 ≤ c.maxTxsBytes

theorem inv_nil : InvC [] [] 0 := ⟨List.nodup_nil, List.Perm.nil, rfl⟩

theorem inv_init (cfg : Cfg) (h : Int) : Inv (init cfg h) := inv_nil

theorem bounded_init (cfg : Cfg) (h : Int) (hv : CfgValid cfg) : Bounded (init cfg h) := hv

theorem mem_map_iff {s : State} (hi : Inv s) (k : Bytes) : k ∈ s.txsMap ↔ k ∈ keys s :=
  hi.map.mem_iff

theorem keys_addTx (s : State) (m : MemTx) : keys (addTx s m) = keys s ++ [m.tx] :=
  List.map_append

theorem keys_removeTx (s : State) (tx : Bytes) (b : Bool) :
    keys (removeTx s tx b) = (keys s).erase tx :=
  map_eraseP_key (fun e : MemTx => e.tx) tx s.txs

/-- the invariant in the form both pools share -/
theorem inv_iff (s : State) : Inv s ↔ V1.InvC (keys s) s.txsMap s.txsBytes :=
  ⟨fun h => ⟨h.nodup, h.map, h.bytes⟩, fun h => ⟨h.nodup, h.map, h.bytes⟩⟩

theorem inv_addTx {s : State} (hi : Inv s) (m : MemTx) (hn : m.tx ∉ s.txsMap) :
    Inv (addTx s m) := by
  rw [inv_iff, keys_addTx]
  show V1.InvC _ (mapStore s.txsMap m.tx) (s.txsBytes + (m.tx.length : Int))
  rw [mapStore, if_neg hn]; exact ((inv_iff s).1 hi).concat m.tx hn

theorem inv_removeTx {s : State} (hi : Inv s) (tx : Bytes) (b : Bool) (hm : tx ∈ keys s) :
    Inv (removeTx s tx b) := by
  rw [inv_iff, keys_removeTx]; exact ((inv_iff s).1 hi).erase tx hm

theorem bounded_removeTx {s : State} (hb : Bounded s) (tx : Bytes) (b : Bool) :
    Bounded (removeTx s tx b) := by
  have h1 : (s.txs.eraseP (fun e => decide (e.tx = tx))).length ≤ s.txs.length :=
    List.length_eraseP_le
  have h2 : (0 : Int) ≤ tx.length := Int.natCast_nonneg _
  exact ⟨by show ((s.txs.eraseP _).length : Int) ≤ s.cfg.size; have := hb.1; omega,
    by show s.txsBytes - (tx.length : Int) ≤ s.cfg.maxTxsBytes; have := hb.2; omega⟩

theorem bounded_addTx (s : State) (m : MemTx) (hf : isFull s m.tx.length = false) :
    Bounded (addTx s m) := by
  rw [isFull, Bool.or_eq_false_iff, decide_eq_false_iff_not, decide_eq_false_iff_not] at hf
  exact ⟨by show ((s.txs ++ [m]).length : Int) ≤ s.cfg.size
            rw [List.length_append, List.length_singleton]; omega,
    by show s.txsBytes + (m.tx.length : Int) ≤ s.cfg.maxTxsBytes; omega⟩

theorem cfg_removeTx (s : State) (tx : Bytes) (b : Bool) :
    (removeTx s tx b).cfg = s.cfg ∧ (removeTx s tx b).post = s.post := ⟨rfl, rfl⟩

theorem recordSender_map (s : State) (tx : Bytes) (p : Nat) :
    (recordSender s tx p).txs.map (·.tx) = s.txs.map (·.tx) := by
  rw [recordSender, List.map_map]
  apply List.map_congr_left
  intro e _
  show (if e.tx = tx then (if p ∈ e.senders then e else { e with senders := e.senders ++ [p] }) else e).tx = e.tx
  by_cases h1 : e.tx = tx
  · rw [if_pos h1]
    by_cases h2 : p ∈ e.senders
    · rw [if_pos h2]
    · rw [if_neg h2]
  · rw [if_neg h1]

theorem recordSender_has (s : State) (tx : Bytes) (p : Nat) :
    ∀ e ∈ (recordSender s tx p).txs, e.tx = tx → p ∈ e.senders := by
  intro e he hetx
  simp only [recordSender, List.mem_map] at he
  obtain ⟨e0, _, rfl⟩ := he
  by_cases h0 : e0.tx = tx
  · by_cases hp : p ∈ e0.senders <;> simp [h0, hp]
  · rw [if_neg h0] at hetx; exact absurd hetx h0

/-- `P` survives the elementary changes of which every operation is composed. -/
structure Stable (P : State → Prop) : Prop where
  push : ∀ s k, P s → P { s with cache := (s.cache.push k).1 }
  forget : ∀ s k, P s → P { s with cache := s.cache.remove k }
  add : ∀ s m, P s → isFull s m.tx.length = false → m.tx ∉ s.txsMap → P (addTx s m)
  remove : ∀ s tx b, P s → tx ∈ s.txsMap → P (removeTx s tx b)
  head : ∀ s h pre post, P s → P { s with height := h, pre := pre, post := post }
  senders : ∀ s tx p, P s → P (recordSender s tx p)
  -- `Flush` assigns the empty pool outright, so it is a change of its own (v1 unlinks element by element)
  flush : ∀ s, P s → P (flush s)

theorem stable_inv : Stable Inv where
  push _ _ h := h
  forget _ _ h := h
  add _ m h _ hn := inv_addTx h m hn
  remove _ tx b h hm := inv_removeTx h tx b ((mem_map_iff h tx).1 hm)
  head _ _ _ _ h := h
  senders s tx p h := by
    refine ⟨?_, ?_, ?_⟩
    · rw [recordSender_map]; exact h.nodup
    · rw [recordSender_map]; exact h.map
    · rw [recordSender_map]; exact h.bytes
  flush _ _ := inv_nil

-- under `CfgValid`: `Flush` sets the counters to 0, which is within the limits only if these are not negative
theorem stable_bounded : Stable (fun s => CfgValid s.cfg → Bounded s) where
  push _ _ h := h
  forget _ _ h := h
  add s m _ hf _ _ := bounded_addTx s m hf
  remove _ tx b h _ hv := bounded_removeTx (h hv) tx b
  head _ _ _ _ h := h
  senders s tx p h hv := by
    have hl : (recordSender s tx p).txs.length = s.txs.length := List.length_map _
    exact ⟨by rw [hl]; exact (h hv).1, (h hv).2⟩
  flush _ _ hv := hv

theorem stable_cfg (c : Cfg) : Stable (fun s => s.cfg = c) where
  push _ _ h := h
  forget _ _ h := h
  add _ _ h _ _ := h
  remove _ _ _ h _ := h
  head _ _ _ _ h := h
  senders _ _ _ h := h
  flush _ h := h

theorem stable_cache {C : Cache → Prop} (hC : Cache.Closed C) : Stable (fun s => C s.cache) where
  push s k h := hC.push s.cache k h
  forget s k h := hC.remove s.cache k h
  add _ _ h _ _ := h
  remove s tx b h _ := by
    show C (if b = true then s.cache.remove tx else s.cache)
    cases b
    · exact h
    · exact hC.remove s.cache tx h
  head _ _ _ _ h := h
  senders _ _ _ h := h
  flush s h := hC.reset s.cache h

theorem commitOne_eq (s : State) (c : Bytes × Nat) :
    commitOne s c = if c.1 ∈ s.txsMap
      then removeTx { s with cache := commitCache s.cache s.cfg.keepInvalid c } c.1 false
      else { s with cache := commitCache s.cache s.cfg.keepInvalid c } := rfl

theorem checkTx_cases (s : State) (tx : Bytes) (v : Verdict) :
    (∃ e, e ≠ .ok ∧ checkTxFront s tx = (s, e) ∧ checkTx s tx v = (s, e)) ∨
    ((s.cache.push tx).2 = false ∧
      checkTxFront s tx = ({ s with cache := (s.cache.push tx).1 }, .inCache) ∧
      checkTx s tx v = ({ s with cache := (s.cache.push tx).1 }, .inCache)) ∨
    ((s.cache.push tx).2 = true ∧
      checkTxFront s tx = ({ s with cache := (s.cache.push tx).1 }, .ok) ∧
      checkTx s tx v = (resCbFirstTime { s with cache := (s.cache.push tx).1 } tx v, .ok)) := by
  unfold checkTx checkTxFront
  by_cases h1 : isFull s tx.length = true
  · exact Or.inl ⟨.full, (fun h => nomatch h), if_pos h1, if_pos h1⟩
  rw [if_neg h1, if_neg h1]
  by_cases h2 : (tx.length : Int) > s.cfg.maxTxBytes
  · exact Or.inl ⟨.tooLarge, (fun h => nomatch h), if_pos h2, if_pos h2⟩
  rw [if_neg h2, if_neg h2]
  by_cases h3 : preFails s.pre tx = true
  · exact Or.inl ⟨.pre, (fun h => nomatch h), if_pos h3, if_pos h3⟩
  rw [if_neg h3, if_neg h3]
  by_cases h4 : (!(s.cache.push tx).2) = true
  · exact Or.inr (Or.inl ⟨by simpa using h4, if_pos h4, if_pos h4⟩)
  · exact Or.inr (Or.inr ⟨by simpa using h4, if_neg h4, if_neg h4⟩)

section ops
variable {P : State → Prop} (hP : Stable P)
include hP

theorem Stable.resCbFirstTime {s : State} (h : P s) (tx : Bytes) (v : Verdict) :
    P (resCbFirstTime s tx v) := by
  unfold V0.resCbFirstTime
  by_cases ha : accepted s.post v = true
  · rw [if_pos ha]
    by_cases hf : isFull s tx.length = true
    · rw [if_pos hf]; exact hP.forget s tx h
    · rw [if_neg hf]
      by_cases hm : tx ∈ s.txsMap
      · rw [if_pos hm]; exact h
      · rw [if_neg hm]; exact hP.add s _ h (Bool.eq_false_iff.2 hf) hm
  · rw [if_neg ha]
    by_cases hk : (!s.cfg.keepInvalid) = true
    · rw [if_pos hk]; exact hP.forget s tx h
    · rw [if_neg hk]; exact h

theorem Stable.checkTx {s : State} (h : P s) (tx : Bytes) (v : Verdict) : P (checkTx s tx v).1 := by
  rcases checkTx_cases s tx v with ⟨_, _, _, he⟩ | ⟨_, _, he⟩ | ⟨_, _, he⟩
  · rw [he]; exact h
  · rw [he]; exact hP.push s tx h
  · rw [he]; exact hP.resCbFirstTime (hP.push s tx h) tx v

theorem Stable.checkTxFrom {s : State} (h : P s) (tx : Bytes) (v : Verdict) (p : Nat) :
    P (checkTxFrom s tx v p).1 := by
  have h1 := hP.checkTx h tx v
  unfold V0.checkTxFrom
  generalize V0.checkTx s tx v = r at h1
  obtain ⟨s1, res⟩ := r
  cases res with
  | inCache => exact hP.senders s1 tx p h1
  | ok =>
    show P (if accepted s.post v = true then (recordSender s1 tx p, CheckRes.ok) else (s1, CheckRes.ok)).1
    by_cases ha : accepted s.post v = true
    · rw [if_pos ha]; exact hP.senders s1 tx p h1
    · rw [if_neg ha]; exact h1
  | full => exact h1
  | tooLarge => exact h1
  | pre => exact h1

theorem Stable.commitOne {s : State} (h : P s) (c : Bytes × Nat) : P (commitOne s c) := by
  have hc : P { s with cache := commitCache s.cache s.cfg.keepInvalid c } :=
    commitCache_elim (Q := fun c' => P { s with cache := c' }) (hP.push s c.1 h) (hP.forget s c.1 h) h _
  rw [commitOne_eq]
  by_cases hm : c.1 ∈ s.txsMap
  · rw [if_pos hm]; exact hP.remove _ c.1 false hc hm
  · rw [if_neg hm]; exact hc

theorem Stable.commitAll {s : State} (h : P s) (block : List (Bytes × Nat)) :
    P (block.foldl V0.commitOne s) :=
  List.foldlRecOn block V0.commitOne h fun _ hq c _ => hP.commitOne hq c

end ops

theorem checkTx_cached (s : State) (tx : Bytes) (v : Verdict) (h : s.cache.has tx = true) :
    (checkTx s tx v).2 ≠ .ok ∧ (checkTx s tx v).1.txs = s.txs := by
  rcases checkTx_cases s tx v with ⟨_, hne, _, he⟩ | ⟨_, _, he⟩ | ⟨hp, _⟩
  · rw [he]; exact ⟨hne, rfl⟩
  · rw [he]; exact ⟨fun h => (nomatch h), rfl⟩
  · exact nomatch (Cache.push_of_has s.cache tx h).symm.trans hp

/-- the state `Update` works on after setting height and filters -/
def updHead (s : State) (h : Int) (pre post : Option Int) : State :=
  { s with height := h, pre := newFilter pre s.pre, post := newFilter post s.post }

theorem inv_updHead {s : State} (hi : Inv s) (h : Int) (pre post : Option Int) :
    Inv (updHead s h pre post) := hi

theorem commitOne_frame (s : State) (c : Bytes × Nat) :
    (commitOne s c).post = s.post ∧ (commitOne s c).cache = commitCache s.cache s.cfg.keepInvalid c := by
  rw [commitOne_eq]
  by_cases hm : c.1 ∈ s.txsMap
  · rw [if_pos hm]; exact ⟨rfl, rfl⟩
  · rw [if_neg hm]; exact ⟨rfl, rfl⟩

theorem post_commitAll (block : List (Bytes × Nat)) (s : State) :
    (block.foldl commitOne s).post = s.post :=
  foldl_frame commitOne State.post block s fun c _ st => (commitOne_frame st c).1

theorem commitOne_remembers (s : State) (tx : Bytes) (h : s.cache.size > 0) :
    (commitOne s (tx, codeOK)).cache.has tx = true := by
  rw [(commitOne_frame s (tx, codeOK)).2, commitCache, if_pos rfl]
  exact Cache.push_has s.cache tx h

theorem keys_commitOne {s : State} (hi : Inv s) (c : Bytes × Nat) :
    keys (commitOne s c) = (keys s).erase c.1 := by
  rw [commitOne_eq]
  by_cases hm : c.1 ∈ s.txsMap
  · rw [if_pos hm]; exact keys_removeTx _ c.1 false
  · rw [if_neg hm]
    exact (List.erase_of_not_mem fun h => hm ((mem_map_iff hi _).2 h)).symm

theorem commitAll_keys (block : List (Bytes × Nat)) {s : State} (hi : Inv s) :
    ∀ k ∈ keys (block.foldl commitOne s), k ∈ keys s ∧ ∀ c ∈ block, c.1 ≠ k :=
  foldl_erase_keys keys commitOne Inv
    (fun _ c hi => ⟨stable_inv.commitOne hi c, hi.nodup, keys_commitOne hi c⟩) block s hi

/-- a recheck answer leaves the cache alone or forgets its own transaction -/
theorem resCbRecheck_cache (s : State) (tx : Bytes) (v : Verdict) :
    (resCbRecheck s tx v).cache = s.cache ∨ (resCbRecheck s tx v).cache = s.cache.remove tx := by
  unfold resCbRecheck
  by_cases ha : accepted s.post v = true
  · rw [if_pos ha]; exact Or.inl rfl
  · rw [if_neg ha]
    cases (!s.cfg.keepInvalid)
    · exact Or.inl rfl
    · exact Or.inr rfl

theorem resCbRecheck_has (s : State) (tx : Bytes) (v : Verdict) (k : Bytes) (hne : k ≠ tx)
    (hc : s.cache.has k = true) : (resCbRecheck s tx v).cache.has k = true := by
  rcases resCbRecheck_cache s tx v with he | he
  · rw [he]; exact hc
  · rw [he]; exact Cache.remove_has_ne _ _ _ hne hc

/-- `r` is a variable equal to the result, so that the result is written once; callers pass `_ rfl`. -/
theorem recheckTxs_spec {P : State → Prop} (hP : Stable P) {s : State} (hi : Inv s) (h : P s)
    (rv : Bytes → Verdict) : ∀ r, recheckTxs s rv = r →
    Inv r ∧ P r ∧ keys r = (keys s).filter (fun k => accepted s.post (rv k)) ∧
    (∀ k, k ∉ keys s → s.cache.has k = true → r.cache.has k = true) := by
  rintro r rfl
  have hfold := foldl_keep_or_erase keys (·.tx) (fun st e => resCbRecheck st e.tx (rv e.tx))
    (fun e => accepted s.post (rv e.tx)) (fun st => Inv st ∧ P st ∧ st.post = s.post)
    (by
      intro st e ⟨hi', h', hp⟩ hm
      unfold resCbRecheck
      rw [hp]
      by_cases ha : accepted s.post (rv e.tx) = true
      · rw [if_pos ha, if_pos ha]; exact ⟨⟨hi', h', hp⟩, rfl⟩
      · rw [if_neg ha, if_neg ha]
        exact ⟨⟨inv_removeTx hi' _ _ hm, hP.remove st _ _ h' ((mem_map_iff hi' _).2 hm), hp⟩,
          keys_removeTx _ _ _⟩)
    s.txs s [] ⟨hi, h, rfl⟩ rfl hi.nodup
  obtain ⟨⟨h1, h2, _⟩, h4⟩ := hfold
  refine ⟨h1, h2, ?_, ?_⟩
  · rw [recheckTxs, h4, List.nil_append, keys, List.filter_map]; rfl
  · intro k hk
    exact fun h0 => List.foldlRecOn (motive := fun st => st.cache.has k = true) s.txs _ h0
      fun st hq e he => resCbRecheck_has st e.tx _ k
        (fun e' => hk (e' ▸ List.mem_map_of_mem (f := (·.tx)) he)) hq

/-- the end of `Update`: the recheck, when the pool is not empty and `config.Recheck` is set -/
def recheckIf (s : State) (rv : Bytes → Verdict) : State :=
  if s.txs.length > 0 then (if s.cfg.recheck then recheckTxs s rv else s) else s

theorem recheckIf_spec {P : State → Prop} (hP : Stable P) {s : State} (hi : Inv s) (h : P s)
    (rv : Bytes → Verdict) : ∀ r, recheckIf s rv = r →
    Inv r ∧ P r ∧ (∀ k ∈ keys r, k ∈ keys s) ∧
    (s.cfg.recheck = true → ∀ k ∈ keys r, accepted s.post (rv k) = true) ∧
    (∀ k, k ∉ keys s → s.cache.has k = true → r.cache.has k = true) := by
  rintro r rfl
  unfold recheckIf
  by_cases hl : s.txs.length > 0
  · rw [if_pos hl]
    by_cases hr : s.cfg.recheck = true
    · rw [if_pos hr]
      obtain ⟨h1, h2, h4, h5⟩ := recheckTxs_spec hP hi h rv _ rfl
      rw [h4]
      exact ⟨h1, h2, fun k hk => (List.mem_filter.1 hk).1, fun _ k hk => (List.mem_filter.1 hk).2, h5⟩
    · rw [if_neg hr]
      exact ⟨hi, h, fun _ hk => hk, fun hr' => absurd hr' hr, fun _ _ hc => hc⟩
  · rw [if_neg hl]
    have : s.txs = [] := List.eq_nil_of_length_eq_zero (by omega)
    refine ⟨hi, h, fun _ hk => hk, fun _ k hk => ?_, fun _ _ hc => hc⟩
    rw [keys, this] at hk
    exact nomatch hk

theorem update_eq (s : State) (h : Int) (block : List (Bytes × Nat)) (pre post : Option Int)
    (rv : Bytes → Verdict) :
    update s h block pre post rv = recheckIf (block.foldl commitOne (updHead s h pre post)) rv := rfl

section ops
variable {P : State → Prop} (hP : Stable P)
include hP

theorem Stable.update {s : State} (hi : Inv s) (h : P s) (ht : Int) (block : List (Bytes × Nat))
    (pre post : Option Int) (rv : Bytes → Verdict) : P (update s ht block pre post rv) :=
  (recheckIf_spec hP (stable_inv.commitAll (inv_updHead hi ht pre post) block)
    (hP.commitAll (hP.head s ht _ _ h) block) rv _ rfl).2.1

theorem Stable.step {s : State} (hi : Inv s) (h : P s) (op : Op) : P (step s op) := by
  cases op with
  | check tx v p => exact hP.checkTxFrom h tx v p
  | update ht b pre post rv => exact hP.update hi h ht b pre post rv
  | flush => exact hP.flush s h

theorem Stable.run (ops : List Op) : ∀ {s : State}, Inv s → P s → Inv (run s ops) ∧ P (run s ops) := by
  induction ops with
  | nil => intro s hi h; exact ⟨hi, h⟩
  | cons o r ih => intro s hi h; exact ih (stable_inv.step hi hi o) (hP.step hi h o)

end ops

/-- Every cache property that `Push`, `Remove` and `Reset` keep holds along every history, from every
state: where the walks above ask for `Inv` (the recheck), the cache is looked at alone. -/
theorem cache_run {C : Cache → Prop} (hC : Cache.Closed C) (ops : List Op) (s : State) (h : C s.cache) :
    C (run s ops).cache :=
  List.foldlRecOn ops step (motive := fun x => C x.cache) h fun st hst op _ => by
    show C (step st op).cache
    cases op with
    | check tx v p => exact (stable_cache hC).checkTxFrom hst tx v p
    | flush => exact (stable_cache hC).flush st hst
    | update ht b pre post rv =>
      have h2 : C (b.foldl commitOne (updHead st ht pre post)).cache :=
        (stable_cache hC).commitAll ((stable_cache hC).head st ht _ _ hst) b
      show C (update st ht b pre post rv).cache
      rw [update_eq, recheckIf]
      by_cases hl : (b.foldl commitOne (updHead st ht pre post)).txs.length > 0
      · rw [if_pos hl]
        by_cases hr : (b.foldl commitOne (updHead st ht pre post)).cfg.recheck = true
        · rw [if_pos hr]
          refine List.foldlRecOn _ _ (motive := fun x : State => C x.cache) h2 fun x hx (e : MemTx) _ => ?_
          show C (resCbRecheck x e.tx (rv e.tx)).cache
          rcases resCbRecheck_cache x e.tx (rv e.tx) with he | he
          · rw [he]; exact hx
          · rw [he]; exact hC.remove x.cache e.tx hx
        · rw [if_neg hr]; exact h2
      · rw [if_neg hl]; exact h2

theorem inv_run (ops : List Op) {s : State} (hi : Inv s) : Inv (run s ops) :=
  (stable_inv.run ops hi hi).1

theorem cfg_flush (s : State) : (flush s).cfg = s.cfg := rfl

theorem update_keys {s : State} (hi : Inv s) (h : Int) (block : List (Bytes × Nat))
    (pre post : Option Int) (rv : Bytes → Verdict) :
    (∀ k ∈ keys (update s h block pre post rv), k ∈ keys s ∧ ∀ c ∈ block, c.1 ≠ k) ∧
    (s.cfg.recheck = true → ∀ k ∈ keys (update s h block pre post rv),
      accepted (newFilter post s.post) (rv k) = true) := by
  have hi0 := inv_updHead hi h pre post
  have hi2 := stable_inv.commitAll hi0 block
  obtain ⟨_, hcfg, h3, h4, _⟩ := recheckIf_spec (stable_cfg s.cfg) hi2
    ((stable_cfg s.cfg).commitAll (s := updHead s h pre post) rfl block) rv _ rfl
  rw [update_eq]
  refine ⟨fun k hk => commitAll_keys block hi0 k (h3 k hk), fun hr k hk => ?_⟩
  have := h4 (by rw [(stable_cfg s.cfg).commitAll (s := updHead s h pre post) rfl block]; exact hr) k hk
  rwa [post_commitAll] at this

/-- the last transaction of the block, committed with code OK, is remembered when `Update`
returns: the recheck only forgets what it removes -/
theorem update_remembers_last {s : State} (hi : Inv s) (hs : s.cache.size > 0) (h : Int)
    (block : List (Bytes × Nat)) (tx : Bytes) (pre post : Option Int) (rv : Bytes → Verdict) :
    (update s h (block ++ [(tx, codeOK)]) pre post rv).cache.has tx = true := by
  have hi0 := inv_updHead hi h pre post
  have hsize : (block.foldl commitOne (updHead s h pre post)).cache.size = s.cache.size :=
    (stable_cache (Cache.closed_size _)).commitAll rfl block
  rw [update_eq]
  obtain ⟨_, _, _, _, hcache⟩ :=
    recheckIf_spec stable_inv (stable_inv.commitAll hi0 _) (stable_inv.commitAll hi0 _) rv _ rfl
  refine hcache tx (fun hk => (commitAll_keys _ hi0 tx hk).2 (tx, codeOK) (by simp) rfl) ?_
  rw [List.foldl_append]
  exact commitOne_remembers _ tx (hsize.symm ▸ hs)

def protoSum : List MemTx → Int
  | [] => 0
  | e :: r => protoSize e.tx.length + protoSum r

def gasSum : List MemTx → Int
  | [] => 0
  | e :: r => e.gas + gasSum r

theorem reapGo_spec (mb mg : Int) (l : List MemTx) (sz g : Int) (h1 : mb > -1 → sz ≤ mb)
    (h2 : mg > -1 → g ≤ mg) :
    ∃ k, k ≤ l.length ∧ reapGo mb mg l sz g = (l.take k).map (·.tx) ∧
      (mb > -1 → sz + protoSum (l.take k) ≤ mb) ∧ (mg > -1 → g + gasSum (l.take k) ≤ mg) ∧
      (∀ e, l[k]? = some e →
        (mb > -1 ∧ sz + protoSum (l.take k) + protoSize e.tx.length > mb) ∨
        (mg > -1 ∧ g + gasSum (l.take k) + e.gas > mg)) := by
  refine greedy_prefix (·.tx) (fun e : MemTx => protoSize e.tx.length) (·.gas) (mb > -1) (mg > -1) mb mg
    (reapGo mb mg) protoSum gasSum (fun _ _ => rfl) ?_ ?_ rfl (fun _ _ => rfl) rfl (fun _ _ => rfl)
    l sz g h1 h2
  · intro e r b g h
    rw [reapGo]
    by_cases hb : mb > -1 ∧ b + protoSize e.tx.length > mb
    · exact if_pos hb
    · rw [if_neg hb]; exact if_pos (h.resolve_left hb)
  · intro e r b g h
    rw [reapGo, if_neg fun hb => h (Or.inl hb)]
    exact if_neg fun hg => h (Or.inr hg)

theorem reapNGo_spec (max : Int) : ∀ (l : List MemTx) (acc : List Bytes),
    reapNGo max l acc = acc ++ (l.take (max - (acc.length : Int)).toNat).map (·.tx) := by
  intro l
  induction l with
  | nil => intro acc; simp [reapNGo]
  | cons e rest ih =>
    intro acc
    unfold reapNGo
    by_cases h : (acc.length : Int) < max
    · rw [if_pos h, ih]
      have : (max - (acc.length : Int)).toNat = (max - ((acc ++ [e.tx]).length : Int)).toNat + 1 := by
        rw [List.length_append, List.length_singleton]; omega
      rw [this, List.take_succ_cons, List.map_cons, List.append_assoc]; rfl
    · rw [if_neg h]
      have : (max - (acc.length : Int)).toNat = 0 := by omega
      rw [this, List.take_zero, List.map_nil, List.append_nil]

end Tmv.Mempool.V0
