import Tmv.Lemmas.ConsPrim
/-! Round-monotonicity of a node across one input of its receive routine, and what a step that is
"quiet" (same round, same step, nothing emitted) can change: a relational invariant `Quiet s s'`
("`s'` is a later stage of `s`") kept by every move of the node model (`SQ_prim`) and by recording an
input (`enter_SQ`), hence by `Cons.step`, `drain` and `handleCompleteProposal`. Used by the fixpoint
argument of the gossip closure for proposals and block parts (Lemmas/SyncClosureMsgs.lean). -/
namespace Tmv.Cons

/-- a node in step `NewHeight` is in round 0 (nothing sets the step back to `NewHeight`) -/
def NHI (s : NodeState) : Prop := s.step = .newHeight → s.round = 0

/-- `s'` is a later stage of `s` -/
structure Quiet (s s' : NodeState) : Prop where
  /-- the round never decreases -/
  round : s.round ≤ s'.round
  /-- outputs are only appended -/
  out : s.out.length ≤ s'.out.length
  /-- halted and decided are absorbing -/
  halted : s.halted = true → s'.halted = true
  decided : s.decided.isSome = true → s'.decided.isSome = true
  /-- a recorded +2/3 majority is never replaced -/
  maj : ∀ (r : Int) (t : VType) (x : Bid), maj23Of (s.votes.getVoteSet r t) = some x →
    maj23Of (s'.votes.getVoteSet r t) = some x
  /-- within one round: the proposer-priority count is fixed, the step only moves forward, an accepted
  proposal stays -/
  sameRound : s'.round = s.round →
    s'.valRound = s.valRound ∧ s.step.rank ≤ s'.step.rank ∧ (∀ p, s.proposal = some p → s'.proposal = some p)
  /-- within one round and step and with nothing emitted, a known part-set header stays (and a complete
  part set stays complete) unless it is replaced by the header of the round's polka -/
  quiet : s'.round = s.round → s'.step.rank = s.step.rank → s'.out.length = s.out.length →
    ∀ h, s.proposalParts = some h →
      (s'.proposalParts = some h ∧ (s.partsDone = true → s'.partsDone = true)) ∨
      (∃ x, x ≠ h ∧ maj23Of (s'.votes.prevotes (s'.round : Int)) = some (some x) ∧ s'.proposalParts = some x)

theorem Quiet.refl (s : NodeState) : Quiet s s :=
  ⟨Nat.le_refl _, Nat.le_refl _, id, id, fun _ _ _ h => h,
   fun _ => ⟨rfl, Nat.le_refl _, fun _ e => e⟩, fun _ _ _ _ e => Or.inl ⟨e, id⟩⟩

theorem Quiet.trans {a b d : NodeState} (h₁ : Quiet a b) (h₂ : Quiet b d) : Quiet a d := by
  refine ⟨Nat.le_trans h₁.round h₂.round, Nat.le_trans h₁.out h₂.out, fun h => h₂.halted (h₁.halted h),
    fun h => h₂.decided (h₁.decided h), fun r t x h => h₂.maj r t x (h₁.maj r t x h), ?_, ?_⟩
  · intro hr
    have hr1 : b.round = a.round := Nat.le_antisymm (hr ▸ h₂.round) h₁.round
    have hr2 : d.round = b.round := hr.trans hr1.symm
    obtain ⟨v1, s1, p1⟩ := h₁.sameRound hr1
    obtain ⟨v2, s2, p2⟩ := h₂.sameRound hr2
    exact ⟨v2.trans v1, Nat.le_trans s1 s2, fun p hp => p2 p (p1 p hp)⟩
  · intro hr hs ho h hh
    have hr1 : b.round = a.round := Nat.le_antisymm (hr ▸ h₂.round) h₁.round
    have hr2 : d.round = b.round := hr.trans hr1.symm
    obtain ⟨_, s1, _⟩ := h₁.sameRound hr1
    obtain ⟨_, s2, _⟩ := h₂.sameRound hr2
    have hs1 : b.step.rank = a.step.rank := by omega
    have hs2 : d.step.rank = b.step.rank := by omega
    have ho1 : b.out.length = a.out.length := by have := h₁.out; have := h₂.out; omega
    have ho2 : d.out.length = b.out.length := by omega
    rcases h₁.quiet hr1 hs1 ho1 h hh with ⟨e1, d1⟩ | ⟨x, hx, mx, ex⟩
    · rcases h₂.quiet hr2 hs2 ho2 h e1 with ⟨e2, d2⟩ | ⟨y, hy, my, ey⟩
      · exact Or.inl ⟨e2, fun hd => d2 (d1 hd)⟩
      · exact Or.inr ⟨y, hy, my, ey⟩
    · have mx' : maj23Of (d.votes.prevotes (d.round : Int)) = some (some x) := by
        rw [hr2]; exact h₂.maj _ _ _ mx
      rcases h₂.quiet hr2 hs2 ho2 x ex with ⟨e2, _⟩ | ⟨y, hy, my, _⟩
      · exact Or.inr ⟨x, hx, mx', e2⟩
      · rw [mx'] at my
        cases my
        exact absurd rfl hy

theorem NHI.init : NHI NodeState.init := fun _ => rfl

/-! ### the working form: `Quiet s0 · ∧ NHI ·` on the fields it reads -/

structure QI (s0 : NodeState) (r : Nat) (st : Step) (ol : Nat) (hl : Bool) (d : Option (Nat × Int)) (vr : Nat)
    (p : Option Proposal) (pp : Option Nat) (pd : Bool) (v : HVS) : Prop where
  round : s0.round ≤ r
  out : s0.out.length ≤ ol
  halted : s0.halted = true → hl = true
  decided : s0.decided.isSome = true → d.isSome = true
  maj : ∀ (r' : Int) (t : VType) (x : Bid), maj23Of (s0.votes.getVoteSet r' t) = some x →
    maj23Of (v.getVoteSet r' t) = some x
  sameRound : r = s0.round →
    vr = s0.valRound ∧ s0.step.rank ≤ st.rank ∧ (∀ q, s0.proposal = some q → p = some q)
  quiet : r = s0.round → st.rank = s0.step.rank → ol = s0.out.length →
    ∀ h, s0.proposalParts = some h →
      (pp = some h ∧ (s0.partsDone = true → pd = true)) ∨
      (∃ x, x ≠ h ∧ maj23Of (v.prevotes (r : Int)) = some (some x) ∧ pp = some x)
  nhi : st = .newHeight → r = 0

abbrev QN (s0 s : NodeState) : Prop :=
  QI s0 s.round s.step s.out.length s.halted s.decided s.valRound s.proposal s.proposalParts s.partsDone s.votes

theorem QN_iff {s0 s : NodeState} : QN s0 s ↔ Quiet s0 s ∧ NHI s :=
  ⟨fun h => ⟨⟨h.round, h.out, h.halted, h.decided, h.maj, h.sameRound, h.quiet⟩, h.nhi⟩,
   fun ⟨h, hn⟩ => ⟨h.round, h.out, h.halted, h.decided, h.maj, h.sameRound, h.quiet, hn⟩⟩

theorem QN.refl {s : NodeState} (hn : NHI s) : QN s s := QN_iff.2 ⟨Quiet.refl s, hn⟩

section
variable {s0 : NodeState} {r : Nat} {st : Step} {ol : Nat} {hl : Bool} {d : Option (Nat × Int)} {vr : Nat}
  {p : Option Proposal} {pp : Option Nat} {pd : Bool} {v : HVS}

/-- more outputs, possibly halted -/
theorem QI.grow (h : QI s0 r st ol hl d vr p pp pd v) {ol' : Nat} {hl' : Bool} (ho : ol ≤ ol')
    (hh : hl = true → hl' = true) : QI s0 r st ol' hl' d vr p pp pd v := by
  refine ⟨h.round, Nat.le_trans h.out ho, fun e => hh (h.halted e), h.decided, h.maj, h.sameRound, ?_, h.nhi⟩
  intro e1 e2 e3
  have := h.out
  exact h.quiet e1 e2 (by omega)

/-- a strict move forward (later round, or later step of the same round): the part set is free -/
theorem QI.move (h : QI s0 r st ol hl d vr p pp pd v) {r' : Nat} {st' : Step} {vr' : Nat} {p' : Option Proposal}
    {pp' : Option Nat} {pd' : Bool}
    (hlt : r < r' ∨ (r = r' ∧ st.rank < st'.rank)) (hst : st' ≠ .newHeight)
    (hvr : r = r' → vr' = vr) (hp : r = r' → ∀ q, p = some q → p' = some q) :
    QI s0 r' st' ol hl d vr' p' pp' pd' v := by
  have hr := h.round
  refine ⟨by omega, h.out, h.halted, h.decided, h.maj, ?_, ?_, fun e => absurd e hst⟩
  · intro e
    have e' : r = r' := by omega
    obtain ⟨_, hs⟩ := hlt.resolve_left (by omega)
    obtain ⟨a1, a2, a3⟩ := h.sameRound (e'.trans e)
    exact ⟨(hvr e').trans a1, by omega, fun q hq => hp e' q (a3 q hq)⟩
  · intro e e2
    have e' : r = r' := by omega
    obtain ⟨_, hs⟩ := hlt.resolve_left (by omega)
    obtain ⟨_, a2, _⟩ := h.sameRound (e'.trans e)
    omega

theorem QI.setProp (h : QI s0 r st ol hl d vr p pp pd v) (hn : p = none) (p' : Option Proposal) :
    QI s0 r st ol hl d vr p' pp pd v := by
  refine ⟨h.round, h.out, h.halted, h.decided, h.maj, ?_, h.quiet, h.nhi⟩
  intro e
  obtain ⟨a1, a2, a3⟩ := h.sameRound e
  refine ⟨a1, a2, fun q hq => ?_⟩
  have := a3 q hq
  rw [hn] at this; cases this

theorem QI.setParts (h : QI s0 r st ol hl d vr p pp pd v) (hn : pp = none) (pp' : Option Nat) (pd' : Bool) :
    QI s0 r st ol hl d vr p pp' pd' v := by
  refine ⟨h.round, h.out, h.halted, h.decided, h.maj, h.sameRound, ?_, h.nhi⟩
  intro e1 e2 e3 x hx
  rcases h.quiet e1 e2 e3 x hx with ⟨a, _⟩ | ⟨y, _, _, a⟩
  · rw [hn] at a; cases a
  · rw [hn] at a; cases a

theorem QI.done (h : QI s0 r st ol hl d vr p pp pd v) : QI s0 r st ol hl d vr p pp true v := by
  refine ⟨h.round, h.out, h.halted, h.decided, h.maj, h.sameRound, ?_, h.nhi⟩
  intro e1 e2 e3 x hx
  rcases h.quiet e1 e2 e3 x hx with ⟨a, _⟩ | a
  · exact Or.inl ⟨a, fun _ => rfl⟩
  · exact Or.inr a

theorem QI.decide (h : QI s0 r st ol hl d vr p pp pd v) (z : Nat × Int) : QI s0 r st ol hl (some z) vr p pp pd v :=
  ⟨h.round, h.out, h.halted, fun _ => rfl, h.maj, h.sameRound, h.quiet, h.nhi⟩

/-- the header is replaced by the value of the round's polka -/
theorem QI.polka (h : QI s0 r st ol hl d vr p pp pd v) {x : Nat}
    (hm : maj23Of (v.prevotes (r : Int)) = some (some x)) (hne : pp ≠ some x) (pd' : Bool) :
    QI s0 r st ol hl d vr p (some x) pd' v := by
  refine ⟨h.round, h.out, h.halted, h.decided, h.maj, h.sameRound, ?_, h.nhi⟩
  intro e1 e2 e3 y hy
  rcases h.quiet e1 e2 e3 y hy with ⟨a, _⟩ | ⟨z, _, mz, a⟩
  · refine Or.inr ⟨x, ?_, hm, rfl⟩
    intro e; subst e; exact hne a
  · rw [hm] at mz; cases mz
    exact absurd a hne

/-- the vote sets move on -/
theorem QI.votes (h : QI s0 r st ol hl d vr p pp pd v) {c : Cfg} {A : Int → VType → Vote → Prop} {v' : HVS}
    (hx : HExt c A v v') : QI s0 r st ol hl d vr p pp pd v' := by
  refine ⟨h.round, h.out, h.halted, h.decided, fun r' t x hm => hx.maj23 (h.maj r' t x hm), h.sameRound, ?_, h.nhi⟩
  intro e1 e2 e3 y hy
  rcases h.quiet e1 e2 e3 y hy with a | ⟨z, hz, mz, a⟩
  · exact Or.inl a
  · have mz' : maj23Of (v.getVoteSet (r : Int) .prevote) = some (some z) := mz
    exact Or.inr ⟨z, hz, hx.maj23 mz', a⟩

end

variable {c : Cfg} {s0 : NodeState}

/-- the relation only reads `Core` fields, `out.length` and `halted` -/
theorem QN.core {s t : NodeState} (hc : Core t = Core s) (ho : s.out.length ≤ t.out.length)
    (hh : s.halted = true → t.halted = true) (h : QN s0 s) : QN s0 t := by
  show QI _ _ _ _ _ _ _ _ _ _ _
  rw [core_round hc, core_step hc, core_proposal hc, core_proposalParts hc, core_partsDone hc, core_votes hc,
    core_valRound hc, core_decided hc]
  exact QI.grow h ho hh

/-- `QI.decide` at the shape of the goal the move `decide` leaves -/
theorem QN.decide {B : NodeState} (h : QN s0 B) (z : Nat × Int) :
    QI s0 B.round B.step B.out.length B.halted (some z) B.valRound B.proposal B.proposalParts B.partsDone B.votes :=
  QI.decide h z

theorem emit_SQ {s : NodeState} (o : Output) (h : QN s0 s) : QN s0 (emit s o) :=
  h.core (emit_core s o) (emit_out_le s o) (by rw [halted_emit]; exact id)
theorem panicWith_SQ {s : NodeState} (w : String) (h : QN s0 s) : QN s0 (panicWith s w) :=
  h.core (panicWith_core s w) (panicWith_out_le s w) (by rw [panicWith_halted]; intro _; rfl)
theorem signAddVote_SQ {s : NodeState} (t : VType) (b : Bid) (h : QN s0 s) : QN s0 (signAddVote c s t b) :=
  h.core (signAddVote_core c s t b) (signAddVote_out_le c s t b) (by rw [halted_signAddVote]; exact id)
theorem newRoundReset_SQ {s : NodeState} (r : Nat)
    (hg : ¬ (r < s.round ∨ (s.round = r ∧ s.step ≠ .newHeight))) (h : QN s0 s) : QN s0 (newRoundReset s r) := by
  have hgd := newRound_of_guard hg
  obtain ⟨_, e⟩ | ⟨h0, e⟩ := newRoundReset_shape s r <;> rw [e] <;> dsimp only [QN]
  · refine QI.move h (hgd.imp_right fun ⟨e, hs⟩ => ⟨e, by rw [hs]; decide⟩) (by decide) ?_ (fun _ _ e => e)
    intro e; rw [if_neg (by omega)]
  · -- a round other than 0 is a later one: in `NewHeight` the node is in round 0
    have hlt : s.round < r := hgd.resolve_right fun ⟨e, hs⟩ => h0 (e ▸ h.nhi hs)
    exact QI.move h (Or.inl hlt) (by decide) (fun e => absurd e (by omega)) (fun e => absurd e (by omega))

theorem QN.move {s : NodeState} (h : QN s0 s) {r : Nat} {st : Step}
    (hlt : s.round < r ∨ (s.round = r ∧ s.step.rank < st.rank)) (hst : st ≠ .newHeight) (pp : Option Nat) (pd : Bool) :
    QI s0 r st s.out.length s.halted s.decided s.valRound s.proposal pp pd s.votes :=
  QI.move h hlt hst (fun _ => rfl) (fun _ _ e => e)

/-- an `enterX` signs or emits first (`t'` becomes `t`: same `Core`) and sets round and step last; for `QN` the
two may be taken in the other order -/
theorem QN.enter {t' t : NodeState} {r : Nat} {st : Step} (hc : Core t = Core t')
    (ho : t'.out.length ≤ t.out.length) (hh : t.halted = t'.halted) (h : QN s0 { t' with round := r, step := st }) :
    QN s0 { t with round := r, step := st } :=
  have hc' : Core { t with round := r, step := st } = Core { t' with round := r, step := st } :=
    congrArg (fun x : NodeState => { x with round := r, step := st }) hc
  h.core hc' ho hh.trans

theorem enter_SQ {s : NodeState} (i : Input) (h : QN s0 s) : QN s0 (enter c s i) := by
  have he := enter_entry c s i
  generalize enter c s i = t at he
  cases he with
  | skip => exact h
  | proposal p hn => exact QI.setProp h (by simpa using hn) _
  | proposalParts p hn _ _ _ hparts =>
    exact (QI.setProp h (by simpa using hn) _).setParts (by simpa using hparts) _ _
  | part b => exact QI.done h
  | vote v peer => exact QI.votes h (HExt.addVote c (fun _ _ _ => True) _ v peer trivial)
  | peerMaj23 r t peer bid => exact QI.votes h (HExt.setPeerMaj23 c (fun _ _ _ => True) _ _ _ _ _)

/-- round and step only move forward; the part set is replaced when a later step (or round) is
entered, or (`polkaFetch`, `dropFetch`) by the header of the round's polka -/
theorem SQ_prim {ok : Prop} {cm : NodeState → Prop} {s t : NodeState} (hp : Prim c ok cm s t) (h : QN s0 s) : QN s0 t := by
  have hx : HExt c (fun _ _ _ => True) s.votes t.votes := hp.votes
  cases hp with
  | panic w => exact panicWith_SQ w h
  | schedule r st | precommitWait r => exact emit_SQ _ h
  | decide b => exact QN.decide (emit_SQ _ h) _
  | newRound r _ hg => exact newRoundReset_SQ r hg h
  | setRound r hv hs => exact QI.votes h hx
  | propose r _ hg | prevoteWait r _ hg =>
    exact QN.enter (emit_core s _) (emit_out_le s _) (halted_emit s _)
      (h.move (lt_or_of_guard hg (Nat.le_refl _)) (by decide) _ _)
  | proposeOwn r me _ hg =>
    exact QN.enter ((decideProposal_core c _ r me).trans (emit_core s _))
      (Nat.le_trans (emit_out_le s _) (decideProposal_out_le c _ r me))
      ((halted_decideProposal c _ r me).trans (halted_emit s _)) (h.move (lt_or_of_guard hg (Nat.le_refl _)) (by decide) _ _)
  | prevote r bid _ hg =>
    exact QN.enter (signAddVote_core c _ _ _) (signAddVote_out_le c _ _ _) (halted_signAddVote c _ _ _)
      (h.move (lt_or_of_guard hg (Nat.le_refl _)) (by decide) _ _)
  | precommit r t x _ hg _ hc =>
    cases hc <;>
    exact QN.enter (signAddVote_core c _ _ _) (signAddVote_out_le c _ _ _) (halted_signAddVote c _ _ _)
      (h.move (lt_or_of_guard hg (Nat.le_refl _)) (by decide) _ _)
  | commit r _ _ hg | commitLocked r _ _ _ _ hg | commitFetch r _ _ _ _ _ hg =>
    exact h.move (.inr ⟨rfl, Nat.lt_of_not_le hg⟩) (by decide) _ _
  | polkaFetch vr bid hm hb hd hvr | dropFetch vr bid hm hb _ hvr _ hd =>
    cases bid with
    | none => cases hb
    | some x =>
      subst hvr
      exact QI.polka h hm (fun e => hd (by rw [e]; exact hasHeader_self x)) _
  | _ => exact h

theorem pop_SQ (s : NodeState) (m : Internal) (rest : List Internal) (_ : s.queue = m :: rest) (h : QN s0 s) :
    QN s0 (enter c { s with queue := rest } m.asInput) :=
  enter_SQ (s := { s with queue := rest }) m.asInput h

theorem drain_SQ (fuel : Nat) {s : NodeState} (h : QN s0 s) : QN s0 (drain c fuel s) :=
  drain_invariant (ok := False) (fun _ _ hp => SQ_prim hp) pop_SQ fuel s h

theorem step_SQ {s : NodeState} (i : Input) (h : QN s0 s) : QN s0 (step c s i) :=
  step_invariant (ok := False) (fun _ _ hp => SQ_prim hp) pop_SQ s i nofun (enter_SQ i) h

theorem step_Quiet_from (c : Cfg) (s0 s : NodeState) (i : Input) (hq : Quiet s0 s) (hn : NHI s) :
    Quiet s0 (step c s i) ∧ NHI (step c s i) :=
  QN_iff.1 (step_SQ i (QN_iff.2 ⟨hq, hn⟩))

/-- **one input of the receive routine** (any input): the state after it is a later stage -/
theorem step_Quiet (c : Cfg) (s : NodeState) (i : Input) (hn : NHI s) :
    Quiet s (step c s i) ∧ NHI (step c s i) :=
  step_Quiet_from c s s i (Quiet.refl s) hn

/-- the receive routine taking the node's own messages off its queue -/
theorem drain_Quiet (c : Cfg) (fuel : Nat) (s : NodeState) (hn : NHI s) :
    Quiet s (drain c fuel s) ∧ NHI (drain c fuel s) :=
  QN_iff.1 (drain_SQ fuel (QN.refl hn))

theorem handleCompleteProposal_Quiet (c : Cfg) (s : NodeState) (hn : NHI s) :
    Quiet s (handleCompleteProposal c s) ∧ NHI (handleCompleteProposal c s) :=
  QN_iff.1 ((handleCompleteProposal_star (c := c) (ok := False) (cm := fun _ => True) s fun _ _ => trivial).inv
    (fun _ _ hp => SQ_prim hp) (QN.refl hn))

end Tmv.Cons
