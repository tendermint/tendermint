import Tmv.Lemmas.BlockSync
import Tmv.Lemmas.Star
/-! Every operation of the syncing node (`Node.apply`) takes the node along a path of elementary changes
(`Step`), so an invariant of the node is one case analysis over `Step` (`Star.inv`). -/
namespace Tmv.BlockSync

variable (sigOK : Nat → SignBytes → Nat → Bool)

/-- An over-approximation, made for invariants and not for progress: `unplug` leaves ANY `stopped` list,
`forget` any subset of the peers and any `maxPeerHeight`, `reset` any redo content, `assign` any peer, `restart`
has lost the model's guard `reconstruct = .ok`. So no invariant of `Step` can speak of `stopped`, of
`maxPeerHeight`, or of who gets picked; what the error branch does to peers has lemmas of its own
(`Drops`, `Gone`, `Keeps` in `Lemmas/BlockSync`). -/
inductive Step : Node → Node → Prop
  /-- `makeNextRequester` -/
  | append {n : Node} : Step n { n with pool := { n.pool with
      requesters := n.pool.requesters ++ [Requester.fresh], numPending := n.pool.numPending + 1 } }
  /-- PICK_PEER_LOOP found `w` -/
  | assign {n : Node} (i : Nat) (r : Requester) (w : Nat) (hr : n.pool.requesters[i]? = some r)
      (hp : r.peer = none) : Step n { n with pool := { n.pool with
        requesters := n.pool.requesters.set i { r with peer := some w },
        peers := n.pool.peers.map (Peer.incrIf w) } }
  /-- `AddBlock` from the requester's peer -/
  | deliver {n : Node} (i : Nat) (r : Requester) (id : Nat) (b : Block)
      (hr : n.pool.requesters[i]? = some r) (hb : r.block = none) (hp : r.peer = some id)
      (hh : b.height = n.pool.height + i) : Step n { n with pool := { n.pool with
        requesters := n.pool.requesters.set i { r with block := some b },
        numPending := n.pool.numPending - 1, peers := n.pool.peers.map (Peer.decrIf id) } }
  /-- `bpRequester.reset`, leaving `d` in the redo channel -/
  | reset {n : Node} (i : Nat) (r : Requester) (d : Option Nat) (hr : n.pool.requesters[i]? = some r) :
      Step n { n with pool := { n.pool with
        requesters := n.pool.requesters.set i ⟨none, none, d⟩,
        numPending := if r.block.isSome then n.pool.numPending + 1 else n.pool.numPending } }
  /-- a stale redo signal is read -/
  | unsignal {n : Node} (i : Nat) (r : Requester) (hr : n.pool.requesters[i]? = some r) :
      Step n { n with pool := { n.pool with requesters := n.pool.requesters.set i { r with redo := none } } }
  /-- `removePeer`: the redo signals -/
  | mark {n : Node} (id : Nat) :
      Step n { n with pool := { n.pool with requesters := n.pool.requesters.map (redoMark id) } }
  /-- `removePeer`: the peer list -/
  | forget {n : Node} (ps : List Peer) (mx : Int) (h : ∀ q ∈ ps, q ∈ n.pool.peers) :
      Step n { n with pool := { n.pool with peers := ps, maxPeerHeight := mx } }
  /-- `SetPeerRange` for a peer the switch has -/
  | range {n : Node} (id : Nat) (base height : Int) (h : id ∈ n.connected) :
      Step n { n with pool := n.pool.setPeerRange id base height }
  | connect {n : Node} (id : Nat) : Step n { n with connected := n.connected ++ [id] }
  /-- the switch loses a peer that `removePeer` has taken out of the pool before (`stopPeer`, `disconnect`) -/
  | unplug {n : Node} (id : Nat) (st : List Nat) (h : n.pool.peer? id = none) :
      Step n { n with connected := n.connected.filter (· ≠ id), stopped := st }
  /-- the saving branch of `processStep`: `PopRequest`, `SaveBlock`, `ApplyBlock` at once -/
  | advance {n : Node} (first second : Block) (a : Requester) (rest : List Requester)
      (hpk : n.pool.peekTwo = (some first, some second))
      (hc : checkPair sigOK n.st first second = .ok ()) (hq : n.pool.requesters = a :: rest)
      (ha : a.block = some first) : Step n { n with
        pool := { n.pool with requesters := rest, height := n.pool.height + 1 },
        store := (first, second.lastCommit) :: n.store, st := applyBlock n.st first }
  | restart {n : Node} : Step n { Node.new n.st with store := n.store }

abbrev Path (n n' : Node) : Prop := Star (Step sigOK) n n'

variable {sigOK}

theorem removePeer_path (n : Node) (id : Nat) : Path sigOK n { n with pool := n.pool.removePeer id } := by
  obtain ⟨ps, mx, e, hps⟩ := removePeer_eq n.pool id
  rw [e]
  exact .head (.mark id) (.single (.forget ps mx fun q hq => (hps q hq).1))

theorem stopPeer_path (n : Node) (id : Nat) : Path sigOK n (n.stopPeer id) := by
  unfold Node.stopPeer
  split
  · exact (removePeer_path n id).trans (.single (.unplug id _ (removePeer_self n.pool id)))
  · exact .refl

theorem dropPeer_path (n : Node) (id : Nat) : Path sigOK n (n.dropPeer id) :=
  (removePeer_path n id).trans (stopPeer_path _ id)

theorem redoStop_path (n : Node) (h : Int) : Path sigOK n (n.redoStop h).1 := by
  rw [redoStop_eq]
  split
  · exact dropPeer_path n _
  · exact .refl

theorem routineStep_path (n : Node) : Path sigOK n { n with pool := n.pool.routineStep } := by
  rcases routineStep_cases n.pool with ⟨e, _⟩ | e <;> rw [e]
  · exact .refl
  · exact .single .append

theorem pick_path (n : Node) (h : Int) (w : Nat) : Path sigOK n { n with pool := (n.pool.pick h w).1 } := by
  rcases pick_cases n.pool h w with e | ⟨r, q, hr, hi, _, _, e⟩ <;> rw [e]
  · exact .refl
  · obtain ⟨i, rfl, hri, hs⟩ := setReq_like (q := { n.pool with peers := n.pool.peers.map (Peer.incrIf w) }) hr rfl rfl
    rw [hs]
    exact .single (.assign i r w hri hi)

theorem addBlock_path (n : Node) (id : Nat) (b : Block) :
    Path sigOK n { n with pool := (n.pool.addBlock id b).1 } := by
  rcases addBlock_cases n.pool id b with ⟨e, _⟩ | ⟨r, hr, hb, hp, e, _⟩ <;> rw [e]
  · exact .refl
  · obtain ⟨i, hh, hri, hs⟩ := setReq_like
      (q := { n.pool with numPending := n.pool.numPending - 1, peers := n.pool.peers.map (Peer.decrIf id) }) hr rfl rfl
    rw [hs]
    exact .single (.deliver i r id b hri hb hp hh)

theorem resetReq_path (n : Node) {h : Int} {r0 : Requester} (hr : n.pool.req? h = some r0) (r : Requester)
    (hb : r.block = r0.block) : Path sigOK n { n with pool := n.pool.resetReq h r } := by
  unfold Pool.resetReq
  obtain ⟨i, rfl, hri, hs⟩ := setReq_like 
    (q := { n.pool with numPending := if r.block.isSome then n.pool.numPending + 1 else n.pool.numPending }) hr rfl rfl
  rw [hs, hb]
  exact .single (.reset i r0 r.redo hri)

theorem rtimeout_path (n : Node) (h : Int) : Path sigOK n { n with pool := (n.pool.rtimeout h).1 } := by
  rcases rtimeout_cases n.pool h with e | ⟨r, hr, e⟩ <;> rw [e]
  · exact .refl
  · exact resetReq_path n hr r rfl

theorem rstep_path (n : Node) (h : Int) : Path sigOK n { n with pool := (n.pool.rstep h).1 } := by
  rcases rstep_cases n.pool h with e | ⟨r, hr, e | e⟩ <;> rw [e]
  · exact .refl
  · exact resetReq_path n hr _ rfl
  · obtain ⟨i, rfl, hri, hs⟩ := setReq_like hr rfl rfl
    rw [hs]
    exact .single (.unsignal i r hri)

variable (sigOK) in
theorem processStep_path (n : Node) : Path sigOK n (n.processStep sigOK).1 := by
  rcases processStep_cases sigOK n with ⟨e, _⟩ | ⟨first, second, _, _, _, e⟩ |
    ⟨first, second, a, rest, hpk, hc, hq, ha, e⟩ <;> rw [e]
  · exact .refl
  · exact (redoStop_path n _).trans (redoStop_path _ _)
  · exact .single (.advance first second a rest hpk hc hq ha)

variable (sigOK) in
theorem apply_path (n : Node) (op : Op) : Path sigOK n (n.apply sigOK op) := by
  cases op with
  | process => exact processStep_path sigOK n
  | restart =>
    rcases (restart_cases sigOK n).2 with e | e <;> simp only [Node.apply, e]
    · exact .refl
    · exact .single .restart
  | connect id =>
    simp only [Node.apply, Node.connect]
    split
    · exact .refl
    · exact .single (.connect id)
  | disconnect id =>
    simp only [Node.apply, Node.disconnect]
    split
    · exact (removePeer_path n id).trans (.single (.unplug id _ (removePeer_self n.pool id)))
    · exact .refl
  | status id b x =>
    rcases recvStatus_cases n id b x with e | e | ⟨hc, e⟩ <;> simp only [Node.apply, e]
    · exact .refl
    · exact stopPeer_path n id
    · exact .single (.range id b x hc)
  | block id b =>
    rcases recvBlock_cases n id b with e | e | e | e <;> simp only [Node.apply, e]
    · exact .refl
    · exact stopPeer_path n id
    · exact addBlock_path n id b
    · exact (addBlock_path n id b).trans (stopPeer_path _ id)
  | mkreq => exact routineStep_path n
  | pick x w => exact pick_path n x w
  | rstep x => exact rstep_path n x
  | rtimeout x => exact rtimeout_path n x
  | peerTimeout id =>
    simp only [Node.apply, Node.peerTimeout]
    split
    · exact dropPeer_path n id
    · exact .refl

variable (sigOK) in
theorem run_path (n : Node) (ops : List Op) : Path sigOK n (n.run sigOK ops) :=
  List.foldlRecOn ops (motive := Path sigOK n) _ .refl fun m hm op _ => hm.trans (apply_path sigOK m op)

theorem Step.frame {n n' : Node} (h : Step sigOK n n') :
    (n'.st = n.st ∧ n'.store = n.store) ∨
      ∃ first second, n.pool.peekTwo = (some first, some second) ∧
        checkPair sigOK n.st first second = .ok () ∧ n'.st = applyBlock n.st first ∧
        n'.store = (first, second.lastCommit) :: n.store ∧ n'.pool.height = n.pool.height + 1 := by
  cases h with
  | advance first second a rest hpk hc _ _ => exact .inr ⟨first, second, hpk, hc, rfl, rfl, rfl⟩
  | _ => exact .inl ⟨rfl, rfl⟩

end Tmv.BlockSync
