import Tmv.Lemmas.ValChain
/-! A store started by `store.Bootstrap` (state sync) at an arbitrary height satisfies the store
invariant, so `load_exact` also covers chains continued from a bootstrapped store. -/
namespace Tmv.ValStore
open Tmv.ValSet

/-- what state sync hands to `Bootstrap`: a state at height `LastBlockHeight ≥ 1` with the three
sets of heights `LastBlockHeight`, `+1`, `+2` and `LastHeightValidatorsChanged` = the height of
`NextValidators` (as `statesync/stateprovider.go` sets it) -/
structure Bootable (st : State) : Prop where
  lbh : 1 ≤ st.lastBlockHeight
  ih : 1 ≤ st.initialHeight
  lhvc : st.lhvc = st.lastBlockHeight + 2
  last : Full st.lastValidators
  cur : Full st.validators
  next : Full st.nextValidators

/-- the system right after `Bootstrap`: the recorded sets are the three sets of the state -/
def Sys.ofBootstrap (st : State) : Option Sys :=
  match bootstrap st with
  | none => none
  | some db =>
    some ⟨db, st, fun k => if k = st.lastBlockHeight then some st.lastValidators
                           else if k = st.lastBlockHeight + 1 then some st.validators
                           else if k = st.lastBlockHeight + 2 then some st.nextValidators else none,
          st.lastBlockHeight, true⟩

/-- a record written at its own change height carries the set -/
theorem saveValidatorsInfo_self (t : Tbl Info) (h : Int) (v : VSet) (h0 : 0 ≤ h) (hf : Full v) :
    saveValidatorsInfo t h h v = some (t.put h ⟨h, some v⟩) := by
  rw [saveValidatorsInfo_eq t v h0 (Int.le_refl _) hf, if_pos (Or.inl rfl)]

theorem inv_ofBootstrap (st : State) (hb : Bootable st) (s0 : Sys)
    (h : Sys.ofBootstrap st = some s0) : Inv s0 := by
  unfold Sys.ofBootstrap at h
  split at h
  · cases h
  · rename_i db hdb
    cases h
    obtain ⟨hn1, hih, hlhvc, hl, hc, hn⟩ := hb
    unfold bootstrap at hdb
    generalize hn' : st.lastBlockHeight = n at *
    simp only [show ¬ n + 1 = 1 by omega, if_false, show n + 1 > 1 by omega, hl.1, ne_eq,
      not_false_eq_true, and_self, if_true, show n + 1 - 1 = n by omega] at hdb
    rw [saveValidatorsInfo_self _ _ _ (by omega) hl] at hdb
    simp only at hdb
    rw [saveValidatorsInfo_self _ _ _ (by omega) hc] at hdb
    simp only at hdb
    rw [saveValidatorsInfo_self _ _ _ (by omega) hn] at hdb
    cases hdb
    have a1 : ¬ n + 1 + 1 = n := by omega
    have a2 : ¬ n + 1 + 1 = n + 1 := by omega
    have a3 : ¬ n + 1 = n := by omega
    have e2 : n + 1 + 1 = n + 2 := by omega
    generalize hrec : (fun k => if k = n then some st.lastValidators else if k = n + 1 then some st.validators
      else if k = n + 2 then some st.nextValidators else none) = rec
    have hr0 : rec n = some st.lastValidators := by rw [← hrec]; exact if_pos rfl
    have hr1 : rec (n + 1) = some st.validators := by rw [← hrec]; exact (if_neg a3).trans (if_pos rfl)
    have hr2 : rec (n + 1 + 1) = some st.nextValidators := by
      rw [← hrec]; exact (if_neg a1).trans ((if_neg a2).trans (if_pos e2))
    refine Inv.of_parts (T := n + 1 + 1) (by rw [tip_of_pos (by omega), hn'])
      (by omega) (by omega) hih (by omega) (.of_top hn hr2 hc (fun _ => hl) (fun _ => hr1)
        fun _ _ => by rw [show n + 1 - 1 = n by omega]; exact hr0) ?_
    · -- three full records of their own heights, one on top of the other
      have h1 := (TInv.single (cl := true) (by omega) hl hr0).extend (Int.le_refl _) (by omega) hc (.inl rfl)
        (fun h => absurd rfl h) hr1 fun _ _ => rfl
      have h2 := h1.extend (by omega) (by omega) hn (.inl rfl) (fun h => absurd rfl h) hr2 fun _ _ => rfl
      simp only [true_or, if_true] at h2
      rw [hlhvc, ← e2]
      exact h2

theorem ofBootstrap_clean (st : State) (s0 : Sys) (h : Sys.ofBootstrap st = some s0) :
    s0.clean = true := by
  unfold Sys.ofBootstrap at h
  split at h
  · cases h
  · cases h; rfl

end Tmv.ValStore
