import Tmv.Lemmas.BlockSyncStep
/-! `WF` is an invariant of every operation (C13 liveness): it is kept by each elementary change. -/
namespace Tmv.BlockSync

/-- what the liveness argument needs of a node. `height`: where `NewBlockchainReactor` put the pool, plus
one `PopRequest` per applied block; `reqs`: a requester's block is of the requester's height and the
requester still names the peer it came from; `pos`: heights are positive, so that `startHeight` is the
height of the next block -/
structure WF (n : Node) : Prop where
  height : n.pool.height = startHeight n.st
  pos : 0 < n.st.initialHeight ∧ 0 ≤ n.st.lastHeight
  reqs : ∀ (i : Nat) (r : Requester) (b : Block), n.pool.requesters[i]? = some r → r.block = some b →
    b.height = n.pool.height + i ∧ r.peer.isSome
  peers : ∀ q ∈ n.pool.peers, q.id ∈ n.connected

/-- `WF.reqs` for any height and list (`WF.reqsWF`); a `ReqsWF` at the pool's height fills the field `reqs` as it is -/
def ReqsWF (h : Int) (l : List Requester) : Prop :=
  ∀ (i : Nat) (r : Requester) (b : Block), l[i]? = some r → r.block = some b →
    b.height = h + i ∧ r.peer.isSome

theorem WF.reqsWF {n : Node} (hw : WF n) : ReqsWF n.pool.height n.pool.requesters := hw.reqs

theorem reqsWF_map (h : Int) (l : List Requester) (g : Requester → Requester)
    (hg : ∀ r, Keeps r (g r)) (hl : ReqsWF h l) : ReqsWF h (l.map g) := by
  intro i r b hr hb
  rw [List.getElem?_map] at hr
  cases hx : l[i]? with
  | none => rw [hx] at hr; cases hr
  | some x =>
    rw [hx] at hr
    cases hr
    have := hl i x b hx ((hg x).2.1 ▸ hb)
    exact ⟨this.1, (hg x).1 ▸ this.2⟩

theorem reqsWF_set (h : Int) (l : List Requester) (k : Nat) (r : Requester) (hl : ReqsWF h l)
    (hr : ∀ b, r.block = some b → b.height = h + k ∧ r.peer.isSome) : ReqsWF h (l.set k r) := by
  intro i x b hx hb
  by_cases hik : k = i
  · subst hik
    by_cases hlt : k < l.length
    · rw [List.getElem?_set_self hlt] at hx
      cases hx; exact hr b hb
    · rw [List.getElem?_eq_none (by simp; omega)] at hx; cases hx
  · rw [List.getElem?_set_ne hik] at hx
    exact hl i x b hx hb

theorem reqsWF_append_fresh (h : Int) (l : List Requester) (hl : ReqsWF h l) :
    ReqsWF h (l ++ [Requester.fresh]) := by
  intro i r b hr hb
  by_cases hi : i < l.length
  · rw [List.getElem?_append_left hi] at hr; exact hl i r b hr hb
  · rw [List.getElem?_append_right (by omega)] at hr
    have : r = Requester.fresh := by
      have := List.mem_of_getElem? hr; simpa using this
    subst this; cases hb

theorem reqsWF_tail (h : Int) (a : Requester) (l : List Requester) (hl : ReqsWF h (a :: l)) :
    ReqsWF (h + 1) l := by
  intro i r b hr hb
  have := hl (i + 1) r b hr hb
  exact ⟨by have := this.1; push_cast at this; omega, this.2⟩

theorem setPeerRange_peers {p : Pool} {conn : List Nat} (hp : ∀ q ∈ p.peers, q.id ∈ conn) {id : Nat}
    (hid : id ∈ conn) (base height : Int) : ∀ q ∈ (p.setPeerRange id base height).peers, q.id ∈ conn := by
  intro q hq
  unfold Pool.setPeerRange at hq
  by_cases hk : (p.peer? id).isSome = true
  · rw [if_pos hk] at hq
    obtain ⟨x, hx, rfl⟩ := List.mem_map.mp hq
    have : (if x.id = id then { x with base := base, height := height } else x).id = x.id := by split <;> rfl
    rw [this]; exact hp x hx
  · rw [if_neg hk] at hq
    rcases List.mem_append.mp hq with hq | hq
    · exact hp q hq
    · rw [List.mem_singleton.mp hq]; exact hid

theorem WF.peers_map {n : Node} (hw : WF n) {f : Peer → Peer} (hf : ∀ q, (f q).id = q.id) :
    ∀ q ∈ n.pool.peers.map f, q.id ∈ n.connected := by
  intro q hq
  obtain ⟨x, hx, rfl⟩ := List.mem_map.mp hq
  rw [hf]; exact hw.peers x hx

/-- the first peeked block sits in requester 0, so its height is the pool's -/
theorem WF.peek {n : Node} (hw : WF n) {first second : Block}
    (hpk : n.pool.peekTwo = (some first, some second)) : first.height = n.pool.height := by
  obtain ⟨a, b, rest, hq, ha, _⟩ := peekTwo_some hpk
  have := (hw.reqs 0 a first (by rw [hq]; rfl) ha).1
  rwa [Int.natCast_zero, Int.add_zero] at this

theorem wf_new (st : St) (hpos : 0 < st.initialHeight ∧ 0 ≤ st.lastHeight) : WF (Node.new st) :=
  ⟨rfl, hpos, fun _ _ _ hr => (nomatch List.getElem?_nil.symm.trans hr),
    fun _ hq => absurd hq List.not_mem_nil⟩

variable {sigOK : Nat → SignBytes → Nat → Bool}

theorem WF.step {n n' : Node} (h : Step sigOK n n') (hw : WF n) : WF n' := by
  cases h with
  | append => exact ⟨hw.height, hw.pos, reqsWF_append_fresh _ _ hw.reqsWF, hw.peers⟩
  | assign i r w hr hp =>
    refine ⟨hw.height, hw.pos, reqsWF_set _ _ i _ hw.reqsWF fun b hb => ?_, hw.peers_map (incrIf_id w)⟩
    have := (hw.reqs i r b hr hb).2
    rw [hp] at this; cases this
  | deliver i r id b hr hb hp hh =>
    refine ⟨hw.height, hw.pos, reqsWF_set _ _ i _ hw.reqsWF fun b' hb' => ?_, hw.peers_map (decrIf_id id)⟩
    cases hb'; exact ⟨hh, by rw [hp]; rfl⟩
  | reset i r d hr => exact ⟨hw.height, hw.pos, reqsWF_set _ _ i _ hw.reqsWF fun b hb => (nomatch hb), hw.peers⟩
  | unsignal i r hr => exact ⟨hw.height, hw.pos, reqsWF_set _ _ i _ hw.reqsWF (hw.reqs i r · hr), hw.peers⟩
  | mark id => exact ⟨hw.height, hw.pos, reqsWF_map _ _ _ (fun r => (redoMark_keeps id r).1) hw.reqsWF, hw.peers⟩
  | forget ps mx h => exact ⟨hw.height, hw.pos, hw.reqs, fun q hq => hw.peers q (h q hq)⟩
  | range id base height h => exact ⟨hw.height, hw.pos, hw.reqs, setPeerRange_peers hw.peers h base height⟩
  | connect id => exact ⟨hw.height, hw.pos, hw.reqs, fun q hq => List.mem_append_left _ (hw.peers q hq)⟩
  | unplug id st h =>
    refine ⟨hw.height, hw.pos, hw.reqs, fun q hq => ?_⟩
    simpa using ⟨hw.peers q hq, (peer?_none_iff _ id).mp h q hq⟩
  | advance first second a rest hpk hc hq ha =>
    have hreqs := hw.reqsWF
    rw [hq] at hreqs
    have hfirst := hw.peek hpk
    have hpos : 0 < n.pool.height := by
      rw [hw.height]; unfold startHeight
      split <;> have := hw.pos <;> omega
    refine ⟨?_, ⟨hw.pos.1, by simp only [applyBlock, hfirst]; omega⟩, reqsWF_tail _ a rest hreqs, hw.peers⟩
    simp only [applyBlock, startHeight, hfirst]
    rw [if_neg (by omega)]
  | restart => exact have h := wf_new n.st hw.pos; ⟨h.height, h.pos, h.reqs, h.peers⟩

theorem WF.path {n n' : Node} (h : Path sigOK n n') (hw : WF n) : WF n' := h.inv (fun _ _ h => WF.step h) hw

variable (sigOK)

theorem wf_run (n : Node) (ops : List Op) (hw : WF n) : WF (n.run sigOK ops) := hw.path (run_path sigOK n ops)

end Tmv.BlockSync
