import Tmv.Lemmas.PipelineInv
/-! Soundness of the incarnation plan (C05): whatever fail index kills an incarnation, the disk it
leaves is one of the disks the pipeline invariant covers. The plan's items are read as the effect
list they perform (`itemEffs`), about which `PipelineInv` has the theorems. -/
namespace Tmv.Pipeline

/-- `Q` holds of the disk at every point where an incarnation can die: before every effect, at
every fail point, at the clean stop. Weaker than `PrefAll` over the items' effects (`prefItems_of_effs`):
no fail point separates the effects of one prune item, so `Q` is asked only before and after them -/
def PrefItems (Q : Disk → Prop) (c : Chain) : Disk → List Item → Prop
  | d, [] => Q d
  | d, .fail :: r => PrefItems Q c d r
  | d, .eff e :: r => Q d ∧ PrefItems Q c (applyEff d e) r
  | d, .prune h :: r => Q d ∧ PrefItems Q c (applyEffs d (pruneEffs c d h)) r

/-- the disk after all items -/
def endItems (c : Chain) : Disk → List Item → Disk
  | d, [] => d
  | d, .fail :: r => endItems c d r
  | d, .eff e :: r => endItems c (applyEff d e) r
  | d, .prune h :: r => endItems c (applyEffs d (pruneEffs c d h)) r

theorem PrefItems.head {Q c d items} (h : PrefItems Q c d items) : Q d := by
  induction items generalizing d with
  | nil => exact h
  | cons it r ih =>
    cases it with
    | fail => exact ih h
    | eff e => exact h.1
    | prune hh => exact h.1

theorem PrefItems.append {Q c d A B} (h1 : PrefItems Q c d A) (h2 : PrefItems Q c (endItems c d A) B) :
    PrefItems Q c d (A ++ B) := by
  induction A generalizing d with
  | nil => exact h2
  | cons it r ih =>
    cases it with
    | fail => exact ih h1 h2
    | eff e => exact ⟨h1.1, ih h1.2 h2⟩
    | prune hh => exact ⟨h1.1, ih h1.2 h2⟩

/-- wherever `runItems` stops, `Q` holds of the disk it returns -/
theorem runItems_sound {Q c exitH} :
    ∀ (items : List Item) (d : Disk) (f : Option Nat) (nHs done : Nat), PrefItems Q c d items →
      Q (runItems c exitH items d f nHs done).1
  | [], d, _, _, _, h => h
  | .fail :: rest, d, some 0, _, _, h => PrefItems.head (items := rest) h
  | .fail :: rest, d, some (i + 1), nHs, done, h => runItems_sound rest d (some i) nHs (done + 1) h
  | .fail :: rest, d, none, nHs, done, h => runItems_sound rest d none nHs (done + 1) h
  | .prune hh :: rest, d, f, nHs, done, h => by
    simp only [runItems]
    exact runItems_sound rest _ f nHs (done + 1) h.2
  | .eff e :: rest, d, f, nHs, done, h => by
    simp only [runItems]
    split
    · exact h.1
    · exact runItems_sound rest _ f nHs (done + 1) h.2

theorem PrefItems.gs {c : Chain} : ∀ (items : List Item) (d : Disk), d.genesisSaved = true →
    PrefItems GenOK c d items
  | [], _, h => fun _ => h
  | .fail :: r, d, h => PrefItems.gs r d h
  | .eff _ :: r, _, h => ⟨fun _ => h, PrefItems.gs r _ (applyEff_gs h)⟩
  | .prune _ :: r, _, h => ⟨fun _ => h, PrefItems.gs r _ (applyEffs_gs h)⟩

/-- the effects the items perform from `d`: fail points dropped, a prune step replaced by the
effects it has on the disk it finds -/
def itemEffs (c : Chain) : Disk → List Item → List Eff
  | _, [] => []
  | d, .fail :: r => itemEffs c d r
  | d, .eff e :: r => e :: itemEffs c (applyEff d e) r
  | d, .prune h :: r => pruneEffs c d h ++ itemEffs c (applyEffs d (pruneEffs c d h)) r

theorem prefItems_of_effs {Q c} : ∀ (items : List Item) (d : Disk), PrefAll Q d (itemEffs c d items) →
    PrefItems Q c d items
  | [], _, h => h
  | .fail :: r, d, h => prefItems_of_effs r d h
  | .eff _ :: r, _, h => ⟨h.1, prefItems_of_effs r _ h.2⟩
  | .prune _ :: r, _, h => ⟨h.head, prefItems_of_effs r _ h.append_right⟩

theorem endItems_eq {c} : ∀ (items : List Item) (d : Disk), endItems c d items = applyEffs d (itemEffs c d items)
  | [], _ => rfl
  | .fail :: r, d => endItems_eq r d
  | .eff _ :: r, _ => endItems_eq r _
  | .prune _ :: r, _ => by rw [itemEffs, applyEffs_append]; exact endItems_eq r _

theorem itemEffs_append (c : Chain) (d : Disk) (A B : List Item) :
    itemEffs c d (A ++ B) = itemEffs c d A ++ itemEffs c (endItems c d A) B := by
  induction A generalizing d with
  | nil => rfl
  | cons it r ih =>
    cases it with
    | fail => exact ih _
    | eff e => simp only [List.cons_append, itemEffs, endItems, ih]
    | prune h => simp only [List.cons_append, itemEffs, endItems, ih, List.append_assoc]

theorem itemEffs_map_eff (c : Chain) (d : Disk) (es : List Eff) : itemEffs c d (es.map .eff) = es := by
  induction es generalizing d with
  | nil => rfl
  | cons e r ih => simp only [List.map_cons, itemEffs, ih]

theorem itemEffs_flatMap {c : Chain} (g : Eff → List Item) (hg : ∀ d e, itemEffs c d (g e) = [e]) :
    ∀ (es : List Eff) (d : Disk), itemEffs c d (es.flatMap g) = es
  | [], _ => rfl
  | e :: es, d => by rw [List.flatMap_cons, itemEffs_append, hg, itemEffs_flatMap g hg es]; rfl

theorem itemEffs_hsTail (c : Chain) (d : Disk) (r : HsResult) (es : List Eff) : itemEffs c d (hsTail r es) = es := by
  unfold hsTail
  split
  · exact itemEffs_flatMap mockItems (fun _ e => by cases e <;> rfl) es d
  · exact itemEffs_flatMap realItems (fun _ e => by cases e <;> rfl) es d

/-- the start plan is the start program with fail points in between -/
theorem planStart_effs (c : Chain) (d : Disk) : itemEffs c d (planStart c d) = startEffs c d := by
  unfold planStart startEffs
  by_cases hok : (handshake c d).outcome = .ok
  · simp only [hok, if_true, itemEffs_append, itemEffs_map_eff, itemEffs_hsTail, List.take_append_drop]
    split <;> rfl
  · simp only [hok, if_false, itemEffs_map_eff]

theorem planApplyReal_effs (c : Chain) (d : Disk) (h : Nat) : itemEffs c d (planApplyReal c h) = applyBlockReal c h := by
  simp only [planApplyReal, applyBlockReal, itemEffs_append, itemEffs_map_eff]
  rfl

/-! ## the heights an incarnation decides -/

theorem finItems_effs {c : Chain} {d : Disk} {st H : Nat} (hst : st < H) :
    itemEffs c d (finItems c st H) =
      commitEffs c (applyEffs d (.saveBlock H :: .walEnd H :: applyBlockReal c H)) H := by
  simp only [finItems, if_pos hst, itemEffs_append, planApplyReal_effs, endItems_eq]
  simp [itemEffs, applyEffs, commitEffs]

theorem voteItems_inert (c : Chain) (d : Disk) (w s h : Nat) : ∀ e ∈ itemEffs c d (voteItems w s h), inert e = true := by
  unfold voteItems
  split
  · simp [itemEffs, inert]
  · split <;> simp [itemEffs, inert]

/-- one height of the plan on a synced node, for every combination of replayed / signed votes: the
votes leave the cursors alone, the rest is `commit_run` -/
theorem height_run {c : Chain} {d : Disk} {m st : Nat} (w s : Nat) (h : Good c d m) (hst : st < ht c (m + 1)) :
    Run (CrashOK c) (Good c · (m + 1)) d (itemEffs c d (planHeight c st w s (ht c (m + 1)))) := by
  unfold planHeight
  split
  · rw [itemEffs_append, finItems_effs hst]
    exact (commit_run h).append fun _ h' => .nil (crashOK_same h') h'
  · rw [itemEffs_append, endItems_eq]
    refine (inert_run (fun _ h' => crashOK_same h') _ _ (voteItems_inert c d w s _) h).append fun _ h' => ?_
    rw [finItems_effs hst]
    exact commit_run h'

theorem heights_run {c : Chain} : ∀ (n m : Nat) (d : Disk) (st w s : Nat), Good c d m → st < ht c (m + 1) →
    PrefItems (CrashOK c) c d (planHeights c st w s (ht c (m + 1)) n)
  | 0, _, _, _, _, _, h, _ => crashOK_same h
  | n + 1, m, d, st, w, s, h, hst => by
    have hh := height_run w s h hst
    simp only [planHeights, nxt_ht]
    refine PrefItems.append (prefItems_of_effs _ _ hh.1) ?_
    rw [endItems_eq]
    exact heights_run n (m + 1) _ 0 0 0 hh.2 (ht_pos c (m + 1))

/-- the disk an incarnation leaves: its plan — the start, then `mh` heights — run to the fail point.
`w`, `s`, `n` are `incarnation`'s own `w`, `sgn` and `hsItems.length` (own votes of the next height found in
the WAL, last step the privval signed there, number of handshake items); soundness holds whatever they are -/
theorem incarnation_fst (c : Chain) (d : Disk) (f : Option Nat) (exitH mh : Nat) :
    ∃ w s n, (incarnation c d f exitH mh).1 = (runItems c exitH (planStart c d ++
      planHeights c (applyEffs d (startEffs c d)).storeH w s (nxt c (applyEffs d (startEffs c d)).stateH) mh)
        d f n 0).1 :=
  ⟨_, _, _, rfl⟩

theorem incarnation_post (c : Chain) (d : Disk) (f : Option Nat) (exitH mh : Nat) :
    (incarnation c d f exitH mh).2.1 = none ∨
      (incarnation c d f exitH mh).2.1 = some (applyEffs d (handshake c d).effs) := by
  have key : ∀ (b : Bool) (x : Disk), postOf b x = none ∨ postOf b x = some x := by
    intro b x; cases b <;> simp [postOf]
  unfold incarnation
  dsimp only
  exact key _ _

/-- **one incarnation is sound**: whatever fail index kills it (or none), the disk it leaves is
covered by the pipeline invariant and stores block 1 only after the genesis state was saved
(`GenOK`), and the disk it reports right after its handshake is synced -/
theorem incarnation_sound {c : Chain} {d : Disk} (h : Inv c d) (hgen : GenOK d) (f : Option Nat)
    (exitH mh : Nat) :
    Inv c (crash (incarnation c d f exitH mh).1) ∧ GenOK (crash (incarnation c d f exitH mh).1) ∧
      ∀ post, (incarnation c d f exitH mh).2.1 = some post → ∃ m, Good c post m := by
  have hs := start_run h hgen
  obtain ⟨m, hg⟩ := hs.good
  have hend : endItems c d (planStart c d) = applyEffs d (startEffs c d) := by rw [endItems_eq, planStart_effs]
  obtain ⟨w, s, n, e⟩ := incarnation_fst c d f exitH mh
  rw [e]
  refine ⟨?_, genOK_crash ?_, ?_⟩
  · refine runItems_sound (Q := CrashOK c) _ d f n 0 (PrefItems.append (prefItems_of_effs _ _ ?_) ?_)
    · rw [planStart_effs]; exact hs.crashes
    · rw [hend, hg.stateH, nxt_ht]
      exact heights_run mh m _ _ w s hg (by rw [hg.storeH]; exact ht_lt c (by omega))
  · refine runItems_sound (Q := GenOK) _ d f n 0 (PrefItems.append (prefItems_of_effs _ _ ?_) ?_)
    · rw [planStart_effs]; exact hs.gen
    · rw [hend]; exact PrefItems.gs _ _ hs.gs
  · intro post hp
    rcases incarnation_post c d f exitH mh with e | e
    · rw [e] at hp; cases hp
    · rw [e] at hp
      cases hp
      exact (handshake_run h hgen).1.good

/-- the invariant a node-stream case carries from incarnation to incarnation -/
theorem runIncs_sound {c : Chain} (exitH mh : Nat) :
    ∀ (fs : List (Option Nat)) (d : Disk), Inv c d → GenOK d →
      Inv c (runIncs c exitH mh fs d) ∧ GenOK (runIncs c exitH mh fs d)
  | [], d, h, hg => ⟨h, hg⟩
  | f :: fs, d, h, hg => by
    have hs := incarnation_sound h hg f exitH mh
    simp only [runIncs]
    split
    · exact ⟨hs.1, hs.2.1⟩
    · exact runIncs_sound exitH mh fs _ hs.1 hs.2.1

end Tmv.Pipeline
