import Tmv.Model.Chain
/-! The executable transitions of the one-height network (`Net.apply`, `Net.feedD`, `Net.drainOwn`) move the net by
steps of ONE node (`Chain.NodeStep`, the node constructors of `NetStep`): whatever those steps keep, an applied op keeps. -/
namespace Tmv.Chain
open Tmv.Cons Tmv.Net

theorem NodeStep.is_feed {nc : NetCfg} {p : Nat} {s s' : Net} (h : NodeStep nc p s s') :
    ∃ it, s' = s.feed nc p it := by
  cases h <;> exact ⟨_, rfl⟩

theorem NodeStep.toNetStep {nc : NetCfg} {p : Nat} {s s' : Net} (h : NodeStep nc p s s')
    (hp : nc.correct p) : NetStep nc s s' := by
  cases h with
  | deliver k peer hk => exact NetStep.deliver s p k peer hp hk
  | block b => exact NetStep.block s p b hp
  | claim r t peer bid => exact NetStep.claim s p r t peer bid hp
  | fire r st hs => exact NetStep.fire s p r st hp hs
  | txs => exact NetStep.txs s p hp
  | own k => exact NetStep.own s p k hp

section
variable {nc : NetCfg} {p : Nat} {R : Net → Prop}

theorem drainOwn_keeps (hR : ∀ a b, R a → NodeStep nc p a b → R b) (fuel : Nat) (s : Net) (hs : R s) :
    R (s.drainOwn nc p fuel) := by
  induction fuel generalizing s with
  | zero => exact hs
  | succ f ih =>
    unfold Net.drainOwn
    split
    · exact hs
    · exact ih _ (hR _ _ hs (NodeStep.own s 0))

theorem feedD_keeps (hR : ∀ a b, R a → NodeStep nc p a b → R b) (s : Net) (i : Input) (d : Bool) (hs : R s)
    (hstep : NodeStep nc p s (s.feed nc p (.ext i))) : R (s.feedD nc p i d) := by
  unfold Net.feedD
  simp only []
  split
  · exact drainOwn_keeps hR _ _ (hR _ _ hs hstep)
  · exact hR _ _ hs hstep

/-- an op of node `p` that `Net.apply` accepts is one `NodeStep` of `p`, then `NodeStep.own`s (the FIFO drain) -/
theorem apply_node_keeps (hR : nc.correct p → ∀ a b, R a → NodeStep nc p a b → R b) {s s' : Net} {d : Bool}
    {op : Op} (hop : opNode op = some p) (ha : s.apply nc d op = some s') (hs : R s) : R s' := by
  unfold Net.apply at ha
  cases op with
  | deliver q k peer =>
    cases hop
    simp only at ha
    split at ha
    · rename_i hc
      split at ha
      · rename_i m hm
        cases ha
        obtain ⟨hk, rfl⟩ := List.getElem?_eq_some_iff.1 hm
        exact feedD_keeps (hR hc) s _ d hs (NodeStep.deliver s k peer hk)
      · cases ha
    · cases ha
  | block q b =>
    cases hop
    simp only at ha; split at ha <;> cases ha
    exact feedD_keeps (hR ‹_›) s _ d hs (NodeStep.block s b)
  | claim q r t peer bid =>
    cases hop
    simp only at ha; split at ha <;> cases ha
    exact feedD_keeps (hR ‹_›) s _ false hs (NodeStep.claim s r t peer bid)
  | fire q r st =>
    cases hop
    simp only at ha; split at ha <;> cases ha
    rename_i hc
    exact feedD_keeps (hR hc.1) s _ d hs (NodeStep.fire s r st hc.2)
  | txs q =>
    cases hop
    simp only at ha; split at ha <;> cases ha
    exact feedD_keeps (hR ‹_›) s _ d hs (NodeStep.txs s)
  | own q k =>
    cases hop
    simp only at ha; split at ha <;> cases ha
    exact hR ‹_› _ _ hs (NodeStep.own s k)
  | byz m => cases hop
  | restart q => cases hop

end

end Tmv.Chain
