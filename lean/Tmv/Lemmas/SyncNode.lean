import Tmv.Lemmas.ConsPrim
/-! Per-node progress lemmas on the functions of `Tmv.Cons` used by C03 (no network needed):
what round a node is in after `enterNewRound` and the functions it runs into, round skipping,
the unlock rule, what the proposer, `doPrevote` and `enterPrecommit` do in a good round (`…_eq`), and the
commit step. The statements C03 names for one function call are proved from these in `Props.C03`. -/
namespace Tmv.Cons

@[simp] theorem emit_round' (s : NodeState) (o : Output) : (emit s o).round = s.round := emit_round s o
@[simp] theorem emit_step' (s : NodeState) (o : Output) : (emit s o).step = s.step := emit_step s o
@[simp] theorem emit_halted (s : NodeState) (o : Output) : (emit s o).halted = s.halted := halted_emit s o
@[simp] theorem emit_votes' (s : NodeState) (o : Output) : (emit s o).votes = s.votes := emit_votes s o
@[simp] theorem emit_valRound (s : NodeState) (o : Output) : (emit s o).valRound = s.valRound := by
  unfold emit; split <;> rfl

attribute [local simp] halted_signAddVote halted_decideProposal

/-- `enterPrevote` leaves the node halted-or-not as it was and in round `s.round` or `round` -/
theorem enterPrevote_round (c : Cfg) (s : NodeState) (round : Nat) :
    (enterPrevote c s round).halted = s.halted ∧
    ((enterPrevote c s round).round = s.round ∨ (enterPrevote c s round).round = round) := by
  unfold enterPrevote
  split
  · exact ⟨rfl, Or.inl rfl⟩
  · split
    · exact ⟨rfl, Or.inl rfl⟩
    · exact ⟨halted_doPrevote c s, Or.inr rfl⟩

/-- after `enterPropose` passed its guard the node is in round `round` -/
theorem enterPropose_round (c : Cfg) (s : NodeState) (round : Nat) (hh : s.halted = false)
    (hg : ¬ (round < s.round ∨ (s.round = round ∧ Step.propose.rank ≤ s.step.rank))) :
    (enterPropose c s round).round = round ∧ (enterPropose c s round).halted = false := by
  unfold enterPropose
  simp only [hh, Bool.false_eq_true, if_false, hg]
  -- whatever the proposer branch yields (`s1`), the tail keeps `halted` and ends in round `round`
  have key : ∀ s1 x : NodeState, s1.halted = false →
      x = (if isProposalComplete { s1 with round := round, step := .propose } = true
        then enterPrevote c { s1 with round := round, step := .propose } round
        else { s1 with round := round, step := .propose }) → x.round = round ∧ x.halted = false := by
    intro s1 x h1 hx
    subst hx
    split
    · have := enterPrevote_round c { s1 with round := round, step := .propose } round
      exact ⟨by rcases this.2 with h | h <;> exact h, this.1.trans h1⟩
    · exact ⟨rfl, h1⟩
  split
  · exact key _ _ (by simp [hh]) rfl
  · split
    · exact key _ _ (by simp [hh]) rfl
    · exact key _ _ (by simp [hh]) rfl

/-- **enterNewRound reaches the round**: when its guard lets `round` through, the node ends up in
round `round` (or halts on the `SetRound` panic). -/
theorem enterNewRound_round (c : Cfg) (s : NodeState) (round : Nat) (hh : s.halted = false)
    (hg : ¬ (round < s.round ∨ (s.round = round ∧ s.step ≠ .newHeight))) :
    (enterNewRound c s round).halted = true ∨ (enterNewRound c s round).round = round := by
  unfold enterNewRound
  simp only [hh, Bool.false_eq_true, if_false, hg]
  obtain ⟨hr, hst, -, -, -, -, -, hh', -, -, -⟩ := newRoundReset_frame s round
  split
  · exact Or.inl (panicWith_halted _ _)
  · right
    split
    · split
      · simp [hr]
      · exact hr
    · refine (enterPropose_round c _ round (by simp [hh', hh]) ?_).1
      simp [hr, hst, Step.rank]

/-- **round skipping on +2/3-any prevotes of a later round** (`State.addVote`, prevote case): a
node in round `< vr` whose round-`vr` prevote set holds more than 2/3 of the power in votes for
anything moves to round `vr`. -/
theorem round_skip_on_prevotes (c : Cfg) (s : NodeState) (vr : Nat) (hh : s.halted = false)
    (hlt : s.round < vr) (hany : hasAnyOf c (s.votes.prevotes vr) = true) :
    (prevoteTransitions c s vr).halted = true ∨ (prevoteTransitions c s vr).round = vr := by
  unfold prevoteTransitions
  simp only [hlt, hany, and_self, if_true]
  exact enterNewRound_round c s vr hh (by omega)

theorem onPolka_round (s : NodeState) (vr : Nat) (bid : Bid) :
    (onPolka s vr bid).round = s.round ∧ (onPolka s vr bid).halted = s.halted ∧
    (onPolka s vr bid).votes = s.votes := by
  unfold onPolka unlock
  simp only [apply_ite NodeState.round, apply_ite NodeState.halted, apply_ite NodeState.votes, ite_self, and_self]

theorem enterPrecommitWait_round (c : Cfg) (s : NodeState) (round : Nat) :
    (enterPrecommitWait c s round).round = s.round := by
  unfold enterPrecommitWait
  simp only [apply_ite NodeState.round, panicWith_round, emit_round, ite_self]

/-- **round skipping on +2/3-any precommits of a later round** (`State.addVote`, precommit case
without a single +2/3 majority) -/
theorem round_skip_on_precommits (c : Cfg) (s : NodeState) (vr : Nat) (hh : s.halted = false)
    (hlt : s.round < vr) (hany : hasAnyOf c (s.votes.precommits vr) = true)
    (hno : maj23Of (s.votes.precommits vr) = none) :
    (afterPrecommit c s vr).halted = true ∨ (afterPrecommit c s vr).round = vr := by
  unfold afterPrecommit
  simp only [hno, hany, and_true]
  have hle : s.round ≤ vr := by omega
  simp only [hle, if_true]
  rw [enterPrecommitWait_round]
  rcases enterNewRound_round c s vr hh (by omega) with h | h
  · left
    unfold enterPrecommitWait; simp [h]
  · exact Or.inr h

theorem onPolka_locked (s : NodeState) (vr : Nat) (bid : Bid) :
    (onPolka s vr bid).lockedBlock =
      (if s.lockedBlock.isSome ∧ s.lockedRound < (vr : Int) ∧ vr ≤ s.round ∧ !hashesTo s.lockedBlock bid
        then unlock s else s).lockedBlock ∧
    (onPolka s vr bid).lockedRound =
      (if s.lockedBlock.isSome ∧ s.lockedRound < (vr : Int) ∧ vr ≤ s.round ∧ !hashesTo s.lockedBlock bid
        then unlock s else s).lockedRound := by
  unfold onPolka
  simp only [apply_ite NodeState.lockedBlock, apply_ite NodeState.lockedRound, ite_self, and_self]

/-- **unlock on a later polka** (`State.addVote`, "There was a polka!"): a node locked in a round
before `vr` on another block than the one the round-`vr` prevotes have a +2/3 majority for (nil
included) releases its lock — provided it is in round `vr` or later when the check runs. -/
theorem unlock_on_later_polka (s : NodeState) (vr : Nat) (bid : Bid) (b : Nat)
    (hl : s.lockedBlock = some b) (hlr : s.lockedRound < (vr : Int)) (hr : vr ≤ s.round)
    (hne : bid ≠ some b) :
    (onPolka s vr bid).lockedBlock = none ∧ (onPolka s vr bid).lockedRound = -1 := by
  have hh : hashesTo s.lockedBlock bid = false := by
    unfold hashesTo; rw [hl]
    cases bid with
    | none => rfl
    | some b' =>
      simp only
      have : b ≠ b' := fun h => hne (by rw [h])
      simp [this]
  have hh' : hashesTo (some b) bid = false := by rw [← hl]; exact hh
  have h := onPolka_locked s vr bid
  rw [h.1, h.2]
  simp [hl, hlr, hr, hh', unlock]

theorem proposes_own_block (c : Cfg) (s : NodeState) (round me : Nat)
    (hh : s.halted = false) (hv : s.validBlock = none) (hs : c.checkHRS = false) :
    (decideProposal c s round me).out = s.out ++ [.signProposal round c.ownBlock s.validRound] := by
  unfold decideProposal sign
  simp [hv, hs, emit, hh]

theorem enterPrecommit_round (c : Cfg) (s : NodeState) (round : Nat) :
    (enterPrecommit c s round).round = s.round ∨ (enterPrecommit c s round).round = round :=
  enterPrecommit_rule (P := fun t => t.round = s.round ∨ t.round = round) s round (fun _ => .inl rfl)
    (fun w => .inl (panicWith_round s w)) fun _ _ _ _ _ => .inr rfl

/-- **a proposal for the node's round by the round's proposer with an admissible POL round is
accepted** (`defaultSetProposal`) when none was accepted before; it makes the part-set header known
if none was -/
theorem setProposal_accepted_eq (c : Cfg) (s : NodeState) (p : Proposal) (h1 : s.proposal = none)
    (h2 : p.round = s.round) (h3 : ¬ (p.pol < -1 ∨ (p.pol ≥ 0 ∧ p.pol ≥ (p.round : Int))))
    (h4 : p.signer = c.proposer s.valRound ∧ p.signer < c.n) :
    setProposal c s p =
      if s.proposalParts.isNone then { s with proposal := some p, proposalParts := some p.bid, partsDone := false }
      else { s with proposal := some p } := by
  have c4 : ¬ (p.signer ≠ c.proposer s.valRound ∨ p.signer ≥ c.n) := by omega
  unfold setProposal
  dsimp only
  rw [h1, if_neg (by simp), if_neg (fun h => h h2), if_neg h3, if_neg c4]

theorem setProposal_accepted (c : Cfg) (s : NodeState) (p : Proposal) (h1 : s.proposal = none)
    (h2 : p.round = s.round) (h3 : ¬ (p.pol < -1 ∨ (p.pol ≥ 0 ∧ p.pol ≥ (p.round : Int))))
    (h4 : p.signer = c.proposer s.valRound ∧ p.signer < c.n) :
    (setProposal c s p).proposal = some p ∧ (setProposal c s p).round = s.round ∧
      (setProposal c s p).step = s.step := by
  rw [setProposal_accepted_eq c s p h1 h2 h3 h4]
  split <;> exact ⟨rfl, rfl, rfl⟩

theorem finalizeCommit_decides (c : Cfg) (s : NodeState) (b : Nat)
    (hh : s.halted = false) (hst : s.step = .commit)
    (hm : maj23Of (s.votes.precommits s.commitRound) = some (some b))
    (hp : s.proposalParts = some b) (hb : s.proposalBlock = some b) (hv : c.valid b = true) :
    (finalizeCommit c s).decided = some (b, s.commitRound) := by
  unfold finalizeCommit
  simp [hh, hst, hm, hp, hb, hv, hasHeader, hashesTo, emit]

theorem tryFinalizeCommit_decides (c : Cfg) (s : NodeState) (b : Nat)
    (hh : s.halted = false) (hst : s.step = .commit)
    (hm : maj23Of (s.votes.precommits s.commitRound) = some (some b))
    (hp : s.proposalParts = some b) (hb : s.proposalBlock = some b) (hv : c.valid b = true) :
    (tryFinalizeCommit c s).decided = some (b, s.commitRound) :=
  tryFinalizeCommit_rule (P := fun t => t.decided = some (b, s.commitRound)) s (fun h => absurd hb (h hh b hm))
    (finalizeCommit_decides c s b hh hst hm hp hb hv)

/-- **a commit for a block the node holds is final at once** (`enterCommit` → `tryFinalizeCommit`
→ `finalizeCommit`): the node is not yet in the commit step, its round-`r` precommits have a +2/3
majority for `b`, and it holds `b` as its locked block or as its complete proposal block. -/
theorem enterCommit_decides (c : Cfg) (s : NodeState) (r b : Nat)
    (hh : s.halted = false) (hst : s.step.rank < Step.commit.rank)
    (hm : maj23Of (s.votes.precommits (r : Int)) = some (some b))
    (hb : s.lockedBlock = some b ∨ (s.proposalBlock = some b ∧ s.proposalParts = some b))
    (hv : c.valid b = true) :
    (enterCommit c s r).decided = some (b, (r : Int)) := by
  have hl' : ∀ {x : Option Nat}, x = some b → hashesTo x (some b) = true := fun e => e ▸ hashesTo_refl b
  refine enterCommit_rule (P := fun t => t.decided = some (b, (r : Int))) s r ?_ (fun h => by rw [hm] at h; cases h)
    fun _ _ bid hbid => ?_
  · rintro (h | h)
    · rw [hh] at h; cases h
    · omega
  obtain rfl : bid = some b := Option.some.inj (hbid.symm.trans hm)
  -- in each case `tryFinalizeCommit` finds the commit step with block and parts of `b`
  refine ⟨fun hl => ?_, fun hl hp _ => ?_, fun hl _ => ?_⟩
  · exact tryFinalizeCommit_decides c _ b hh rfl hm (hashesTo_some hl) (hashesTo_some hl) hv
  · exact (hb.elim (fun h => hl (hl' h)) fun h => hp (hl' h.1)).elim
  · exact hb.elim (fun h => absurd (hl' h) hl) fun h => tryFinalizeCommit_decides c _ b hh rfl hm h.2 h.1 hv

theorem isProposalComplete_of_noPol {s : NodeState} {p : Proposal} {b : Nat} (hp : s.proposal = some p)
    (hpol : p.pol < 0) (hb : s.proposalBlock = some b) : isProposalComplete s = true := by
  unfold isProposalComplete
  rw [hp, hb]
  simp [hpol]

/-- the update of the valid block at the head of `handleCompleteProposal` -/
def validUpd (s : NodeState) : NodeState :=
  match maj23Of (s.votes.prevotes s.round) with
  | some (some b) =>
    if s.validRound < s.round ∧ hashesTo s.proposalBlock (some b) then
      { s with validRound := s.round, validBlock := s.proposalBlock }
    else s
  | _ => s

theorem validUpd_cases (s : NodeState) :
    validUpd s = s ∨ validUpd s = { s with validRound := s.round, validBlock := s.proposalBlock } := by
  unfold validUpd
  split
  · split
    · exact .inr rfl
    · exact .inl rfl
  · exact .inl rfl

/-- `handleCompleteProposal` with `validUpd` for its first `let`. By `rfl`: the right side is the body of the
model function and has to follow it. -/
theorem handleCompleteProposal_eq (c : Cfg) (x : NodeState) :
    handleCompleteProposal c x =
      if (validUpd x).step.rank ≤ Step.propose.rank ∧ isProposalComplete (validUpd x) then
        if (maj23Of (x.votes.prevotes x.round)).isSome then
          enterPrecommit c (enterPrevote c (validUpd x) (validUpd x).round) (enterPrevote c (validUpd x) (validUpd x).round).round
        else enterPrevote c (validUpd x) (validUpd x).round
      else if (validUpd x).step = .commit then tryFinalizeCommit c (validUpd x)
      else validUpd x := rfl

theorem addBlockPart_completes (c : Cfg) (s : NodeState) (b : Nat) (hp : s.proposalParts = some b)
    (hd : s.partsDone = false) :
    addBlockPart c s b = handleCompleteProposal c { s with partsDone := true, proposalBlock := some b } := by
  unfold addBlockPart
  simp only [hp, ne_eq, not_true_eq_false, if_false, hd, Bool.false_eq_true]

/-- **the commit step waits for the block and keeps the commit round** (`addProposalBlockPart` →
`handleCompleteProposal` → `tryFinalizeCommit`): a node in the commit step for round `r` that was
set up to receive block `b` decides `b` in round `r` the moment the block is complete — whatever
round it is in and whatever it holds from later rounds. -/
theorem commit_step_block_arrival_decides (c : Cfg) (s : NodeState) (r b : Nat)
    (hh : s.halted = false) (hst : s.step = .commit) (hcr : s.commitRound = (r : Int))
    (hm : maj23Of (s.votes.precommits (r : Int)) = some (some b))
    (hp : s.proposalParts = some b) (hd : s.partsDone = false) (hv : c.valid b = true) :
    (addBlockPart c s b).decided = some (b, (r : Int)) := by
  rw [addBlockPart_completes c s b hp hd, handleCompleteProposal_eq, ← hcr]
  rcases validUpd_cases { s with partsDone := true, proposalBlock := some b } with e | e <;> rw [e]
  all_goals
    rw [if_neg (by simp [hst, Step.rank]), if_pos hst]
    exact tryFinalizeCommit_decides c _ b hh hst (by rw [hcr]; exact hm) hp rfl hv

/-! ### the three stages of a good round, at the level of the functions `addVote` runs into -/

/-- a signer that signs anything (`MockPV`) releases the vote: it is emitted and queued -/
theorem signAddVote_mock (c : Cfg) (s : NodeState) (t : VType) (b : Bid) (me : Nat)
    (hh : s.halted = false) (hs : c.checkHRS = false) (hme : c.self = some me) :
    signAddVote c s t b =
      { s with out := s.out ++ [.signVote t s.round b], queue := s.queue ++ [.vote (Vote.honest t s.round b me)] } := by
  unfold signAddVote sign
  simp [hh, hs, hme, emit, Vote.honest]

/-- **prevote stage** (`defaultDoPrevote`): a node that is not locked, or locked on the proposed
block itself, prevotes the complete valid proposal block -/
theorem doPrevote_proposal_eq (c : Cfg) (s : NodeState) (b : Nat)
    (hl : s.lockedBlock = none ∨ s.lockedBlock = some b) (hb : s.proposalBlock = some b) (hv : c.valid b = true) :
    doPrevote c s = signAddVote c s .prevote (some b) := by
  unfold doPrevote
  rcases hl with hl | hl
  · simp only [hl, hb, hv, if_true]
  · simp only [hl]

theorem polRound_go_ge (h : HVS) (k : Nat) (hk : (maj23Of (h.prevotes (k : Int))).isSome = true) :
    ∀ n, k < n → (k : Int) ≤ HVS.polRound.go h n := by
  intro n
  induction n with
  | zero => intro h0; omega
  | succ m ih =>
    intro hlt
    unfold HVS.polRound.go
    by_cases hm : (maj23Of (h.prevotes (m : Int))).isSome = true
    · simp only [hm, if_true]; omega
    · simp only [hm, Bool.false_eq_true, if_false]
      have : k ≠ m := by intro e; subst e; exact hm hk
      exact ih (by omega)

/-- **precommit stage** (`enterPrecommit`): a node in round `r` before the precommit step whose
round-`r` prevotes have a +2/3 majority for the block it holds as proposal block locks it and signs and
queues the precommit for it (the signer being a `MockPV`, `hs`: a `FilePV` may refuse) -/
theorem enterPrecommit_polka_eq (c : Cfg) (s : NodeState) (r b me : Nat)
    (hh : s.halted = false) (hs : c.checkHRS = false) (hme : c.self = some me)
    (hr : s.round = r) (hst : s.step.rank < Step.precommit.rank)
    (hm : maj23Of (s.votes.prevotes (r : Int)) = some (some b)) (hvr : (r : Int) ≤ s.votes.round)
    (hl : s.lockedBlock = none ∨ s.lockedBlock = some b)
    (hb : s.proposalBlock = some b) (hv : c.valid b = true) :
    enterPrecommit c s r =
      { s with lockedRound := r, lockedBlock := some b, step := .precommit,
               out := s.out ++ [.signVote .precommit r (some b)],
               queue := s.queue ++ [.vote (Vote.honest .precommit r (some b) me)] } := by
  have hg : ¬ (r < s.round ∨ (s.round = r ∧ Step.precommit.rank ≤ s.step.rank)) := by omega
  -- the polka of round `r ≤ votes.round` is what `POLInfo` finds, or a later one
  have hpol : ¬ (s.votes.polRound < (r : Int)) := by
    have := polRound_go_ge s.votes r (by rw [hm]; rfl) (s.votes.round + 1).toNat (by omega)
    unfold HVS.polRound; omega
  unfold enterPrecommit
  simp only [hh, Bool.false_eq_true, if_false, hg, hm, hpol]
  rcases hl with hl | hl
  · have h1 : hashesTo s.lockedBlock (some b) = false := by simp [hashesTo, hl]
    have h2 : hashesTo s.proposalBlock (some b) = true := by simp [hashesTo, hb]
    simp only [h1, Bool.false_eq_true, if_false, h2, if_true, hv, Bool.not_true]
    rw [signAddVote_mock c _ _ _ me (by simpa using hh) hs hme]
    simp [hb, hr]
  · have h1 : hashesTo s.lockedBlock (some b) = true := by simp [hashesTo, hl]
    simp only [h1, if_true]
    rw [signAddVote_mock c _ _ _ me (by simpa using hh) hs hme]
    simp [hl, hr]

theorem enterPrecommit_noop (c : Cfg) (s : NodeState) (r : Nat) (hr : s.round = r)
    (hst : Step.precommit.rank ≤ s.step.rank) : enterPrecommit c s r = s := by
  unfold enterPrecommit
  cases hh : s.halted with
  | true => rfl
  | false => exact if_pos (Or.inr ⟨hr, hst⟩)

theorem enterNewRound_noop (c : Cfg) (s : NodeState) (r : Nat) (hr : s.round = r)
    (hst : Step.newRound.rank ≤ s.step.rank) : enterNewRound c s r = s := by
  have hne : s.step ≠ .newHeight := fun e => by rw [e] at hst; exact absurd hst (by decide)
  unfold enterNewRound
  by_cases hh : s.halted = true
  · exact if_pos hh
  · rw [if_neg hh]; exact if_pos (Or.inr ⟨hr, hne⟩)

theorem enterPrecommit_nopolka_eq (c : Cfg) (s : NodeState) (r : Nat) (hh : s.halted = false)
    (hg : ¬ (r < s.round ∨ (s.round = r ∧ Step.precommit.rank ≤ s.step.rank)))
    (hm : maj23Of (s.votes.prevotes (r : Int)) = none) :
    enterPrecommit c s r = { signAddVote c s .precommit none with round := r, step := .precommit } := by
  unfold enterPrecommit
  simp only [hh, Bool.false_eq_true, if_false, hg, hm]

/-- **commit stage** (`State.addVote`, precommit case): a node in round `r` that holds block `b` and
has precommitted — or has not, and its prevotes of the round have no recorded majority (`enterPrecommit`
then signs nil and leaves lock, block and parts alone) — decides `b` in round `r` as soon as its
round-`r` precommits have a +2/3 majority for `b` -/
theorem afterPrecommit_decides (c : Cfg) (s : NodeState) (r b : Nat)
    (hh : s.halted = false) (hr : s.round = r)
    (hst : Step.newRound.rank ≤ s.step.rank ∧ s.step.rank < Step.commit.rank)
    (hpv : Step.precommit.rank ≤ s.step.rank ∨ maj23Of (s.votes.prevotes (r : Int)) = none)
    (hm : maj23Of (s.votes.precommits (r : Int)) = some (some b))
    (hb : s.lockedBlock = some b ∨ (s.proposalBlock = some b ∧ s.proposalParts = some b))
    (hv : c.valid b = true) :
    (afterPrecommit c s r).decided = some (b, (r : Int)) := by
  unfold afterPrecommit
  simp only [hm, enterNewRound_noop c s r hr hst.1, Option.isSome_some, if_true]
  by_cases h6 : Step.precommit.rank ≤ s.step.rank
  · rw [enterPrecommit_noop c s r hr h6]
    exact enterCommit_decides c s r b hh hst.2 hm hb hv
  · rw [enterPrecommit_nopolka_eq c s r hh (by omega) (hpv.resolve_left h6)]
    have hc := signAddVote_core c s .precommit none
    refine enterCommit_decides c _ r b (by simp [hh]) (by simp [Step.rank]) (by simpa using hm) (hb.imp ?_ ?_) hv
    · exact (core_lockedBlock hc).trans
    · exact fun h => ⟨(core_proposalBlock hc).trans h.1, (core_proposalParts hc).trans h.2⟩

theorem precommit_quorum_decides (c : Cfg) (s : NodeState) (r b : Nat)
    (hh : s.halted = false) (hr : s.round = r)
    (hst : Step.precommit.rank ≤ s.step.rank ∧ s.step.rank < Step.commit.rank)
    (hm : maj23Of (s.votes.precommits (r : Int)) = some (some b))
    (hb : s.lockedBlock = some b ∨ (s.proposalBlock = some b ∧ s.proposalParts = some b))
    (hv : c.valid b = true) :
    (afterPrecommit c s r).decided = some (b, (r : Int)) :=
  afterPrecommit_decides c s r b hh hr ⟨Nat.le_trans (by decide) hst.1, hst.2⟩ (.inl hst.1) hm hb hv

/-! ### the same at the level of one input of the receive routine (`Cons.step`) -/

/-- **the block arriving in the commit step makes the node decide** (input level) -/
theorem step_block_in_commit_step_decides (c : Cfg) (s : NodeState) (r b : Nat)
    (hh : s.halted = false) (hd : s.decided = none) (hst : s.step = .commit) (hcr : s.commitRound = (r : Int))
    (hm : maj23Of (s.votes.precommits (r : Int)) = some (some b))
    (hp : s.proposalParts = some b) (hpd : s.partsDone = false) (hv : c.valid b = true) :
    (step c s (.blockComplete b)).decided = some (b, (r : Int)) := by
  have h2 := commit_step_block_arrival_decides c s r b hh hst hcr hm hp hpd hv
  rw [step_of_live c s _ ⟨hh, hd⟩]
  show (drain c drainFuel (addBlockPart c s b)).decided = _
  rw [drain_of_not_live c _ _ (NodeState.not_live_of_decided h2)]
  exact h2

end Tmv.Cons
