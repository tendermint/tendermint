import Tmv.Lemmas.ConsPrim
/-! Every block precommit the node signs is backed by a recorded +2/3 prevote majority for that block
in the vote's round — for every input list in which no timeout names a round the node has not reached
(the ticker only fires what the node scheduled for rounds it was in). -/
namespace Tmv.Cons

/-- the output is not a precommit for a block -/
def notBlockPrecommit : Output → Prop
  | .signVote .precommit _ (some _) => False
  | _ => True

/-- invariant: block precommits in `out` are backed by the recorded majority of their round -/
def JI (out : List Output) (votes : HVS) : Prop :=
  ∀ r b, Output.signVote .precommit r (some b) ∈ out → maj23Of (votes.prevotes (r : Int)) = some (some b)

theorem JI.stable {out : List Output} {v v' : HVS} (h : JI out v) (hs : Stable v v') : JI out v' :=
  fun r b hm => hs _ _ (h r b hm)

theorem JI.push {out : List Output} {v : HVS} (h : JI out v) (o : Output)
    (ho : ∀ r b, o = .signVote .precommit r (some b) → maj23Of (v.prevotes (r : Int)) = some (some b)) :
    JI (out ++ [o]) v := by
  intro r b hm
  rcases List.mem_append.1 hm with h1 | h1
  · exact h r b h1
  · simp at h1; exact ho r b h1.symm

variable {c : Cfg}

theorem emit_J {s : NodeState} (o : Output) (ho : notBlockPrecommit o) (h : JI s.out s.votes) :
    JI (emit s o).out (emit s o).votes := by
  rw [core_votes (emit_core s o)]
  rcases emit_out s o with e | e <;> rw [e]
  · exact h
  · exact h.push o fun r b e => by subst e; exact ho.elim

theorem panicWith_J {s : NodeState} (w : String) (h : JI s.out s.votes) :
    JI (panicWith s w).out (panicWith s w).votes := by
  rw [core_votes (panicWith_core s w)]
  rcases panicWith_out s w with e | e <;> rw [e]
  · exact h
  · exact h.push _ fun r b e => by cases e

/-- signing a vote keeps the invariant when a block precommit is backed by the current round's majority -/
theorem signAddVote_J {s : NodeState} (t : VType) (bid : Bid)
    (hb : t = .precommit → ∀ b, bid = some b → maj23Of (s.votes.prevotes (s.round : Int)) = some (some b))
    (h : JI s.out s.votes) :
    JI (signAddVote c s t bid).out (signAddVote c s t bid).votes := by
  rw [core_votes (signAddVote_core c s t bid)]
  rcases signAddVote_out c s t bid with e | e <;> rw [e]
  · exact h
  · exact h.push _ fun r b e => by cases e; exact hb rfl b rfl

theorem decideProposal_J {s : NodeState} (round me : Nat) (h : JI s.out s.votes) :
    JI (decideProposal c s round me).out (decideProposal c s round me).votes := by
  rw [core_votes (decideProposal_core c s round me)]
  rcases decideProposal_out c s round me with e | e <;> rw [e]
  · exact h
  · exact h.push _ fun r b e => by cases e

theorem enterPrevote_halted (s : NodeState) (r : Nat) (h : s.halted = true) : (enterPrevote c s r) = s := by
  unfold enterPrevote; simp [h]

theorem enter_J {s : NodeState} (i : Input) (h : JI s.out s.votes) : JI (enter c s i).out (enter c s i).votes := by
  rw [(enter_framed c s i).out]
  exact h.stable (enter_stable c s i)

/-- a block precommit is signed in `enterPrecommit` only, for the block whose majority it found in
round `r`; with `r` a round the node has reached, that is the round the vote is signed for -/
theorem J_prim {cm : NodeState → Prop} {s t : NodeState} (hp : Prim c True cm s t) (h : JI s.out s.votes) : JI t.out t.votes := by
  have hst := hp.stable
  cases hp with
  | panic w => exact panicWith_J w h
  | schedule r st | propose r | prevoteWait r | precommitWait r | decide b => exact emit_J _ trivial h
  | proposeOwn r me => exact decideProposal_J r me (emit_J _ trivial h)
  | prevote r bid => exact signAddVote_J _ _ (fun e => by cases e) h
  | precommit r t x hh hg hr hc =>
    have e := eq_of_guard hr hg
    subst e
    cases hc with
    | nil | unlock | fetch => exact signAddVote_J _ _ (fun _ b e => by cases e) h
    | relock b hm | lock b hm => exact signAddVote_J _ _ (fun _ b' e => by cases e; exact hm) h
  | newRound r =>
    have hf := newRoundReset_frame s r
    rw [hf.out, hf.votes]; exact h
  | setRound r hv hs => exact h.stable hst
  | _ => exact h

theorem step_J {s : NodeState} (i : Input) (hi : i.notFuture s) (h : JI s.out s.votes) :
    JI (step c s i).out (step c s i).votes :=
  step_invariant (P := fun s => JI s.out s.votes) (fun _ _ hp => J_prim hp)
    (fun s m rest _ h => enter_J (s := { s with queue := rest }) m.asInput h) s i (fun _ => hi) (enter_J i) h

theorem run_J (is : List Input) {s : NodeState} (hnf : NoFutureTimeout c s is) (h : JI s.out s.votes) :
    JI (run c s is).out (run c s is).votes :=
  run_invariant_noFuture (P := fun s => JI s.out s.votes) (fun _ i hi => step_J i hi) is hnf h

end Tmv.Cons
