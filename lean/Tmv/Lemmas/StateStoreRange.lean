import Tmv.Model.StateStoreRange
import Tmv.Lemmas.Checkpoint
import Tmv.Lemmas.AllPrefix
/-! Lemmas for the record bookkeeping of the state store.  Validator records and params records
are looked up the same way (`loadable`: the record of the height, or the record it points to);
every write `PruneStates` issues has one of five harmless shapes, and such writes keep every
height from `to` upwards loadable. -/
namespace Tmv.StateStore

theorem get_set (db : DB) (k a : Key) (v : Val) :
    get (apply db (.set k v)) a = if k = a then some v else get db a := by
  simp only [get, apply]
  rw [Std.HashMap.getElem?_insert]; simp

theorem get_del (db : DB) (k a : Key) :
    get (apply db (.del k)) a = if k = a then none else get db a := by
  simp only [get, apply]
  rw [Std.HashMap.getElem?_erase]; simp

theorem applyAll_nil (db : DB) : applyAll db [] = db := rfl
theorem applyAll_cons (db : DB) (w : Write) (ws : List Write) :
    applyAll db (w :: ws) = applyAll (apply db w) ws := rfl
theorem applyAll_append (db : DB) (a b : List Write) :
    applyAll db (a ++ b) = applyAll (applyAll db a) b := by
  simp [applyAll, List.foldl_append]

theorem loadInfo_set (db : DB) (k a : Key) (v : Val) :
    loadInfo (apply db (.set k v)) a =
      if k = a then (match v with | .info c f => some (c, f) | _ => none) else loadInfo db a := by
  simp only [loadInfo, get_set]
  by_cases h : k = a
  · simp only [h, if_true]; cases v <;> rfl
  · simp only [h, if_false]

theorem loadInfo_del (db : DB) (k a : Key) :
    loadInfo (apply db (.del k)) a = if k = a then none else loadInfo db a := by
  simp only [loadInfo, get_del]
  by_cases h : k = a
  · simp only [h, if_true]
  · simp only [h, if_false]

def Write.key : Write → Key
  | .set k _ => k
  | .del k => k

theorem get_apply_of_ne (db : DB) (w : Write) (a : Key) (h : w.key ≠ a) :
    get (apply db w) a = get db a := by
  cases w with
  | set k v => exact (get_set db k a v).trans (if_neg h)
  | del k => exact (get_del db k a).trans (if_neg h)

theorem get_applyAll_of_not_mem (ws : List Write) (db : DB) (a : Key)
    (h : ∀ w ∈ ws, w.key ≠ a) : get (applyAll db ws) a = get db a :=
  (AllPrefix.of_step (P := fun d => get d a = get db a) rfl
    fun d w hw e => (get_apply_of_ne d w a (h w hw)).trans e).last

theorem loadInfo_apply_of_ne (db : DB) (w : Write) (a : Key) (h : w.key ≠ a) :
    loadInfo (apply db w) a = loadInfo db a := by
  simp only [loadInfo, get_apply_of_ne db w a h]

theorem loadInfo_applyAll_of_not_mem (ws : List Write) (db : DB) (a : Key)
    (h : ∀ w ∈ ws, w.key ≠ a) : loadInfo (applyAll db ws) a = loadInfo db a := by
  simp only [loadInfo, get_applyAll_of_not_mem ws db a h]

/-- the lookup of `LoadValidators` / `LoadConsensusParams` for any record family `info` and any
pointer rule `tgt` (`valsLoadable_eq`, `paramsLoadable_eq`) -/
def loadable (info : Int → Option (Int × Bool)) (tgt : Int → Int → Int) (h : Int) : Bool :=
  match info h with
  | none => false
  | some (_, true) => true
  | some (c, false) =>
    match info (tgt h c) with
    | some (_, true) => true
    | _ => false

theorem valsLoadable_eq (db : DB) (h : Int) :
    valsLoadable db h = loadable (fun a => loadInfo db (.vals a)) lastStoredHeightFor h := rfl

theorem paramsLoadable_eq (db : DB) (h : Int) :
    paramsLoadable db h = loadable (fun a => loadInfo db (.params a)) (fun _ c => c) h := rfl

theorem loadable_congr {info info' : Int → Option (Int × Bool)} {tgt : Int → Int → Int} {h : Int}
    (h1 : info' h = info h) (h2 : ∀ c, info h = some (c, false) → info' (tgt h c) = info (tgt h c)) :
    loadable info' tgt h = loadable info tgt h := by
  unfold loadable
  rw [h1]
  cases e : info h with
  | none => rfl
  | some p =>
    obtain ⟨c, f⟩ := p
    cases f with
    | true => rfl
    | false => simp only; rw [h2 c e]

theorem valsLoadable_congr {db db' : DB} {h : Int}
    (h1 : loadInfo db' (.vals h) = loadInfo db (.vals h))
    (h2 : ∀ c, loadInfo db (.vals h) = some (c, false) →
      loadInfo db' (.vals (lastStoredHeightFor h c)) = loadInfo db (.vals (lastStoredHeightFor h c))) :
    valsLoadable db' h = valsLoadable db h := by
  rw [valsLoadable_eq, valsLoadable_eq]; exact loadable_congr h1 h2

theorem paramsLoadable_congr {db db' : DB} {h : Int}
    (h1 : loadInfo db' (.params h) = loadInfo db (.params h))
    (h2 : ∀ c, loadInfo db (.params h) = some (c, false) →
      loadInfo db' (.params c) = loadInfo db (.params c)) :
    paramsLoadable db' h = paramsLoadable db h := by
  rw [paramsLoadable_eq, paramsLoadable_eq]; exact loadable_congr h1 h2

theorem loadable_false {info : Int → Option (Int × Bool)} {tgt : Int → Int → Int} {h c : Int}
    (e : info h = some (c, false)) (hl : loadable info tgt h = true) :
    ∃ c2, info (tgt h c) = some (c2, true) := by
  unfold loadable at hl
  rw [e] at hl
  simp only at hl
  split at hl
  · rename_i c2 heq; exact ⟨c2, heq⟩
  · cases hl

theorem loadable_of_target {info : Int → Option (Int × Bool)} {tgt : Int → Int → Int} {h c c2 : Int}
    (e : info h = some (c, false)) (e2 : info (tgt h c) = some (c2, true)) : loadable info tgt h = true := by
  unfold loadable
  rw [e]; simp only; rw [e2]

/-- What the lookups need of where a record points (`tgt`) and at which heights a record carries a
value (`full`: at its own change height; for validators also at checkpoint heights). -/
structure Ptr (tgt : Int → Int → Int) (full : Int → Int → Prop) : Prop where
  refl : ∀ h, full h h
  le : ∀ h c, c ≤ h → tgt h c ≤ h
  next : ∀ h c, ¬ full (h + 1) c → tgt (h + 1) c = tgt h c
  self : ∀ h c, full h c → c ≤ h → tgt h c = h
  below : ∀ to h c, to ≤ h → tgt h c < to → tgt h c = tgt to c ∧ c < to ∧ ¬ full to c

theorem interval_pos : 0 < interval := by decide

/-- `lastStoredHeightFor` is `Checkpoint.lastStored interval` by definition, and the facts are those
of `Checkpoint`.  (Lean's `%` has a remainder ≥ 0, Go's follows the sign of `h`: the two agree on
heights ≥ 0, and no record is ever written below 1.) -/
theorem ptrVals : Ptr lastStoredHeightFor (fun h c => c = h ∨ h % interval = 0) :=
  ⟨fun _ => .inl rfl, fun _ _ hc => Checkpoint.le interval_pos hc,
    fun _ _ hm => Checkpoint.next interval_pos fun e => hm (.inr e),
    fun _ _ hf hc => Checkpoint.self interval_pos hc (hf.imp_left Eq.symm),
    fun _ _ _ hle hlt =>
      let ⟨e1, e2, e3⟩ := Checkpoint.below interval_pos hle hlt
      ⟨e1, e2, fun hf => e3 (hf.imp_left Eq.symm)⟩⟩

theorem ptrParams : Ptr (fun _ c => c) (fun h c => c = h) :=
  ⟨fun _ => rfl, fun _ _ hc => hc, fun _ _ _ => rfl, fun _ _ e _ => e,
    fun _ _ _ _ hlt => ⟨rfl, hlt, Int.ne_of_lt hlt⟩⟩

theorem lastStored_le (h c : Int) (hc : c ≤ h) : lastStoredHeightFor h c ≤ h :=
  ptrVals.le h c hc

/-- Pruning below `to` keeps `h ≥ to` loadable: its record is untouched, and the record it points
to is either at or above `to` (untouched) or, below `to`, the one record the record of `to` points
to, which is kept with its value. -/
theorem loadable_pruned {tgt : Int → Int → Int} {full : Int → Int → Prop} (P : Ptr tgt full)
    {info0 info : Int → Option (Int × Bool)} {to c0 : Int} {f0 : Bool}
    (hto0 : info0 to = some (c0, f0)) (hsame : ∀ h, to ≤ h → info h = info0 h)
    (hkept : f0 = false → ∀ c, info0 (tgt to c0) = some (c, true) → ∃ c', info (tgt to c0) = some (c', true))
    (hFull : ∀ c, info0 to = some (c, true) → full to c)
    (h : Int) (hh : to ≤ h)
    (hAgree : ∀ c, info0 h = some (c, false) → c < to → ∃ f, info0 to = some (c, f))
    (hl : loadable info0 tgt h = true) : loadable info tgt h = true := by
  cases e : info0 h with
  | none => unfold loadable at hl; rw [e] at hl; cases hl
  | some p =>
    obtain ⟨c, f⟩ := p
    cases f with
    | true => unfold loadable; rw [hsame h hh, e]
    | false =>
      obtain ⟨c2, hc2⟩ := loadable_false e hl
      by_cases hge : to ≤ tgt h c
      · exact loadable_of_target ((hsame h hh).trans e) ((hsame _ hge).trans hc2)
      · obtain ⟨e1, e2, e3⟩ := P.below to h c hh (Int.not_le.1 hge)
        obtain ⟨f, hf⟩ := hAgree c e e2
        cases hto0.symm.trans hf
        have hnf : f0 = false := by
          cases f0 with
          | false => rfl
          | true => exact absurd (hFull c0 hto0) e3
        rw [e1] at hc2
        obtain ⟨c', hc'⟩ := hkept hnf c2 hc2
        exact loadable_of_target ((hsame h hh).trans e) (e1 ▸ hc')

/-- the writes the loop of `PruneStates` can issue for a height `h < to` -/
def Shape (db0 : DB) (keepV keepP : Int → Bool) (to : Int) (w : Write) : Prop :=
  (∃ h, h < to ∧ keepV h = false ∧ w = .del (.vals h)) ∨
  (∃ h, h < to ∧ w = .set (.vals h) (.info h true)) ∨
  (∃ h, h < to ∧ keepP h = false ∧ w = .del (.params h)) ∨
  (∃ h f, h < to ∧ (∀ c, loadInfo db0 (.params h) ≠ some (c, true)) ∧ w = .set (.params h) (.info h f)) ∨
  (∃ h, w = .del (.abci h))

/-- `db` still has, of what `db0` had: every record from `to` upwards unchanged, and every kept
record that carried a full value still carrying one -/
structure Rel (db0 db : DB) (keepV keepP : Int → Bool) (to : Int) : Prop where
  vals : ∀ h, to ≤ h → loadInfo db (.vals h) = loadInfo db0 (.vals h)
  params : ∀ h, to ≤ h → loadInfo db (.params h) = loadInfo db0 (.params h)
  keptV : ∀ h, keepV h = true → ∀ c, loadInfo db0 (.vals h) = some (c, true) →
    ∃ c', loadInfo db (.vals h) = some (c', true)
  keptP : ∀ h, keepP h = true → ∀ c, loadInfo db0 (.params h) = some (c, true) →
    ∃ c', loadInfo db (.params h) = some (c', true)
  stateKey : get db .state = get db0 .state

theorem rel_refl (db0 : DB) (keepV keepP : Int → Bool) (to : Int) : Rel db0 db0 keepV keepP to :=
  ⟨fun _ _ => rfl, fun _ _ => rfl, fun _ _ c hc => ⟨c, hc⟩, fun _ _ c hc => ⟨c, hc⟩, rfl⟩

theorem rel_step (db0 db : DB) (keepV keepP : Int → Bool) (to : Int) (w : Write)
    (hr : Rel db0 db keepV keepP to) (hs : Shape db0 keepV keepP to w) :
    Rel db0 (apply db w) keepV keepP to := by
  have hkey : (∃ h, h < to ∧ (w.key = .vals h ∨ w.key = .params h)) ∨ ∃ h, w.key = .abci h := by
    rcases hs with ⟨h, hlt, _, rfl⟩ | ⟨h, hlt, rfl⟩ | ⟨h, hlt, _, rfl⟩ | ⟨h, f, hlt, _, rfl⟩ | ⟨h, rfl⟩
    · exact Or.inl ⟨h, hlt, Or.inl rfl⟩
    · exact Or.inl ⟨h, hlt, Or.inl rfl⟩
    · exact Or.inl ⟨h, hlt, Or.inr rfl⟩
    · exact Or.inl ⟨h, hlt, Or.inr rfl⟩
    · exact Or.inr ⟨h, rfl⟩
  have hsame : ∀ a, to ≤ a → w.key ≠ .vals a ∧ w.key ≠ .params a := by
    intro a ha
    rcases hkey with ⟨h, hlt, e | e⟩ | ⟨h, e⟩ <;> rw [e] <;> constructor <;> intro e' <;> cases e' <;> omega
  refine ⟨fun a ha => ?_, fun a ha => ?_, fun a ha c hc => ?_, fun a ha c hc => ?_, ?_⟩
  · rw [loadInfo_apply_of_ne _ _ _ (hsame a ha).1]; exact hr.vals a ha
  · rw [loadInfo_apply_of_ne _ _ _ (hsame a ha).2]; exact hr.params a ha
  · by_cases e : w.key = .vals a
    · rcases hs with ⟨h, _, hk, rfl⟩ | ⟨h, _, rfl⟩ | ⟨h, _, _, rfl⟩ | ⟨h, f, _, _, rfl⟩ | ⟨h, rfl⟩ <;> cases e
      · rw [ha] at hk; cases hk
      · rw [loadInfo_set, if_pos rfl]; exact ⟨_, rfl⟩
    · rw [loadInfo_apply_of_ne _ _ _ e]; exact hr.keptV a ha c hc
  · by_cases e : w.key = .params a
    · rcases hs with ⟨h, _, _, rfl⟩ | ⟨h, _, rfl⟩ | ⟨h, _, hk, rfl⟩ | ⟨h, f, _, hnf, rfl⟩ | ⟨h, rfl⟩ <;> cases e
      · rw [ha] at hk; cases hk
      · exact absurd hc (hnf c)
    · rw [loadInfo_apply_of_ne _ _ _ e]; exact hr.keptP a ha c hc
  · rw [get_apply_of_ne _ _ _ (by rcases hkey with ⟨h, _, e | e⟩ | ⟨h, e⟩ <;> rw [e] <;> intro e' <;> cases e')]
    exact hr.stateKey

theorem rel_allPrefix (db0 : DB) (keepV keepP : Int → Bool) (to : Int) (ws : List Write) (db : DB)
    (hr : Rel db0 db keepV keepP to) (hs : ∀ w ∈ ws, Shape db0 keepV keepP to w) :
    AllPrefix apply (fun d => Rel db0 d keepV keepP to) db ws :=
  .of_step hr fun d w hw r => rel_step db0 d keepV keepP to w r (hs w hw)

/-- every write of the loop of `PruneStates` has one of the shapes (whatever it read) -/
theorem pruneLoop_shape (db0 : DB) (keepV keepP : Int → Bool) (to : Int) :
    ∀ (fuel : Nat) (h : Int) (cur : DB) (batch : List Write) (pruned : Nat),
      h < to → Rel db0 cur keepV keepP to → (∀ w ∈ batch, Shape db0 keepV keepP to w) →
      ∀ w ∈ (pruneLoop keepV keepP fuel h cur batch pruned).1.flatten, Shape db0 keepV keepP to w := by
  intro fuel
  induction fuel with
  | zero =>
    intro h cur batch pruned _ _ hb w hw
    simp only [pruneLoop, List.flatten_cons, List.flatten_nil, List.append_nil] at hw
    exact hb w hw
  | succ fuel ih =>
    intro h cur batch pruned hlt hr hb
    unfold pruneLoop
    simp only
    split
    · intro w hw; cases hw
    · rename_i vw hvw
      -- the validator record of this height
      have hv : ∀ w ∈ vw, Shape db0 keepV keepP to w := by
        intro w hw
        split at hvw
        · split at hvw
          · cases hvw; cases hw
          · split at hvw
            · cases hvw
              cases List.mem_singleton.1 hw
              exact Or.inr (Or.inl ⟨h, hlt, rfl⟩)
            · cases hvw
        · rename_i hk
          cases hvw
          cases List.mem_singleton.1 hw
          exact Or.inl ⟨h, hlt, by simpa using hk, rfl⟩
      split
      · intro w hw; cases hw
      · rename_i pw hpw
        have hp : ∀ w ∈ pw, Shape db0 keepV keepP to w := by
          intro w hw
          split at hpw
          · rename_i hk
            split at hpw
            · cases hpw
            · cases hpw; cases hw
            · rename_i c hcur
              split at hpw
              · cases hpw
              · rename_i f _
                -- the rewrite takes `f` from the record pointed to, so it may write a record without
                -- a value: the shape then has to say that the record carried none in `db0` either
                -- (or `Rel.keptP` would be lost), which holds because a kept record with a value in
                -- `db0` still has one in `cur`
                cases hpw
                cases List.mem_singleton.1 hw
                refine Or.inr (Or.inr (Or.inr (Or.inl ⟨h, f, hlt, fun c' hc' => ?_, rfl⟩)))
                obtain ⟨c'', hfull⟩ := hr.keptP h hk c' hc'
                rw [hcur] at hfull; cases hfull
          · rename_i hk
            cases hpw
            cases List.mem_singleton.1 hw
            exact Or.inr (Or.inr (Or.inl ⟨h, hlt, by simpa using hk, rfl⟩))
        have hb' : ∀ w ∈ batch ++ vw ++ pw ++ [Write.del (.abci h)], Shape db0 keepV keepP to w := by
          intro w hw
          simp only [List.mem_append, List.mem_cons, List.mem_nil_iff, or_false] at hw
          rcases hw with ((hw | hw) | hw) | hw
          · exact hb w hw
          · exact hv w hw
          · exact hp w hw
          · subst hw; exact Or.inr (Or.inr (Or.inr (Or.inr ⟨h, rfl⟩)))
        have hlt' : h - 1 < to := by omega
        by_cases hfl : (pruned + 1) % statesBatch = 0
        · -- the batch is written; the loop goes on reading the database with it applied
          rw [if_pos hfl]
          intro w hw
          rw [List.flatten_cons, List.mem_append] at hw
          rcases hw with hw | hw
          · exact hb' w hw
          · exact ih (h - 1) _ [] (pruned + 1) hlt' (rel_allPrefix _ _ _ _ _ _ hr hb').last
              (fun w hw => by cases hw) w hw
        · rw [if_neg hfl]
          exact ih (h - 1) cur _ (pruned + 1) hlt' hr hb'

theorem pruneStates_prefix_rel (db : DB) (frm to : Int) (j : Nat) :
    applyAll db ((pruneStates db frm to).1.flatten.take j) = db ∨
    ∃ vc vfull pc pfull, loadInfo db (.vals to) = some (vc, vfull) ∧
      loadInfo db (.params to) = some (pc, pfull) ∧
      Rel db (applyAll db ((pruneStates db frm to).1.flatten.take j))
        (fun h => !vfull && (h == vc || h == lastStoredHeightFor to vc)) (fun h => !pfull && h == pc) to := by
  unfold pruneStates
  by_cases h1 : frm ≤ 0 ∨ to ≤ 0
  · left; rw [if_pos h1, List.flatten_nil, List.take_nil, applyAll_nil]
  · rw [if_neg h1]
    by_cases h2 : frm ≥ to
    · left; rw [if_pos h2, List.flatten_nil, List.take_nil, applyAll_nil]
    · rw [if_neg h2]
      split
      · left; rw [List.flatten_nil, List.take_nil, applyAll_nil]
      · rename_i vc vfull hv
        split
        · left; rw [List.flatten_nil, List.take_nil, applyAll_nil]
        · rename_i pc pfull hp
          right
          refine ⟨vc, vfull, pc, pfull, hv, hp, ?_⟩
          have hshape := pruneLoop_shape db
            (fun h => !vfull && (h == vc || h == lastStoredHeightFor to vc))
            (fun h => !pfull && h == pc) to (to - frm).toNat (to - 1) db [] 0 (by omega)
            (rel_refl _ _ _ _) (fun w hw => by cases hw)
          exact rel_allPrefix db _ _ to _ db (rel_refl _ _ _ _) hshape j

/-- what a chain of `save`s guarantees about the change-height pointers at and above `to`
(LastHeightChanged is monotone, and a record carries a full value only at a change height or a
checkpoint height) -/
structure PtrInv (db : DB) (to : Int) : Prop where
  valsAgree : ∀ h c, to ≤ h → loadInfo db (.vals h) = some (c, false) → c < to →
    ∃ f, loadInfo db (.vals to) = some (c, f)
  valsFull : ∀ c, loadInfo db (.vals to) = some (c, true) → c = to ∨ to % interval = 0
  paramsAgree : ∀ h c, to ≤ h → loadInfo db (.params h) = some (c, false) → c < to →
    ∃ f, loadInfo db (.params to) = some (c, f)
  paramsFull : ∀ c, loadInfo db (.params to) = some (c, true) → c = to

/-- the height `save` writes the consensus-params record for (and one below the validator record) -/
def saveNext (s : St) : Int :=
  if s.lastBlockHeight + 1 = 1 then s.initialHeight else s.lastBlockHeight + 1

/-- `save` only writes the validator records of `next` (genesis only) and `next+1`, the params
record of `next`, and the state -/
theorem save_keys (s : St) : ∀ w ∈ (save s).1.flatten,
    w.key = .vals (saveNext s) ∨ w.key = .vals (saveNext s + 1) ∨ w.key = .params (saveNext s) ∨ w.key = .state := by
  intro w hw
  rw [saveNext]
  -- the two guards: first `Save` after genesis? does `saveValidatorsInfo(next+1)` fail?
  by_cases h1 : s.lastBlockHeight + 1 = 1
  · by_cases h2 : s.lhcVals > s.initialHeight + 1
    · simp [save, saveValsInfo, h1, h2] at hw
      subst hw; simp [Write.key, h1]
    · simp [save, saveValsInfo, saveParamsInfo, h1, h2] at hw
      rcases hw with rfl | rfl | rfl | rfl <;> simp [Write.key, h1]
  · by_cases h2 : s.lhcVals > s.lastBlockHeight + 1 + 1
    · simp [save, saveValsInfo, h1, h2] at hw
    · simp [save, saveValsInfo, saveParamsInfo, h1, h2] at hw
      rcases hw with rfl | rfl | rfl <;> simp [Write.key, h1]

theorem save_frame (s : St) (db : DB) (j : Nat) (a : Int) (ha : a < saveNext s) :
    loadInfo (applyAll db ((save s).1.flatten.take j)) (.vals a) = loadInfo db (.vals a) ∧
    loadInfo (applyAll db ((save s).1.flatten.take j)) (.params a) = loadInfo db (.params a) := by
  have hne : ∀ w ∈ (save s).1.flatten.take j, w.key ≠ .vals a ∧ w.key ≠ .params a := by
    intro w hw
    rcases save_keys s w (List.mem_of_mem_take hw) with e | e | e | e <;> rw [e] <;> constructor <;>
      intro e' <;> cases e' <;> omega
  exact ⟨loadInfo_applyAll_of_not_mem _ _ _ fun w hw => (hne w hw).1,
    loadInfo_applyAll_of_not_mem _ _ _ fun w hw => (hne w hw).2⟩

end Tmv.StateStore
