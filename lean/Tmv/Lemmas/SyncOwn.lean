import Tmv.Lemmas.SyncLog
import Tmv.Lemmas.SyncOwnNode
/-! A correct node's own votes are recorded in its own vote sets once its internal queue is empty
(C03, ingredient of the network-level good round): the vote is signed, queued, and handled by
`addVote` within the same `Cons.step`; it is for a round the node tracks, it is well signed, and the
node never signs two different votes of one type in one round (`G`), so it is never refused.

The node-level part (Lemmas/SyncOwnNode.lean) shows that one input of the receive routine keeps
"every signed vote is recorded or still queued" provided the input is no future-round timeout and no
vote carrying the node's own index; the net (`LogInv`, Lemmas/SyncLog.lean) only ever hands a node
such inputs. -/
namespace Tmv.Sync
open Tmv.Cons

/-- what is kept per node whose index is a validator index: well-formed vote sets, the rounds up to the
node's round are tracked, signed votes are recorded or still queued -/
structure OwnOK (c : SCfg) (idx : Nat) (s : NodeState) : Prop where
  wf : HVS.WF (nodeCfg c.cfg idx) s.votes
  rt : RT s
  oq : OQ idx s

/-- at the boundaries of `Cons.step`, a recorded vote of the node itself is one it signed -/
theorem mine_of_LogInv {net : Net} (h : LogInv net) (nd : Node) (hm : nd ∈ net.nodes) : Mine nd.idx nd.s := by
  intro r t k hh
  rcases h.recorded nd hm _ _ _ _ hh with ⟨_, rn, hrn, ho⟩ | ⟨w, hw, hwval, hwt, hwr, hwb⟩
  · have : rn = r := by exact_mod_cast hrn
    subst this; exact ho
  · have hwr' : w.round = r := by exact_mod_cast hwr
    have s2 := h.signed nd hm w hw hwval
    rw [hwt, hwr', hwb] at s2
    exact s2

/-- the net only ever hands a node inputs under which `OwnOK` is kept (Lemmas/SyncOwnNode.lean) -/
theorem ownOK_kept (c : SCfg) : KeptByInputs c (fun idx s => idx < c.cfg.n → OwnOK c idx s) := by
  intro net nd inp h hmem hok ho hlt
  have hnd := h.nodes nd hmem
  have ho := ho hlt
  have mid' := step_Mid (c := nodeCfg c.cfg nd.idx) (me := nd.idx) rfl hlt inp hok.1
    (fun v peer hv => (hok.2 v peer hv).2) ⟨hnd.g, hnd.n, ho.wf, mine_of_LogInv h nd hmem, ho.rt, ho.oq⟩
  exact ⟨mid'.wf, mid'.rt, mid'.own⟩

theorem Reach.ownOK {c : SCfg} {correct : List Nat} {net : Net} (h : Reach c correct net) (hn : correct.Nodup) :
    AllNodes (fun idx s => idx < c.cfg.n → OwnOK c idx s) net :=
  (Moves.logInv_allNodes (ownOK_kept c) h (LogInv.init correct hn)
    (allNodes_init correct fun i _ => ⟨HVS.WF.init _, RTI.init, OQI.init i⟩)).2

/-- **a node of a reachable net whose internal queue is empty has recorded every vote it signed.**
`hq` is a hypothesis: no theorem says that the nodes of a reachable net have emptied their queues
(`drain` stops after `drainFuel` own messages); it rests on the C03 stream, which compares the queue
length of every node after every move. -/
theorem Reach.own_votes_recorded {c : SCfg} {correct : List Nat} {net : Net} (h : Reach c correct net)
    (hn : correct.Nodup) (nd : Node) (hm : nd ∈ net.nodes) (hlt : nd.idx < c.cfg.n) (hq : nd.s.queue = [])
    (t : VType) (r : Nat) (b : Bid) (hs : Output.signVote t r b ∈ nd.s.out) :
    nd.s.votes.has (r : Int) t b nd.idx := by
  rcases (h.ownOK hn nd hm hlt).oq t r b hs with h | h
  · exact h
  · rw [hq] at h; cases h

/-- `hlive` is not used: halted and decided nodes have recorded their votes too -/
theorem own_votes_recorded (c : SCfg) (correct : List Nat) (hn : correct.Nodup) (ops : List Op)
    (nd : Node) (hm : nd ∈ ((Net.init correct).run c ops).nodes)
    (hlt : nd.idx < c.cfg.n) (hlive : nd.s.halted = false ∧ nd.s.decided = none)
    (hq : nd.s.queue = [])
    (t : VType) (r : Nat) (b : Bid) (hs : Output.signVote t r b ∈ nd.s.out) :
    nd.s.votes.has (r : Int) t b nd.idx :=
  (reach_run c correct ops).own_votes_recorded hn nd hm hlt hq t r b hs

theorem Reach.logged_own_vote {c : SCfg} {correct : List Nat} {net : Net} (h : Reach c correct net)
    (hn : correct.Nodup) {nd : Node} (hm : nd ∈ net.nodes) (hlt : nd.idx < c.cfg.n) (hq : nd.s.queue = [])
    {t : VType} {r : Nat} {b : Bid} (hv : Msg.vote ⟨t, r, b, nd.idx, true, nd.idx, nd.idx⟩ ∈ net.log) :
    nd.s.votes.has (r : Int) t b nd.idx :=
  h.own_votes_recorded hn nd hm hlt hq t r b ((h.logInv hn).signed nd hm _ hv rfl)

end Tmv.Sync
