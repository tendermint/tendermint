import Tmv.Lemmas.ConsSign
import Tmv.Lemmas.ConsPrim
/-! Any relation `R` between the output list and the abstract signer state that is kept by appending a
non-signature output (`other`) and by a successful `sign` followed by its output (`signed`) is kept by every move,
hence by `Cons.step` / `Cons.run` (`step_chained`, `run_chained`): a move signs only in a node that has not halted,
which then makes the output.
`Lemmas/SignCons.lean` shows that the call-by-call agreement of the two signers is such a relation
(`stepRel_closed`); Props/C04 carries it through a step with `step_chain`. The signer invariant `SInv` of
Lemmas/ConsSign.lean is another (`step_inv`, `run_inv`; C02). -/
namespace Tmv.Cons

structure ChainClosed (c : Cfg) (R : List Output → Option (Nat × Nat × Payload) → Prop) : Prop where
  other : ∀ out lss o, R out lss → sigKey o = none → R (out ++ [o]) lss
  signed : ∀ (s s' : NodeState) r cd p o, R s.out s.lss → sign c s r cd p = some s' →
    sigKey o = some (r, cd, p) → R (s'.out ++ [o]) s'.lss

section
variable {c : Cfg} {R : List Output → Option (Nat × Nat × Payload) → Prop} (hc : ChainClosed c R)

include hc

theorem emit_chain {s : NodeState} (o : Output) (ho : sigKey o = none) (h : R s.out s.lss) :
    R (emit s o).out (emit s o).lss := by
  rcases emit_shape s o with e | e <;> rw [e]
  · exact h
  · exact hc.other _ _ _ h ho

theorem panicWith_chain {s : NodeState} (w : String) (h : R s.out s.lss) : R (panicWith s w).out (panicWith s w).lss := by
  rcases panicWith_shape s w with e | e <;> rw [e]
  · exact h
  · exact hc.other _ _ _ h rfl

theorem signAddVote_chain {s : NodeState} (t : VType) (bid : Bid) (h : R s.out s.lss) :
    R (signAddVote c s t bid).out (signAddVote c s t bid).lss := by
  rcases signAddVote_shape c s t bid with e | ⟨s', _, _, _, hs, e⟩ <;> rw [e]
  · exact h
  · have := hc.signed s s' _ _ _ (.signVote t s.round bid) h hs (by simp [sigKey])
    rwa [(sign_out hs).1] at this

/-- a halted node would sign and emit nothing; the move `proposeOwn` has `¬ s.halted` -/
theorem decideProposal_chain {s : NodeState} (round me : Nat) (hh : ¬ s.halted = true) (h : R s.out s.lss) :
    R (decideProposal c s round me).out (decideProposal c s round me).lss := by
  rcases decideProposal_shape c s round me with e | ⟨s', o, hs, ho, e⟩ <;> rw [e]
  · exact h
  · rcases ho with ⟨hh', _⟩ | ⟨_, rfl⟩
    · exact absurd hh' hh
    · have := hc.signed s s' _ _ _ (.signProposal round (s.validBlock.getD c.ownBlock) s.validRound) h hs (by simp [sigKey])
      rwa [(sign_out hs).1] at this

/-- outputs and signatures come from `emit`, `panicWith`, `signAddVote` and `decideProposal` only; every
other move leaves the outputs and the last-sign state alone -/
theorem chain_prim {ok : Prop} {cm : NodeState → Prop} {s t : NodeState} (hp : Prim c ok cm s t) (h : R s.out s.lss) :
    R t.out t.lss := by
  cases hp with
  | panic w => exact panicWith_chain hc w h
  | schedule r st | propose r | prevoteWait r | precommitWait r | decide b => exact emit_chain hc _ rfl h
  | proposeOwn r me hh =>
    exact decideProposal_chain hc r me (by rw [halted_emit]; exact hh) (emit_chain hc _ rfl h)
  | prevote r bid => exact signAddVote_chain hc _ _ h
  | precommit r t x _ _ _ hp => exact signAddVote_chain hc _ _ (by rw [hp.frame.out, hp.frame.lss]; exact h)
  | newRound r => rw [(newRoundReset_frame s r).out, (newRoundReset_frame s r).lss]; exact h
  | _ => exact h

theorem step_chained {s : NodeState} (i : Input) (h : R s.out s.lss) : R (step c s i).out (step c s i).lss :=
  have he (s : NodeState) (i : Input) (h : R s.out s.lss) : R (enter c s i).out (enter c s i).lss := by
    rw [(enter_framed c s i).out, (enter_framed c s i).lss]; exact h
  step_invariant (ok := False) (P := fun s => R s.out s.lss) (fun _ _ hp => chain_prim hc hp)
    (fun s m rest _ h => he { s with queue := rest } m.asInput h) s i nofun (he s i) h

theorem run_chained (is : List Input) {s : NodeState} (h : R s.out s.lss) : R (run c s is).out (run c s is).lss :=
  run_invariant (P := fun s => R s.out s.lss) (fun _ i => step_chained hc i) is h

theorem step_chain {s : NodeState} (i : Input) (h : s.halted = true ∨ R s.out s.lss) :
    (step c s i).halted = true ∨ R (step c s i).out (step c s i).lss := by
  rcases h with hh | h
  · left; rw [step_of_not_live c s i (NodeState.not_live_of_halted hh)]; exact hh
  · exact .inr (step_chained hc i h)

theorem run_chain (is : List Input) {s : NodeState} (h : s.halted = true ∨ R s.out s.lss) :
    (run c s is).halted = true ∨ R (run c s is).out (run c s is).lss :=
  run_invariant (P := fun s => s.halted = true ∨ R s.out s.lss) (fun _ i => step_chain hc i) is h

end

theorem SInv.closed {c : Cfg} (hc : c.checkHRS = true) : ChainClosed c SInv :=
  ⟨fun _ _ o h ho => h.push_other o ho, fun _ _ _ _ _ o h hs ho => h.push_signed hc hs o ho⟩

theorem step_inv {c : Cfg} (hc : c.checkHRS = true) {s : NodeState} (i : Input) (h : SInv s.out s.lss) :
    SInv (step c s i).out (step c s i).lss :=
  step_chained (SInv.closed hc) i h

theorem run_inv {c : Cfg} (hc : c.checkHRS = true) (is : List Input) {s : NodeState} (h : SInv s.out s.lss) :
    SInv (run c s is).out (run c s is).lss :=
  run_chained (SInv.closed hc) is h

end Tmv.Cons
