import Tmv.Lemmas.NetW
/-! The commit a decided node stores verifies (C01): a node that has decided keeps
`VoteSet.MakeCommit()` of the precommits of its commit round (`seenCommit`); the tally of
`VerifyCommit` over its flags (`commitVerifies`) accepts it. Ingredients: (CS) the canonical vote
slots of the members of a recorded majority bucket hold the majority value: kept by `addVote` and `setPeerMaj23`
(`CSv.kept`), hence at every later stage of a node's vote sets (`CSh.ext`); (PostD) `decided` is
written only by the move `decide`, for the recorded precommit majority of `commitRound`, and a node that
is handled only while undecided makes no move into the commit step afterwards (`PostD_prim`); the bucket
sum is bounded by the weight of the "commit" flags.
Core Lean only. -/

namespace Tmv.Net
open Tmv.Cons

/-- the canonical slots of the members of the majority bucket hold the majority value -/
def CSv (vs : VoteSet) : Prop :=
  ∀ key bv, vs.maj23 = some key → alookup vs.byBlock key = some bv →
    ∀ i ∈ bv.voted, alookup vs.votes i = some key

def CSh (h : HVS) : Prop := HVS.All (fun _ _ => CSv) h

theorem CSv.empty : CSv VoteSet.empty := by intro k bv h; simp [VoteSet.empty] at h

theorem CSv_iff (vs : VoteSet) :
    CSv vs ↔ ∀ key, vs.maj23 = some key → ∀ i ∈ (vs.bucket key).voted, alookup vs.votes i = some key := by
  constructor
  · intro h key hm i hi
    unfold VoteSet.bucket at hi
    cases hb : alookup vs.byBlock key with
    | none => rw [hb] at hi; cases hi
    | some bv => rw [hb] at hi; exact h key bv hm hb i hi
  · intro h key bv hm hb i hi
    exact h key hm i (by rw [VoteSet.bucket_of_some hb]; exact hi)

theorem VoteSet.recordVote_CS (c : Cfg) (vs : VoteSet) (idx : Nat) (key : Bid) (h : CSv vs) :
    CSv (vs.recordVote c idx key) ∧
      ((vs.recordVote c idx key).maj23 = some key → alookup (vs.recordVote c idx key).votes idx = some key) := by
  rw [CSv_iff] at h ⊢
  have hs : ∀ i, alookup (aset vs.votes idx key) i = if i = idx then some key else alookup vs.votes i :=
    fun i => alookup_aset ..
  rcases Cons.VoteSet.recordVote_cases c vs idx key with ⟨_, hn, e⟩ | ⟨_, hm, e⟩ | ⟨hn, e⟩ <;> rw [e]
  · exact ⟨h, fun hm => absurd hm hn⟩
  · refine ⟨fun k hk i hi => ?_, fun _ => by rw [hs, if_pos rfl]⟩
    rw [hs]
    by_cases hi' : i = idx
    · rw [if_pos hi']; exact hm.symm.trans hk
    · rw [if_neg hi']; exact h k hk i hi
  · refine ⟨fun k hk i hi => ?_, fun _ => by rw [hs, if_pos rfl]⟩
    have := h k hk i hi
    rw [hs, if_neg (fun hi' => by rw [hi', hn] at this; cases this)]; exact this

theorem VoteSet.finish_CS (c : Cfg) (vs : VoteSet) (idx : Nat) (key : Bid)
    (hidx : vs.maj23 = some key → alookup vs.votes idx = some key) (h : CSv vs) :
    CSv (VoteSet.finish c vs idx key (vs.bucket key)).1 := by
  rw [CSv_iff] at h ⊢
  obtain ⟨eb, _, hc⟩ := VoteSet.finish_cases c vs idx key (vs.bucket key)
  intro k hk i hi
  rw [VoteSet.bucket_aset eb] at hi
  rcases hc with ⟨em, ev, _⟩ | ⟨_, _, _, em, ev⟩ <;> rw [em] at hk <;> rw [ev]
  · by_cases hkk : k = key
    · subst hkk
      rw [if_pos rfl, BlockVotes.mem_add] at hi
      rcases hi with hi | hi
      · exact h k hk i hi
      · rw [hi]; exact hidx hk
    · rw [if_neg hkk] at hi; exact h k hk i hi
  · cases hk
    rw [if_pos rfl] at hi
    rw [alookup_foldl_aset, if_pos hi]

theorem VoteSet.addVerified_CS (c : Cfg) (vs : VoteSet) (idx : Nat) (key : Bid) (h : CSv vs) :
    CSv (vs.addVerified c idx key).1 := by
  obtain ⟨h1, hidx⟩ := VoteSet.recordVote_CS c vs idx key h
  rw [VoteSet.addVerified_eq]
  split
  · exact h1
  · rw [← VoteSet.bucket_congr (Cons.VoteSet.recordVote_fields c vs idx key).2]
    exact VoteSet.finish_CS c _ idx key hidx h1

theorem VoteSet.addVote_CS (c : Cfg) (vs : VoteSet) (v : Vote) (h : CSv vs) : CSv (vs.addVote c v).1 := by
  rcases VoteSet.addVote_cases c vs v with e | ⟨_, _, _, _, _, e⟩ <;> rw [e]
  · exact h
  · exact VoteSet.addVerified_CS c vs _ _ h

theorem VoteSet.setPeerMaj23_CS (vs : VoteSet) (peer : Peer) (key : Bid) (h : CSv vs) :
    CSv (vs.setPeerMaj23 peer key) := by
  rw [CSv_iff] at h ⊢
  obtain ⟨ev, _, em⟩ := VoteSet.setPeerMaj23_fields vs peer key
  intro k hk i hi
  rw [em] at hk
  rw [(VoteSet.bucket_setPeerMaj23 vs peer key k).1] at hi
  rw [ev]; exact h k hk i hi

theorem CSv.kept (c : Cfg) (B : Vote → Prop) : VoteSet.Kept c B CSv :=
  ⟨CSv.empty, fun vs v _ => VoteSet.addVote_CS c vs v, fun vs p k => VoteSet.setPeerMaj23_CS vs p k⟩

theorem CSh.init : CSh HVS.init := HVS.All.init fun _ => CSv.empty

theorem CSh.getVoteSet {h : HVS} (hq : CSh h) {r : Int} {t : VType} {vs : VoteSet}
    (hg : h.getVoteSet r t = some vs) : CSv vs := hq r t vs hg

theorem CSh.ext {c : Cfg} {A : Int → VType → Vote → Prop} {a b : HVS} (hx : HExt c A a b) (hq : CSh a) : CSh b :=
  hx.all (fun _ _ => CSv.kept c _) hq

variable {c : Cfg}

theorem handleInput_CS {s : NodeState} (i : Input) (h : CSh s.votes) : CSh (handleInput c s i).votes :=
  .ext (handleInput_votes (A := fun _ _ _ => True) s i fun _ _ _ => trivial) h

theorem handleInternal_CS {s : NodeState} (m : Internal) (h : CSh s.votes) : CSh (handleInternal c s m).votes := by
  rw [handleInternal_eq]; exact handleInput_CS _ h

def PostD (t : NodeState) : Prop :=
  ∀ b r, t.decided = some (b, r) → t.commitRound = r ∧ maj23Of (t.votes.precommits r) = some (some b)

theorem PostD.of_none {t : NodeState} (h : t.decided = none) : PostD t := by
  intro b r e; rw [h] at e; cases e

theorem PostD.core {s t : NodeState} (hc : Core t = Core s) (h : PostD s) : PostD t := by
  intro b r e
  rw [core_decided hc] at e
  rw [core_commitRound hc, core_votes hc]
  exact h b r e

theorem PostD.later {A : Int → VType → Vote → Prop} {s t : NodeState} (h : PostD s) (hd : t.decided = s.decided)
    (hr : t.commitRound = s.commitRound) (hx : HExt c A s.votes t.votes) : PostD t := by
  intro b r e
  rw [hd] at e
  exact ⟨hr.trans (h b r e).1, hx.maj23 (h b r e).2⟩

theorem enter_PostD {s : NodeState} (i : Input) (h : PostD s) : PostD (enter c s i) :=
  h.later (enter_framed c s i).decided (enter_framed c s i).commitRound
    (enter_votes (A := fun _ _ _ => True) s i fun _ _ _ => trivial)

theorem PostD_prim {ok : Prop} {s t : NodeState} (hp : Prim c ok (fun s => s.decided = none) s t) (h : PostD s) :
    PostD t := by
  have hx : HExt c (fun _ _ _ => True) s.votes t.votes := hp.votes
  cases hp with
  | panic w => exact h.core (panicWith_core s w)
  | schedule r st | propose r | prevoteWait r | precommitWait r => show PostD (emit s _); exact h.core (emit_core s _)
  | proposeOwn r me =>
    show PostD (decideProposal c _ r me); exact (h.core (emit_core s _)).core (decideProposal_core c _ r me)
  | prevote r bid => show PostD (signAddVote c _ _ _); exact PostD.core (signAddVote_core c _ _ _) h
  | precommit r t x _ _ _ hc =>
    show PostD (signAddVote c t _ x)
    exact PostD.core (signAddVote_core c t _ x) (h.later hc.frame.decided hc.frame.commitRound
      (by rw [hc.frame.votes]; exact HExt.refl c (fun _ _ _ => True) _))
  | newRound r => exact h.later (newRoundReset_frame s r).decided (newRoundReset_frame s r).commitRound hx
  | setRound r hv hs => exact h.later rfl rfl hx
  | commitLocked _ _ _ _ _ _ hcm | commitFetch _ _ _ _ _ _ _ _ hcm | commit _ _ _ _ _ _ _ hcm => exact .of_none hcm
  | decide b _ _ hm =>
    intro b' r' e
    cases e
    exact ⟨emit_commitRound s _, by rw [emit_votes]; exact hm⟩
  | _ => exact h

theorem handleInput_D {s : NodeState} (i : Input) (h : s.decided = none) : PostD (handleInput c s i) :=
  (handleInput_star (ok := False) s i nofun fun _ e => e.trans h).inv (fun _ _ hp => PostD_prim hp) (enter_PostD i (.of_none h))

theorem handleInternal_D {s : NodeState} (m : Internal) (h : s.decided = none) : PostD (handleInternal c s m) := by
  rw [handleInternal_eq]; exact handleInput_D _ h

/-- every vote counts as existing: (W) is used for its quorum and membership clauses only -/
def Etrue : VType → Int → Bid → Nat → Bool := fun _ _ _ _ => true

/-- what `stored_commit_verifies` needs of a reachable node state: (W), the canonical slots, (PostD) -/
structure CI (c : Cfg) (s : NodeState) : Prop where
  w : W c Etrue s
  cs : CSh s.votes
  d : PostD s

theorem stepItem_CI {s : NodeState} (it : Item) (h : CI c s) : CI c (stepItem c s it) :=
  have hv (t : NodeState) (i : Input) : HExt c (fun _ _ _ => True) t.votes (enter c t i).votes :=
    enter_votes t i fun _ _ _ => trivial
  stepItem_invariant (ok := False)
    (fun _ _ hp h => ⟨W_prim hp h.w, .ext (hp.votes (A := fun _ _ _ => True)) h.cs, PostD_prim hp h.d⟩) it
    (fun i _ => ⟨nofun, enter_W i (by intros; rfl) h.w, .ext (hv s i) h.cs, enter_PostD i h.d⟩)
    (fun _ m _ _ => ⟨enter_W m.asInput (by intros; rfl) h.w, .ext (hv _ m.asInput) h.cs, enter_PostD m.asInput h.d⟩) h

/-- states a node can be in: any sequence of items from the initial state -/
inductive NodeReach (c : Cfg) : NodeState → Prop
  | init : NodeReach c NodeState.init
  | item {s : NodeState} (it : Item) : NodeReach c s → NodeReach c (stepItem c s it)

theorem NodeReach.ci {s : NodeState} (hr : NodeReach c s) : CI c s := by
  induction hr with
  | init => exact ⟨W.init c Etrue, CSh.init, PostD.of_none rfl⟩
  | item it _ ih => exact stepItem_CI it ih

/-- the tally of `VerifyCommit` over the flags of `MakeCommit` is the weight of the "commit" flags -/
theorem commitPower_eq (c : Cfg) (vs : VoteSet) :
    commitPower c ((List.range c.n).map (commitFlag vs))
      = VoteLog.wtUpTo c.power (fun i => decide (commitFlag vs i = 2)) c.n := by
  unfold commitPower
  rw [← sum_range_if_eq_wt]
  congr 1
  apply List.map_congr_left
  intro i hi
  rw [getD_map_range _ _ _ _ (List.mem_range.mp hi)]
  simp only [decide_eq_true_eq]

/-- a member of the majority bucket is flagged "commit" -/
theorem commitFlag_member {vs : VoteSet} {b : Nat} {bv : BlockVotes} (hcs : CSv vs)
    (hmaj : vs.maj23 = some (some b)) (hl : alookup vs.byBlock (some b) = some bv) {i : Nat}
    (hi : i ∈ bv.voted) : commitFlag vs i = 2 := by
  have := hcs (some b) bv hmaj hl i hi
  unfold commitFlag
  rw [this]
  simp [hmaj]

/-- **the stored commit verifies**: more than two thirds of the power is flagged "commit" -/
theorem stored_commit_verifies (c : Cfg) (s : NodeState) (hr : NodeReach c s) (b : Nat) (r : Int)
    (hd : s.decided = some (b, r)) :
    ∃ flags, seenCommit c s = some flags ∧ commitVerifies c flags = true := by
  have hci := hr.ci
  obtain ⟨hcr, hm⟩ := hci.d b r hd
  obtain ⟨vs, hg, hmaj⟩ := maj23Of_some hm
  refine ⟨(List.range c.n).map (commitFlag vs), ?_, ?_⟩
  · unfold seenCommit; rw [hcr, hg]; rfl
  · have hg' : s.votes.getVoteSet r .precommit = some vs := hg
    have hq := (quorum_iff c _).1 (hci.w.q.getVoteSet hg' _ hmaj)
    have hle := MSv.blockSum_le (hci.w.m.getVoteSet hg') (some b) (fun i => decide (commitFlag vs i = 2))
      fun bv hl v hv => by simp [commitFlag_member (hci.cs.getVoteSet hg') hmaj hl hv]
    unfold commitVerifies
    rw [commitPower_eq]
    simp only [gt_iff_lt, decide_eq_true_eq]
    omega

end Tmv.Net
