import Tmv.Lemmas.ConsGuard
import Tmv.Lemmas.SyncNet
import Tmv.Lemmas.VoteReachRun
/-! The link between the net's log and the nodes (C03, `correct_votes_never_conflict`): in every net
reachable from `Net.init` (any schedule, any behaviour of the faulty validators)

* every correct node satisfies C02's step-guard invariant `G` (at most one proposal / prevote /
  precommit signed per round) — the timeouts it is given are the ones it scheduled;
* a logged vote carrying a correct validator's index was signed by that node;
* a vote recorded in a node's vote set is the node's own signed vote or a logged vote.

Hence a correct validator's logged vote is the ONLY vote of that validator for that (round, type)
that any correct node can ever have recorded: the `only` hypotheses of `closure_spreads_majority`
hold for correct validators. -/
namespace Tmv.Sync
open Tmv.Cons

/-- the pending timer of a node was scheduled by it (or is the initial `NewHeight` timer of round 0) -/
def PendOK (nd : Node) : Prop :=
  ∀ r st e, nd.tick.pending = some (r, st, e) → r = 0 ∨ Output.schedule r st ∈ nd.s.out

structure NodeOK (nd : Node) : Prop where
  g : G nd.s
  n : N nd.idx [] nd.s
  pend : PendOK nd

structure LogInv (net : Net) : Prop where
  nodes : ∀ nd ∈ net.nodes, NodeOK nd
  idxNodup : (net.nodes.map (·.idx)).Nodup
  /-- a logged vote with a correct validator's index was signed by that node -/
  signed : ∀ nd ∈ net.nodes, ∀ v : Vote, Msg.vote v ∈ net.log → v.val = nd.idx →
    Output.signVote v.typ v.round v.bid ∈ nd.s.out
  /-- a recorded vote is the node's own signed vote or a logged vote -/
  recorded : ∀ nd ∈ net.nodes, ∀ (r : Int) (t : VType) (k : Bid) (u : Nat), nd.s.votes.has r t k u →
    (u = nd.idx ∧ ∃ rn : Nat, (rn : Int) = r ∧ Output.signVote t rn k ∈ nd.s.out) ∨
    (∃ v : Vote, Msg.vote v ∈ net.log ∧ v.val = u ∧ v.typ = t ∧ (v.round : Int) = r ∧ v.bid = k)

/-- indices at different positions of a list with distinct indices differ -/
theorem idx_ne_of_pos_ne {l : List Node} (hn : (l.map (·.idx)).Nodup) {i j : Nat} {a b : Node}
    (hi : l[i]? = some a) (hj : l[j]? = some b) (hij : i ≠ j) : a.idx ≠ b.idx := by
  intro e
  have hi' : (l.map (·.idx))[i]? = some a.idx := by rw [List.getElem?_map, hi]; rfl
  have hj' : (l.map (·.idx))[j]? = some b.idx := by rw [List.getElem?_map, hj]; rfl
  rw [e] at hi'
  have hlti := (List.getElem?_eq_some_iff.1 hi').1
  have hltj := (List.getElem?_eq_some_iff.1 hj').1
  have e1 := (List.getElem?_eq_some_iff.1 hi').2
  have e2 := (List.getElem?_eq_some_iff.1 hj').2
  exact hij ((List.getElem_inj (h₀ := hlti) (h₁ := hltj) hn).1 (by rw [e1, e2]))

theorem LogInv.init (correct : List Nat) (hn : correct.Nodup) : LogInv (Net.init correct) := by
  have hnodes : ∀ nd ∈ (Net.init correct).nodes, ∃ i, nd = ⟨i, .init, 0, .init⟩ := by
    intro nd hm
    unfold Net.init at hm
    simp only [List.mem_map] at hm
    obtain ⟨i, _, e⟩ := hm
    exact ⟨i, e.symm⟩
  refine ⟨?_, ?_, ?_, ?_⟩
  · intro nd hm
    obtain ⟨i, e⟩ := hnodes nd hm
    subst e
    refine ⟨init_G, N.init i, ?_⟩
    intro r st e h
    simp only [Ticker.init, Option.some.injEq, Prod.mk.injEq] at h
    exact Or.inl h.1.symm
  · unfold Net.init
    simp only [List.map_map]
    have : ((fun x : Node => x.idx) ∘ fun i => (⟨i, .init, 0, .init⟩ : Node)) = id := by funext i; rfl
    rw [this, List.map_id]; exact hn
  · intro nd _ v hv
    simp [Net.init] at hv
  · intro nd hm r t k u hh
    obtain ⟨i, e⟩ := hnodes nd hm
    subst e
    obtain ⟨vs, hg, hv⟩ := hh
    have hg' : HVS.init.getVoteSet r t = some vs := hg
    rw [getVoteSet_init] at hg'
    split at hg'
    · cases hg'; exact absurd hv (VoteSet.empty_has k u)
    · cases hg'

/-- what an input may be for the invariant to be kept: a timeout only for a round reached, a vote
only from the log and not the node's own -/
def InputOK (net : Net) (nd : Node) (inp : Input) : Prop :=
  inp.notFuture nd.s ∧ ∀ v peer, inp = Input.vote v peer → Msg.vote v ∈ net.log ∧ v.val ≠ nd.idx

theorem input_LogInv (c : SCfg) (net : Net) (i : Nat) (inp : Input) (h : LogInv net)
    (hok : ∀ nd, net.nodes[i]? = some nd → InputOK net nd inp) : LogInv (net.input c i inp) := by
  cases hi : net.nodes[i]? with
  | none => rw [input_none hi]; exact h
  | some nd =>
    obtain ⟨nd', hn, hidx, hs, ⟨ext, hext⟩, hvotes, hpend⟩ := input_spec c net i inp nd hi
    have hmem : nd ∈ net.nodes := List.mem_of_getElem? hi
    have hlt := (List.getElem?_eq_some_iff.1 hi).1
    obtain ⟨hnf, hvote⟩ := hok nd hi
    have hnd := h.nodes nd hmem
    have hsub : ∀ o ∈ nd.s.out, o ∈ nd'.s.out := by
      obtain ⟨new, hnew⟩ := (step_N (c := nodeCfg c.cfg nd.idx) (base := nd.s.out) rfl inp hnd.n.rebase).ext
      rw [hs, hnew]; exact fun o ho => List.mem_append_left _ ho
    have hlogmono : ∀ m ∈ net.log, m ∈ (net.input c i inp).log := by
      rw [hext]; exact fun m hm => List.mem_append_left _ hm
    have hnodes' : ∀ x ∈ (net.input c i inp).nodes, (x ∈ net.nodes ∧ x.idx ≠ nd.idx) ∨ x = nd' := by
      intro x hx
      rw [hn] at hx
      obtain ⟨j, hj⟩ := List.getElem?_of_mem hx
      by_cases hij : i = j
      · subst hij
        rw [List.getElem?_set_self hlt] at hj
        exact Or.inr (Option.some.inj hj).symm
      · rw [List.getElem?_set_ne hij] at hj
        exact Or.inl ⟨List.mem_of_getElem? hj, fun e => idx_ne_of_pos_ne h.idxNodup hi hj hij e.symm⟩
    refine ⟨?_, ?_, ?_, ?_⟩
    · intro x hx
      rcases hnodes' x hx with ⟨hx', _⟩ | hx'
      · exact h.nodes x hx'
      · subst hx'
        refine ⟨hs ▸ step_G inp hnf hnd.g, by rw [hidx, hs]; exact step_N rfl inp hnd.n, ?_⟩
        intro r st e hp
        rcases hpend r st e hp with h1 | h1
        · exact (hnd.pend r st e h1).imp_right (hsub _)
        · exact Or.inr h1
    · rw [hn, map_idx_set hi hidx]; exact h.idxNodup
    · intro x hx v hv hval
      rcases hnodes' x hx with ⟨hx', hne⟩ | hx'
      · rcases hvotes v hv with h1 | ⟨h1, _⟩
        · exact h.signed x hx' v h1 hval
        · exact absurd (hval.symm.trans h1) hne
      · subst hx'
        rcases hvotes v hv with h1 | ⟨_, h1⟩
        · exact hsub _ (h.signed nd hmem v h1 (hval.trans hidx))
        · exact h1
    · intro x hx r t k u hh
      rcases hnodes' x hx with ⟨hx', _⟩ | hx'
      · exact (h.recorded x hx' r t k u hh).imp_right fun ⟨v, hv, h2⟩ => ⟨v, hlogmono _ hv, h2⟩
      · subst hx'
        rw [hidx]
        have hX := (step_XO (c := nodeCfg c.cfg nd.idx) (me := nd.idx) (base := []) (outF := x.s.out)
          (E := fun w => Msg.vote w ∈ net.log ∧ w.val ≠ nd.idx) (h0 := nd.s.votes) rfl inp
          (fun v peer hv => hvote v peer hv) ⟨hnd.n, fun _ => HExt.refl _ _ _⟩).2 (fun _ ho => hs ▸ ho)
        rcases hX.has_back (hs ▸ hh) with h1 | ⟨w, ⟨hr, ht, hsrc⟩, hb, hu⟩
        · rcases h.recorded nd hmem r t k u h1 with ⟨e, rn, hrn, ho⟩ | ⟨v, hv, h2⟩
          · exact Or.inl ⟨e, rn, hrn, hsub _ ho⟩
          · exact Or.inr ⟨v, hlogmono _ hv, h2⟩
        · rcases hsrc with ⟨hl, _⟩ | ⟨hme, ho⟩
          · exact Or.inr ⟨w, hlogmono _ hl, hu, ht, hr, hb⟩
          · refine Or.inl ⟨hu.symm.trans hme, w.round, hr, ?_⟩
            rw [← ht, ← hb]; exact ho

theorem LogInv.set_same {n n' : Net} (h : LogInv n) {i : Nat} {nd nd' : Node} (hi : n.nodes[i]? = some nd)
    (hn : n'.nodes = n.nodes.set i nd') (hidx : nd'.idx = nd.idx) (hs : nd'.s = nd.s) (hp : PendOK nd')
    (hl : n'.log = n.log) : LogInv n' := by
  have hmem : nd ∈ n.nodes := List.mem_of_getElem? hi
  have hnodes : ∀ x ∈ n'.nodes, ∃ y ∈ n.nodes, x.idx = y.idx ∧ x.s = y.s ∧ (x = y ∨ x = nd') := by
    intro x hx
    rw [hn] at hx
    rcases List.mem_or_eq_of_mem_set hx with hx | hx
    · exact ⟨x, hx, rfl, rfl, Or.inl rfl⟩
    · exact ⟨nd, hmem, hx ▸ hidx, hx ▸ hs, Or.inr hx⟩
  refine ⟨?_, ?_, ?_, ?_⟩
  · intro x hx
    obtain ⟨y, hy, _, _, e | e⟩ := hnodes x hx
    · rw [e]; exact h.nodes y hy
    · have hnd := h.nodes nd hmem
      rw [e]; exact ⟨hs ▸ hnd.g, by rw [hidx, hs]; exact hnd.n, hp⟩
  · rw [hn, map_idx_set hi hidx]; exact h.idxNodup
  · intro x hx v hv hval
    obtain ⟨y, hy, e1, e2, _⟩ := hnodes x hx
    rw [e2]; exact h.signed y hy v (hl ▸ hv) (hval.trans e1)
  · intro x hx r t k u hh
    obtain ⟨y, hy, e1, e2, _⟩ := hnodes x hx
    rw [hl, e1, e2]; exact h.recorded y hy r t k u (e2 ▸ hh)

theorem inputOK_msg {net : Net} {nd : Node} {k : Nat} {m : Msg} (hk : net.log[k]? = some m)
    (hown : m.own nd.idx = false) : InputOK net nd m.toInput := by
  refine ⟨by cases m <;> exact trivial, ?_⟩
  intro v peer hv
  cases m with
  | proposal p => cases hv
  | block b => cases hv
  | vote w =>
    simp only [Msg.toInput, Input.vote.injEq] at hv
    obtain ⟨e, _⟩ := hv
    subst e
    exact ⟨List.mem_of_getElem? hk, fun e => by simp [Msg.own, Msg.signer, e] at hown⟩

theorem inputOK_claim (net : Net) (nd : Node) (r : Nat) (t : VType) (peer : Peer) (b : Bid) :
    InputOK net nd (.peerMaj23 r t peer b) :=
  ⟨trivial, fun _ _ hv => by cases hv⟩

theorem inputOK_timeout {net : Net} {nd nd' : Node} (h : NodeOK nd) {r : Nat} {st : Step} {e : Nat}
    (hp : nd.tick.pending = some (r, st, e)) (hs : nd'.s = nd.s) : InputOK net nd' (.timeout r st) := by
  refine ⟨?_, fun _ _ hv => by cases hv⟩
  show r ≤ nd'.s.round
  rw [hs]
  rcases h.pend r st e hp with h1 | h1
  · omega
  · exact h.n.sched r st h1

def KeptByInputs (c : SCfg) (X : Nat → NodeState → Prop) : Prop :=
  ∀ (net : Net) (nd : Node) (inp : Input), LogInv net → nd ∈ net.nodes → InputOK net nd inp → X nd.idx nd.s →
    X nd.idx (Cons.step (nodeCfg c.cfg nd.idx) nd.s inp)

section
variable {c : SCfg} {X : Nat → NodeState → Prop} (hX : KeptByInputs c X)
include hX

theorem input_LogInv_allNodes (net : Net) (i : Nat) (inp : Input) (h : LogInv net) (hx : AllNodes X net)
    (hok : ∀ nd, net.nodes[i]? = some nd → InputOK net nd inp) :
    LogInv (net.input c i inp) ∧ AllNodes X (net.input c i inp) := by
  refine ⟨input_LogInv c net i inp h hok, ?_⟩
  cases hi : net.nodes[i]? with
  | none => rw [input_none hi]; exact hx
  | some nd =>
    obtain ⟨nd', hn, hidx, hs, _⟩ := input_spec c net i inp nd hi
    have hmem : nd ∈ net.nodes := List.mem_of_getElem? hi
    intro x hm
    rw [hn] at hm
    rcases List.mem_or_eq_of_mem_set hm with hm | hm
    · exact hx x hm
    · rw [hm, hidx, hs]; exact hX net nd inp h hmem (hok nd hi) (hx nd hmem)

theorem Move.logInv_allNodes {n n' : Net} (h : Move c n n') (hi : LogInv n) (hx : AllNodes X n) :
    LogInv n' ∧ AllNodes X n' := by
  cases h with
  | @deliver i k nd m hnd hk hown =>
    refine input_LogInv_allNodes hX n i _ hi hx (fun nd' h' => ?_)
    rw [hnd] at h'; cases h'; exact inputOK_msg hk hown
  | claim i r t peer b => exact input_LogInv_allNodes hX n i _ hi hx (fun nd _ => inputOK_claim ..)
  | @timeout i nd r st e hnd hp =>
    -- the net with the timer cleared, then the timeout as an input
    have hmem : nd ∈ n.nodes := List.mem_of_getElem? hnd
    have hlt := (List.getElem?_eq_some_iff.1 hnd).1
    refine input_LogInv_allNodes hX _ i _ (hi.set_same hnd rfl rfl rfl (fun _ _ _ hh => by cases hh) rfl) ?_ ?_
    · intro x hm
      rcases List.mem_or_eq_of_mem_set hm with hm | hm
      · exact hx x hm
      · rw [hm]; exact hx nd hmem
    · intro nd' h'
      rw [show (setNode n.nodes i _)[i]? = some _ from List.getElem?_set_self hlt] at h'
      cases h'
      exact inputOK_timeout (hi.nodes nd hmem) hp rfl
  | @byz m hm =>
    refine ⟨⟨hi.nodes, hi.idxNodup, ?_, ?_⟩, hx⟩
    · intro nd hnd v hv hval
      rcases mem_logAdd.1 hv with h1 | h1
      · exact hi.signed nd hnd v h1 hval
      · exact absurd hval (hm v.val (by rw [← h1]; rfl) nd hnd).symm
    · intro nd hnd r t k u hh
      rcases hi.recorded nd hnd r t k u hh with h1 | ⟨v, hv, h2⟩
      · exact Or.inl h1
      · exact Or.inr ⟨v, mem_logAdd.2 (Or.inl hv), h2⟩
  | flags => exact ⟨⟨hi.nodes, hi.idxNodup, hi.signed, hi.recorded⟩, hx⟩

theorem Moves.logInv_allNodes {n n' : Net} (h : Moves c n n') (hi : LogInv n) (hx : AllNodes X n) :
    LogInv n' ∧ AllNodes X n' :=
  h.inv (P := fun n => LogInv n ∧ AllNodes X n) (fun _ _ m hn => m.logInv_allNodes hX hn.1 hn.2) ⟨hi, hx⟩

end

theorem Moves.logInv {c : SCfg} {n n' : Net} (h : Moves c n n') (hi : LogInv n) : LogInv n' :=
  (h.logInv_allNodes (X := fun _ _ => True) (fun _ _ _ _ _ _ _ => trivial) hi (fun _ _ => trivial)).1

theorem Reach.logInv {c : SCfg} {correct : List Nat} {net : Net} (h : Reach c correct net) (hn : correct.Nodup) :
    LogInv net :=
  Moves.logInv h (LogInv.init correct hn)

/-- two nodes of a net with the same index are the same node -/
theorem node_eq_of_idx {net : Net} (h : LogInv net) {a b : Node} (ha : a ∈ net.nodes) (hb : b ∈ net.nodes)
    (e : a.idx = b.idx) : a = b := by
  obtain ⟨i, hi⟩ := List.getElem?_of_mem ha
  obtain ⟨j, hj⟩ := List.getElem?_of_mem hb
  by_cases hij : i = j
  · subst hij; rw [hi] at hj; exact Option.some.inj hj
  · exact absurd e (idx_ne_of_pos_ne h.idxNodup hi hj hij)

/-- **a correct validator's logged vote is the only vote of that validator for that (round, type)
at every correct node** (itself included): `ndu` is a correct node of the net, its vote `v` is in the
log ⇒ `nd` holds no vote of `ndu` for another value in that set. -/
theorem only_of_logged (net : Net) (h : LogInv net) (nd ndu : Node)
    (hm : nd ∈ net.nodes) (hmu : ndu ∈ net.nodes)
    (v : Vote) (hv : Msg.vote v ∈ net.log) (hval : v.val = ndu.idx) :
    nd.s.votes.only (v.round : Int) v.typ v.bid ndu.idx := by
  intro vs hg k hk
  have s1 := h.signed ndu hmu v hv hval
  -- a vote of `ndu` that `nd` holds was signed by `ndu`: it is `nd`'s own, or it is in the log
  have s2 : Output.signVote v.typ v.round k ∈ ndu.s.out := by
    rcases h.recorded nd hm _ _ _ _ ⟨vs, hg, hk⟩ with ⟨e, rn, hrn, ho⟩ | ⟨w, hw, hwval, hwt, hwr, hwb⟩
    · have e' : ndu = nd := node_eq_of_idx h hmu hm e
      have hrn' : rn = v.round := by exact_mod_cast hrn
      rw [e', ← hrn']; exact ho
    · have hwr' : w.round = v.round := by exact_mod_cast hwr
      have := h.signed ndu hmu w hw hwval
      rwa [hwt, hwr', hwb] at this
  -- and `ndu` signs one vote per round and type
  exact (h.nodes ndu hmu).g.vote_uniq s2 s1


end Tmv.Sync
