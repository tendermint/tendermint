import Tmv.Lemmas.ConsPrim
/-! Lock discipline: (A) `LockedRound ≤ Round`, with equality only from the precommit step on;
(T) once a block precommit is signed, the node is locked on that block until a +2/3 prevote majority
for something else in a later round is recorded, and its later prevotes respect that.
(A) is proved here (`A_prim`, `step_A`); (T) is defined here and proved in ConsLock2. -/
namespace Tmv.Cons

/-- (A): the lock is never ahead of the round, and is of the current round only from the
precommit step on (`6` is `Step.precommit.rank`) -/
def AI (r : Nat) (st : Step) (lr : Int) : Prop := lr ≤ (r : Int) ∧ (lr = (r : Int) → 6 ≤ st.rank)

abbrev A (s : NodeState) : Prop := AI s.round s.step s.lockedRound

section
variable {c : Cfg}

theorem A.core {s t : NodeState} (hc : Core t = Core s) (h : A s) : A t := by
  show AI _ _ _
  rw [core_round hc, core_step hc, core_lockedRound hc]; exact h

/-- entering a step up to precommit (`k` is the rank the guard compares with): either the round
grows past the lock, or the step was before `k`, so the lock was not of this round -/
theorem A_enter {s : NodeState} (t : NodeState) (r : Nat) (st : Step) {k : Nat} (ht : t.lockedRound = s.lockedRound)
    (hg : ¬(r < s.round ∨ (s.round = r ∧ k ≤ s.step.rank))) (hk : k ≤ Step.precommit.rank) (h : A s) :
    A { t with round := r, step := st } := by
  show AI r st t.lockedRound
  rw [ht]
  rw [rank_precommit] at hk
  unfold A AI at h
  constructor <;> omega

theorem A.lt_of_guard {s : NodeState} {r : Nat} (h : A s)
    (hg : ¬(r < s.round ∨ (s.round = r ∧ Step.precommit.rank ≤ s.step.rank))) : s.lockedRound < (r : Int) := by
  unfold A AI at h
  rw [rank_precommit] at hg
  omega

theorem A_precommit (t : NodeState) (r : Nat) (hl : t.lockedRound ≤ (r : Int)) :
    A { t with round := r, step := .precommit } := ⟨hl, fun _ => Nat.le_refl 6⟩

theorem newRoundReset_A {s : NodeState} (r : Nat) (hg : ¬(r < s.round ∨ s.round = r ∧ s.step ≠ Step.newHeight))
    (h : A s) : A (newRoundReset s r) := by
  have hf := newRoundReset_frame s r
  show AI _ _ _
  rw [hf.round, hf.lockedRound, hf.step]
  obtain ⟨hle, hst⟩ := h
  rcases newRound_of_guard hg with hlt | ⟨e, hs⟩
  · exact ⟨by omega, fun e' => by omega⟩
  · -- in `NewHeight` the lock is not of this round
    rw [hs] at hst
    subst e
    exact ⟨hle, fun e' => absurd (hst e') (by decide)⟩

theorem enter_A {s : NodeState} (i : Input) (h : A s) : A (enter c s i) := by
  have hf := enter_framed c s i
  show AI _ _ _
  rw [hf.round, hf.step, hf.lockedRound]; exact h

/-- the lock round is set in `enterPrecommit` only, to the round entered together with the step -/
theorem A_prim {ok : Prop} {cm : NodeState → Prop} {s t : NodeState} (hp : Prim c ok cm s t) (h : A s) : A t := by
  cases hp with
  | panic w => exact h.core (panicWith_core s w)
  | schedule r st | precommitWait r | decide b => exact (h.core (emit_core s _) : A (emit s _))
  | newRound r _ hg => exact newRoundReset_A r hg h
  | propose r _ hg | prevoteWait r _ hg => exact A_enter _ r _ (emit_lockedRound s _) hg (by decide) h
  | proposeOwn r me _ hg =>
    exact A_enter _ r _ ((decideProposal_lockedRound c _ r me).trans (emit_lockedRound s _)) hg (by decide) h
  | prevote r bid _ hg => exact A_enter _ r _ (signAddVote_lockedRound c s _ _) hg (by decide) h
  | precommit r t x _ hg _ hc =>
    cases hc with
    | nil => exact A_enter _ r _ (signAddVote_lockedRound c s _ _) hg (by decide) h
    | unlock | fetch =>
      refine A_precommit _ r ?_
      rw [signAddVote_lockedRound]
      show (-1 : Int) ≤ r
      omega
    | relock | lock =>
      refine A_precommit _ r ?_
      rw [signAddVote_lockedRound]
      exact Int.le_refl _
  | commit r | commitLocked r | commitFetch r => exact ⟨h.1, fun _ => (by decide : 6 ≤ Step.commit.rank)⟩
  | unlock vr => exact ⟨by show (-1 : Int) ≤ s.round; omega, fun e => by have : (-1 : Int) = s.round := e; omega⟩
  | _ => exact h

theorem step_A {s : NodeState} (i : Input) (h : A s) : A (step c s i) :=
  step_invariant (ok := False) (fun _ _ hp => A_prim hp) (fun s m rest _ h => enter_A (s := { s with queue := rest }) m.asInput h)
    s i nofun (enter_A i) h

end

/-- a +2/3 prevote majority for something other than block `b` is recorded for a round in `(lo, hi]` -/
def Polka (v : HVS) (lo : Int) (hi : Nat) (b : Nat) : Prop :=
  ∃ (r'' : Nat) (y : Bid), lo < (r'' : Int) ∧ r'' ≤ hi ∧ y ≠ some b ∧ maj23Of (v.prevotes (r'' : Int)) = some y

theorem Polka.mono {v v' : HVS} {lo lo' : Int} {hi hi' : Nat} {b : Nat} (h : Polka v lo hi b)
    (hs : Stable v v') (h1 : lo' ≤ lo) (h2 : hi ≤ hi') : Polka v' lo' hi' b := by
  obtain ⟨r, y, a, b', c', d⟩ := h
  exact ⟨r, y, by omega, by omega, c', hs _ _ d⟩

/-- (T): votes signed so far vs. lock and recorded majorities -/
structure TR (r : Nat) (lr : Int) (lb : Option Nat) (v : HVS) (out : List Output) : Prop where
  /-- signed votes are for rounds reached -/
  a4 : ∀ t r' x, Output.signVote t r' x ∈ out → r' ≤ r
  /-- a signed block precommit is still the lock, or a later polka for something else is recorded -/
  k : ∀ r₀ b, Output.signVote .precommit r₀ (some b) ∈ out → (lb = some b ∧ (r₀ : Int) ≤ lr) ∨ Polka v r₀ r b
  /-- a prevote for something else in a later round has such a polka no later than its own round -/
  p : ∀ r₀ b r' x, Output.signVote .precommit r₀ (some b) ∈ out → Output.signVote .prevote r' x ∈ out →
      r₀ < r' → x ≠ some b → Polka v r₀ r' b

abbrev T (s : NodeState) : Prop := TR s.round s.lockedRound s.lockedBlock s.votes s.out

theorem TR.init : TR 0 (-1) none HVS.init [] := ⟨by simp, by simp, by simp⟩

theorem TR.mono_round {r r' lr lb v out} (h : TR r lr lb v out) (hr : r ≤ r') : TR r' lr lb v out :=
  ⟨fun t r₀ x hm => Nat.le_trans (h.a4 t r₀ x hm) hr,
   fun r₀ b hm => (h.k r₀ b hm).imp id (fun q => q.mono (Stable.refl _) (Int.le_refl _) hr),
   h.p⟩

theorem TR.stable {r lr lb v v' out} (h : TR r lr lb v out) (hs : Stable v v') : TR r lr lb v' out :=
  ⟨h.a4,
   fun r₀ b hm => (h.k r₀ b hm).imp id (fun q => q.mono hs (Int.le_refl _) (Nat.le_refl _)),
   fun r₀ b r' x h1 h2 h3 h4 => (h.p r₀ b r' x h1 h2 h3 h4).mono hs (Int.le_refl _) (Nat.le_refl _)⟩

def isVote : Output → Prop
  | .signVote _ _ _ => True
  | _ => False

theorem TR.push_other {r lr lb v out} (h : TR r lr lb v out) (o : Output) (ho : ¬ isVote o) :
    TR r lr lb v (out ++ [o]) := by
  have hne : ∀ t r' x, o ≠ Output.signVote t r' x := by
    intro t r' x e; subst e; exact ho trivial
  refine ⟨?_, ?_, ?_⟩
  · intro t r' x hm
    rcases List.mem_append.1 hm with a | a
    · exact h.a4 t r' x a
    · simp at a; exact absurd a.symm (hne _ _ _)
  · intro r₀ b hm
    rcases List.mem_append.1 hm with a | a
    · exact h.k r₀ b a
    · simp at a; exact absurd a.symm (hne _ _ _)
  · intro r₀ b r' x h1 h2 h3 h4
    rcases List.mem_append.1 h1 with a | a
    · rcases List.mem_append.1 h2 with a' | a'
      · exact h.p r₀ b r' x a a' h3 h4
      · simp at a'; exact absurd a'.symm (hne _ _ _)
    · simp at a; exact absurd a.symm (hne _ _ _)

/-- signing a prevote for `x` in the current round, where `x` is the locked block if there is one -/
theorem TR.push_pv {r lr lb v out} (h : TR r lr lb v out) (x : Bid) (hx : ∀ b, lb = some b → x = some b) :
    TR r lr lb v (out ++ [.signVote .prevote r x]) := by
  refine ⟨?_, ?_, ?_⟩
  · intro t r' x' hm
    rcases List.mem_append.1 hm with a | a
    · exact h.a4 t r' x' a
    · simp at a; omega
  · intro r₀ b hm
    rcases List.mem_append.1 hm with a | a
    · exact h.k r₀ b a
    · simp at a
  · intro r₀ b r' x' h1 h2 h3 h4
    rcases List.mem_append.1 h1 with a | a
    · rcases List.mem_append.1 h2 with a' | a'
      · exact h.p r₀ b r' x' a a' h3 h4
      · simp at a'
        obtain ⟨rfl, rfl⟩ := a'
        rcases h.k r₀ b a with ⟨hl, _⟩ | hp
        · exact absurd (hx b hl) h4
        · exact hp
    · simp at a

/-- signing a precommit in the current round: nil, or the block locked in this round -/
theorem TR.push_pc {r lr lb v out} (h : TR r lr lb v out) (x : Bid)
    (hx : ∀ b, x = some b → lb = some b ∧ lr = (r : Int)) :
    TR r lr lb v (out ++ [.signVote .precommit r x]) := by
  refine ⟨?_, ?_, ?_⟩
  · intro t r' x' hm
    rcases List.mem_append.1 hm with a | a
    · exact h.a4 t r' x' a
    · simp at a; omega
  · intro r₀ b hm
    rcases List.mem_append.1 hm with a | a
    · exact h.k r₀ b a
    · simp at a
      obtain ⟨rfl, rfl⟩ := a
      have := hx b rfl
      exact Or.inl ⟨this.1, by omega⟩
  · intro r₀ b r' x' h1 h2 h3 h4
    rcases List.mem_append.1 h2 with a' | a'
    · rcases List.mem_append.1 h1 with a | a
      · exact h.p r₀ b r' x' a a' h3 h4
      · simp at a
        obtain ⟨rfl, rfl⟩ := a
        have := h.a4 _ _ _ a'
        omega
    · simp at a'

/-- changing the lock: every block that was locked stays locked (no earlier), or a polka for something
else in a round after the old lock round is recorded -/
theorem TR.relock {r lr lb v out} (h : TR r lr lb v out) (lr' : Int) (lb' : Option Nat)
    (hc : ∀ b, lb = some b → (lb' = some b ∧ lr ≤ lr') ∨ Polka v lr r b) :
    TR r lr' lb' v out := by
  refine ⟨h.a4, ?_, h.p⟩
  intro r₀ b hm
  rcases h.k r₀ b hm with ⟨hl, hle⟩ | hp
  · rcases hc b hl with ⟨e, hle'⟩ | hp
    · exact Or.inl ⟨e, by omega⟩
    · exact Or.inr (hp.mono (Stable.refl _) hle (Nat.le_refl _))
  · exact Or.inr hp

end Tmv.Cons
