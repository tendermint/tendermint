import Tmv.Lemmas.ValRotate
/-! `IncrementProposerPriority(k)` for arbitrary `k ≥ 1`: one normalisation, then `k` raw
rotations.  Bounds that do not depend on `k`: the sum of priorities is invariant, every priority
stays ≥ −2·total, hence ≤ 2·total·n + n. -/
namespace Tmv.ValSet

/-- from a lower bound on everybody and the sum, an upper bound on each -/
theorem upper_of_lower_sum (l : List Val) (L : Int) (hlow : ∀ v ∈ l, -L ≤ v.prio) :
    ∀ v ∈ l, v.prio ≤ prioSum l + L * ((l.length : Int) - 1) := by
  induction l with
  | nil => intro v hv; cases hv
  | cons x r ih =>
    have hr : ∀ w ∈ r, -L ≤ w.prio := fun w hw => hlow w (List.mem_cons_of_mem _ hw)
    have hsum := prioSum_ge r (-L) hr
    rw [Int.neg_mul] at hsum
    intro v hv
    simp only [prioSum, List.length_cons, Int.natCast_succ]
    have hx := hlow x List.mem_cons_self
    have e : L * ((r.length : Int) + 1 - 1) = L * (r.length : Int) := by
      congr 1; omega
    rw [e]
    rcases List.mem_cons.mp hv with e1 | hv'
    · rw [e1]; omega
    · have h1 := ih hr v hv'
      have e2 : L * ((r.length : Int) - 1) = L * (r.length : Int) - L := by
        rw [Int.mul_sub, Int.mul_one]
      rw [e2] at h1
      omega

/-- invariant of the raw rotation loop of `IncrementProposerPriority(k)` -/
structure LoopInv (l0 l : List Val) (T : Int) : Prop where
  ap : SameAP l l0
  sum : prioSum l = prioSum l0
  low : ∀ v ∈ l, -(2 * T) ≤ v.prio

theorem LoopInv.upper {l0 l : List Val} {T : Int} (hi : LoopInv l0 l T) :
    ∀ v ∈ l, v.prio ≤ prioSum l0 + (2 * (T * (l0.length : Int)) - 2 * T) := by
  have hup := upper_of_lower_sum l (2 * T) hi.low
  rwa [hi.sum, hi.ap.length, Int.mul_sub, Int.mul_one, Int.mul_assoc] at hup

theorem incrOnce_loop (l0 l : List Val) (T : Int) (hwf : WF l0) (hT0 : sumPower l0 = T)
    (hS1 : 0 ≤ prioSum l0) (hS2 : prioSum l0 < (l0.length : Int))
    (hB : 2 * (T * (l0.length : Int)) + (l0.length : Int) ≤ prioCap) (hi : LoopInv l0 l T) :
    LoopInv l0 (incrOnce l T).1 T ∧ ∃ p, (incrOnce l T).2 = some p ∧ p ∈ (incrOnce l T).1 := by
  obtain ⟨hT1, hT2, _, hpw0⟩ := hwf.arith
  rw [hT0] at hT1 hT2 hpw0
  have hlne := hi.ap.ne_nil hwf.ne
  have hn1 : 1 ≤ (l0.length : Int) := natCast_length_pos hwf.ne
  have hTn : T ≤ T * (l0.length : Int) := by
    have := Int.mul_le_mul_of_nonneg_left hn1 (by omega : (0 : Int) ≤ T)
    rw [Int.mul_one] at this; exact this
  have hpb : PBound (2 * (T * (l0.length : Int)) + (l0.length : Int)) l := by
    intro v hv
    have := hi.low v hv
    have := hi.upper v hv
    omega
  have hpw : ∀ v ∈ l, 0 ≤ v.power ∧ v.power ≤ T :=
    hi.ap.powers_of (P := fun p => 0 ≤ p ∧ p ≤ T) hpw0
  have hlnd : (l.map (·.addr)).Nodup := by rw [hi.ap.addrs]; exact hwf.nodup
  obtain ⟨m, hm, _, hmax, hout⟩ := incrOnce_spec l T (2 * (T * (l0.length : Int)) + (l0.length : Int))
    hlne hlnd (by unfold prioCap at hB; unfold maxI64; omega) hpw hpb
  have hsp : sumPower l = T := by rw [hi.ap.sumPower, hT0]
  rw [hout]
  refine ⟨⟨(rotate_sameAP l m T).trans hi.ap, ?_, ?_⟩, ⟨_, rfl, mem_rotate_self T hm⟩⟩
  · show prioSum (rotate l m T) = prioSum l0
    rw [prioSum_rotate _ _ _ hlnd, if_pos (List.mem_map.mpr ⟨m, hm, rfl⟩), hsp, hi.sum]; omega
  · -- the proposer's `priority + power` is positive: all of them sum to `prioSum l0 + T ≥ 1`
    have hmpos : 1 ≤ m.prio + m.power := by
      apply Classical.byContradiction
      intro hcon
      have := prioSum_le (l.map (fun v => setPrio v (v.prio + v.power))) 0 (fun x hx => by
        obtain ⟨v, hv, rfl⟩ := mem_map_setPrio hx
        have := hmax v hv; simp only [setPrio]; omega)
      rw [prioSum_map_add, hi.sum, hsp] at this
      omega
    intro x hx
    obtain ⟨v, hv, rfl⟩ := mem_map_setPrio (show x ∈ rotate l m T from hx)
    have := hi.low v hv; have := (hpw v hv).1
    simp only [setPrio]
    by_cases hvm : v.addr = m.addr
    · rw [eq_of_addr_eq l hlnd v m hv hm hvm, if_pos rfl]; omega
    · rw [if_neg hvm]; omega

theorem incrLoop_inv (k : Nat) (l0 l : List Val) (T : Int) (p : Option Val) (hwf : WF l0)
    (hT0 : sumPower l0 = T) (hS1 : 0 ≤ prioSum l0) (hS2 : prioSum l0 < (l0.length : Int))
    (hB : 2 * (T * (l0.length : Int)) + (l0.length : Int) ≤ prioCap) (hi : LoopInv l0 l T) :
    LoopInv l0 (incrLoop k l T p).1 T ∧
    (1 ≤ k → ∃ q, (incrLoop k l T p).2 = some q ∧ q ∈ (incrLoop k l T p).1) := by
  induction k generalizing l p with
  | zero => exact ⟨hi, fun h => by omega⟩
  | succ j ih =>
    unfold incrLoop
    obtain ⟨h1, h2⟩ := incrOnce_loop l0 l T hwf hT0 hS1 hS2 hB hi
    obtain ⟨i1, i2⟩ := ih (incrOnce l T).1 (incrOnce l T).2 h1
    refine ⟨i1, fun _ => ?_⟩
    cases j with
    | zero => simp only [incrLoop]; exact h2
    | succ j' => exact i2 (by omega)

end Tmv.ValSet
