import Tmv.Lemmas.SyncNet
import Tmv.Lemmas.VoteReachRun
/-! What `closure` (the idealised gossip of C03) achieves: when the closure loop ends because a
gossip pass changed nothing, every logged message has been handed to every node during that last
pass, at a state between the node's state at the start and at the end of the pass
(`pass_fixpoint_delivery`; read at the closed net: `Net.closureConverged.delivery`). For votes: a node
that is live, tracks the vote's round and holds no conflicting vote of that validator has the vote
recorded. -/
namespace Tmv.Sync
open Tmv.Cons

/-- inside a gossip pass log entry `k` is handed to node `i` -/
theorem pass_through (c : SCfg) (n0 : Net) {i k : Nat} (hi : i < n0.nodes.length) (hk : k < n0.log.length) :
    ∃ n2, Moves c n0 n2 ∧ Moves c (n2.deliver c i k) (n0.pass c) := by
  obtain ⟨b1, hb1, hb1'⟩ := Moves.foldl_through (fun net i => net.passNode c i) (passNode_moves c)
    (List.range n0.nodes.length) i (List.mem_range.2 hi) n0
  let bc : Net := (List.range b1.nodes.length).foldl (fun net j => net.claim c i j) b1
  have hbc : Moves c n0 bc := hb1.trans (Moves.foldl (fun net j => net.claim c i j) (claim_moves c i) _ b1)
  have hklt : k < bc.log.length := by
    obtain ⟨e, he⟩ := hbc.log_ext
    rw [he, List.length_append]; omega
  obtain ⟨b2, hb2, hb2'⟩ := Moves.foldl_through (fun net k => net.deliver c i k) (deliver_moves c i)
    (List.range bc.log.length) k (List.mem_range.2 hklt) bc
  exact ⟨b2, hbc.trans hb2, Star.trans (b := b1.passNode c i) hb2' hb1'⟩

theorem eq_of_ext_ext_length {α} {a b d : List α} (h₁ : ∃ e, b = a ++ e) (h₂ : ∃ e, d = b ++ e)
    (hlen : d.length = a.length) : b = a ∧ d = a := by
  obtain ⟨e₁, h₁⟩ := h₁
  obtain ⟨e₂, h₂⟩ := h₂
  rw [h₂, h₁, List.length_append, List.length_append] at hlen
  have z₁ : e₁ = [] := List.eq_nil_of_length_eq_zero (by omega)
  have z₂ : e₂ = [] := List.eq_nil_of_length_eq_zero (by omega)
  rw [h₂, h₁, z₁, z₂]; simp

/-- **a gossip pass that changes nothing, seen from one node and one logged message that is not its
own**: the node's state `nd0` at the start of the pass has the same signature as its state `nd` at the
end; in between the message was handled by `Cons.step` at a state `nd2`, with result `nd3`; and every
relation the receive routine respects holds along `nd0`, `nd2`, `nd` and between `nd3` and `nd`. -/
theorem pass_fixpoint_delivery {c : SCfg} {S : Node → Node → Prop} (hS : StepRel c S) (n0 : Net)
    (hsig : (n0.pass c).sig = n0.sig) {i k : Nat} {nd : Node} {m : Msg}
    (hi : (n0.pass c).nodes[i]? = some nd) (hk : (n0.pass c).log[k]? = some m) (hown : m.own nd.idx = false) :
    ∃ nd0 nd2 nd3 : Node, n0.nodes[i]? = some nd0 ∧ nodeSig nd = nodeSig nd0 ∧
      nd0.idx = nd.idx ∧ nd2.idx = nd.idx ∧ nd3.idx = nd.idx ∧
      nd3.s = Cons.step (nodeCfg c.cfg nd.idx) nd2.s m.toInput ∧ S nd0 nd2 ∧ S nd2 nd ∧ S nd3 nd := by
  have hlen : (n0.pass c).log.length = n0.log.length := congrArg NetSig.logLen hsig
  have hnodes : (n0.pass c).nodes.map nodeSig = n0.nodes.map nodeSig := congrArg NetSig.nodes hsig
  have hilt : i < n0.nodes.length := by
    rw [← (pass_moves c n0).length_eq]; exact (List.getElem?_eq_some_iff.1 hi).1
  have hklt : k < n0.log.length := by
    rw [← hlen]; exact (List.getElem?_eq_some_iff.1 hk).1
  obtain ⟨n2, h02, h3E⟩ := pass_through c n0 hilt hklt
  have h2E : Moves c n2 (n0.pass c) := (deliver_moves c i k n2).trans h3E
  obtain ⟨hlog2, hlogE⟩ := eq_of_ext_ext_length h02.log_ext h2E.log_ext hlen
  obtain ⟨nd0, hnd0⟩ : ∃ y, n0.nodes[i]? = some y := ⟨n0.nodes[i], List.getElem?_eq_getElem hilt⟩
  obtain ⟨nd2, hnd2⟩ := getElem?_some_of_length_eq h02.length_eq hnd0
  have i02 := h02.idx_at hnd0 hnd2
  have s02 := h02.netLater hS i nd0 nd2 hnd0 hnd2
  have i2E := h2E.idx_at hnd2 hi
  have s2E := h2E.netLater hS i nd2 nd hnd2 hi
  have hsigi : nodeSig nd = nodeSig nd0 := by
    have a : ((n0.pass c).nodes.map nodeSig)[i]? = some (nodeSig nd) := by rw [List.getElem?_map, hi]; rfl
    rw [hnodes, List.getElem?_map, hnd0] at a
    exact (Option.some.inj a).symm
  -- the delivery is an input of node i
  have hdel : n2.deliver c i k = n2.input c i m.toInput := by
    unfold Net.deliver
    rw [hnd2, hlog2, ← hlogE, hk]
    simp only [← i2E, hown, Bool.false_eq_true, if_false]
  obtain ⟨nd3, hn3, i23, hs3, _⟩ := input_spec c n2 i m.toInput nd2 hnd2
  have hnd3 : (n2.deliver c i k).nodes[i]? = some nd3 := by
    rw [hdel, hn3, List.getElem?_set_self (List.getElem?_eq_some_iff.1 hnd2).1]
  have i3E := h3E.idx_at hnd3 hi
  have s3E := h3E.netLater hS i nd3 nd hnd3 hi
  exact ⟨nd0, nd2, nd3, hnd0, hsigi, i02 ▸ i2E.symm, i2E.symm, i3E.symm, by rw [hs3, ← i2E], s02, s2E, s3E⟩

/-- the `k`-th iterate of the gossip pass -/
def passIter (c : SCfg) : Nat → Net → Net
  | 0, n => n
  | k + 1, n => passIter c k (n.pass c)

/-- the closure loop ended because a pass changed nothing (not because the fuel ran out): the result
is one more pass over some iterate `n0` of the pass on `net`, and that pass left the signature alone -/
def Net.closureConverged (c : SCfg) (net : Net) : Prop :=
  ∃ k, net.closure c = { (passIter c k net).pass c with closed := true } ∧
    ((passIter c k net).pass c).sig = (passIter c k net).sig

theorem passIter_moves (c : SCfg) (k : Nat) (n : Net) : Moves c n (passIter c k n) := by
  induction k generalizing n with
  | zero => exact .refl
  | succ k ih => exact (pass_moves c n).trans (ih _)

/-- a count that `closureCount` returns is the number of passes `closureLoop` made: at least one, and the last
changed nothing -/
theorem closureCount_spec (c : SCfg) : ∀ (fuel : Nat) (net : Net) (j : Nat),
    closureCount c fuel net = some j →
    ∃ k, j = k + 1 ∧ closureLoop c fuel net = (passIter c k net).pass c ∧
      ((passIter c k net).pass c).sig = (passIter c k net).sig := by
  intro fuel
  induction fuel with
  | zero => intro net j h; cases h
  | succ f ih =>
    intro net j h
    unfold closureCount at h
    unfold closureLoop
    dsimp only at h ⊢
    by_cases hs : (net.pass c).sig = net.sig
    · rw [if_pos hs] at h ⊢
      cases h
      exact ⟨0, rfl, rfl, hs⟩
    · rw [if_neg hs] at h ⊢
      cases hc : closureCount c f (net.pass c) with
      | none => rw [hc] at h; cases h
      | some i =>
        rw [hc] at h
        cases h
        obtain ⟨k, rfl, h⟩ := ih (net.pass c) i hc
        exact ⟨k + 1, rfl, h⟩

theorem closureLoop_of_count (c : SCfg) (fuel : Nat) (net : Net) (k : Nat)
    (h : closureCount c fuel net = some (k + 1)) :
    closureLoop c fuel net = (passIter c k net).pass c ∧
      ((passIter c k net).pass c).sig = (passIter c k net).sig := by
  obtain ⟨k', e, h'⟩ := closureCount_spec c fuel net _ h
  cases e
  exact h'

/-- **what a converged closure has done with a logged message `m` at a node that is not its sender**: during the
last pass (which changed nothing: `nodeSig nd = nodeSig nd0`) the node went `nd0` (start of the pass) → `nd2`
→ `nd3 = Cons.step nd2 m` → `nd` (the node of the closed net), every relation the receive routine respects
holding along the way and every invariant of the receive routine holding at `nd0`. -/
theorem Net.closureConverged.delivery {c : SCfg} {S : Node → Node → Prop} (hS : StepRel c S)
    {P : Nat → NodeState → Prop} (hstep : ∀ idx s inp, P idx s → P idx (Cons.step (nodeCfg c.cfg idx) s inp))
    {net : Net} (hconv : net.closureConverged c) (hP : AllNodes P net) {i k : Nat} {nd : Node} {m : Msg}
    (hi : (net.closure c).nodes[i]? = some nd) (hk : (net.closure c).log[k]? = some m) (hown : m.own nd.idx = false) :
    ∃ nd0 nd2 nd3 : Node, nodeSig nd = nodeSig nd0 ∧ P nd.idx nd0.s ∧
      nd0.idx = nd.idx ∧ nd2.idx = nd.idx ∧ nd3.idx = nd.idx ∧
      nd3.s = Cons.step (nodeCfg c.cfg nd.idx) nd2.s m.toInput ∧ S nd0 nd2 ∧ S nd2 nd ∧ S nd3 nd := by
  obtain ⟨k', hc, hsig⟩ := hconv
  rw [hc] at hi hk
  obtain ⟨nd0, nd2, nd3, hnd0, hsigi, i0, rest⟩ := pass_fixpoint_delivery hS _ hsig hi hk hown
  exact ⟨nd0, nd2, nd3, hsigi,
    i0 ▸ (passIter_moves c k' net).allNodes c hstep hP nd0 (List.mem_of_getElem? hnd0), i0, rest⟩

structure NodeLater (c : SCfg) (nd nd' : Node) : Prop where
  idx : nd'.idx = nd.idx
  ext : HExt (nodeCfg c.cfg nd.idx) (fun _ _ _ => True) nd.s.votes nd'.s.votes
  halted : nd.s.halted = true → nd'.s.halted = true
  decided : nd.s.decided.isSome = true → nd'.s.decided.isSome = true

theorem stepRel_nodeLater (c : SCfg) : StepRel c (NodeLater c) where
  same := fun hi hs => ⟨hi, by rw [hs]; exact HExt.refl _ _ _, by rw [hs]; exact id, by rw [hs]; exact id⟩
  trans := fun h₁ h₂ => ⟨h₂.idx.trans h₁.idx, h₁.ext.trans (by rw [← h₁.idx]; exact h₂.ext),
    fun h => h₂.halted (h₁.halted h), fun h => h₂.decided (h₁.decided h)⟩
  step := fun inp hi hs => ⟨hi, by rw [hs]; exact step_votes _ _ _,
    fun hh => by rw [hs, step_of_not_live _ _ _ fun l => NodeState.live_iff.1 l (.inl hh)]; exact hh,
    fun hd => by rw [hs, step_of_not_live _ _ _ fun l => NodeState.live_iff.1 l (.inr hd)]; exact hd⟩

theorem _root_.Tmv.Cons.NodeState.live_of_later {a b : NodeState} (hh : a.halted = true → b.halted = true)
    (hd : a.decided.isSome = true → b.decided.isSome = true) (hl : b.live) : a.live :=
  NodeState.live_iff.2 fun h => NodeState.live_iff.1 hl (h.imp hh hd)

theorem NodeLater.live {c : SCfg} {a b : Node} (h : NodeLater c a b) (hl : b.s.live) : a.s.live :=
  NodeState.live_of_later h.halted h.decided hl

theorem getVoteSet_isSome_of_rounds (h h' : HVS) (e : h.sets.map (·.1) = h'.sets.map (·.1)) (r : Int) (t : VType) :
    (h.getVoteSet r t).isSome = (h'.getVoteSet r t).isSome := by
  have key : ∀ g : HVS, (g.getVoteSet r t).isSome = (g.sets.map (·.1)).any (· = r) := by
    intro g
    unfold HVS.getVoteSet HVS.getRound
    rw [Option.isSome_map, ← alookup_any, List.any_map]
    rfl
  rw [key h, key h', e]

theorem nodeSig_rounds (nd : Node) : (nodeSig nd).sets.map (·.round) = nd.s.votes.sets.map (·.1) := by
  simp [nodeSig, List.map_map, Function.comp_def]

theorem wf_step (c : SCfg) (idx : Nat) (s : NodeState) (inp : Input) (h : HVS.WF (nodeCfg c.cfg idx) s.votes) :
    HVS.WF (nodeCfg c.cfg idx) (Cons.step (nodeCfg c.cfg idx) s inp).votes :=
  (step_votes _ s inp).wf h

theorem Reach.wf {c : SCfg} {correct : List Nat} {net : Net} (h : Reach c correct net) :
    AllNodes (fun idx s => HVS.WF (nodeCfg c.cfg idx) s.votes) net :=
  h.allNodes (fun _ => HVS.WF.init _) (wf_step c)

/-- **closure records every logged vote** at every node that can take it: if the closure loop ended
at a fixpoint, then at every node that is live, tracks the vote's round and holds no conflicting vote
of that validator, every logged vote of another validator is recorded. -/
theorem closure_records_votes (c : SCfg) (net : Net) (hconv : net.closureConverged c)
    (hwf : AllNodes (fun idx s => HVS.WF (nodeCfg c.cfg idx) s.votes) net)
    (i k : Nat) (nd : Node) (v : Vote)
    (hi : (net.closure c).nodes[i]? = some nd) (hk : (net.closure c).log[k]? = some (.vote v))
    (hv : v.wellSigned (nodeCfg c.cfg nd.idx)) (hnot : v.val ≠ nd.idx)
    (hlive : nd.s.halted = false ∧ nd.s.decided = none)
    (ht : (nd.s.votes.getVoteSet (v.round : Int) v.typ).isSome = true)
    (ho : nd.s.votes.only (v.round : Int) v.typ v.bid v.val) :
    nd.s.votes.has (v.round : Int) v.typ v.bid v.val := by
  obtain ⟨nd0, nd2, nd3, hsigi, hwf0, i0, i2, i3, hs3, l02, l2E, l3E⟩ :=
    hconv.delivery (stepRel_nodeLater c) (wf_step c) hwf hi hk (by simp [Msg.own, Msg.signer, hnot])
  have x02 := l02.ext; have x2E := l2E.ext; have x3E := l3E.ext
  rw [i0] at x02; rw [i2] at x2E; rw [i3] at x3E
  -- the conditions hold at the delivery: tracked since the start (same rounds at both ends), …
  have ht0 : (nd0.s.votes.getVoteSet (v.round : Int) v.typ).isSome = true := by
    have hr : nd.s.votes.sets.map (·.1) = nd0.s.votes.sets.map (·.1) := by
      rw [← nodeSig_rounds nd, ← nodeSig_rounds nd0, hsigi]
    rw [← getVoteSet_isSome_of_rounds _ _ hr]; exact ht
  -- … no conflicting vote then since there is none at the end
  have ho2 : nd2.s.votes.only (v.round : Int) v.typ v.bid v.val := by
    intro vs2 hg2 k' hk'
    obtain ⟨vs, hg, hh⟩ := x2E.has (⟨vs2, hg2, hk'⟩ : nd2.s.votes.has (v.round : Int) v.typ k' v.val)
    exact ho vs hg k' hh
  -- recorded by the step, kept until the end
  have hrec3 : nd3.s.votes.has (v.round : Int) v.typ v.bid v.val := by
    rw [hs3]
    exact step_vote_records _ _ v _ (x02.wf hwf0) hv (l2E.live hlive) (x02.tracked ht0) ho2
  exact x3E.has hrec3

/-- **after a converged closure a majority that exists in the log is recorded at every node that can
take it**: validators `Q` (distinct, carrying the quorum) have their votes of type `t`, round `r`,
value `b` in the log (the node's own one, if it is among them, is recorded at the node); the node is
live, tracks the round and holds no conflicting vote of any of them. Then the node's vote set of
(r, t) has the recorded +2/3 majority `b`. -/
theorem closure_spreads_majority (c : SCfg) (net : Net) (hconv : net.closureConverged c)
    (hwf : AllNodes (fun idx s => HVS.WF (nodeCfg c.cfg idx) s.votes) net)
    (i : Nat) (nd : Node) (hi : (net.closure c).nodes[i]? = some nd)
    (r : Nat) (t : VType) (b : Bid) (Q : List Nat) (hn : Q.Nodup)
    (hlt : ∀ u ∈ Q, u < c.cfg.n)
    (hlog : ∀ u ∈ Q, u ≠ nd.idx → ∃ k : Nat, (net.closure c).log[k]? = some (Msg.vote ⟨t, r, b, u, true, u, u⟩))
    (hself : nd.idx ∈ Q → nd.s.votes.has (r : Int) t b nd.idx)
    (hlive : nd.s.halted = false ∧ nd.s.decided = none)
    (ht : (nd.s.votes.getVoteSet (r : Int) t).isSome = true)
    (honly : ∀ u ∈ Q, nd.s.votes.only (r : Int) t b u)
    (hp : (nodeCfg c.cfg nd.idx).quorum ≤ (Q.map (nodeCfg c.cfg nd.idx).power).sum) :
    maj23Of (nd.s.votes.getVoteSet (r : Int) t) = some b := by
  have hwfn : HVS.WF (nodeCfg c.cfg nd.idx) nd.s.votes :=
    (closure_moves c net).allNodes c (wf_step c) hwf nd (List.mem_of_getElem? hi)
  refine HVS.quorum_majority hwfn r t b Q hn (fun u hu => ⟨hlt u hu, ?_, honly u hu⟩) hp
  by_cases hs : u = nd.idx
  · rw [hs]; exact hself (by rw [← hs]; exact hu)
  · obtain ⟨k, hk⟩ := hlog u hu hs
    exact closure_records_votes c net hconv hwf i k nd ⟨t, r, b, u, true, u, u⟩ hi hk
      ⟨hlt u hu, rfl, rfl, rfl⟩ hs hlive ht (honly u hu)

end Tmv.Sync
