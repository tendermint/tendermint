import Tmv.Model.LightSpec
/-! What the provider-facing parts of the client (primary replacement, witness cross-check,
conflict handling) do to the client state: none of them touches configuration, store or latest
block, and none of them brings in a provider that was not there (`Keeps`). -/
namespace Tmv.Light

def SameTrust (c c' : Client) : Prop := c'.cfg = c.cfg ∧ c'.store = c.store ∧ c'.latest = c.latest

/-- primed: inside namespace `SameTrust` a lemma `rfl` would capture every `rfl` written there -/
theorem SameTrust.rfl' (c : Client) : SameTrust c c := ⟨rfl, rfl, rfl⟩
theorem SameTrust.trans {a b c : Client} (h1 : SameTrust a b) (h2 : SameTrust b c) : SameTrust a c :=
  ⟨h2.1.trans h1.1, h2.2.1.trans h1.2.1, h2.2.2.trans h1.2.2⟩

/-- same configuration and the same provider objects in the same roles (call counters and evidence
may differ) -/
def Sim (c c' : Client) : Prop :=
  c'.cfg = c.cfg ∧ c'.primary = c.primary ∧ c'.witnesses = c.witnesses

theorem Sim.trans {a b c : Client} (h1 : Sim a b) (h2 : Sim b c) : Sim a c :=
  ⟨h2.1.trans h1.1, h2.2.1.trans h1.2.1, h2.2.2.trans h1.2.2⟩

/-- in either role: a primary replacement moves providers between the roles -/
def IsProv (c : Client) (p : Prov) : Prop := p = c.primary ∨ p ∈ c.witnesses

structure Keeps (c c' : Client) : Prop where
  same : SameTrust c c'
  provs : ∀ p, IsProv c' p → IsProv c p

theorem Keeps.refl (c : Client) : Keeps c c := ⟨SameTrust.rfl' c, fun _ h => h⟩

theorem Keeps.trans {a b c : Client} (h1 : Keeps a b) (h2 : Keeps b c) : Keeps a c :=
  ⟨h1.same.trans h2.same, fun p h => h1.provs p (h2.provs p h)⟩

theorem Keeps.of_sim {c c' : Client} (h1 : SameTrust c c') (h2 : Sim c c') : Keeps c c' :=
  ⟨h1, fun p h => by unfold IsProv at h ⊢; rwa [h2.2.1, h2.2.2] at h⟩

theorem Keeps.calls (c : Client) (k : Calls) : Keeps c { c with calls := k } :=
  ⟨⟨rfl, rfl, rfl⟩, fun _ h => h⟩

theorem Keeps.sched (c : Client) (s : List Prov → List Nat) : Keeps c { c with sched := s } :=
  ⟨⟨rfl, rfl, rfl⟩, fun _ h => h⟩

theorem Keeps.of_calls {c c' : Client} {k : Calls} (h : Keeps { c with calls := k } c') : Keeps c c' :=
  (Keeps.calls c k).trans h

/-- all that is known of a block fetched through `lightBlockFromPrimary`; the provider contract `ProvOK`
is stated over it -/
def FromProv (c : Client) (lb : LightBlock) : Prop :=
  ∃ p, IsProv c p ∧ ∃ n ht, p.script n ht = .ok lb

theorem eraseIdxs_mem : ∀ (idxs : List Nat) (ws : List Prov) (w : Prov), w ∈ eraseIdxs ws idxs → w ∈ ws := by
  intro idxs
  induction idxs with
  | nil => intro ws w h; exact h
  | cons i r ih =>
    intro ws w h
    simp only [eraseIdxs] at h
    have h1 := ih _ _ h
    have h2 := List.dropLast_subset _ h1
    rcases List.mem_or_eq_of_mem_set h2 with h3 | h3
    · exact h3
    · cases ws with
      | nil => simp at h2
      | cons x xs =>
        rw [h3, List.getLastD_cons]
        exact List.getLastD_mem_cons

theorem removeWitnesses_mem {ws ws' : List Prov} {idxs : List Nat} (h : removeWitnesses ws idxs = some ws')
    (w : Prov) (hw : w ∈ ws') : w ∈ ws := by
  unfold removeWitnesses at h
  split at h
  · cases h
  · injection h with h; subst h; exact eraseIdxs_mem _ _ _ hw

theorem keeps_removeWitnesses (c : Client) (rm : List Nat) :
    Keeps c (match removeWitnesses c.witnesses rm with
      | some ws => { c with witnesses := ws }
      | none => c) := by
  split
  · rename_i ws hr
    exact ⟨⟨rfl, rfl, rfl⟩, fun p h => h.imp id (removeWitnesses_mem hr p)⟩
  · exact Keeps.refl c

theorem findLoop_keeps (remove : Bool) (height : Int) :
    ∀ (arr : List Nat) (c : Client) (rm : List Nat) (last : Option PErr) (c' : Client)
      (r : Except Err LightBlock),
      findLoop remove height arr c rm last = (c', r) →
      Keeps c c' ∧ ∀ lb, r = .ok lb → FromProv c lb := by
  intro arr
  induction arr with
  | nil =>
    intro c rm last c' r h
    simp only [findLoop] at h
    obtain ⟨rfl, rfl⟩ := Prod.mk.inj h
    exact ⟨keeps_removeWitnesses c rm, fun lb hlb => by split at hlb <;> cases hlb⟩
  | cons i rest ih =>
    intro c rm last c' r h
    simp only [findLoop] at h
    split at h
    · exact ih _ _ _ _ _ h
    · rename_i w hw
      have hwp : IsProv c w := Or.inr (List.mem_of_getElem? hw)
      split at h
      · -- `w` answered: it becomes the primary, the old primary possibly a witness
        rename_i lb hr
        have hws : ∀ x ∈ (if remove = true then c.witnesses else c.witnesses ++ [c.primary]), IsProv c x := by
          intro x hx
          split at hx
          · exact Or.inr hx
          · rcases List.mem_append.mp hx with h1 | h1
            · exact Or.inr h1
            · exact Or.inl (List.mem_singleton.mp h1)
        have hfrom : FromProv c lb := ⟨w, hwp, _, _, hr⟩
        split at h
        · obtain ⟨rfl, rfl⟩ := Prod.mk.inj h
          refine ⟨⟨⟨rfl, rfl, rfl⟩, fun p hp => ?_⟩, fun lb h => by cases h⟩
          rcases hp with rfl | hp
          · exact hwp
          · simp at hp
        · rename_i ws' hr'
          obtain ⟨rfl, rfl⟩ := Prod.mk.inj h
          refine ⟨⟨⟨rfl, rfl, rfl⟩, fun p hp => ?_⟩, fun lb' h' => ?_⟩
          · rcases hp with rfl | hp
            · exact hwp
            · exact hws p (removeWitnesses_mem hr' p hp)
          · injection h' with h'; rw [← h']; exact hfrom
      · split at h
        · exact (ih _ _ _ _ _ h).imp Keeps.of_calls id
        · exact (ih _ _ _ _ _ h).imp Keeps.of_calls id

theorem findNewPrimary_keeps {c : Client} {height : Int} {remove : Bool} {c' : Client}
    {r : Except Err LightBlock} (h : findNewPrimary c height remove = (c', r)) :
    Keeps c c' ∧ ∀ lb, r = .ok lb → FromProv c lb := by
  unfold findNewPrimary at h
  split at h
  · obtain ⟨rfl, rfl⟩ := Prod.mk.inj h; exact ⟨Keeps.refl c, fun lb h => by cases h⟩
  · exact findLoop_keeps _ _ _ _ _ _ _ _ h

theorem lightBlockFromPrimary_keeps {c : Client} {height : Int} {c' : Client}
    {r : Except Err LightBlock} (h : lightBlockFromPrimary c height = (c', r)) :
    Keeps c c' ∧ ∀ lb, r = .ok lb → FromProv c lb := by
  unfold lightBlockFromPrimary at h
  simp only [ask] at h
  split at h
  · rename_i lb hr
    obtain ⟨rfl, rfl⟩ := Prod.mk.inj h
    refine ⟨Keeps.calls c _, fun lb' h' => ?_⟩
    injection h' with h'
    exact ⟨c.primary, Or.inl rfl, _, _, h' ▸ hr⟩
  · exact (findNewPrimary_keeps h).imp Keeps.of_calls id

/-- The three ways `handleConflictingHeaders` ends: no error and no evidence (the witness does not
back its header along the trace); the code's index panic; `ErrLightClientAttack`, after evidence
went to witness `idx` and, if the primary in turn backs its block along the witness's trace, to the
primary. -/
theorem handleConflicting_cases {c : Client} {trace : List LightBlock} {b : LightBlock} {idx : Nat} {now : Int}
    {c' : Client} {r : Option Err} (h : handleConflictingHeaders c trace b idx now = (c', r)) :
    (SameTrust c c' ∧ Sim c c') ∧
    ((r = none ∧ c'.evidence = c.evidence) ∨
     (r = some .panic) ∨
     (r = some .attack ∧ ∃ sup ev1 rest, c.witnesses[idx]? = some sup ∧
        c'.evidence = c.evidence ++ (sup.id, ev1) :: rest ∧
        (rest = [] ∨ ∃ ev2, rest = [(c.primary.id, ev2)]))) := by
  have frame : ∀ (k : Calls) (ev : List (Nat × Evidence)),
      SameTrust c { c with calls := k, evidence := ev } ∧ Sim c { c with calls := k, evidence := ev } :=
    fun _ _ => ⟨⟨rfl, rfl, rfl⟩, ⟨rfl, rfl, rfl⟩⟩
  unfold handleConflictingHeaders at h
  cases hsup : c.witnesses[idx]? with
  | none =>
    rw [hsup] at h
    obtain ⟨rfl, rfl⟩ := Prod.mk.inj h
    exact ⟨frame c.calls c.evidence, Or.inr (Or.inl rfl)⟩
  | some sup =>
    rw [hsup] at h
    simp only at h
    generalize examine c.cfg now trace b c.calls sup = ex1 at h
    obtain ⟨k1, r1⟩ := ex1
    cases r1 with
    | none =>
      obtain ⟨rfl, rfl⟩ := Prod.mk.inj h
      exact ⟨frame k1 c.evidence, Or.inl ⟨rfl, rfl⟩⟩
    | some found =>
      obtain ⟨wtrace, primaryBlock⟩ := found
      simp only at h
      split at h
      case h_2 =>
        -- empty witness trace: the code indexes out of range
        obtain ⟨rfl, rfl⟩ := Prod.mk.inj h
        exact ⟨frame _ _, Or.inr (Or.inl rfl)⟩
      case h_1 common trusted _ _ =>
        generalize examine c.cfg now wtrace primaryBlock k1 c.primary = ex2 at h
        obtain ⟨k2, r2⟩ := ex2
        cases r2 with
        | none =>
          obtain ⟨rfl, rfl⟩ := Prod.mk.inj h
          exact ⟨frame _ _, Or.inr (Or.inr ⟨rfl, sup, _, [], rfl, rfl, Or.inl rfl⟩)⟩
        | some found2 =>
          obtain ⟨ptrace, witnessBlock⟩ := found2
          simp only at h
          split at h
          case h_2 =>
            obtain ⟨rfl, rfl⟩ := Prod.mk.inj h
            exact ⟨frame _ _, Or.inr (Or.inl rfl)⟩
          case h_1 common2 trusted2 _ _ =>
            obtain ⟨rfl, rfl⟩ := Prod.mk.inj h
            exact ⟨frame _ _, Or.inr (Or.inr ⟨rfl, sup, mkEvidence primaryBlock trusted common,
              [(c.primary.id, mkEvidence witnessBlock trusted2 common2)], rfl,
              by simp only [List.append_assoc, List.singleton_append], Or.inr ⟨_, rfl⟩⟩)⟩

theorem hashCompare_matched {h lb : LightBlock} {idx : Nat} (e : hashCompare h lb idx = .matched) :
    lb.hash = h.hash := by
  unfold hashCompare at e
  split at e
  · cases e
  · rename_i hne
    simp at hne
    exact hne.symm

theorem getTarget_replied {k : Calls} {w : Prov} {ht : Int} {k' : Calls} {b : Bool} {lb : LightBlock}
    (e : getTargetBlockOrLatest k w ht = (k', .ok (b, lb))) : ∃ n x, w.script n x = .ok lb := by
  unfold getTargetBlockOrLatest at e
  simp only [ask] at e
  split at e
  · cases e
  · rename_i lb0 hr
    by_cases h1 : lb0.height = ht
    · rw [if_pos h1] at e; cases e; exact ⟨_, _, hr⟩
    · rw [if_neg h1] at e
      by_cases h2 : lb0.height > ht
      · rw [if_pos h2] at e
        split at e
        · rename_i lb2 hr2
          cases e; exact ⟨_, _, hr2⟩
        · cases e
      · rw [if_neg h2] at e; cases e; exact ⟨_, _, hr⟩

theorem compare_matched {k : Calls} {h : LightBlock} {w : Prov} {idx : Nat} {k' : Calls}
    (e : compareNewHeaderWithWitness k h w idx = (k', .matched)) : Replied w h.hash := by
  have of_target : ∀ {k1 : Calls} {b : Bool} {lb : LightBlock},
      (getTargetBlockOrLatest k1 w h.height).2 = .ok (b, lb) → hashCompare h lb idx = .matched →
      Replied w h.hash := by
    intro k1 b lb hg hc
    obtain ⟨n, x, hs⟩ := getTarget_replied (Prod.ext rfl hg)
    exact ⟨n, x, lb, hs, hashCompare_matched hc⟩
  unfold compareNewHeaderWithWitness at e
  simp only [ask] at e
  split at e
  · rename_i lb hr
    exact ⟨_, _, lb, hr, hashCompare_matched (Prod.mk.inj e).2⟩
  · cases e
  · cases e
  · cases e
  · split at e
    · cases e
    · rename_i lb hg
      exact of_target hg (Prod.mk.inj e).2
    · rename_i lb hg
      by_cases ht : (!decide (lb.time < h.time)) = true
      · rw [if_pos ht] at e; cases e
      · rw [if_neg ht] at e
        split at e
        · cases e
        · rename_i lb' hg'
          exact of_target hg' (Prod.mk.inj e).2
        · rename_i lb' hg'
          by_cases ht' : (!decide (lb'.time < h.time)) = true
          · rw [if_pos ht'] at e; cases e
          · rw [if_neg ht'] at e; cases e

/-- One reply in the receive loop of `detectDivergence`. Either it is a conflicting header for which
the handler reports an error, and the loop stops with that error; or the loop goes on, with the
same providers in the same roles and nothing new in the evidence log, `matched` is newly set only by
a reply with the hash of `h`, and the reply passed over is not one the handler reports. -/
theorem detectLoop_cons {trace : List LightBlock} {h : LightBlock} {now : Int} {j : Nat} {rest : List Nat}
    {c : Client} {m : Bool} {rm : List Nat} {c' : Client} {r : Except Err Unit}
    (e : detectLoop trace h now (j :: rest) c m rm = (c', r)) :
    (∃ k b idx err, handleConflictingHeaders { c with calls := k } trace b idx now = (c', some err) ∧
      r = .error err) ∨
    ∃ c1 m1 rm1, detectLoop trace h now rest c1 m1 rm1 = (c', r) ∧
      (SameTrust c c1 ∧ Sim c c1) ∧ c1.evidence = c.evidence ∧
      (m1 = true → m = true ∨ ∃ w, c.witnesses[j]? = some w ∧ Replied w h.hash) ∧
      ∀ w, c.witnesses[j]? = some w → ∀ b idx, (compareNewHeaderWithWitness c.calls h w j).2 = .conflict b idx →
        (handleConflictingHeaders { c with calls := (compareNewHeaderWithWitness c.calls h w j).1 }
          trace b idx now).2 = none := by
  have fr : ∀ k, SameTrust c { c with calls := k } ∧ Sim c { c with calls := k } :=
    fun _ => ⟨⟨rfl, rfl, rfl⟩, ⟨rfl, rfl, rfl⟩⟩
  simp only [detectLoop] at e
  cases hj : c.witnesses[j]? with
  | none =>
    rw [hj] at e
    exact Or.inr ⟨c, m, rm, e, fr c.calls, rfl, Or.inl, fun _ hw => by cases hw⟩
  | some w =>
    rw [hj] at e
    dsimp only at e
    simp only [Option.some.injEq, forall_eq']
    generalize hcm : compareNewHeaderWithWitness c.calls h w j = p at e ⊢
    obtain ⟨k, msg⟩ := p
    cases msg with
    | matched =>
      exact Or.inr ⟨_, true, rm, e, fr k, rfl, fun _ => Or.inr ⟨w, rfl, compare_matched hcm⟩, fun _ _ h => by cases h⟩
    | badWitness idx => exact Or.inr ⟨_, m, _, e, fr k, rfl, Or.inl, fun _ _ h => by cases h⟩
    | benign => exact Or.inr ⟨_, m, rm, e, fr k, rfl, Or.inl, fun _ _ h => by cases h⟩
    | conflict b idx =>
      dsimp only at e
      generalize hh : handleConflictingHeaders { c with calls := k } trace b idx now = q at e
      obtain ⟨c2, _ | err⟩ := q
      · obtain ⟨fr2, ⟨_, hev⟩ | hp | ⟨ha, _⟩⟩ := handleConflicting_cases hh
        · exact Or.inr ⟨c2, m, _, e, ⟨(fr k).1.trans fr2.1, (fr k).2.trans fr2.2⟩, hev, Or.inl,
            fun _ _ h => by cases h; rw [hh]⟩
        · cases hp
        · cases ha
      · obtain ⟨rfl, rfl⟩ := Prod.mk.inj e
        exact Or.inl ⟨k, b, idx, err, hh, rfl⟩

theorem detectLoop_spec (trace : List LightBlock) (h : LightBlock) (now : Int) :
    ∀ (arr : List Nat) (c : Client) (matched : Bool) (rm : List Nat) (c' : Client)
      (r : Except Err Unit),
      detectLoop trace h now arr c matched rm = (c', r) →
      Keeps c c' ∧
      (r = .ok () → matched = true ∨ ∃ (i : Nat) (w : Prov), c.witnesses[i]? = some w ∧ Replied w h.hash) := by
  intro arr
  induction arr with
  | nil =>
    intro c matched rm c' r e
    simp only [detectLoop] at e
    split at e
    · obtain ⟨rfl, rfl⟩ := Prod.mk.inj e
      exact ⟨Keeps.refl c, fun h => by cases h⟩
    · rename_i ws hr
      obtain ⟨rfl, rfl⟩ := Prod.mk.inj e
      refine ⟨⟨⟨rfl, rfl, rfl⟩, fun p hp => hp.imp id (removeWitnesses_mem hr p)⟩, fun h => ?_⟩
      split at h
      · rename_i hm; exact Or.inl hm
      · cases h
  | cons j rest ih =>
    intro c matched rm c' r e
    rcases detectLoop_cons e with ⟨k, b, idx, err, hh, rfl⟩ | ⟨c1, m1, rm1, e1, fr, _, hm, _⟩
    · obtain ⟨⟨h3, h4⟩, _⟩ := handleConflicting_cases hh
      exact ⟨(Keeps.of_sim h3 h4).of_calls, fun h => by cases h⟩
    · have h2 := ih _ _ _ _ _ e1
      refine ⟨(Keeps.of_sim fr.1 fr.2).trans h2.1, fun hr => ?_⟩
      rcases h2.2 hr with h | ⟨i, w, hi, hw⟩
      · exact (hm h).imp id fun ⟨w, hw, hr⟩ => ⟨j, w, hw, hr⟩
      · exact Or.inr ⟨i, w, fr.2.2.2 ▸ hi, hw⟩

theorem detectDivergence_spec {c : Client} {trace : List LightBlock} {now : Int} {c' : Client}
    {r : Except Err Unit} (e : detectDivergence c trace now = (c', r)) :
    Keeps c c' ∧
    (r = .ok () → 2 ≤ trace.length ∧ ∃ h, trace.getLast? = some h ∧
        ∃ (i : Nat) (w : Prov), c.witnesses[i]? = some w ∧ Replied w h.hash) := by
  unfold detectDivergence at e
  split at e
  · obtain ⟨rfl, rfl⟩ := Prod.mk.inj e
    exact ⟨Keeps.refl c, fun h => by cases h⟩
  · rename_i hlen
    split at e
    · obtain ⟨rfl, rfl⟩ := Prod.mk.inj e
      exact ⟨Keeps.refl c, fun h => by cases h⟩
    · rename_i h hlast
      split at e
      · obtain ⟨rfl, rfl⟩ := Prod.mk.inj e
        exact ⟨Keeps.refl c, fun h => by cases h⟩
      · have h2 := detectLoop_spec _ _ _ _ _ _ _ _ _ e
        refine ⟨h2.1, fun hr => ⟨by omega, h, hlast, ?_⟩⟩
        rcases h2.2 hr with hm | hw
        · cases hm
        · exact hw

theorem firstLoop_keeps (h : LightBlock) :
    ∀ (arr : List Nat) (c : Client) (rm : List Nat) (c' : Client) (r : Except Err Unit),
      firstLoop h arr c rm = (c', r) → Keeps c c' := by
  intro arr
  induction arr with
  | nil =>
    intro c rm c' r e
    simp only [firstLoop] at e
    obtain ⟨rfl, _⟩ := Prod.mk.inj e
    exact keeps_removeWitnesses c rm
  | cons i rest ih =>
    intro c rm c' r e
    simp only [firstLoop] at e
    split at e
    · exact ih _ _ _ _ e
    · split at e
      · exact (ih _ _ _ _ e).of_calls
      · obtain ⟨rfl, _⟩ := Prod.mk.inj e; exact Keeps.calls c _
      · exact (ih _ _ _ _ e).of_calls
      · exact (ih _ _ _ _ e).of_calls

theorem compareFirst_keeps {c : Client} {h : LightBlock} {c' : Client} {r : Except Err Unit}
    (e : compareFirstHeaderWithWitnesses c h = (c', r)) : Keeps c c' := by
  unfold compareFirstHeaderWithWitnesses at e
  split at e
  · obtain ⟨rfl, _⟩ := Prod.mk.inj e; exact Keeps.refl c
  · exact firstLoop_keeps _ _ _ _ _ _ e

end Tmv.Light
