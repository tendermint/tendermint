import Tmv.Lemmas.BlockSync
/-! The hand-over for C13: `CommitToVoteSet` against full `VerifyCommit`, for a seen commit of which
block sync has established the light quorum only. -/
namespace Tmv.BlockSync
variable (sigOK : Nat → SignBytes → Nat → Bool)

/-- every non-absent entry of `c` carries the address of the validator at its index and a
signature that verifies — what `CommitToVoteSet` → `AddVote` insists on -/
def FullyChecked (c : Commit) : List Val → List CSig → Prop
  | v :: vs, s :: ss =>
    (s.flag ≠ .absent → s.addr = v.addr ∧ sigOK v.key (signBytes c s) s.sig = true) ∧
      FullyChecked c vs ss
  | _, [] => True
  | [], _ :: _ => False

/-- on a commit with one entry per validator `CommitToVoteSet` decides `FullyChecked`: it returns
the signed power, or panics (with something that is not `.ok`) -/
theorem toVoteSet_spec (c : Commit) (vals : List Val) (sigs : List CSig) (s ns : Int)
    (hl : sigs.length = vals.length) :
    (FullyChecked sigOK c vals sigs ∧
      ∃ ns', toVoteSet sigOK c vals sigs s ns = .ok (s + signedPower sigOK c vals sigs, ns')) ∨
    (¬ FullyChecked sigOK c vals sigs ∧
      ∃ e, toVoteSet sigOK c vals sigs s ns = .error e ∧ e ≠ .ok) := by
  fun_induction toVoteSet sigOK c vals sigs s ns with
  | case1 vals s ns => exact .inl ⟨by simp [FullyChecked], ns, by simp [signedPower]⟩
  | case2 | case3 => cases hl
  | case4 v vs a l s ns hf ih =>
    rw [signedPower_cons_other sigOK c v vs l (by rw [hf]; nofun)]
    simpa only [FullyChecked, ne_eq, hf, not_true_eq_false, false_implies, true_and] using
      ih (Nat.succ.inj hl)
  | case5 v vs a l s ns hf ha => exact .inr ⟨fun h => ha (h.1 hf).1, _, rfl, nofun⟩
  | case6 v vs a l s ns hf ha hs => exact .inr ⟨fun h => by simp [(h.1 hf).2] at hs, _, rfl, nofun⟩
  | case7 v vs a l s ns hf ha hs hc ih =>
    have hs : sigOK v.key (signBytes c a) a.sig = true := by simpa using hs
    rw [signedPower_cons_commit sigOK c vs l hc hs, ← Int.add_assoc]
    simpa only [FullyChecked, Decidable.not_not.mp ha, hs, and_self, implies_true, true_and] using
      ih (Nat.succ.inj hl)
  | case8 v vs a l s ns hf ha hs hc ih =>
    have hs : sigOK v.key (signBytes c a) a.sig = true := by simpa using hs
    rw [signedPower_cons_other sigOK c v vs l hc]
    simpa only [FullyChecked, Decidable.not_not.mp ha, hs, and_self, implies_true, true_and] using
      ih (Nat.succ.inj hl)

/-- `CommitSig.ValidatorAddress` of every non-absent entry is the address of the validator at that
index — compared by `VoteSet.AddVote`, by neither `VerifyCommitLight` nor `VerifyCommit` -/
def AddrMatch : List Val → List CSig → Prop
  | v :: vs, s :: ss => (s.flag ≠ .absent → s.addr = v.addr) ∧ AddrMatch vs ss
  | _, _ => True

/-- every non-absent entry verifies under the key of the validator at its index -/
def AllSigOK (c : Commit) : List Val → List CSig → Prop
  | v :: vs, s :: ss =>
    (s.flag ≠ .absent → sigOK v.key (signBytes c s) s.sig = true) ∧ AllSigOK c vs ss
  | _, _ => True

/-- the loop of `VerifyCommit` succeeds exactly on `AllSigOK`, and then returns the signed power -/
theorem fullLoop_ok_iff (c : Commit) (vals : List Val) (sigs : List CSig) (idx : Nat) (tally t : Int) :
    fullLoop sigOK c vals sigs idx tally = .ok t ↔
      AllSigOK sigOK c vals sigs ∧ t = tally + signedPower sigOK c vals sigs := by
  fun_induction fullLoop sigOK c vals sigs idx tally with
  | case1 v vs a l idx tally hf ih =>
    rw [signedPower_cons_other sigOK c v vs l (by rw [hf]; nofun), ih]
    simp only [AllSigOK, ne_eq, hf, not_true_eq_false, false_implies, true_and]
  | case2 v vs a l idx tally hf hs => exact iff_of_false nofun fun h => by simp [h.1.1 hf] at hs
  | case3 v vs a l idx tally hf hs ih =>
    have hs : sigOK v.key (signBytes c a) a.sig = true := by simpa using hs
    rw [ih]
    simp only [AllSigOK, hs, implies_true, true_and]
    by_cases hc : a.flag = .commit
    · rw [if_pos hc, signedPower_cons_commit sigOK c vs l hc hs, ← Int.add_assoc]
    · rw [if_neg hc, signedPower_cons_other sigOK c v vs l hc]
  | case4 vals sigs idx tally hne =>
    rw [AllSigOK.eq_2 sigOK c vals sigs hne, signedPower.eq_2 sigOK c vals sigs hne]
    simp [eq_comm]

theorem fullyChecked_iff (c : Commit) (vals : List Val) (sigs : List CSig)
    (hl : sigs.length = vals.length) :
    (FullyChecked sigOK c vals sigs ↔ AllSigOK sigOK c vals sigs ∧ AddrMatch vals sigs) := by
  fun_induction FullyChecked sigOK c vals sigs with
  | case1 v vs a l ih =>
    simp only [AllSigOK, AddrMatch, ih (Nat.succ.inj hl)]
    exact ⟨fun ⟨h1, h2, h3⟩ => ⟨⟨fun hf => (h1 hf).2, h2⟩, fun hf => (h1 hf).1, h3⟩,
      fun ⟨⟨h1, h2⟩, h3, h4⟩ => ⟨fun hf => ⟨h3 hf, h1 hf⟩, h2, h4⟩⟩
  | case2 vals => simp [AllSigOK, AddrMatch]
  | case3 => cases hl

/-- for a commit that has the light quorum, full `VerifyCommit` succeeds exactly when every
non-absent entry verifies -/
theorem verifyCommit_iff_of_quorum (vals : List Val) (id : BlockId) (h : Int) (c : Commit)
    (hq : Quorum sigOK vals id h c) :
    verifyCommit sigOK vals id h c = .ok () ↔ AllSigOK sigOK c vals c.sigs := by
  have hn := hq.needed_lt
  obtain ⟨q1, q2, q3, _⟩ := hq
  unfold verifyCommit
  rw [if_neg (by omega), if_neg (by omega), if_neg (by simp [q3])]
  cases hl : fullLoop sigOK c vals c.sigs 0 0 with
  | error e =>
    refine ⟨nofun, fun ha => ?_⟩
    rw [(fullLoop_ok_iff sigOK c vals c.sigs 0 0 _).mpr ⟨ha, rfl⟩] at hl
    cases hl
  | ok t =>
    obtain ⟨ha, ht⟩ := (fullLoop_ok_iff sigOK c vals c.sigs 0 0 t).mp hl
    simp only
    rw [if_neg (by omega)]
    exact iff_of_true rfl ha

/-- `reconstructLastCommit` on a store whose newest entry is the state's last block with the light
quorum: no panic exactly when that seen commit is fully checked -/
theorem reconstruct_ok_iff (st : St) (b : Block) (c : Commit) (rest : List (Block × Commit))
    (hh : b.height = st.lastHeight) (hq : Quorum sigOK st.lastVals b.id b.height c) :
    reconstruct sigOK st ((b, c) :: rest) = .ok ↔ FullyChecked sigOK c st.lastVals c.sigs := by
  unfold reconstruct
  simp only [List.find?_cons, hh, decide_true]
  rcases toVoteSet_spec sigOK c st.lastVals c.sigs 0 0 hq.1 with ⟨hf, ns', e⟩ | ⟨hf, e', e, hne⟩ <;>
    simp only [e]
  · have hn := hq.needed_lt
    rw [if_pos (Or.inl (by omega))]
    exact iff_of_true rfl hf
  · exact iff_of_false hne hf

/-- with the pool caught up, `SwitchToConsensus` reconstructs the last commit of any state past genesis -/
theorem handover_caughtUp {n : Node} (h : n.pool.isCaughtUp = true) :
    n.handover sigOK = if n.st.lastHeight > 0 then reconstruct sigOK n.st n.store else .ok := by
  unfold Node.handover
  rw [h]
  rfl

end Tmv.BlockSync
