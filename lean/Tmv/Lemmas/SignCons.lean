import Tmv.Model.SignCons
import Tmv.Lemmas.Sign
import Tmv.Lemmas.ConsChain
/-! Lemmas for the composition `Tmv.Node04`: whatever the consensus model, the WAL and the crashes
do, the signer component only ever moves by events of the signer machine; and the abstract signer
inside `Tmv.Cons` agrees with the real one call by call. -/
namespace Tmv.Node04
open Tmv.Sign

variable {Sig : Type}

theorem signAll_reach (sigOf : SB → Sig) (g : Sign.Cfg Sig) (qs : List Req) :
    Reach sigOf g (signAll sigOf g qs) := by
  induction qs generalizing g with
  | nil => exact .refl g
  | cons q qs ih => exact (call_reach sigOf g q none).trans (ih _)

theorem signCrash_reach (sigOf : SB → Sig) (g : Sign.Cfg Sig) (qs : List Req) (j k : Nat) :
    Reach sigOf g (signCrash sigOf g qs j k) := by
  unfold signCrash
  simp only
  split
  · exact (signAll_reach sigOf g _).trans (call_reach sigOf _ _ _)
  · exact (signAll_reach sigOf g _).trans (.step _ .crash)

theorem step_sg_reach (e : Env) (c : Cons.Cfg) (sigOf : SB → Sig) (s : St Sig) (ev : Ev) :
    Reach sigOf s.sg (step e c sigOf s ev).sg := by
  cases ev with
  | input i t =>
    simp only [step]
    split
    · exact signAll_reach sigOf s.sg _
    · exact .refl _
  | replayNext t =>
    simp only [step]
    split
    · exact .refl _
    · exact signAll_reach sigOf s.sg _
  | crash w => exact .step _ .crash
  | crashInInput i t j k w =>
    simp only [step]
    split
    · exact signCrash_reach sigOf s.sg _ j k
    · exact .refl _
  | crashInReplay t j k w =>
    simp only [step]
    split
    · exact .refl _
    · exact signCrash_reach sigOf s.sg _ j k

theorem run_sg_reach (e : Env) (c : Cons.Cfg) (sigOf : SB → Sig) (s : St Sig) (evs : List Ev) :
    Reach sigOf s.sg (run e c sigOf s evs).sg := by
  induction evs generalizing s with
  | nil => exact .refl _
  | cons ev evs ih => exact (step_sg_reach e c sigOf s ev).trans (ih _)

/-! ### the abstract signer of `Tmv.Cons` is the abstraction of the real one -/

structure EnvOK (e : Env) : Prop where
  valid : ∀ b, bidValid (e.blk b) = true
  nonzero : ∀ b, bidIsZero (e.blk b) = false
  inv : ∀ b, e.unblk (e.blk b) = b

/-- sign-bytes content of a request of the consensus model -/
def Env.sbOf (e : Env) (t : Int) : Cons.Output → Option SB
  | .signProposal r b pol =>
    some { typ := proposalType, h := e.H, r := r, pol := pol, bid := some (e.blk b), ts := t, chain := e.chain }
  | .signVote ty r bid =>
    some { typ := vtyp ty, h := e.H, r := r, pol := 0, bid := bid.map e.blk, ts := t, chain := e.chain }
  | _ => none

theorem signBytes_reqOf {e : Env} (he : EnvOK e) {t : Int} {o : Cons.Output} {q : Req}
    (hq : e.reqOf t o = some q) : signBytes q = e.sbOf t o := by
  cases o with
  | signProposal r b pol =>
    cases hq
    simp [signBytes, he.valid b, canonBid, he.nonzero b, Env.sbOf]
  | signVote ty r bid =>
    cases hq
    cases bid with
    | none => simp [signBytes, Env.bid, zeroBid, bidValid, validHash, canonBid, bidIsZero, Env.sbOf]
    | some b => simp [signBytes, Env.bid, he.valid b, canonBid, he.nonzero b, Env.sbOf]
  | _ => cases hq

theorem vtyp_ne_proposal (ty : Cons.VType) : vtyp ty ≠ proposalType := by
  cases ty <;> decide

theorem step_vtyp (ty : Cons.VType) : stepOfTyp (vtyp ty) = (ty.code : Int) := by
  cases ty <;> decide

theorem reqStep_vote (ty : Cons.VType) (h r pol : Int) (bid : BlockID) (ts : Int) (chain : String) :
    reqStep ⟨.vote, vtyp ty, h, r, pol, bid, ts, chain⟩ = some (ty.code : Int) := by
  cases ty <;> rfl

theorem code_inj {t t' : Cons.VType} (h : t.code = t'.code) : t = t' := by
  cases t <;> cases t' <;> first | rfl | cases h

/-- the key determines the request: the payload tells a proposal from a vote and carries the block,
the step code tells prevote from precommit -/
theorem sigKey_inj {o o' : Cons.Output} {k : Nat × Nat × Cons.Payload}
    (h : Cons.sigKey o = some k) (h' : Cons.sigKey o' = some k) : o = o' := by
  cases o with
  | signProposal r b pol =>
    cases h
    cases o' with
    | signProposal r' b' pol' => cases h'; rfl
    | _ => simp [Cons.sigKey] at h'
  | signVote t r b =>
    cases h
    cases o' with
    | signVote t' r' b' =>
      simp only [Cons.sigKey, Option.some.injEq, Prod.mk.injEq, Cons.Payload.vote.injEq] at h'
      obtain ⟨rfl, hc, rfl⟩ := h'
      rw [code_inj hc]
    | _ => simp [Cons.sigKey] at h'
  | _ => cases h

theorem payloadOf_sbOf {e : Env} (he : EnvOK e) {t : Int} {o : Cons.Output} {sb : SB}
    {r cd : Nat} {p : Cons.Payload} (hs : e.sbOf t o = some sb) (hk : Cons.sigKey o = some (r, cd, p)) :
    e.payloadOf sb = p ∧ sb.h = e.H ∧ sb.r = r ∧ stepOfTyp sb.typ = cd := by
  cases o with
  | signProposal r' b pol =>
    cases hs
    cases hk
    refine ⟨by simp [Env.payloadOf, he.inv], rfl, rfl, ?_⟩
    show stepOfTyp proposalType = ((1 : Nat) : Int)
    decide
  | signVote ty r' bid =>
    cases hs
    cases hk
    refine ⟨?_, rfl, rfl, ?_⟩
    · simp only [Env.payloadOf, vtyp_ne_proposal ty, if_false]
      cases bid <;> simp [he.inv]
    · exact step_vtyp ty
  | _ => cases hs

theorem reqStep_reqOf {e : Env} {t : Int} {o : Cons.Output} {q : Req} {r cd : Nat} {p : Cons.Payload}
    (hq : e.reqOf t o = some q) (hk : Cons.sigKey o = some (r, cd, p)) :
    reqStep q = some (cd : Int) ∧ q.h = e.H ∧ q.r = r := by
  cases o with
  | signProposal r' b pol =>
    cases hq
    cases hk
    exact ⟨rfl, rfl, rfl⟩
  | signVote ty r' bid =>
    cases hq
    cases hk
    exact ⟨reqStep_vote ty _ _ _ _ _ _, rfl, rfl⟩
  | _ => cases hq

/-- two requests of the model for the same key differ only in the timestamp; for different
payloads they differ in more -/
theorem sbOf_eqModTs {e : Env} (he : EnvOK e) {t t' : Int} {o o' : Cons.Output} {a b : SB}
    {r cd : Nat} {p p' : Cons.Payload}
    (ha : e.sbOf t o = some a) (hb : e.sbOf t' o' = some b)
    (hk : Cons.sigKey o = some (r, cd, p)) (hk' : Cons.sigKey o' = some (r, cd, p')) :
    eqModTs a b = true ↔ p = p' := by
  constructor
  · intro h
    obtain ⟨h1, _, _, h4, h5, _⟩ := eqModTs_fields h
    have pa := (payloadOf_sbOf he ha hk).1
    have pb := (payloadOf_sbOf he hb hk').1
    rw [← pa, ← pb]
    simp only [Env.payloadOf, h1, h4, h5]
  · intro h
    subst h
    have : o = o' := sigKey_inj hk hk'
    subst this
    -- one request at two times
    cases o with
    | signProposal r b pol => cases ha; cases hb; simp [eqModTs]
    | signVote ty r bid => cases ha; cases hb; simp [eqModTs]
    | _ => cases ha

theorem hrsLt_same_h (H a b c d : Int) : hrsLt (H, a, b) (H, c, d) ↔ a < c ∨ (a = c ∧ b < d) := by
  show (H < H ∨ (H = H ∧ (a < c ∨ (a = c ∧ b < d)))) ↔ _
  omega

/-- a state file the composed system can be in: of a lower height, or of this height holding the
sign bytes of a request of the consensus model -/
def Good (e : Env) (l : LSS Sig) : Prop :=
  l.h < e.H ∨ (l.h = e.H ∧ ∃ o t sb g, ∃ lr lc : Nat, ∃ lp,
    Cons.sigKey o = some (lr, lc, lp) ∧ e.sbOf t o = some sb ∧ l.r = lr ∧ l.step = lc ∧
    l.sb = some sb ∧ l.sig = some g)

theorem absLss_low {e : Env} {l : LSS Sig} (h : l.h < e.H) : e.absLss l = none := by
  unfold Env.absLss
  have : ¬ l.h = e.H := by omega
  simp [this]

theorem absLss_at {e : Env} (he : EnvOK e) {l : LSS Sig} {o : Cons.Output} {t : Int} {sb : SB}
    {lr lc : Nat} {lp : Cons.Payload} (hh : l.h = e.H) (hk : Cons.sigKey o = some (lr, lc, lp))
    (hs : e.sbOf t o = some sb) (hr : l.r = lr) (hc : l.step = lc) (hsb : l.sb = some sb) :
    e.absLss l = some (lr, lc, lp) := by
  unfold Env.absLss
  simp [hh, hsb, hr, hc, (payloadOf_sbOf he hs hk).1]

/-- the two signers agree call by call (read out at `Props.C04.abstract_signer_is_filepv`) -/
theorem sign_refines {e : Env} (he : EnvOK e) {c : Cons.Cfg} (hc : c.checkHRS = true) (sigOf : SB → Sig)
    (disk : LSS Sig) (rel : List (Rel Sig)) (hg : Good e disk)
    (s : Cons.NodeState) (hs : s.lss = e.absLss disk)
    (o : Cons.Output) (round code : Nat) (p : Cons.Payload) (hk : Cons.sigKey o = some (round, code, p))
    (t : Int) (q : Req) (hq : e.reqOf t o = some q) :
    (∀ s', Cons.sign c s round code p = some s' →
      ∃ disk' rel' sb sig, call sigOf ⟨disk, disk, .idle, rel⟩ q none = (⟨disk', disk', .idle, rel'⟩, .ok sb sig) ∧
        s'.lss = e.absLss disk' ∧ Good e disk' ∧ rel'.length = rel.length + 1) ∧
    (Cons.sign c s round code p = none →
      ∃ er, call sigOf ⟨disk, disk, .idle, rel⟩ q none = (⟨disk, disk, .idle, rel⟩, .err er)) := by
  obtain ⟨hst, hqh, hqr⟩ := reqStep_reqOf hq hk
  have hsbq : signBytes q = e.sbOf t o := signBytes_reqOf he hq
  obtain ⟨sb, hsb⟩ : ∃ sb, e.sbOf t o = some sb := by
    cases o <;> simp [Cons.sigKey] at hk <;> exact ⟨_, rfl⟩
  rw [hsb] at hsbq
  -- the state a fresh signature leaves behind
  have fresh_ok : checkHRS disk q.h q.r (code : Int) = .fresh →
      ∃ disk' rel' sb' sig, call sigOf ⟨disk, disk, .idle, rel⟩ q none = (⟨disk', disk', .idle, rel'⟩, .ok sb' sig) ∧
        some (round, code, p) = e.absLss disk' ∧ Good e disk' ∧ rel'.length = rel.length + 1 := by
    intro hchk
    refine ⟨_, _, _, _, call_fresh sigOf disk rel q _ sb hst hchk hsbq, ?_, ?_, rfl⟩
    · exact (absLss_at he hqh hk hsb hqr rfl rfl).symm
    · exact Or.inr ⟨hqh, o, t, sb, sigOf sb, round, code, p, hk, hsb, hqr, rfl, rfl, rfl⟩
  rcases hg with hlow | ⟨hh, lo, lt, lsb, g, lr, lc, lp, hlk, hlsb, hlr, hlc, hdsb, hdsig⟩
  · -- nothing signed at this height yet
    have habs : s.lss = none := by rw [hs, absLss_low hlow]
    have hchk : checkHRS disk q.h q.r (code : Int) = .fresh :=
      checkHRS_of_lt (Or.inl (by rw [hqh]; exact hlow))
    constructor
    · intro s' hs'
      unfold Cons.sign at hs'
      simp only [hc, habs, Bool.not_true, Bool.false_eq_true, if_false] at hs'
      cases hs'
      exact fresh_ok hchk
    · intro hn
      unfold Cons.sign at hn
      simp [hc, habs] at hn
  · have habs : s.lss = some (lr, lc, lp) := by rw [hs]; exact absLss_at he hh hlk hlsb hlr hlc hdsb
    have hHRS : lssHRS disk = (e.H, (lr : Int), (lc : Int)) := by simp [lssHRS, hh, hlr, hlc]
    constructor
    · intro s' hs'
      rcases Cons.sign_some hc hs' with ⟨rfl, hl⟩ | ⟨rfl, hl⟩
      · -- same (round, step, payload): the stored signature is reused
        rw [habs] at hl
        simp only [Option.some.injEq, Prod.mk.injEq] at hl
        obtain ⟨h1, h2, h3⟩ := hl
        subst h1; subst h2; subst h3
        have hchk : checkHRS disk q.h q.r (lc : Int) = .same :=
          checkHRS_eq_same (by rw [hHRS, hqh, hqr]) hdsb hdsig
        have hts : eqModTs lsb sb = true := (sbOf_eqModTs he hlsb hsb hlk hk).2 rfl
        refine ⟨disk, ⟨sb, lsb, g⟩ :: rel, lsb, g, ?_, hs, Or.inr ⟨hh, lo, lt, lsb, g, lr, lc, lp, hlk, hlsb, hlr, hlc, hdsb, hdsig⟩, rfl⟩
        rw [call_same sigOf disk rel q _ sb lsb g hst hchk hsbq hdsb hdsig, if_pos hts]
      · rcases hl with hn | ⟨lr', lc', lp', hl', hlt⟩
        · rw [habs] at hn; cases hn
        · rw [habs] at hl'
          simp only [Option.some.injEq, Prod.mk.injEq] at hl'
          obtain ⟨h1, h2, _⟩ := hl'
          subst h1; subst h2
          have hchk : checkHRS disk q.h q.r (code : Int) = .fresh := by
            apply checkHRS_of_lt
            rw [hHRS, hqh, hqr]
            exact (hrsLt_same_h _ _ _ _ _).2 (by omega)
          exact fresh_ok hchk
    · intro hn
      obtain ⟨lr', lc', lp', hl', hcase⟩ := Cons.sign_none hc hn
      rw [habs] at hl'
      simp only [Option.some.injEq, Prod.mk.injEq] at hl'
      obtain ⟨rfl, rfl, rfl⟩ := hl'
      rcases hcase with hlt | ⟨rfl, rfl, hne⟩
      · -- round or step regression
        obtain ⟨er, her⟩ := checkHRS_regression (l := disk) (h := q.h) (r := q.r) (st := (code : Int))
          (by rw [hHRS, hqh, hqr]; exact (hrsLt_same_h _ _ _ _ _).2 (by omega))
        exact ⟨er, call_err sigOf disk rel q _ er hst her⟩
      · -- same round and step, other payload: conflicting data
        have hchk : checkHRS disk q.h q.r (lc : Int) = .same :=
          checkHRS_eq_same (by rw [hHRS, hqh, hqr]) hdsb hdsig
        have hts : ¬ eqModTs lsb sb = true := fun h => hne ((sbOf_eqModTs he hlsb hsb hlk hk).1 h)
        exact ⟨.conflict, by rw [call_same sigOf disk rel q _ sb lsb g hst hchk hsbq hdsb hdsig, if_neg hts]⟩

/-! ### the agreement chained through a whole step of the consensus model -/

theorem reqOf_none {e : Env} {t : Int} {o : Cons.Output} (h : Cons.sigKey o = none) : e.reqOf t o = none := by
  cases o <;> simp [Cons.sigKey] at h <;> rfl

theorem reqOf_some {e : Env} {t : Int} {o : Cons.Output} {k : Nat × Nat × Cons.Payload}
    (h : Cons.sigKey o = some k) : ∃ q, e.reqOf t o = some q := by
  cases o <;> simp [Cons.sigKey] at h <;> exact ⟨_, rfl⟩

theorem signAll_append (sigOf : SB → Sig) (g : Sign.Cfg Sig) (qs : List Req) (q : Req) :
    signAll sigOf g (qs ++ [q]) = (call sigOf (signAll sigOf g qs) q none).1 := by
  simp [signAll, List.foldl_append]

/-- relation kept through a step: the real signer, driven by the requests released so far in this
step, is idle, `Good`, every call was answered with a signature, and its abstraction is the
consensus model's `lss` -/
def StepRel (e : Env) (t : Int) (sigOf : SB → Sig) (sg0 : Sign.Cfg Sig) (out0 : List Cons.Output)
    (out : List Cons.Output) (lss : Option (Nat × Nat × Cons.Payload)) : Prop :=
  ∃ disk rel, out0 <+: out ∧
    signAll sigOf sg0 ((out.drop out0.length).filterMap (e.reqOf t)) = ⟨disk, disk, .idle, rel⟩ ∧
    Good e disk ∧ lss = e.absLss disk ∧
    rel.length = sg0.rel.length + ((out.drop out0.length).filterMap (e.reqOf t)).length

theorem stepRel_closed {e : Env} (he : EnvOK e) {c : Cons.Cfg} (hc : c.checkHRS = true) (t : Int)
    (sigOf : SB → Sig) (sg0 : Sign.Cfg Sig) (out0 : List Cons.Output) :
    Cons.ChainClosed c (StepRel e t sigOf sg0 out0) := by
  constructor
  · intro out lss o ⟨disk, rel, hpre, hsa, hg, hl, hlen⟩ ho
    refine ⟨disk, rel, hpre.trans (List.prefix_append _ _), ?_, hg, hl, ?_⟩
    · rw [List.drop_append_of_le_length hpre.length_le, List.filterMap_append]
      simp [reqOf_none ho, hsa]
    · rw [List.drop_append_of_le_length hpre.length_le, List.filterMap_append]
      simp [reqOf_none ho, hlen]
  · intro s s' r cd p o ⟨disk, rel, hpre, hsa, hg, hl, hlen⟩ hsig ho
    obtain ⟨q, hq⟩ := reqOf_some (e := e) (t := t) ho
    obtain ⟨disk', rel', sb, sig, hcall, hl', hg', hlen'⟩ :=
      (sign_refines he hc sigOf disk rel hg s hl o r cd p ho t q hq).1 s' hsig
    have hout : s'.out = s.out := (Cons.sign_out hsig).1
    rw [hout]
    refine ⟨disk', rel', hpre.trans (List.prefix_append _ _), ?_, hg', hl', ?_⟩
    · rw [List.drop_append_of_le_length hpre.length_le, List.filterMap_append]
      simp only [List.filterMap_cons, hq, List.filterMap_nil]
      rw [signAll_append, hsa, hcall]
    · rw [List.drop_append_of_le_length hpre.length_le, List.filterMap_append]
      simp only [List.filterMap_cons, hq, List.filterMap_nil, List.length_append, List.length_singleton]
      omega

end Tmv.Node04
