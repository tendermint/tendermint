/-! "After every prefix of a sequence of writes": the form of every crash-consistency statement of
the stores (C18) and, through `Pipeline.prefAll_iff`, of the effect lists of C05; and how it composes. -/
namespace Tmv

def AllPrefix {σ ω : Type} (f : σ → ω → σ) (P : σ → Prop) (s : σ) (ws : List ω) : Prop :=
  ∀ k, P ((ws.take k).foldl f s)

namespace AllPrefix
variable {σ ω : Type} {f : σ → ω → σ} {P : σ → Prop} {s : σ}

theorem nil (h : P s) : AllPrefix f P s [] := by
  intro k; simpa using h

theorem first {ws : List ω} (h : AllPrefix f P s ws) : P s := by
  simpa using h 0

theorem last {ws : List ω} (h : AllPrefix f P s ws) : P (ws.foldl f s) := by
  simpa using h ws.length

theorem cons {w : ω} {ws : List ω} (h0 : P s) (h : AllPrefix f P (f s w) ws) :
    AllPrefix f P s (w :: ws) := by
  intro k
  cases k with
  | zero => exact h0
  | succ k => exact h k

theorem cons_iff {w : ω} {ws : List ω} : AllPrefix f P s (w :: ws) ↔ P s ∧ AllPrefix f P (f s w) ws :=
  ⟨fun h => ⟨h.first, fun k => h (k + 1)⟩, fun h => cons h.1 h.2⟩

theorem append {a b : List ω} (ha : AllPrefix f P s a) (hb : AllPrefix f P (a.foldl f s) b) :
    AllPrefix f P s (a ++ b) := by
  induction a generalizing s with
  | nil => exact hb
  | cons w a ih => exact cons_iff.2 ⟨ha.first, ih (cons_iff.1 ha).2 hb⟩

theorem of_append {a b : List ω} (h : AllPrefix f P s (a ++ b)) : AllPrefix f P (a.foldl f s) b := by
  induction a generalizing s with
  | nil => exact h
  | cons w a ih => exact ih (cons_iff.1 h).2

theorem snoc {a : List ω} {w : ω} (ha : AllPrefix f P s a) (h : P ((a ++ [w]).foldl f s)) :
    AllPrefix f P s (a ++ [w]) :=
  ha.append (cons ha.last (nil (by rwa [List.foldl_append] at h)))

theorem imp {Q : σ → Prop} {ws : List ω} (h : AllPrefix f P s ws) (hpq : ∀ s, P s → Q s) :
    AllPrefix f Q s ws :=
  fun k => hpq _ (h k)

theorem of_step {ws : List ω} : ∀ {s : σ}, P s → (∀ s w, w ∈ ws → P s → P (f s w)) → AllPrefix f P s ws := by
  induction ws with
  | nil => exact fun h0 _ => .nil h0
  | cons w ws ih =>
    exact fun h0 hs => .cons h0 (ih (hs _ w List.mem_cons_self h0)
      (fun s w' hw' => hs s w' (List.mem_cons_of_mem _ hw')))

end AllPrefix

end Tmv
