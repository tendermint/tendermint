import Tmv.Lemmas.Merkle
import Tmv.Model.TxProof
import Tmv.Lemmas.ListFacts
/-! What a Merkle path that recomputes a root binds: the leaf to an item of the tree, and — when the
claimed total is the real one — to the item at the claimed index. -/
namespace Tmv.Merkle
variable (H : Bytes → Bytes)

/-- Binding, for every tree (the empty one and one cut short by its fuel included) and every claimed
path shape. At each level both sides are `H` of a tagged string: the strings differ (a collision
between the two heads) or they agree, and then, all hashes having length `L`, so do the two halves. -/
theorem fromAunts_binds_traced (L : Nat) (hlen : ∀ x, (H x).length = L) :
    ∀ (g fuel : Nat) (items : List Bytes) (idx total : Nat) (leaf : Bytes) (aunts : List Bytes),
      fromAunts H g idx total (leafHash H leaf) aunts = some (rootF H fuel items) →
      (∃ j, ∃ h : j < items.length, leaf = items[j] ∧ (total = items.length → j = idx)) ∨
        CollisionIn H ((0 :: leaf) :: pathPre H g idx total (leafHash H leaf) aunts)
          (rootPre H fuel items) := by
  intro g
  induction g using Nat.strongRecOn with
  | _ g ih =>
  intro fuel items idx total leaf aunts h
  have hl : (leafHash H leaf).length = L := hlen _
  have hpath : ∀ (p : Bytes) (l : List Bytes), ∀ x ∈ (0 :: leaf) :: l, x ∈ (0 :: leaf) :: p :: l := by
    intro p l x hx
    rcases List.mem_cons.mp hx with e | m
    · exact e ▸ List.mem_cons_self
    · exact List.mem_cons_of_mem _ (List.mem_cons_of_mem _ m)
  rcases fromAunts_cases H h with ⟨ht, hi, _, hout, hp⟩ |
    ⟨g', rest, last, sub, rfl, ht, hi, _, ⟨hlt, hsub, hout, hp⟩ | ⟨hge, hsub, hout, hp⟩⟩
  · rw [hp]
    rcases rootF_cases H fuel items with ⟨_, hr, hpre⟩ | ⟨x, _, rfl, hr, hpre⟩ |
      ⟨f, k, _, _, _, _, hr, hpre⟩
    · exact Or.inr ⟨0 :: leaf, [], by simp, by simp [hpre], by simp, hout.symm.trans hr⟩
    · by_cases e : leaf = x
      · exact Or.inl ⟨0, by simp, by simp [e], fun _ => hi.symm⟩
      · exact Or.inr ⟨0 :: leaf, 0 :: x, by simp, by simp [hpre], by simp [e], hout.symm.trans hr⟩
    · exact Or.inr ⟨0 :: leaf, _, by simp, by simp [hpre], by simp, hout.symm.trans hr⟩
  · rw [hp]
    rcases rootF_cases H fuel items with ⟨_, hr, hpre⟩ | ⟨x, _, rfl, hr, hpre⟩ |
      ⟨f, k, rfl, hk, hk0, hkl, hr, hpre⟩
    · exact Or.inr ⟨_, [], by simp, by simp [hpre], by simp, hout.symm.trans hr⟩
    · exact Or.inr ⟨_, 0 :: x, by simp, by simp [hpre], by simp, hout.symm.trans hr⟩
    · rw [hpre]
      by_cases hc : (1 :: (sub ++ last) : Bytes) =
          1 :: (rootF H f (items.take k) ++ rootF H f (items.drop k))
      · obtain ⟨e1, _⟩ := List.append_inj (List.cons.inj hc).2
          ((fromAunts_len H L hlen hl hsub).trans (rootF_len H L hlen _ _).symm)
        rw [e1] at hsub
        have htl : (items.take k).length = k := by simp; omega
        rcases ih g' (by omega) f _ _ _ _ _ hsub with ⟨j, hj, he, hpos⟩ | hcol
        · refine Or.inl ⟨j, by omega, ?_, fun e => hpos (by rw [htl, hk, e])⟩
          rw [he, List.getElem_take]
        · exact Or.inr (hcol.mono H (hpath _ _)
            fun x hx => List.mem_cons_of_mem _ (List.mem_append_left _ hx))
      · exact Or.inr ⟨_, _, by simp, by simp, hc, hout.symm.trans hr⟩
  · rw [hp]
    rcases rootF_cases H fuel items with ⟨_, hr, hpre⟩ | ⟨x, _, rfl, hr, hpre⟩ |
      ⟨f, k, rfl, hk, hk0, hkl, hr, hpre⟩
    · exact Or.inr ⟨_, [], by simp, by simp [hpre], by simp, hout.symm.trans hr⟩
    · exact Or.inr ⟨_, 0 :: x, by simp, by simp [hpre], by simp, hout.symm.trans hr⟩
    · rw [hpre]
      by_cases hc : (1 :: (last ++ sub) : Bytes) =
          1 :: (rootF H f (items.take k) ++ rootF H f (items.drop k))
      · obtain ⟨_, e2⟩ := List.append_inj' (List.cons.inj hc).2
          ((fromAunts_len H L hlen hl hsub).trans (rootF_len H L hlen _ _).symm)
        rw [e2] at hsub
        rcases ih g' (by omega) f _ _ _ _ _ hsub with ⟨j, hj, he, hpos⟩ | hcol
        · have hdl : (items.drop k).length = items.length - k := List.length_drop
          refine Or.inl ⟨k + j, by omega, ?_, fun e => ?_⟩
          · rw [he, List.getElem_drop]
          · subst e
            have := hpos (by rw [hdl, hk]); omega
        · exact Or.inr (hcol.mono H (hpath _ _)
            fun x hx => List.mem_cons_of_mem _ (List.mem_append_right _ hx))
      · exact Or.inr ⟨_, _, by simp, by simp, hc, hout.symm.trans hr⟩

theorem fromAunts_inclusion_traced (L : Nat) (hlen : ∀ x, (H x).length = L)
    (fuel : Nat) (items : List Bytes) (fuel' idx total : Nat) (leaf : Bytes) (aunts : List Bytes)
    (h : fromAunts H fuel' idx total (leafHash H leaf) aunts = some (rootF H fuel items)) :
    leaf ∈ items ∨
      CollisionIn H ((0 :: leaf) :: pathPre H fuel' idx total (leafHash H leaf) aunts)
        (rootPre H fuel items) := by
  rcases fromAunts_binds_traced H L hlen _ _ _ _ _ _ _ h with ⟨j, hj, he, _⟩ | hc
  · exact Or.inl (he ▸ List.getElem_mem hj)
  · exact Or.inr hc

theorem fromAunts_position_traced (L : Nat) (hlen : ∀ x, (H x).length = L) :
    ∀ (fuel : Nat) (items : List Bytes) (idx : Nat) (leaf : Bytes) (aunts : List Bytes),
      items.length ≤ fuel → items ≠ [] →
      fromAunts H fuel idx items.length (leafHash H leaf) aunts = some (rootF H fuel items) →
      (∃ h : idx < items.length, leaf = items[idx]) ∨
        CollisionIn H ((0 :: leaf) :: pathPre H fuel idx items.length (leafHash H leaf) aunts)
          (rootPre H fuel items) := fun fuel items idx leaf aunts _ _ h =>
  (fromAunts_binds_traced H L hlen fuel fuel items idx items.length leaf aunts h).imp_left
    fun ⟨_, hj, he, hi⟩ => by cases hi rfl; exact ⟨hj, he⟩

theorem verify_binds_traced (L : Nat) (hlen : ∀ x, (H x).length = L) (items : List Bytes)
    (leaf : Bytes) (p : Proof) (hv : verify H (root H items) leaf p = .ok ()) :
    0 ≤ p.index ∧
    ((∃ j, ∃ h : j < items.length, leaf = items[j] ∧ (p.total.toNat = items.length → j = p.index.toNat)) ∨
      CollisionIn H
        ((0 :: leaf) :: pathPre H p.total.toNat p.index.toNat p.total.toNat (leafHash H leaf) p.aunts)
        (rootPre H items.length items)) := by
  obtain ⟨hl, hc⟩ := (verify_ok H).mp hv
  obtain ⟨h0, _, hf⟩ := (computeRoot_eq_some H).mp hc
  rw [hl] at hf
  exact ⟨h0, fromAunts_binds_traced H L hlen _ _ _ _ _ _ _ hf⟩

theorem verify_mem_traced (L : Nat) (hlen : ∀ x, (H x).length = L) (items : List Bytes)
    (leaf : Bytes) (p : Proof) (hv : verify H (root H items) leaf p = .ok ()) :
    leaf ∈ items ∨ CollisionIn H
      ((0 :: leaf) :: pathPre H p.total.toNat p.index.toNat p.total.toNat (leafHash H leaf) p.aunts)
      (rootPre H items.length items) := by
  rcases (verify_binds_traced H L hlen items leaf p hv).2 with ⟨j, hj, he, _⟩ | hc
  · exact Or.inl (he ▸ List.getElem_mem hj)
  · exact Or.inr hc

end Tmv.Merkle

namespace Tmv.TxProof
open Tmv.Merkle
variable (H : Bytes → Bytes)

theorem validate_ok {dataHash : Bytes} {tp : TxProof} (h : validate H dataHash tp = .ok ()) :
    dataHash = tp.rootHash ∧ verify H tp.rootHash (H tp.data) tp.proof = .ok () := by
  unfold validate at h
  obtain ⟨h1, h⟩ := of_ite_ne h nofun
  obtain ⟨_, h⟩ := of_ite_ne h nofun
  obtain ⟨_, h⟩ := of_ite_ne h nofun
  refine ⟨Decidable.of_not_not h1, ?_⟩
  cases hv : verify H tp.rootHash (H tp.data) tp.proof with
  | ok u => rfl
  | error e => rw [hv] at h; cases h

/-- A transaction proof that validates against `Txs.Hash` of `txs` is for one of them — or two
different strings collide, one hashed for the proof and one hashed for the block's data tree. -/
theorem validate_mem_traced (L : Nat) (hlen : ∀ x, (H x).length = L) (txs : List Bytes) (tp : TxProof)
    (h : validate H (txsHash H txs) tp = .ok ()) :
    tp.data ∈ txs ∨
      CollisionIn H
        (tp.data :: (0 :: H tp.data) ::
          pathPre H tp.proof.total.toNat tp.proof.index.toNat tp.proof.total.toNat
            (leafHash H (H tp.data)) tp.proof.aunts)
        (txs ++ rootPre H (txs.map H).length (txs.map H)) := by
  obtain ⟨hr, hv⟩ := validate_ok H h
  rw [← hr] at hv
  rcases verify_mem_traced H L hlen _ _ _ hv with hm | hc
  · obtain ⟨tx, hmem, heq⟩ := List.mem_map.mp hm
    by_cases hx : tp.data = tx
    · exact Or.inl (hx ▸ hmem)
    · exact Or.inr ⟨tp.data, tx, List.mem_cons_self, List.mem_append_left _ hmem, hx, heq.symm⟩
  · exact Or.inr (hc.mono H (fun x hx => List.mem_cons_of_mem _ hx) (fun x hx => List.mem_append_right _ hx))

end Tmv.TxProof
