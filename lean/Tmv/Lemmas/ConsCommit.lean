import Tmv.Lemmas.ConsDelivered
import Tmv.Lemmas.NetCommit
import Tmv.Model.VoteSetCommit
/-! `VoteSet.makeCommit` is sound: the canonical vote slots (`votes[i]`) hold delivered well-formed votes
(or the node's own), the slots of the members of a recorded majority bucket hold the majority value
(C01's invariant `CSv`, through `run`), so the commit flags exactly the slots voting the majority
block, with more than two thirds of the power. -/
namespace Tmv.Cons
open Tmv.Net (CSv CSh)

/-- every canonical slot holds a vote of a validator in range that satisfies `E` -/
def VDv (c : Cfg) (E : Bid → Nat → Bool) (vs : VoteSet) : Prop :=
  ∀ i key, alookup vs.votes i = some key → i < c.n ∧ E key i = true

theorem VDv.empty (c : Cfg) (E) : VDv c E VoteSet.empty := by
  intro i key h; simp [VoteSet.empty, alookup] at h

theorem VoteSet.recordVote_VD (c : Cfg) (E : Bid → Nat → Bool) (vs : VoteSet) (idx : Nat) (key : Bid)
    (hi : idx < c.n) (he : E key idx = true) (h : VDv c E vs) : VDv c E (vs.recordVote c idx key) := by
  have hs : VDv c E { vs with votes := aset vs.votes idx key } := by
    intro i k hk
    simp only [] at hk
    rw [alookup_aset] at hk
    by_cases e : i = idx
    · subst e; simp at hk; subst hk; exact ⟨hi, he⟩
    · simp [e] at hk; exact h i k hk
  rcases VoteSet.recordVote_cases c vs idx key with ⟨_, _, e⟩ | ⟨_, _, e⟩ | ⟨_, e⟩ <;> rw [e]
  · exact h
  · exact hs
  · exact hs

theorem VoteSet.finish_VD (c : Cfg) (E : Bid → Nat → Bool) (vs : VoteSet) (idx : Nat) (key : Bid) (bv : BlockVotes)
    (hb : MSb c (E key) (bv.add idx (c.power idx))) (h : VDv c E vs) :
    VDv c E (VoteSet.finish c vs idx key bv).1 := by
  intro i k hk
  rcases (VoteSet.finish_cases c vs idx key bv).2.2 with ⟨_, ev, _⟩ | ⟨_, _, _, _, ev⟩ <;> rw [ev] at hk
  · exact h i k hk
  · rw [alookup_foldl_aset] at hk
    by_cases hm : i ∈ (bv.add idx (c.power idx)).voted
    · rw [if_pos hm] at hk; cases hk; exact hb.2.2 i hm
    · rw [if_neg hm] at hk; exact h i k hk

theorem VoteSet.addVerified_VD (c : Cfg) (E : Bid → Nat → Bool) (vs : VoteSet) (idx : Nat) (key : Bid)
    (hi : idx < c.n) (he : E key idx = true) (hm : MSv c E vs) (h : VDv c E vs) :
    VDv c E (vs.addVerified c idx key).1 := by
  have h1 := VoteSet.recordVote_VD c E vs idx key hi he h
  rw [VoteSet.addVerified_eq]
  split
  · exact h1
  · exact VoteSet.finish_VD c E _ idx key _ (MSb.add c _ _ idx (hm.bucket key) hi he) h1

theorem VoteSet.addVote_VD (c : Cfg) (E : Bid → Nat → Bool) (vs : VoteSet) (v : Vote) (hm : MSv c E vs) (h : VDv c E vs)
    (hv : v.val < c.n → v.sigOK = true → v.addr = v.val → v.signer = v.val → E v.bid v.val = true) :
    VDv c E (vs.addVote c v).1 := by
  rcases VoteSet.addVote_cases c vs v with e | ⟨hlt, ha, _, hs, hk, e⟩ <;> rw [e]
  · exact h
  · exact VoteSet.addVerified_VD c E vs _ _ hlt (hv hlt hs ha hk) hm h

theorem VoteSet.setPeerMaj23_VD (c : Cfg) (E) (vs : VoteSet) (peer : Peer) (key : Bid) (h : VDv c E vs) :
    VDv c E (vs.setPeerMaj23 peer key) :=
  fun i k hk => h i k ((VoteSet.setPeerMaj23_fields vs peer key).1 ▸ hk)

/-- the slots are kept together with the buckets: a bucket reaching the quorum overwrites its members' slots -/
theorem MSVD.kept (c : Cfg) (E : Bid → Nat → Bool) :
    VoteSet.Kept c (fun v => v.val < c.n → v.sigOK = true → v.addr = v.val → v.signer = v.val → E v.bid v.val = true)
      (fun vs => MSv c E vs ∧ VDv c E vs) :=
  ⟨⟨MSv.empty c E, VDv.empty c E⟩,
   fun vs v hv h => ⟨VoteSet.addVote_MS' c E vs v h.1 hv, VoteSet.addVote_VD c E vs v h.1 h.2 hv⟩,
   fun vs p k h => ⟨VoteSet.setPeerMaj23_MS c E vs p k h.1, VoteSet.setPeerMaj23_VD c E vs p k h.2⟩⟩

/-- every vote set of the height vote set satisfies `VDv` -/
def VDh (c : Cfg) (E : VType → Int → Bid → Nat → Bool) (h : HVS) : Prop := HVS.All (fun r t => VDv c (E t r)) h

theorem VDh.init (c : Cfg) (E) : VDh c E HVS.init := HVS.All.init fun _ => VDv.empty c _

theorem VDh.getVoteSet {c : Cfg} {E} {h : HVS} (hq : VDh c E h) {r : Int} {t : VType} {vs : VoteSet}
    (hg : h.getVoteSet r t = some vs) : VDv c (E t r) vs := hq r t vs hg

theorem VDh.ext {c : Cfg} {A : Int → VType → Vote → Prop} {E : VType → Int → Bid → Nat → Bool} {a b : HVS}
    (hx : HExt c A a b)
    (hA : ∀ r t v, A r t v → v.val < c.n → v.sigOK = true → v.addr = v.val → v.signer = v.val → E t r v.bid v.val = true)
    (hm : MSh c E a) (hv : VDh c E a) : VDh c E b :=
  fun r t vs hg =>
    ((hx.mono hA).all (P := fun r t vs => MSv c (E t r) vs ∧ VDv c (E t r) vs) (fun r t => MSVD.kept c (E t r))
      (fun r t vs hg => ⟨hm.getVoteSet hg, hv r t vs hg⟩) r t vs hg).2

theorem DI.vd {c past votes out queue} (h : DI c past votes out queue) : VDh c (Ev c past out) votes :=
  .ext h.x (fun _ _ _ => id) (MSh.init c _) (VDh.init c _)

variable {c : Cfg} {past : List Input}

/-! C01's invariants `CSh` and `PostD` (Lemmas/NetCommit) through `run` -/

theorem run_CS (is : List Input) {s : NodeState} (h : CSh s.votes) : CSh (run c s is).votes := .ext (run_votes c is s) h

theorem run_PostD (is : List Input) {s : NodeState} (h : Tmv.Net.PostD s) : Tmv.Net.PostD (run c s is) :=
  run_invariant (fun s i => step_invariant (ok := False) (fun _ _ hp => Tmv.Net.PostD_prim hp)
    (fun s m rest _ => Tmv.Net.enter_PostD (s := { s with queue := rest }) m.asInput) s i nofun (Tmv.Net.enter_PostD i)) is h

end Tmv.Cons

namespace Tmv.Cons
open Tmv.Net (CSv CSh)

/-- the flag `makeCommit` gives slot `i` for majority `m` -/
def slotFlag (vs : VoteSet) (m : Bid) (i : Nat) : SigFlag :=
  match alookup vs.votes i with
  | none => SigFlag.absent
  | some none => SigFlag.nil
  | some (some b) => if some b = m then SigFlag.commit else SigFlag.absent

theorem makeCommit_eq (n : Nat) (vs : VoteSet) (m : Bid) (h : vs.maj23 = some m) :
    vs.makeCommit n = some (m, (List.range n).map (slotFlag vs m)) := by
  unfold VoteSet.makeCommit; rw [h]; rfl

theorem slotFlag_commit_iff (vs : VoteSet) (b i : Nat) :
    slotFlag vs (some b) i = .commit ↔ alookup vs.votes i = some (some b) := by
  unfold slotFlag
  cases h : alookup vs.votes i with
  | none => simp
  | some x =>
    cases x with
    | none => simp
    | some b' =>
      by_cases e : b' = b
      · simp [e]
      · simp [e]

theorem slotFlag_nil_iff (vs : VoteSet) (b i : Nat) :
    slotFlag vs (some b) i = .nil ↔ alookup vs.votes i = some none := by
  unfold slotFlag
  cases h : alookup vs.votes i with
  | none => simp
  | some x =>
    cases x with
    | none => simp
    | some b' =>
      by_cases e : b' = b
      · simp [e]
      · simp [e]

theorem commitPower_flags (c : Cfg) (vs : VoteSet) (m : Bid) :
    commitPower c ((List.range c.n).map (slotFlag vs m)) =
      VoteLog.wtUpTo c.power (fun i => decide (slotFlag vs m i = .commit)) c.n := by
  unfold commitPower
  rw [← sum_range_if_eq_wt]
  simp only [List.length_map, List.length_range]
  congr 1
  apply List.map_congr_left
  intro i hi
  rw [getD_map_range _ _ _ _ (List.mem_range.mp hi)]
  simp

/-- **makeCommit is sound** at vote-set level: given the bucket invariants of a vote set with a recorded
majority for block `b` -/
theorem VoteSet.makeCommit_sound (c : Cfg) (E : Bid → Nat → Bool) (vs : VoteSet) (b : Nat)
    (hm : vs.maj23 = some (some b)) (hms : MSv c E vs) (hvd : VDv c E vs) (hcs : CSv vs) (hq : Qv c vs) :
    ∃ flags, vs.makeCommit c.n = some (some b, flags) ∧ flags.length = c.n ∧
      (∀ i, i < c.n → (flags.getD i .absent = .commit ↔ alookup vs.votes i = some (some b))) ∧
      (∀ i, i < c.n → (flags.getD i .absent = .nil ↔ alookup vs.votes i = some none)) ∧
      (∀ i, i < c.n → flags.getD i .absent = .commit → E (some b) i = true) ∧
      2 * c.total < 3 * commitPower c flags := by
  refine ⟨_, makeCommit_eq c.n vs _ hm, by simp, ?_, ?_, ?_, ?_⟩
  · intro i hi; rw [getD_map_range _ _ _ _ hi]; exact slotFlag_commit_iff vs b i
  · intro i hi; rw [getD_map_range _ _ _ _ hi]; exact slotFlag_nil_iff vs b i
  · intro i hi hf
    rw [getD_map_range _ _ _ _ hi] at hf
    exact (hvd i (some b) ((slotFlag_commit_iff vs b i).1 hf)).2
  · have hqq := (quorum_iff c _).1 (hq _ hm)
    have hle := MSv.blockSum_le hms (some b) (fun i => decide (slotFlag vs (some b) i = .commit))
      fun bv hl v hv => by simp [(slotFlag_commit_iff vs b v).2 (hcs (some b) bv hm hl v hv)]
    rw [commitPower_flags]
    omega

end Tmv.Cons
