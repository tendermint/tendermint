import Tmv.Lemmas.CommitVerify
/-! One tally loop for the three entry points of commit verification: an indexed loop with early
return (`loopM`), the step all three share (`slotStep`, with what one slot can do listed as `Slot`),
and a `Policy` per entry point saying which validator answers for a slot. The loops of the model
are proved to be instances; what holds of all of them is proved once, of `tallyLoop`. -/
namespace Tmv.CommitVerify

section
variable {α β ε : Type}

/-- `for idx, s := range ss { st, err = step(s, idx, st); if err != nil { return err } }` -/
def loopM (step : α → Nat → β → Except ε β) : List α → Nat → β → Except ε β
  | [], _, st => .ok st
  | s :: ss, idx, st =>
    match step s idx st with
    | .error e => .error e
    | .ok st' => loopM step ss (idx + 1) st'

theorem loopM_inv (step : α → Nat → β → Except ε β) (l : List α) (I : Nat → β → Prop)
    (hstep : ∀ i s st st', l[i]? = some s → I i st → step s i st = .ok st' → I (i + 1) st') :
    ∀ (ss : List α) (idx : Nat) (st : β), (∀ k, ss[k]? = l[idx + k]?) → I idx st →
      (∀ st', loopM step ss idx st = .ok st' → I (idx + ss.length) st') ∧
      (∀ e, loopM step ss idx st = .error e →
        ∃ i s st0, l[i]? = some s ∧ I i st0 ∧ step s i st0 = .error e) := by
  intro ss
  induction ss with
  | nil => intro idx st _ h; exact ⟨fun st' e => by cases e; exact h, fun e h => by cases h⟩
  | cons s ss ih =>
    intro idx st hal h
    obtain ⟨hs, hal'⟩ := suffix_step hal
    rw [loopM, List.length_cons, ← Nat.add_assoc, Nat.add_right_comm]
    cases hst : step s idx st with
    | error e =>
      dsimp only
      exact ⟨fun _ h' => (nomatch h'), fun e' h' => by cases h'; exact ⟨idx, s, st, hs, h, hst⟩⟩
    | ok st1 => exact ih (idx + 1) st1 hal' (hstep idx s st st1 hs h hst)

theorem loopM_congr (step step' : α → Nat → β → Except ε β) (l : List α)
    (h : ∀ i s st, l[i]? = some s → step s i st = step' s i st) :
    ∀ (ss : List α) (idx : Nat) (st : β), (∀ k, ss[k]? = l[idx + k]?) →
      loopM step ss idx st = loopM step' ss idx st := by
  intro ss
  induction ss with
  | nil => intro _ _ _; rfl
  | cons s ss ih =>
    intro idx st hal
    obtain ⟨hs, hal'⟩ := suffix_step hal
    rw [loopM, loopM, h idx s st hs]
    cases step' s idx st with
    | error e => rfl
    | ok st1 => exact ih (idx + 1) st1 hal'

theorem loopM_append (step : α → Nat → β → Except ε β) :
    ∀ (pre rest : List α) (idx : Nat) (st : β),
      loopM step (pre ++ rest) idx st =
        (loopM step pre idx st).bind (loopM step rest (idx + pre.length)) := by
  intro pre
  induction pre with
  | nil => intro _ _ _; rfl
  | cons s pre ih =>
    intro rest idx st
    rw [List.cons_append, loopM, loopM, List.length_cons, ← Nat.add_assoc, Nat.add_right_comm]
    cases step s idx st with
    | error e => rfl
    | ok st1 => exact ih rest (idx + 1) st1
end

section
variable {σ : Type}

/-- how an entry point goes through the slots: `look s idx` is the validator (number and record)
that answers for slot `idx`, `none` for a slot that is passed over; `stop`: return at the first
crossing -/
structure Policy (σ : Type) where
  look : CommitSig σ → Nat → Option (Nat × Validator)
  stop : Bool

/-- `seenVals` (validator number ↦ slot) and the tally -/
abbrev St := List (Nat × Nat) × Int

variable (sigOK : Nat → SignBytes → σ → Bool) (vs : List Validator) (chainID : String) (c : Commit σ)
  (P : Policy σ) (needed : Int)

def slotStep (s : CommitSig σ) (idx : Nat) (st : St) : Except Res St :=
  match P.look s idx with
  | none => .ok st
  | some (j, v) =>
    match st.1.lookup j with
    | some first => .error (.doubleVote first idx)
    | none =>
      match checkSlot sigOK chainID c v s idx with
      | .error e => .error e
      | .ok () =>
        if s.flag = flagCommit then
          if P.stop = true ∧ wrap64 (st.2 + v.power) > needed then .error .ok
          else .ok ((j, idx) :: st.1, wrap64 (st.2 + v.power))
        else .ok st

def tallyLoop : List (CommitSig σ) → Nat → St → Except Res St :=
  loopM (slotStep sigOK chainID c P needed)

/-- The leaves of `slotStep`, each with the guards that lead to it. Proofs about the loop take one
step apart with `Slot.of_eq` and `cases` instead of unfolding `slotStep`. -/
inductive Slot (s : CommitSig σ) (idx : Nat) (st : St) : Except Res St → Prop
  | pass : P.look s idx = none → Slot s idx st (.ok st)
  | double {j v first} : P.look s idx = some (j, v) → st.1.lookup j = some first →
      Slot s idx st (.error (.doubleVote first idx))
  | bad {j v e} : P.look s idx = some (j, v) → checkSlot sigOK chainID c v s idx = .error e →
      Slot s idx st (.error e)
  | other {j v} : P.look s idx = some (j, v) → checkSlot sigOK chainID c v s idx = .ok () →
      s.flag ≠ flagCommit → Slot s idx st (.ok st)
  | cross {j v} : P.look s idx = some (j, v) → st.1.lookup j = none →
      checkSlot sigOK chainID c v s idx = .ok () → s.flag = flagCommit → P.stop = true →
      wrap64 (st.2 + v.power) > needed → Slot s idx st (.error .ok)
  | count {j v} : P.look s idx = some (j, v) → st.1.lookup j = none →
      checkSlot sigOK chainID c v s idx = .ok () → s.flag = flagCommit →
      Slot s idx st (.ok ((j, idx) :: st.1, wrap64 (st.2 + v.power)))

theorem slotStep_spec (s : CommitSig σ) (idx : Nat) (st : St) :
    Slot sigOK chainID c P needed s idx st (slotStep sigOK chainID c P needed s idx st) := by
  unfold slotStep
  cases hl : P.look s idx with
  | none => exact .pass hl
  | some jv =>
    obtain ⟨j, v⟩ := jv
    dsimp only
    cases hk : st.1.lookup j with
    | some first => exact .double hl hk
    | none =>
      dsimp only
      cases hc : checkSlot sigOK chainID c v s idx with
      | error e => exact .bad hl hc
      | ok u =>
        dsimp only
        by_cases hf : s.flag = flagCommit
        case neg => rw [if_neg hf]; exact .other hl hc hf
        rw [if_pos hf]
        by_cases hx : P.stop = true ∧ wrap64 (st.2 + v.power) > needed
        · rw [if_pos hx]; exact .cross hl hk hc hf hx.1 hx.2
        · rw [if_neg hx]; exact .count hl hk hc hf

variable {sigOK chainID c P needed} in
theorem Slot.of_eq {s : CommitSig σ} {idx : Nat} {st : St} {r : Except Res St}
    (h : slotStep sigOK chainID c P needed s idx st = r) : Slot sigOK chainID c P needed s idx st r :=
  h ▸ slotStep_spec ..

/-- validator number `p.1` was counted for slot `p.2`, found by address (`byAddr`) or by position -/
def Counted (byAddr : Bool) (p : Nat × Nat) : Prop :=
  ∃ v s, vs[p.1]? = some v ∧ c.sigs[p.2]? = some s ∧ s.flag = flagCommit ∧
    (if byAddr = true then s.addr = v.addr else p.1 = p.2) ∧ checkSlot sigOK chainID c v s p.2 = .ok ()

/-- The loop invariant behind soundness; `tally` says that the int64 sum has not wrapped so far. -/
structure Tallied (byAddr : Bool) (st : St) : Prop where
  nodup : (st.1.map Prod.fst).Nodup
  counted : ∀ p ∈ st.1, Counted sigOK vs chainID c byAddr p
  tally : st.2 = pickedPower vs (st.1.map Prod.fst)

/-- All that soundness asks of a policy. -/
def Policy.Finds (byAddr : Bool) : Prop :=
  ∀ {s i j v}, P.look s i = some (j, v) →
    vs[j]? = some v ∧ if byAddr = true then s.addr = v.addr else j = i

variable {sigOK vs chainID c P needed}

theorem lookup_none_not_mem {seen : List (Nat × Nat)} {j : Nat} (h : seen.lookup j = none) :
    j ∉ seen.map Prod.fst := by
  intro hm
  obtain ⟨p, hp, rfl⟩ := List.mem_map.mp hm
  have := List.lookup_eq_none_iff.mp h p hp
  simp at this

/-- the int64 sum does not wrap: distinct validators carry no more than the total -/
theorem Tallied.count {byAddr : Bool} (hP : P.Finds vs byAddr) (hnn : NonNeg vs)
    (hT : sumPower vs ≤ maxTotalVotingPower) {s : CommitSig σ} {idx : Nat} {st : St}
    (hs : c.sigs[idx]? = some s) (h : Tallied sigOK vs chainID c byAddr st) {j : Nat} {v : Validator}
    (hl : P.look s idx = some (j, v)) (hk : st.1.lookup j = none)
    (hc : checkSlot sigOK chainID c v s idx = .ok ()) (hf : s.flag = flagCommit) :
    Tallied sigOK vs chainID c byAddr ((j, idx) :: st.1, wrap64 (st.2 + v.power)) := by
  obtain ⟨hv, ha⟩ := hP hl
  have hnd : (((j, idx) :: st.1).map Prod.fst).Nodup :=
    List.nodup_cons.mpr ⟨lookup_none_not_mem hk, h.nodup⟩
  refine ⟨hnd, ?_, ?_⟩
  · intro p hp
    rcases List.mem_cons.mp hp with rfl | hp
    · exact ⟨v, s, hv, hs, hf, ha, hc⟩
    · exact h.counted p hp
  · show wrap64 (st.2 + v.power) = pickedPower vs (j :: st.1.map Prod.fst)
    rw [h.tally]; exact tally_step hnn hT hnd hv

def tally (sigOK : Nat → SignBytes → σ → Bool) (chainID : String) (c : Commit σ) (P : Policy σ)
    (needed : Int) : Except Res Int :=
  (tallyLoop sigOK chainID c P needed c.sigs 0 ([], 0)).map Prod.snd

/-- what an entry point answers after its loop: only `VerifyCommit` (`exact`) compares at the end -/
def verdict (exact : Bool) (needed : Int) : Except Res Int → Res
  | .error r => r
  | .ok got =>
    bif exact then (if got ≤ needed then .notEnough got needed else .ok) else .notEnough got needed

theorem accepted {byAddr exact : Bool} (hP : P.Finds vs byAddr) (hnn : NonNeg vs)
    (hT : sumPower vs ≤ maxTotalVotingPower)
    (h : verdict exact needed (tally sigOK chainID c P needed) = .ok) :
    ∃ st, Tallied sigOK vs chainID c byAddr st ∧ st.2 > needed := by
  obtain ⟨h1, h2⟩ := loopM_inv (slotStep sigOK chainID c P needed) c.sigs
    (fun _ st => Tallied sigOK vs chainID c byAddr st)
    (fun i s st st' hs ht e => by
      cases Slot.of_eq e with
      | pass => exact ht
      | other => exact ht
      | count hl hk hc hf => exact ht.count hP hnn hT hs hl hk hc hf)
    c.sigs 0 ([], 0) (fun k => by rw [Nat.zero_add]) ⟨List.nodup_nil, nofun, rfl⟩
  unfold tally tallyLoop at h
  cases hl : loopM (slotStep sigOK chainID c P needed) c.sigs 0 ([], 0) with
  | error e =>
    rw [hl] at h
    obtain rfl : e = .ok := h
    obtain ⟨i, s, st0, hs, h0, he⟩ := h2 _ hl
    cases Slot.of_eq he with
    | bad _ hc => exact absurd rfl (checkSlot_error_ne_ok sigOK chainID c hc)
    | cross hl hk hc hf _ hx => exact ⟨_, h0.count hP hnn hT hs hl hk hc hf, hx⟩
  | ok st =>
    rw [hl] at h
    cases exact with
    | false => cases h
    | true =>
      by_cases hg : st.2 ≤ needed
      · rw [Except.map, verdict, if_pos hg] at h; cases h
      · exact ⟨_, h1 st hl, by omega⟩

theorem tallyLoop_error {st : St} {e : Res}
    (h : tallyLoop sigOK chainID c P needed c.sigs 0 st = .error e) :
    ∃ i s st0, c.sigs[i]? = some s ∧ Slot sigOK chainID c P needed s i st0 (.error e) := by
  obtain ⟨i, s, st0, hs, _, he⟩ := (loopM_inv (slotStep sigOK chainID c P needed) c.sigs (fun _ _ => True)
    (fun _ _ _ _ _ _ _ => trivial) c.sigs 0 st (fun k => by rw [Nat.zero_add]) trivial).2 e h
  exact ⟨i, s, st0, hs, .of_eq he⟩

theorem tallyLoop_ok_slot {st st' : St} (h : tallyLoop sigOK chainID c P needed c.sigs 0 st = .ok st')
    {i : Nat} {s : CommitSig σ} {j : Nat} {v : Validator} (hs : c.sigs[i]? = some s)
    (hl : P.look s i = some (j, v)) :
    checkSlot sigOK chainID c v s i = .ok () ∧ (s.flag = flagCommit → (st'.1.lookup j).isSome) := by
  have := (loopM_inv (slotStep sigOK chainID c P needed) c.sigs
    (fun n st => ∀ i < n, ∀ s j v, c.sigs[i]? = some s → P.look s i = some (j, v) →
      checkSlot sigOK chainID c v s i = .ok () ∧ (s.flag = flagCommit → (st.1.lookup j).isSome))
    (fun n s0 st0 st1 hs0 hI e i hi s j v hs hl => by
      have hsl := Slot.of_eq e
      rcases Nat.lt_succ_iff_lt_or_eq.mp hi with hi | rfl
      · obtain ⟨h1, h2⟩ := hI i hi s j v hs hl
        refine ⟨h1, fun hf => ?_⟩
        cases hsl with
        | pass => exact h2 hf
        | other => exact h2 hf
        | count => rw [List.lookup_cons]; split; rfl; exact h2 hf
      obtain rfl : s0 = s := Option.some.inj (hs0.symm.trans hs)
      cases hsl with
      | pass hl' => rw [hl] at hl'; cases hl'
      | other hl' hc hf => rw [hl] at hl'; cases hl'; exact ⟨hc, fun h => absurd h hf⟩
      | count hl' _ hc => rw [hl] at hl'; cases hl'; exact ⟨hc, fun _ => by simp⟩)
    c.sigs 0 st (fun k => by rw [Nat.zero_add]) (fun _ hi => absurd hi (Nat.not_lt_zero _))).1 st' h
  exact this i (by rw [Nat.zero_add]; exact (List.getElem?_eq_some_iff.mp hs).1) s j v hs hl
end

section
variable {σ : Type} (sigOK : Nat → SignBytes → σ → Bool) (vs : List Validator) (chainID : String)
  (c : Commit σ) (needed : Int)

/-- by index: `VerifyCommit` skips the absent slots, `VerifyCommitLight` all but the for-block
slots and returns early. (Beyond the set the code would panic; the entry points compare the sizes
first.) -/
def idxP (skip : CommitSig σ → Prop) [DecidablePred skip] (stop : Bool) : Policy σ where
  look s idx := if skip s then none else vs[idx]?.map (idx, ·)
  stop := stop

/-- by address: `VerifyCommitLightTrusting` -/
def addrP : Policy σ where
  look s _ := if s.flag ≠ flagCommit then none else findByAddr vs s.addr 0
  stop := true

abbrev fullP : Policy σ := idxP vs (·.flag = flagAbsent) false
abbrev lightP : Policy σ := idxP vs (·.flag ≠ flagCommit) true

theorem idxP_look {skip : CommitSig σ → Prop} [DecidablePred skip] {stop : Bool} {s : CommitSig σ}
    {i : Nat} (h : ¬ skip s) {v : Validator} (hv : vs[i]? = some v) :
    (idxP vs skip stop).look s i = some (i, v) := by
  simp only [idxP, if_neg h, hv, Option.map_some]

theorem idxP_skip {skip : CommitSig σ → Prop} [DecidablePred skip] {stop : Bool} {s : CommitSig σ}
    (h : skip s) (i : Nat) : (idxP vs skip stop).look s i = none := by
  simp only [idxP, if_pos h]

theorem addrP_look {s : CommitSig σ} (hf : s.flag = flagCommit) (i : Nat) :
    (addrP vs).look s i = findByAddr vs s.addr 0 := by
  simp only [addrP, if_neg (not_not_intro hf)]

theorem idxP_finds (skip : CommitSig σ → Prop) [DecidablePred skip] (stop : Bool) :
    (idxP vs skip stop).Finds vs false := by
  intro s i j v h
  by_cases hk : skip s
  · rw [idxP_skip vs hk] at h; cases h
  · cases hv : vs[i]? with
    | none => simp only [idxP, if_neg hk, hv, Option.map_none] at h; cases h
    | some w => rw [idxP_look vs hk hv] at h; cases h; exact ⟨hv, rfl⟩

theorem addrP_finds : (addrP vs : Policy σ).Finds vs true := by
  intro s i j v h
  by_cases hf : s.flag = flagCommit
  · rw [addrP_look vs hf] at h
    obtain ⟨k, hk, hv, ha⟩ := findByAddr_spec vs s.addr 0 j v h
    obtain rfl : j = k := by omega
    exact ⟨hv, ha.symm⟩
  · simp only [addrP, if_pos hf] at h; cases h

theorem lt_cons {seen : List (Nat × Nat)} {idx : Nat} (h : ∀ p ∈ seen, p.1 < idx) (k : Nat) :
    ∀ p ∈ (idx, k) :: seen, p.1 < idx + 1 := by
  intro p hp
  rcases List.mem_cons.mp hp with rfl | hp
  · exact Nat.lt_succ_self _
  · exact Nat.lt_succ_of_lt (h p hp)

/-- by index the double-vote check never fires -/
theorem slotStep_idx {skip : CommitSig σ → Prop} [DecidablePred skip] {stop : Bool} {s : CommitSig σ}
    {idx : Nat} {st : St} (hk : ¬ skip s) {v : Validator} (hv : vs[idx]? = some v)
    (hlt : ∀ p ∈ st.1, p.1 < idx) :
    slotStep sigOK chainID c (idxP vs skip stop) needed s idx st =
      match checkSlot sigOK chainID c v s idx with
      | .error e => .error e
      | .ok () =>
        if s.flag = flagCommit then
          if stop = true ∧ wrap64 (st.2 + v.power) > needed then .error .ok
          else .ok ((idx, idx) :: st.1, wrap64 (st.2 + v.power))
        else .ok st := by
  rw [slotStep, idxP_look vs hk hv]
  dsimp only
  rw [List.lookup_eq_none_iff.mpr fun p hp => by have := hlt p hp; simp; omega]
  rfl

theorem fullLoop_eq : ∀ (ss : List (CommitSig σ)) (idx : Nat) (st : St), idx + ss.length ≤ vs.length →
    (∀ p ∈ st.1, p.1 < idx) →
    fullLoop sigOK vs chainID c ss idx st.2 =
      (tallyLoop sigOK chainID c (fullP vs) needed ss idx st).map Prod.snd := by
  intro ss
  induction ss with
  | nil => intro _ _ _ _; rfl
  | cons s ss ih =>
    intro idx st hl hlt
    rw [List.length_cons] at hl
    have hlt' : ∀ p ∈ st.1, p.1 < idx + 1 := fun p hp => Nat.lt_succ_of_lt (hlt p hp)
    rw [fullLoop, tallyLoop, loopM]
    by_cases ha : s.flag = flagAbsent
    · rw [if_pos ha, slotStep, idxP_skip vs ha]; exact ih _ _ (by omega) hlt'
    obtain ⟨v, hv⟩ : ∃ v, vs[idx]? = some v := ⟨_, List.getElem?_eq_getElem (by omega)⟩
    rw [if_neg ha, hv, slotStep_idx sigOK vs chainID c needed ha hv hlt, checkSlot]
    dsimp only
    cases voteSignBytes chainID c s with
    | error e => rfl
    | ok sb =>
      dsimp only
      cases sigOK v.key sb s.sig with
      | false => rfl
      | true =>
        simp only [Bool.not_true, Bool.false_eq_true, if_false]
        by_cases hf : s.flag = flagCommit
        · rw [if_pos hf, if_pos hf, if_neg (fun h => nomatch h.1)]
          exact ih _ (_, _) (by omega) (lt_cons hlt idx)
        · rw [if_neg hf, if_neg hf]; exact ih _ _ (by omega) hlt'

theorem lightLoop_eq : ∀ (ss : List (CommitSig σ)) (idx : Nat) (st : St), idx + ss.length ≤ vs.length →
    (∀ p ∈ st.1, p.1 < idx) →
    lightLoop sigOK vs chainID c needed ss idx st.2 =
      (tallyLoop sigOK chainID c (lightP vs) needed ss idx st).map Prod.snd := by
  intro ss
  induction ss with
  | nil => intro _ _ _ _; rfl
  | cons s ss ih =>
    intro idx st hl hlt
    rw [List.length_cons] at hl
    have hlt' : ∀ p ∈ st.1, p.1 < idx + 1 := fun p hp => Nat.lt_succ_of_lt (hlt p hp)
    rw [lightLoop, tallyLoop, loopM]
    by_cases hf : s.flag ≠ flagCommit
    · rw [if_pos hf, slotStep, idxP_skip vs hf]; exact ih _ _ (by omega) hlt'
    obtain ⟨v, hv⟩ : ∃ v, vs[idx]? = some v := ⟨_, List.getElem?_eq_getElem (by omega)⟩
    rw [if_neg hf, hv, slotStep_idx sigOK vs chainID c needed hf hv hlt, checkSlot]
    dsimp only
    cases voteSignBytes chainID c s with
    | error e => rfl
    | ok sb =>
      dsimp only
      cases sigOK v.key sb s.sig with
      | false => rfl
      | true =>
        simp only [Bool.not_true, Bool.false_eq_true, if_false, if_pos (Decidable.of_not_not hf)]
        by_cases hx : wrap64 (st.2 + v.power) > needed
        · rw [if_pos hx, if_pos ⟨trivial, hx⟩]; rfl
        · rw [if_neg hx, if_neg (fun h => hx h.2)]; exact ih _ (_, _) (by omega) (lt_cons hlt idx)

theorem trustLoop_eq : ∀ (ss : List (CommitSig σ)) (idx : Nat) (seen : List (Nat × Nat)) (tally : Int),
    trustLoop sigOK vs chainID c needed ss idx seen tally =
      tallyLoop sigOK chainID c (addrP vs) needed ss idx (seen, tally) := by
  intro ss
  induction ss with
  | nil => intro _ _ _; rfl
  | cons s ss ih =>
    intro idx seen tally
    rw [trustLoop, tallyLoop, loopM, slotStep]
    by_cases hf : s.flag ≠ flagCommit
    · simp only [addrP, if_pos hf]; exact ih ..
    rw [if_neg hf, addrP_look vs (Decidable.of_not_not hf)]
    cases findByAddr vs s.addr 0 with
    | none => exact ih ..
    | some jv =>
      obtain ⟨j, v⟩ := jv
      dsimp only
      cases seen.lookup j with
      | some first => rfl
      | none =>
        dsimp only [checkSlot]
        cases voteSignBytes chainID c s with
        | error e => rfl
        | ok sb =>
          dsimp only
          cases sigOK v.key sb s.sig with
          | false => rfl
          | true =>
            simp only [Bool.not_true, Bool.false_eq_true, if_false, if_pos (Decidable.of_not_not hf)]
            by_cases hx : wrap64 (tally + v.power) > needed
            · rw [if_pos hx, if_pos ⟨rfl, hx⟩]
            · rw [if_neg hx, if_neg (fun h => hx h.2)]; exact ih ..
end

section
variable {σ : Type} (sigOK : Nat → SignBytes → σ → Bool) (vs : List Validator) (chainID : String)
  (c : Commit σ) (needed : Int)

theorem idxLoop_allValid (hall : AllValid sigOK vs chainID c) (hlen : vs.length = c.sigs.length)
    (hnn : NonNeg vs) (skip : CommitSig σ → Prop) [DecidablePred skip] (stop : Bool)
    (hsk : ∀ s, skip s → s.flag ≠ flagCommit) (hab : ∀ s, ¬ skip s → s.flag ≠ flagAbsent) :
    ∀ (ss : List (CommitSig σ)) (idx : Nat) (st : St),
      (∀ k, ss[k]? = c.sigs[idx + k]?) → (∀ p ∈ st.1, p.1 < idx) → 0 ≤ st.2 →
      (stop = true → st.2 ≤ needed) → st.2 + fbSum vs ss idx ≤ maxInt64 →
      (tallyLoop sigOK chainID c (idxP vs skip stop) needed ss idx st).map Prod.snd =
        if stop = true ∧ st.2 + fbSum vs ss idx > needed then .error .ok
        else .ok (st.2 + fbSum vs ss idx) := by
  intro ss; induction ss with
  | nil =>
    intro idx st _ _ _ hn _
    rw [if_neg (fun h => by have := hn h.1; simp only [fbSum] at h; omega)]
    simp [tallyLoop, loopM, fbSum, Except.map]
  | cons s ss ih =>
    intro idx st hal hlt h0 hn hmax
    obtain ⟨hs, hal'⟩ := suffix_step hal
    have hlt' : ∀ p ∈ st.1, p.1 < idx + 1 := fun p hp => Nat.lt_succ_of_lt (hlt p hp)
    have hf0 := fbSum_nonneg hnn ss (idx + 1)
    rw [tallyLoop, loopM]
    have hidx : idx < vs.length := hlen ▸ (List.getElem?_eq_some_iff.mp hs).1
    obtain ⟨v, hv⟩ : ∃ v, vs[idx]? = some v := ⟨_, List.getElem?_eq_getElem hidx⟩
    have hstep : ¬ skip s → slotStep sigOK chainID c (idxP vs skip stop) needed s idx st =
        if s.flag = flagCommit then
          if stop = true ∧ wrap64 (st.2 + v.power) > needed then .error .ok
          else .ok ((idx, idx) :: st.1, wrap64 (st.2 + v.power))
        else .ok st := fun hk => by
      rw [slotStep_idx sigOK vs chainID c needed hk hv hlt,
        (checkSlot_ok_iff sigOK chainID c (idx := idx)).mpr (hall idx v s hv hs (hab s hk))]
    by_cases hf : s.flag = flagCommit
    case neg =>
      have e : slotStep sigOK chainID c (idxP vs skip stop) needed s idx st = .ok st := by
        by_cases hk : skip s
        · rw [slotStep, idxP_skip vs hk]
        · rw [hstep hk, if_neg hf]
      have e' : fbSum vs (s :: ss) idx = fbSum vs ss (idx + 1) := by
        simp only [fbSum, if_neg hf, Int.zero_add]
      rw [e'] at hmax ⊢
      rw [e]
      exact ih (idx + 1) st hal' hlt' h0 hn hmax
    have hp : powerAt vs idx = v.power := by simp [powerAt, hv]
    have hp0 := powerAt_nonneg hnn idx
    have e : fbSum vs (s :: ss) idx = v.power + fbSum vs ss (idx + 1) := by
      simp only [fbSum, if_pos hf, hp]
    rw [e, ← Int.add_assoc] at hmax ⊢
    rw [hstep (fun hk => hsk s hk hf), if_pos hf, wrap64_of_nonneg (Int.add_nonneg h0 (hp ▸ hp0)) (by omega)]
    by_cases hx : stop = true ∧ st.2 + v.power > needed
    · rw [if_pos hx, if_pos ⟨hx.1, by omega⟩]; rfl
    · rw [if_neg hx]
      exact ih (idx + 1) ((idx, idx) :: st.1, st.2 + v.power) hal' (lt_cons hlt idx) (by omega)
        (fun h => Int.not_lt.mp fun h' => hx ⟨h, h'⟩) hmax

/-- hence `VerifyCommit` and `VerifyCommitLight` answer the same on such a commit -/
theorem verdict_allValid (hall : AllValid sigOK vs chainID c) (hlen : vs.length = c.sigs.length)
    (hnn : NonNeg vs) (hT : sumPower vs ≤ maxTotalVotingPower) (skip : CommitSig σ → Prop)
    [DecidablePred skip] (stop exact : Bool) (hsk : ∀ s, skip s → s.flag ≠ flagCommit)
    (hab : ∀ s, ¬ skip s → s.flag ≠ flagAbsent) (hes : exact = true ∨ stop = true) (hn : 0 ≤ needed) :
    verdict exact needed (tally sigOK chainID c (idxP vs skip stop) needed) =
      if fbSum vs c.sigs 0 > needed then .ok else .notEnough (fbSum vs c.sigs 0) needed := by
  have hb := maxTotal_bound
  have hF : fbSum vs c.sigs 0 ≤ sumPower vs := by simpa using fbSum_le hnn c.sigs 0
  rw [tally, idxLoop_allValid sigOK vs chainID c needed hall hlen hnn skip stop hsk hab c.sigs 0 ([], 0)
    (fun k => by rw [Nat.zero_add]) nofun (Int.le_refl 0) (fun _ => hn) (by unfold maxInt64 at *; omega),
    Int.zero_add]
  by_cases hgt : fbSum vs c.sigs 0 > needed
  · rw [if_pos hgt]
    cases stop with
    | true => rw [if_pos ⟨rfl, hgt⟩]; rfl
    | false =>
      obtain rfl : exact = true := hes.resolve_right nofun
      rw [if_neg (fun h => nomatch h.1), verdict, if_neg (by omega)]; rfl
  · rw [if_neg hgt, if_neg (fun h => hgt h.2)]
    cases exact with
    | false => rfl
    | true => rw [verdict, if_pos (by omega)]; rfl

theorem tally_addr_eq_idx (hd : (vs.map (·.addr)).Nodup) (hc : AddrConsistent vs c)
    (hlen : c.sigs.length ≤ vs.length) :
    tally sigOK chainID c (addrP vs) needed = tally sigOK chainID c (lightP vs) needed := by
  rw [tally, tally, tallyLoop, tallyLoop]
  congr 1
  refine loopM_congr _ _ c.sigs (fun i s st hs => ?_) c.sigs 0 _ (fun k => by rw [Nat.zero_add])
  have hl : (addrP vs).look s i = (lightP vs).look s i := by
    by_cases hf : s.flag ≠ flagCommit
    · simp only [addrP, idxP, if_pos hf]
    have hi : i < vs.length := Nat.lt_of_lt_of_le (List.getElem?_eq_some_iff.mp hs).1 hlen
    have hv : vs[i]? = some vs[i] := List.getElem?_eq_getElem hi
    have hfind := findByAddr_distinct vs 0 i _ hd hv
    rw [Nat.zero_add, ← hc i _ s hv hs (Decidable.of_not_not hf)] at hfind
    rw [idxP_look vs hf hv, addrP_look vs (Decidable.of_not_not hf), hfind]
  rw [slotStep, slotStep, hl]
  rfl
end

section
variable {σ : Type} (sigOK : Nat → SignBytes → σ → Bool) (vs : List Validator) (chainID : String)
  (blockID : BlockID) (height : Int) (c : Commit σ)

/-- the checks of `VerifyCommit` and `VerifyCommitLight` in front of their loops, and the threshold -/
def idxNeeded : Except Res Int :=
  if vs.length ≠ c.sigs.length then .error (.size vs.length c.sigs.length)
  else if height ≠ c.height then .error .height
  else if !blockID.equals c.blockID then .error .blockID
  else match totalVotingPower vs with
    | none => .error .panicTotal
    | some total => .ok (div64 (wrap64 (total * 2)) 3)

/-- the checks of `VerifyCommitLightTrusting` in front of its loop, and the threshold -/
def trustNeeded (num den : Nat) : Except Res Int :=
  if den = 0 then .error .zeroDen
  else if (num : Int) > maxInt64 ∨ (den : Int) > maxInt64 then .error .fractionRange
  else match totalVotingPower vs with
    | none => .error .panicTotal
    | some total =>
      if (safeMul total (toInt64 num)).2 then .error .overflow
      else .ok (div64 (safeMul total (toInt64 num)).1 (toInt64 den))

/-- An entry point as its three parts: the checks `pro` (an early verdict, or the threshold), the loop
under policy `P`, the answer. `verifyCommit_eq`, `verifyCommitLight_eq`, `trusting_eq` say that the
three functions of the model are of this form. -/
def run (pro : Except Res Int) (exact : Bool) (P : Policy σ) : Res :=
  match pro with
  | .error r => r
  | .ok needed => verdict exact needed (tally sigOK chainID c P needed)

/-- `VerifyCommit` and `VerifyCommitLight` are the same checks in front of different loops: whatever
loop agrees with a policy once the sizes are compared gives `run` of `idxNeeded` -/
theorem idxEntry_eq (loop : Int → Except Res Int) (exact : Bool) (P : Policy σ)
    (hag : vs.length = c.sigs.length → ∀ n, loop n = tally sigOK chainID c P n) :
    (if vs.length ≠ c.sigs.length then .size vs.length c.sigs.length
      else if height ≠ c.height then .height
      else if !blockID.equals c.blockID then .blockID
      else match totalVotingPower vs with
        | none => .panicTotal
        | some total =>
          verdict exact (div64 (wrap64 (total * 2)) 3) (loop (div64 (wrap64 (total * 2)) 3))) =
      run sigOK chainID c (idxNeeded vs blockID height c) exact P := by
  unfold idxNeeded run
  by_cases g1 : vs.length ≠ c.sigs.length
  · rw [if_pos g1, if_pos g1]
  by_cases g2 : height ≠ c.height
  · rw [if_neg g1, if_pos g2, if_neg g1, if_pos g2]
  by_cases g3 : (!blockID.equals c.blockID) = true
  · rw [if_neg g1, if_neg g2, if_pos g3, if_neg g1, if_neg g2, if_pos g3]
  rw [if_neg g1, if_neg g2, if_neg g3, if_neg g1, if_neg g2, if_neg g3]
  cases totalVotingPower vs with
  | none => rfl
  | some T => dsimp only; rw [hag (Decidable.of_not_not g1)]

theorem verifyCommit_eq :
    verifyCommit sigOK vs chainID blockID height c =
      run sigOK chainID c (idxNeeded vs blockID height c) true (fullP vs) :=
  idxEntry_eq sigOK vs chainID blockID height c (fun _ => fullLoop sigOK vs chainID c c.sigs 0 0) true _
    fun hl n => fullLoop_eq sigOK vs chainID c n c.sigs 0 ([], 0) (by omega) nofun

theorem verifyCommitLight_eq :
    verifyCommitLight sigOK vs chainID blockID height c =
      run sigOK chainID c (idxNeeded vs blockID height c) false (lightP vs) :=
  idxEntry_eq sigOK vs chainID blockID height c (fun n => lightLoop sigOK vs chainID c n c.sigs 0 0) false _
    fun hl n => lightLoop_eq sigOK vs chainID c n c.sigs 0 ([], 0) (by omega) nofun

theorem trusting_eq (num den : Nat) :
    verifyCommitLightTrusting sigOK vs chainID c num den =
      run sigOK chainID c (trustNeeded vs num den) false (addrP vs) := by
  unfold verifyCommitLightTrusting trustNeeded run
  by_cases g1 : den = 0
  · rw [if_pos g1, if_pos g1]
  by_cases g2 : (num : Int) > maxInt64 ∨ (den : Int) > maxInt64
  · rw [if_neg g1, if_pos g2, if_neg g1, if_pos g2]
  rw [if_neg g1, if_neg g2, if_neg g1, if_neg g2]
  cases totalVotingPower vs with
  | none => rfl
  | some T =>
    dsimp only
    by_cases g4 : (safeMul T (toInt64 num)).2 = true
    · rw [if_pos g4, if_pos g4]
    · rw [if_neg g4, if_neg g4, trustLoop_eq]
      dsimp only [tally]
      cases tallyLoop sigOK chainID c (addrP vs) _ c.sigs 0 ([], 0) <;> rfl

variable {vs blockID height c} in
theorem idxNeeded_error {r : Res} (h : idxNeeded vs blockID height c = .error r) : r.early := by
  unfold idxNeeded at h
  by_cases g1 : vs.length ≠ c.sigs.length
  · rw [if_pos g1] at h; cases h; exact Or.inl ⟨_, _, rfl⟩
  by_cases g2 : height ≠ c.height
  · rw [if_neg g1, if_pos g2] at h; cases h; exact Or.inr (Or.inl rfl)
  by_cases g3 : (!blockID.equals c.blockID) = true
  · rw [if_neg g1, if_neg g2, if_pos g3] at h; cases h; exact Or.inr (Or.inr (Or.inl rfl))
  rw [if_neg g1, if_neg g2, if_neg g3] at h
  cases hT : totalVotingPower vs with
  | none => rw [hT] at h; cases h; exact Or.inr (Or.inr (Or.inr (Or.inl rfl)))
  | some T => rw [hT] at h; cases h

variable {vs} in
theorem trustNeeded_error {num den : Nat} {r : Res} (h : trustNeeded vs num den = .error r) : r.early := by
  unfold trustNeeded at h
  by_cases g1 : den = 0
  · rw [if_pos g1] at h; cases h; simp [Res.early]
  by_cases g2 : (num : Int) > maxInt64 ∨ (den : Int) > maxInt64
  · rw [if_neg g1, if_pos g2] at h; cases h; simp [Res.early]
  rw [if_neg g1, if_neg g2] at h
  cases hT : totalVotingPower vs with
  | none => rw [hT] at h; cases h; simp [Res.early]
  | some T =>
    rw [hT] at h; dsimp only at h
    by_cases g4 : (safeMul T (toInt64 num)).2 = true
    · rw [if_pos g4] at h; cases h; simp [Res.early]
    · rw [if_neg g4] at h; cases h

theorem idxNeeded_ok_iff (hnn : NonNeg vs) (n : Int) :
    idxNeeded vs blockID height c = .ok n ↔
      (vs.length = c.sigs.length ∧ c.height = height ∧ c.blockID = blockID ∧
        sumPower vs ≤ maxTotalVotingPower) ∧ n = sumPower vs * 2 / 3 := by
  unfold idxNeeded
  by_cases g1 : vs.length ≠ c.sigs.length
  · rw [if_pos g1]; exact ⟨nofun, fun g => absurd g.1.1 g1⟩
  by_cases g2 : height ≠ c.height
  · rw [if_neg g1, if_pos g2]; exact ⟨nofun, fun g => absurd g.1.2.1.symm g2⟩
  by_cases g3 : (!blockID.equals c.blockID) = true
  · rw [if_neg g1, if_neg g2, if_pos g3]
    exact ⟨nofun, fun g => by rw [BlockID.equals_iff.mpr g.1.2.2.1.symm] at g3; cases g3⟩
  rw [if_neg g1, if_neg g2, if_neg g3, total_eq hnn]
  by_cases h4 : sumPower vs ≤ maxTotalVotingPower
  case neg => rw [if_neg h4]; exact ⟨nofun, fun g => absurd g.1.2.2.2 h4⟩
  rw [if_pos h4]
  dsimp only
  rw [(needed_two_thirds (sumPower_nonneg hnn) h4).1]
  exact ⟨fun e => ⟨⟨Decidable.of_not_not g1, (Decidable.of_not_not g2).symm,
      (BlockID.equals_iff.mp (by simpa using g3)).symm, h4⟩, (Except.ok.inj e).symm⟩,
    fun g => g.2 ▸ rfl⟩

theorem trustNeeded_ok (hnn : NonNeg vs) (num den : Nat) (n : Int) :
    trustNeeded vs num den = .ok n ↔
      (0 < den ∧ sumPower vs ≤ maxTotalVotingPower ∧ (num : Int) ≤ maxInt64 ∧ (den : Int) ≤ maxInt64 ∧
        sumPower vs * num ≤ maxInt64) ∧ n = sumPower vs * num / den := by
  unfold trustNeeded
  by_cases h1 : den = 0
  · rw [if_pos h1]; exact ⟨nofun, fun g => by omega⟩
  by_cases h2 : (num : Int) > maxInt64 ∨ (den : Int) > maxInt64
  · rw [if_neg h1, if_pos h2]; exact ⟨nofun, fun g => by omega⟩
  rw [if_neg h1, if_neg h2, total_eq hnn]
  by_cases h4 : sumPower vs ≤ maxTotalVotingPower
  case neg => rw [if_neg h4]; exact ⟨nofun, fun g => absurd g.1.2.1 h4⟩
  rw [if_pos h4]
  have h0 := sumPower_nonneg hnn
  have hn : toInt64 num = (num : Int) := wrap64_of_nonneg (Int.natCast_nonneg _) (by omega)
  have hd : toInt64 den = (den : Int) := wrap64_of_nonneg (Int.natCast_nonneg _) (by omega)
  dsimp only
  rw [hn, hd]
  by_cases h5 : (safeMul (sumPower vs) num).2 = true
  · rw [if_pos h5]
    refine ⟨nofun, fun g => ?_⟩
    rw [safeMul_no_overflow h0 (Int.natCast_nonneg num) g.1.2.2.2.2] at h5; cases h5
  rw [if_neg h5]
  obtain ⟨hm, hmax⟩ := safeMul_spec h0 (Int.natCast_nonneg num) (by simpa using h5)
  rw [hm, (div64_nonneg (Int.mul_nonneg h0 (Int.natCast_nonneg num)) hmax (by omega)).1]
  exact ⟨fun e => ⟨⟨by omega, h4, by omega, by omega, hmax⟩, (Except.ok.inj e).symm⟩,
    fun g => g.2 ▸ rfl⟩

/-- What acceptance by any entry point means (`run_ok`): the loop reached a `Tallied` state carrying
more than `num/den` of the total. -/
def Quorum (byAddr : Bool) (num den : Nat) : Prop :=
  ∃ st, Tallied sigOK vs chainID c byAddr st ∧ st.2 * den > sumPower vs * num

variable {sigOK vs chainID c}

theorem run_ok {pro : Except Res Int} {exact byAddr : Bool} {P : Policy σ} {num den : Nat}
    (h : run sigOK chainID c pro exact P = .ok) (hpro : ∀ r, pro = .error r → r.early)
    (hP : P.Finds vs byAddr) (hnn : NonNeg vs)
    (hn : ∀ n, pro = .ok n → 0 < den ∧ sumPower vs ≤ maxTotalVotingPower ∧ n = sumPower vs * num / den) :
    (∃ n, pro = .ok n) ∧ Quorum sigOK vs chainID c byAddr num den := by
  cases pro with
  | error r => exact absurd (h ▸ hpro r rfl) Res.not_early_ok
  | ok n =>
    obtain ⟨hd, hT, rfl⟩ := hn n rfl
    obtain ⟨st, hta, hgt⟩ := accepted hP hnn hT h
    exact ⟨⟨_, rfl⟩, st, hta, (Int.ediv_lt_iff_lt_mul (by omega)).mp hgt⟩

theorem Counted.goodPick {byAddr : Bool} {p : Nat × Nat} (h : Counted sigOK vs chainID c byAddr p) :
    GoodPick sigOK vs chainID c byAddr p :=
  let ⟨v, s, hv, hs, hf, ha, hc⟩ := h
  ⟨v, s, hv, hs, hf, fun hb => by rwa [if_pos hb] at ha, (checkSlot_commit sigOK chainID c hf hc).1⟩

theorem Counted.validBasic {byAddr : Bool} {p : Nat × Nat} (h : Counted sigOK vs chainID c byAddr p) :
    c.blockID.validBasic = true :=
  let ⟨_, _, _, _, hf, _, hc⟩ := h
  (checkSlot_commit sigOK chainID c hf hc).2

theorem Counted.diag {p : Nat × Nat} (h : Counted sigOK vs chainID c false p) : p.1 = p.2 :=
  let ⟨_, _, _, _, _, hd, _⟩ := h
  hd

theorem Quorum.positions {num den : Nat} (h : Quorum sigOK vs chainID c false num den) :
    ∃ picks : List Nat, picks.Nodup ∧ (∀ i ∈ picks, Counted sigOK vs chainID c false (i, i)) ∧
      pickedPower vs picks * den > sumPower vs * num := by
  obtain ⟨st, hta, hgt⟩ := h
  refine ⟨st.1.map Prod.fst, hta.nodup, fun i hi => ?_, hta.tally ▸ hgt⟩
  obtain ⟨p, hp, rfl⟩ := List.mem_map.mp hi
  have hc := hta.counted p hp
  rwa [show p = (p.1, p.1) from Prod.ext rfl hc.diag.symm] at hc

theorem Quorum.outside {byAddr : Bool} {num den : Nat} (h : Quorum sigOK vs chainID c byAddr num den)
    (hnn : NonNeg vs) (F : List Nat) (hF : pickedPower vs F * den ≤ sumPower vs * num) :
    ∃ p, p.1 ∉ F ∧ Counted sigOK vs chainID c byAddr p := by
  obtain ⟨st, hta, hgt⟩ := h
  apply Classical.byContradiction
  intro hno
  have hsub : ∀ j ∈ st.1.map Prod.fst, j ∈ F := by
    intro j hj
    obtain ⟨p, hp, rfl⟩ := List.mem_map.mp hj
    exact Classical.byContradiction fun hn => hno ⟨p, hn, hta.counted p hp⟩
  have hle := pickedPower_subset_le hnn _ F hta.nodup (fun j hj => Or.inl (hsub j hj))
  have := Int.mul_le_mul_of_nonneg_right hle (Int.natCast_nonneg den)
  rw [← hta.tally] at this
  omega

theorem Quorum.some {byAddr : Bool} {num den : Nat} (h : Quorum sigOK vs chainID c byAddr num den)
    (hnn : NonNeg vs) : ∃ p, Counted sigOK vs chainID c byAddr p := by
  obtain ⟨p, _, hp⟩ := h.outside hnn [] (by
    have := Int.mul_nonneg (sumPower_nonneg hnn) (Int.natCast_nonneg num)
    simpa [pickedPower] using this)
  exact ⟨p, hp⟩

theorem Quorum.goodPicks {num den : Nat} (h : Quorum sigOK vs chainID c false num den) :
    ∃ picks : List Nat, picks.Nodup ∧ (∀ i ∈ picks, GoodPick sigOK vs chainID c false (i, i)) ∧
      pickedPower vs picks * den > sumPower vs * num :=
  let ⟨picks, hnd, hc, hp⟩ := h.positions
  ⟨picks, hnd, fun i hi => (hc i hi).goodPick, hp⟩

variable {blockID height} in
theorem idx_accepted {exact : Bool} {skip : CommitSig σ → Prop} [DecidablePred skip] {stop : Bool}
    (hnn : NonNeg vs)
    (h : run sigOK chainID c (idxNeeded vs blockID height c) exact (idxP vs skip stop) = .ok) :
    c.height = height ∧ c.blockID = blockID ∧ vs.length = c.sigs.length ∧
    sumPower vs ≤ maxTotalVotingPower ∧ Quorum sigOK vs chainID c false 2 3 := by
  have hok := fun n => (idxNeeded_ok_iff vs blockID height c hnn n).mp
  obtain ⟨⟨n, hn⟩, hq⟩ := run_ok h (fun _ => idxNeeded_error) (idxP_finds vs skip stop) hnn
    (fun n hn => ⟨by decide, (hok n hn).1.2.2.2, (hok n hn).2⟩)
  obtain ⟨⟨h1, h2, h3, h4⟩, _⟩ := hok n hn
  exact ⟨h2, h3, h1, h4, hq⟩

theorem trusting_accepted {num den : Nat} (hnn : NonNeg vs)
    (h : verifyCommitLightTrusting sigOK vs chainID c num den = .ok) :
    0 < den ∧ sumPower vs ≤ maxTotalVotingPower ∧ Quorum sigOK vs chainID c true num den := by
  rw [trusting_eq] at h
  have hn : ∀ n, trustNeeded vs num den = .ok n →
      0 < den ∧ sumPower vs ≤ maxTotalVotingPower ∧ n = sumPower vs * num / den :=
    fun n hn => let ⟨⟨a, b, _⟩, e⟩ := (trustNeeded_ok vs hnn num den n).mp hn; ⟨a, b, e⟩
  obtain ⟨⟨n, hn'⟩, hq⟩ := run_ok h (fun _ => trustNeeded_error) (addrP_finds vs) hnn hn
  exact ⟨(hn n hn').1, (hn n hn').2.1, hq⟩
end

end Tmv.CommitVerify
