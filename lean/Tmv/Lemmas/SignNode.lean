import Tmv.Model.SignNode
/-! Invariant of the receive-routine wrapper (`Tmv.SignNode`): every request ever issued was issued
while handling a record that is in the *synced* prefix of the WAL, and is a function of the
records up to it. -/
namespace Tmv.SignNode
open Tmv.Sign

variable {S I : Type}

theorem runCore_append (k : Core S I) (s : S) (w : List I) (i : I) :
    runCore k s (w ++ [i]) = (k.step (runCore k s w) i).1 := by
  induction w generalizing s with
  | nil => rfl
  | cons a w ih => exact ih _

theorem reqsAt_append (k : Core S I) (w r : List I) (j : Nat) (hj : j < w.length) :
    reqsAt k (w ++ r) j = reqsAt k w j := by
  unfold reqsAt
  rw [List.getElem?_append_left hj, List.take_append_of_le_length (Nat.le_of_lt hj)]

theorem reqsAt_last (k : Core S I) (w : List I) (i : I) :
    reqsAt k (w ++ [i]) w.length = (k.step (runCore k k.init w) i).2 := by
  unfold reqsAt
  simp

theorem reqsAt_mid (k : Core S I) (w r : List I) (i : I) :
    reqsAt k (w ++ [i] ++ r) w.length = (k.step (runCore k k.init w) i).2 := by
  rw [reqsAt_append k (w ++ [i]) r w.length (by simp), reqsAt_last]

structure NInv (k : Core S I) (n : Node S I) : Prop where
  state : n.s = runCore k k.init n.wal
  synced : n.synced ≤ n.wal.length
  log : ∀ p ∈ n.log, p.1 < n.synced ∧ ∃ q0 ∈ reqsAt k n.wal p.1, p.2 = stamp p.2.ts q0

theorem ninv_start (k : Core S I) : NInv k (start k) :=
  { state := rfl, synced := Nat.le_refl _, log := (by intro p hp; cases hp) }

theorem ninv_handle (k : Core S I) {n : Node S I} (h : NInv k n) (i : I) (t : Int) :
    NInv k (handle k n i t) := by
  have hs' : n.synced ≤ (handle k n i t).synced := by
    simp only [handle]
    split
    · exact Nat.le_succ_of_le h.synced
    · exact Nat.le_refl _
  refine ⟨?_, ?_, ?_⟩
  · simp only [handle]
    rw [runCore_append, ← h.state]
  · simp only [handle, List.length_append, List.length_singleton]
    split
    · exact Nat.le_refl _
    · exact Nat.le_succ_of_le h.synced
  · intro p hp
    simp only [handle] at hp
    rcases List.mem_append.1 hp with hp | hp
    · obtain ⟨h1, q0, hq0, h2⟩ := h.log p hp
      refine ⟨Nat.lt_of_lt_of_le h1 hs', q0, ?_, h2⟩
      simp only [handle]
      rw [reqsAt_append k n.wal [i] p.1 (Nat.lt_of_lt_of_le h1 h.synced)]
      exact hq0
    · obtain ⟨q0, hq0, rfl⟩ := List.mem_map.1 hp
      have hne : (k.step n.s i).2.isEmpty = false := by
        cases hl : (k.step n.s i).2 with
        | nil => rw [hl] at hq0; cases hq0
        | cons a l => rfl
      refine ⟨?_, q0, ?_, rfl⟩
      · simp [handle, hne]
      · simp only [handle]
        rw [reqsAt_last, ← h.state]
        exact hq0

theorem ninv_run (k : Core S I) {n : Node S I} (h : NInv k n) (is : List (I × Int)) :
    NInv k (runNode k n is) := by
  induction is generalizing n with
  | nil => exact h
  | cons a is ih => exact ih (ninv_handle k h a.1 a.2)

theorem signBytes_stamp_eqModTs {q : Req} {t : Int} {a : SB} (ha : signBytes q = some a) :
    ∃ b, signBytes (stamp t q) = some b ∧ eqModTs a b = true := by
  unfold signBytes at ha ⊢
  unfold stamp
  simp only
  split at ha
  · rename_i hv
    simp only [hv, if_true]
    cases hk : q.kind <;> simp only [hk] at ha ⊢
    · injection ha with ha; subst ha
      exact ⟨_, rfl, by simp [eqModTs]⟩
    · injection ha with ha; subst ha
      exact ⟨_, rfl, by simp [eqModTs]⟩
  · cases ha

theorem reqStep_stamp (q : Req) (t : Int) : reqStep (stamp t q) = reqStep q := rfl

theorem runNode_wal (k : Core S I) (n : Node S I) (is : List (I × Int)) :
    (runNode k n is).wal = n.wal ++ is.map (·.1) := by
  induction is generalizing n with
  | nil => simp [runNode]
  | cons a is ih =>
    obtain ⟨i, t⟩ := a
    show (runNode k (handle k n i t) is).wal = _
    rw [ih]
    simp [handle]

theorem runCore_survivors (k : Core S I) (ins : List (I × Int)) (w : List I)
    (hw : Survives (runNode k (start k) ins) w) :
    runCore k k.init w = (runNode k (start k) (ins.take w.length)).s := by
  obtain ⟨⟨rest, hr⟩, _⟩ := hw
  have hr : w ++ rest = ins.map (·.1) := hr.trans (runNode_wal k _ ins)
  have hwal : (runNode k (start k) (ins.take w.length)).wal = w := by
    rw [runNode_wal, List.map_take, ← hr]
    exact List.take_left' rfl
  rw [(ninv_run k (ninv_start k) _).state, hwal]

theorem filterMap_map_of_left_inv {B : Type} (enc : I → B) (dec : B → Option I)
    (hdec : ∀ a, dec (enc a) = some a) (l : List I) : (l.map enc).filterMap dec = l := by
  rw [List.filterMap_map, show dec ∘ enc = some from funext hdec, List.filterMap_some]

/-- a bridge towards the byte-level WAL (C15) that nothing applies: `Props.C15.durable_returned` gives
`hw' <+: hs ∨ hw' = [e0]`, and its second case (an emptied head that got the marker `e0`) is not of the form `h2`;
`walOps_node` (Lemmas/SignWal) gives `h3` for the log as the receive routine leaves it, not for what a recovery
makes of it. The clause proved against the byte-level log, `Props.C04.replay_reissues_requests_real_wal`, does
not go through `Survives`. -/
theorem survives_of_durable {B : Type} (enc : I → B) (dec : B → Option I) (hdec : ∀ a, dec (enc a) = some a)
    (n : Node S I) (hw' durable : List B) (h1 : durable <+: hw') (h2 : hw' <+: n.wal.map enc)
    (h3 : n.synced ≤ durable.length) : Survives n (hw'.filterMap dec) := by
  have hk : hw' = (n.wal.take hw'.length).map enc := by
    rw [List.map_take]
    exact List.prefix_iff_eq_take.1 h2
  have hfm := filterMap_map_of_left_inv enc dec hdec
  have hf : hw'.filterMap dec = n.wal.take hw'.length := by
    conv => lhs; rw [hk]
    exact hfm _
  have hlen : hw'.length ≤ n.wal.length := by
    have := h2.length_le; simpa using this
  refine ⟨?_, ?_⟩
  · rw [hf]; exact List.take_prefix _ _
  · rw [hf, List.length_take, Nat.min_eq_left hlen]
    exact Nat.le_trans h3 h1.length_le

end Tmv.SignNode
