import Tmv.Lemmas.ChainLift
import Tmv.Lemmas.ListFacts
/-! `World.applyOp` / `World.run` (the executable transitions of the chain model) only make `WStep`s:
every applied op is one `WStep.node` (optionally followed by `WStep.node`s with `NodeStep.own`, the
FIFO drain) or one `WStep.byz`. Core Lean only. -/
namespace Tmv

theorem foldl_getD_keeps {α σ : Type} {P : σ → Prop} {f : σ → α → Option σ}
    (hf : ∀ s x s', P s → f s x = some s' → P s') (xs : List α) (s : σ) (hs : P s) :
    P (xs.foldl (fun s x => (f s x).getD s) s) :=
  List.foldlRecOn xs _ hs fun s hs x _ => by
    cases h : f s x with
    | none => exact hs
    | some s' => exact hf s x s' hs h

end Tmv

namespace Tmv.Chain
open Tmv.Cons Tmv.Net
variable {σ : Type}

theorem set_nets_self (W : World) (h : Nat) (N : Net) : (W.set h N).nets h = N := by
  simp [World.set]

theorem set_set (W : World) (h : Nat) (N N' : Net) : (W.set h N).set h N' = W.set h N' := by
  unfold World.set
  congr 1
  funext k
  by_cases hk : k = h <;> simp [hk]

theorem set_self (W : World) (h : Nat) : W.set h (W.nets h) = W := by
  cases W with
  | mk nets =>
    unfold World.set
    congr 1
    funext k
    by_cases hk : k = h <;> simp [hk]

theorem set_decided_ne (W : World) (h : Nat) (N : Net) (p h' : Nat) (hne : h' ≠ h) :
    (W.set h N).decided p h' = W.decided p h' := by
  simp [World.decided, World.set, hne]

theorem set_entered (W : World) (h : Nat) (N : Net) (p : Nat) :
    (W.set h N).entered p h ↔ W.entered p h := by
  constructor
  · intro e h' hl
    rw [← set_decided_ne W h N p h' (by omega)]
    exact e h' hl
  · intro e h' hl
    rw [set_decided_ne W h N p h' (by omega)]
    exact e h' hl

theorem set_st (C : ChainCfg σ) (W : World) (h : Nat) (N : Net) (p h' : Nat) (hle : h' ≤ h) :
    (W.set h N).st C p h' = W.st C p h' :=
  st_congr C _ _ p h' (fun k hk => set_decided_ne W h N p k (by omega))

theorem set_good (C : ChainCfg σ) (W : World) (h : Nat) (N : Net) (p : Nat) :
    (W.set h N).good C p h ↔ W.good C p h := by
  constructor
  · intro g h' hl
    rw [← set_st C W h N p h' hl]
    exact g h' hl
  · intro g h' hl
    rw [set_st C W h N p h' hl]
    exact g h' hl

/-- a move of node `p` at height `h` on the world with any net `N` at `h`; `entered`, `good` and the
state of `p` at `h` do not depend on the net at `h` -/
theorem set_node_step (C : ChainCfg σ) (W : World) (h p : Nat) (N N' : Net)
    (hent : W.entered p h) (hgood : W.good C p h)
    (hs : NodeStep (C.netAt (W.st C p h) h) p N N') : WStep C (W.set h N) (W.set h N') := by
  have := WStep.node (C := C) (W.set h N) h p N' ((set_entered W h N p).2 hent)
    ((set_good C W h N p).2 hgood)
    (by rw [set_st C W h N p h (Nat.le_refl _), set_nets_self]; exact hs)
  rwa [set_set] at this

/-- every applied op is a `WStep`, or a `WStep.node` followed by `own` steps of the same node -/
theorem applyOp_reachable (C : ChainCfg σ) (W W' : World) (h : Nat) (d : Bool) (op : Op)
    (hr : WReachable C W) (ha : W.applyOp C h d op = some W') : WReachable C W' := by
  unfold World.applyOp at ha
  split at ha
  · rename_i p hop
    split at ha
    · rename_i hc
      cases hN : (W.nets h).apply (C.netAt (W.st C p h) h) d op with
      | none => rw [hN] at ha; cases ha
      | some N' =>
        rw [hN] at ha
        cases ha
        -- the op moves the net at `h` by `NodeStep`s of `p`, each a `WStep.node` on the world around it
        exact apply_node_keeps (R := fun N => WReachable C (W.set h N))
          (fun _ a b ha hs => WReachable.step ha (set_node_step C W h p a b hc.1 hc.2 hs)) hop hN
          (by rw [set_self]; exact hr)
    · cases ha
  · split at ha
    · split at ha
      · rename_i m _ hm
        cases ha
        exact WReachable.step hr (WStep.byz W h m hm)
      · cases ha
    · cases ha

theorem run_reachable (C : ChainCfg σ) (ops : List (Nat × Op)) (W : World) (hr : WReachable C W) :
    WReachable C (W.run C ops) := by
  unfold World.run
  exact foldl_getD_keeps (fun W ho W' hr ha => applyOp_reachable C W W' ho.1 true ho.2 hr ha) ops W hr

end Tmv.Chain
