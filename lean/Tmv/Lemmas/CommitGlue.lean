import Tmv.Props.C07
import Tmv.Model.VoteSetCommit
import Tmv.Lemmas.ListFacts
/-! Glue between the vote-set commit of the node model (Tmv/Model/VoteSetCommit.lean, C02) and the
`VerifyCommit` model (Tmv/Model/CommitVerify.lean, C07): a concretisation of a `makeCommit` result as a
`CommitVerify.Commit`, and the proof that `verifyCommit` accepts it. -/
namespace Tmv.Cons
open Tmv.CommitVerify

/-- what the abstract model leaves open: chain id, height, the concrete block id of each block, validator
addresses, and for each validator the timestamp and signature of its stored precommit -/
structure Glue (σ : Type) where
  chainID : String
  height : Int
  bidOf : Nat → BlockID
  addrOf : Nat → Bytes
  tsOf : Nat → Int
  sigOf : Nat → Nat → Bid → σ        -- validator, round, voted value ↦ the signature in its precommit

def flagCode : SigFlag → Nat
  | .absent => flagAbsent | .commit => flagCommit | .nil => flagNil

variable {σ : Type}

/-- the validator set of configuration `c` (key of validator `i` is `i`) -/
def Glue.vals (g : Glue σ) (c : Cfg) : List Validator :=
  (List.range c.n).map fun i => ⟨g.addrOf i, i, (c.power i : Int)⟩

/-- one commit signature: flag, address, and the timestamp/signature of the slot's canonical vote -/
def Glue.sig (g : Glue σ) (r : Nat) (vs : VoteSet) (flags : List SigFlag) (i : Nat) : CommitSig σ :=
  ⟨flagCode (flags.getD i .absent), g.addrOf i, g.tsOf i, g.sigOf i r ((alookup vs.votes i).getD none)⟩

/-- the `types.Commit` that `MakeCommit` builds: block id of `b`, one signature per validator slot -/
def Glue.commit (g : Glue σ) (c : Cfg) (r b : Nat) (vs : VoteSet) (flags : List SigFlag) : Commit σ :=
  { height := g.height, round := r, blockID := g.bidOf b, sigs := (List.range c.n).map (g.sig r vs flags) }

/-- the sign bytes of validator `i`'s precommit for `bid` in round `r` -/
def Glue.signBytes (g : Glue σ) (r : Nat) (bid : Bid) (i : Nat) : SignBytes :=
  { type := precommitType, height := g.height, round := r, blockID := bid.map g.bidOf, ts := g.tsOf i,
    chainID := g.chainID }

theorem natCast_sum_range (f : Nat → Nat) (n : Nat) :
    (((List.range n).map fun i => ((f i : Nat) : Int)).sum : Int) = (((List.range n).map f).sum : Nat) := by
  induction n with
  | zero => simp
  | succ n ih =>
    rw [List.range_succ, List.map_append, List.map_append, List.sum_append, List.sum_append, ih]
    simp

theorem vals_getElem (g : Glue σ) (c : Cfg) (i : Nat) (v : Validator) (h : (g.vals c)[i]? = some v) :
    i < c.n ∧ v = ⟨g.addrOf i, i, (c.power i : Int)⟩ :=
  getElem?_map_range_some _ h

theorem powerAt_vals (g : Glue σ) (c : Cfg) (i : Nat) (h : i < c.n) : powerAt (g.vals c) i = (c.power i : Int) := by
  unfold powerAt Glue.vals
  simp [h]

theorem sumPower_vals (g : Glue σ) (c : Cfg) : sumPower (g.vals c) = (c.total : Int) := by
  unfold sumPower Glue.vals Cfg.total
  rw [List.map_map, ← natCast_sum_range]
  rfl

theorem nonNeg_vals (g : Glue σ) (c : Cfg) : NonNeg (g.vals c) := by
  intro v hv
  unfold Glue.vals at hv
  simp at hv
  obtain ⟨i, _, rfl⟩ := hv
  exact Int.natCast_nonneg _

/-- `fbSum` over a mapped index range -/
theorem fbSum_range' (vals : List Validator) (f : Nat → CommitSig σ) (m k : Nat) :
    fbSum vals ((List.range' k m).map f) k =
      ((List.range' k m).map fun i => if (f i).flag = flagCommit then powerAt vals i else 0).sum := by
  induction m generalizing k with
  | zero => simp [fbSum]
  | succ m ih =>
    rw [List.range'_succ]
    simp only [List.map_cons, fbSum, List.sum_cons]
    rw [ih]

theorem flagCode_commit (f : SigFlag) : flagCode f = flagCommit ↔ f = .commit := by
  cases f <;> simp [flagCode, flagCommit, flagAbsent, flagNil]

theorem fbSum_commit (g : Glue σ) (c : Cfg) (r b : Nat) (vs : VoteSet) (flags : List SigFlag) (hl : flags.length = c.n) :
    fbSum (g.vals c) (g.commit c r b vs flags).sigs 0 = (commitPower c flags : Int) := by
  unfold Glue.commit
  simp only []
  rw [List.range_eq_range', fbSum_range']
  unfold commitPower
  rw [hl, ← natCast_sum_range, List.range_eq_range']
  congr 1
  apply List.map_congr_left
  intro i hi
  have hin : i < c.n := by simpa using (List.mem_range'_1.mp hi).2
  unfold Glue.sig
  simp only [flagCode_commit]
  rw [powerAt_vals g c i hin]
  split <;> simp

theorem sigs_getElem (g : Glue σ) (c : Cfg) (r b : Nat) (vs : VoteSet) (flags : List SigFlag) (i : Nat)
    (s : CommitSig σ) (h : (g.commit c r b vs flags).sigs[i]? = some s) : i < c.n ∧ s = g.sig r vs flags i :=
  getElem?_map_range_some _ h

theorem zero_validBasic : BlockID.zero.validBasic = true := by decide
theorem zero_isZero : BlockID.zero.isZero = true := by decide

/-- **`verifyCommit` accepts the commit** built from flags that mark exactly the slots voting `b`, carry
more than two thirds, and whose non-absent slots hold votes with verifying signatures -/
theorem Glue.verifyCommit_ok (g : Glue σ) (sigOK : Nat → SignBytes → σ → Bool) (c : Cfg) (r b : Nat)
    (vs : VoteSet) (flags : List SigFlag) (hlen : flags.length = c.n)
    (hcommit : ∀ i, i < c.n → (flags.getD i .absent = .commit ↔ alookup vs.votes i = some (some b)))
    (hnil : ∀ i, i < c.n → (flags.getD i .absent = .nil ↔ alookup vs.votes i = some none))
    (hpow : 2 * c.total < 3 * commitPower c flags)
    (hmax : (c.total : Int) ≤ maxTotalVotingPower)
    (hvb : (g.bidOf b).validBasic = true) (hnz : (g.bidOf b).isZero = false)
    (hsig : ∀ i, i < c.n → ∀ bid, alookup vs.votes i = some bid → (bid = some b ∨ bid = none) →
      sigOK i (g.signBytes r bid i) (g.sigOf i r bid) = true) :
    verifyCommit sigOK (g.vals c) g.chainID (g.bidOf b) g.height (g.commit c r b vs flags) = .ok := by
  have hall : AllValid sigOK (g.vals c) g.chainID (g.commit c r b vs flags) := by
    intro i v s hv hs hne
    obtain ⟨hi, rfl⟩ := vals_getElem g c i v hv
    obtain ⟨_, rfl⟩ := sigs_getElem g c r b vs flags i s hs
    cases hf : flags.getD i .absent with
    | absent =>
      have e : (g.sig r vs flags i).flag = flagAbsent := by unfold Glue.sig; rw [hf]; rfl
      exact absurd e hne
    | commit =>
      have hvote := (hcommit i hi).1 hf
      have e : g.sig r vs flags i = ⟨flagCommit, g.addrOf i, g.tsOf i, g.sigOf i r (some b)⟩ := by
        unfold Glue.sig; rw [hf, hvote]; rfl
      rw [e]
      refine ⟨g.signBytes r (some b) i, ?_, hsig i hi (some b) hvote (Or.inl rfl)⟩
      simp [voteSignBytes, sigBlockID, flagCommit, flagAbsent, Glue.commit, hvb, canonBlockID, hnz, Glue.signBytes]
    | nil =>
      have hvote := (hnil i hi).1 hf
      have e : g.sig r vs flags i = ⟨flagNil, g.addrOf i, g.tsOf i, g.sigOf i r none⟩ := by
        unfold Glue.sig; rw [hf, hvote]; rfl
      rw [e]
      refine ⟨g.signBytes r none i, ?_, hsig i hi none hvote (Or.inr rfl)⟩
      simp [voteSignBytes, sigBlockID, flagCommit, flagAbsent, flagNil, Glue.commit, zero_validBasic, canonBlockID,
        zero_isZero, Glue.signBytes]
  have hlen' : (g.vals c).length = (g.commit c r b vs flags).sigs.length := by
    simp [Glue.vals, Glue.commit]
  have hex := Tmv.Props.C07.verifyCommit_exact sigOK (g.vals c) g.chainID (g.commit c r b vs flags)
    (nonNeg_vals g c) (by rw [sumPower_vals]; exact hmax) hlen' hall
  have e1 : (g.commit c r b vs flags).blockID = g.bidOf b := rfl
  have e2 : (g.commit c r b vs flags).height = g.height := rfl
  rw [e1, e2] at hex
  rw [hex, fbSum_commit g c r b vs flags hlen, sumPower_vals]
  omega

end Tmv.Cons
