import Tmv.Lemmas.VoteArith
/-! What the later stages of a vote set (`VReach`) and of a height vote set (`HExt`, both in Lemmas/ConsVotes.lean)
keep of the facts of Lemmas/VoteArith.lean: well-formedness, recorded votes, "no vote but for `key`"; and what
`HeightVoteSet.AddVote` does with a well-signed vote for a tracked round. Since no move of the node model adds a
vote (`Prim.votes`, Lemmas/ConsPrim.lean) all of it holds along every run of a node. -/
namespace Tmv.Cons

theorem VoteSet.WF.kept (c : Cfg) (B : Vote → Prop) : VoteSet.Kept c B (VoteSet.WF c) :=
  ⟨.empty c, fun _ v _ hv => hv.addVote v, fun _ p k hv => hv.setPeerMaj23 p k⟩

theorem VReach.wf {c : Cfg} {B : Vote → Prop} {a b : VoteSet} (h : VReach c B a b) (hw : a.WF c) : b.WF c :=
  h.inv (VoteSet.WF.kept c B).add (VoteSet.WF.kept c B).claim hw

theorem VReach.has {c : Cfg} {B : Vote → Prop} {a b : VoteSet} (h : VReach c B a b) {k : Bid} {u : Nat}
    (hh : a.has k u) : b.has k u :=
  h.inv (P := fun vs => vs.has k u) (fun _ v _ => VoteSet.has_addVote v) (fun _ p key => VoteSet.has_setPeerMaj23 p key) hh

theorem VReach.only {c : Cfg} {B : Vote → Prop} {a b : VoteSet} (h : VReach c B a b) {key : Bid} {u : Nat}
    (ho : a.only key u) (hB : ∀ w, B w → w.val ≠ u ∨ w.bid = key) : b.only key u :=
  h.inv (P := fun vs => vs.only key u) (fun _ v hb ih => VoteSet.only_addVote v ih (hB v hb))
    (fun _ p k => VoteSet.only_setPeerMaj23 p k) ho

/-- a recorded vote of a later stage was recorded before or is one of the added votes -/
theorem VReach.has_back {c : Cfg} {B : Vote → Prop} {a b : VoteSet} (h : VReach c B a b) {k : Bid} {u : Nat}
    (hh : b.has k u) : a.has k u ∨ ∃ w, B w ∧ w.bid = k ∧ w.val = u := by
  induction h with
  | refl => exact Or.inl hh
  | add v _ hb ih =>
    rcases (VoteSet.addVote_has c _ v k u).1 hh with h1 | ⟨e1, e2⟩
    · exact ih h1
    · exact Or.inr ⟨v, hb, e1.symm, e2.symm⟩
  | claim p key _ ih => exact ih (((VoteSet.setPeerMaj23_bucket _ p key k).2 u).1 hh)

def HVS.has (h : HVS) (r : Int) (t : VType) (key : Bid) (v : Nat) : Prop :=
  ∃ vs, h.getVoteSet r t = some vs ∧ vs.has key v

def HVS.only (h : HVS) (r : Int) (t : VType) (key : Bid) (v : Nat) : Prop :=
  ∀ vs, h.getVoteSet r t = some vs → vs.only key v

def HVS.WF (c : Cfg) (h : HVS) : Prop := ∀ r t vs, h.getVoteSet r t = some vs → vs.WF c


/-- executable form of `HVS.has` (for concrete instances) -/
def HVS.hasB (h : HVS) (r : Int) (t : VType) (key : Bid) (v : Nat) : Bool :=
  match h.getVoteSet r t with
  | some vs => (match alookup vs.byBlock key with
    | some bv => bv.voted.contains v
    | none => false)
  | none => false

theorem HVS.has_of_hasB {h : HVS} {r : Int} {t : VType} {key : Bid} {v : Nat}
    (hb : h.hasB r t key v = true) : h.has r t key v := by
  unfold HVS.hasB at hb
  cases hg : h.getVoteSet r t with
  | none => rw [hg] at hb; cases hb
  | some vs =>
    rw [hg] at hb
    dsimp only at hb
    cases hl : alookup vs.byBlock key with
    | none => rw [hl] at hb; cases hb
    | some bv =>
      rw [hl] at hb
      exact ⟨vs, hg, bv, hl, by simpa using hb⟩

theorem HExt.wf {c : Cfg} {A : Int → VType → Vote → Prop} {a b : HVS} (h : HExt c A a b) (hw : a.WF c) : b.WF c :=
  h.all (fun _ _ => VoteSet.WF.kept c _) hw

theorem HExt.has {c : Cfg} {A : Int → VType → Vote → Prop} {a b : HVS} (h : HExt c A a b)
    {r : Int} {t : VType} {k : Bid} {u : Nat} (hh : a.has r t k u) : b.has r t k u := by
  obtain ⟨vs, hg, hv⟩ := hh
  obtain ⟨vs', hg', hr⟩ := h.fwd r t vs hg
  exact ⟨vs', hg', hr.has hv⟩


theorem HExt.has_back {c : Cfg} {A : Int → VType → Vote → Prop} {a b : HVS} (h : HExt c A a b)
    {r : Int} {t : VType} {k : Bid} {u : Nat} (hh : b.has r t k u) :
    a.has r t k u ∨ ∃ w, A r t w ∧ w.bid = k ∧ w.val = u := by
  obtain ⟨vs', hg', hv⟩ := hh
  rcases h.bwd r t vs' hg' with ⟨vs, hg, hr⟩ | ⟨_, hr⟩
  · rcases hr.has_back hv with h1 | h1
    · exact Or.inl ⟨vs, hg, h1⟩
    · exact Or.inr h1
  · rcases hr.has_back hv with h1 | h1
    · exact absurd h1 (VoteSet.empty_has k u)
    · exact Or.inr h1

theorem HExt.only {c : Cfg} {A : Int → VType → Vote → Prop} {a b : HVS} (h : HExt c A a b)
    {r : Int} {t : VType} {key : Bid} {u : Nat} (ho : a.only r t key u)
    (hA : ∀ w, A r t w → w.val ≠ u ∨ w.bid = key) : b.only r t key u := by
  intro vs' hg'
  rcases h.bwd r t vs' hg' with ⟨vs, hg, hr⟩ | ⟨_, hr⟩
  · exact hr.only (ho vs hg) hA
  · exact hr.only (VoteSet.only_empty key u) hA

theorem HVS.WF.init (c : Cfg) : HVS.WF c HVS.init := HVS.All.init fun _ => VoteSet.WF.empty c

theorem HVS.only_init (r : Int) (t : VType) (key : Bid) (u : Nat) : HVS.init.only r t key u := by
  intro vs hg
  rw [getVoteSet_init] at hg
  split at hg
  · cases hg; exact VoteSet.only_empty key u
  · cases hg

/-- `HeightVoteSet.AddVote` for a tracked round -/
theorem HVS.addVote_tracked (c : Cfg) (h : HVS) (v : Vote) (peer : Peer) (vs : VoteSet)
    (hg : h.getVoteSet (v.round : Int) v.typ = some vs) :
    h.addVote c v peer = (h.putVoteSet (v.round : Int) v.typ (vs.addVote c v).1, (vs.addVote c v).2) := by
  unfold HVS.addVote
  simp only [hg]

theorem HVS.addVote_other (c : Cfg) (h : HVS) (v : Vote) (peer : Peer)
    (ht : (h.getVoteSet (v.round : Int) v.typ).isSome = true) (r' : Int) (t' : VType)
    (hne : ¬ (r' = (v.round : Int) ∧ t' = v.typ)) :
    (h.addVote c v peer).1.getVoteSet r' t' = h.getVoteSet r' t' := by
  cases hg : h.getVoteSet (v.round : Int) v.typ with
  | none => rw [hg] at ht; cases ht
  | some vs =>
    rw [HVS.addVote_tracked c h v peer vs hg]
    show (h.putVoteSet _ _ _).getVoteSet r' t' = _
    rw [HVS.putVoteSet_getVoteSet, if_neg hne]

theorem HVS.putVoteSet_round_eq (h : HVS) (r : Int) (t : VType) (vs : VoteSet) :
    (h.putVoteSet r t vs).round = h.round := by
  unfold HVS.putVoteSet; split <;> rfl

theorem HVS.addVote_round_eq (c : Cfg) (h : HVS) (v : Vote) (peer : Peer) :
    (h.addVote c v peer).1.round = h.round := by
  rcases HVS.addVote_cases c h v peer with e | ⟨h₁, vs, e, _, hr, _⟩ <;> rw [e]
  exact (HVS.putVoteSet_round_eq ..).trans hr

/-- **a well-signed vote for a tracked round, of a validator with no conflicting vote in that set,
is recorded** -/
theorem HVS.addVote_records {c : Cfg} {h : HVS} (hw : h.WF c) (v : Vote) (peer : Peer) (hv : v.wellSigned c)
    (ht : (h.getVoteSet (v.round : Int) v.typ).isSome = true)
    (ho : h.only (v.round : Int) v.typ v.bid v.val) :
    (h.addVote c v peer).1.has (v.round : Int) v.typ v.bid v.val := by
  cases hg : h.getVoteSet (v.round : Int) v.typ with
  | none => rw [hg] at ht; cases ht
  | some vs =>
    refine ⟨(vs.addVote c v).1, ?_, VoteSet.addVote_records (hw _ _ vs hg) v hv (ho vs hg)⟩
    rw [HVS.addVote_tracked c h v peer vs hg, HVS.putVoteSet_getVoteSet, if_pos ⟨rfl, rfl⟩, hg]; rfl

/-- … and if it is not added (a duplicate) every vote set stays as it is -/
theorem HVS.addVote_not_added {c : Cfg} {h : HVS} (hw : h.WF c) (v : Vote) (peer : Peer) (hv : v.wellSigned c)
    (ht : (h.getVoteSet (v.round : Int) v.typ).isSome = true)
    (ho : h.only (v.round : Int) v.typ v.bid v.val) (hf : (h.addVote c v peer).2 = false) (r : Int) (t : VType) :
    (h.addVote c v peer).1.getVoteSet r t = h.getVoteSet r t := by
  cases hg : h.getVoteSet (v.round : Int) v.typ with
  | none => rw [hg] at ht; cases ht
  | some vs =>
    rw [HVS.addVote_tracked c h v peer vs hg] at hf ⊢
    rcases VoteSet.addVote_dup_or_new (hw _ _ vs hg) v hv (ho vs hg) with ⟨e, _⟩ | ⟨e, _⟩
    · rw [e, HVS.putVoteSet_getVoteSet]
      split
      · rename_i hc; rw [hc.1, hc.2, hg]; rfl
      · rfl
    · rw [e] at hf; cases hf

/-- `VoteSet.quorum_majority` for the set of (r, t) of a height vote set -/
theorem HVS.quorum_majority {c : Cfg} {h : HVS} (hw : h.WF c) (r : Int) (t : VType) (b : Bid) (Q : List Nat)
    (hn : Q.Nodup) (hq : ∀ v ∈ Q, v < c.n ∧ h.has r t b v ∧ h.only r t b v)
    (hp : c.quorum ≤ (Q.map c.power).sum) : maj23Of (h.getVoteSet r t) = some b := by
  cases hg : h.getVoteSet r t with
  | none =>
    -- the quorum is positive, so some member of `Q` has a vote in the set
    cases Q with
    | nil => simp [Cfg.quorum] at hp
    | cons u Q =>
      obtain ⟨vs, hvs, _⟩ := (hq u (List.mem_cons_self ..)).2.1
      rw [hg] at hvs; cases hvs
  | some vs =>
    refine VoteSet.quorum_majority (hw r t vs hg) b Q hn (fun u hu => ?_) hp
    obtain ⟨hlt, ⟨vs', hg', hh⟩, ho⟩ := hq u hu
    rw [hg] at hg'; cases hg'
    exact ⟨hlt, hh, ho vs hg⟩

theorem HVS.majority_unique {c : Cfg} {h : HVS} (hw : h.WF c) (r : Int) (t : VType) (b : Bid) (Q : List Nat)
    (hn : Q.Nodup) (hq : ∀ v ∈ Q, v < c.n ∧ h.only r t b v)
    (hp : c.quorum ≤ (Q.map c.power).sum) (k : Bid) (hm : maj23Of (h.getVoteSet r t) = some k) : k = b := by
  cases hg : h.getVoteSet r t with
  | none => rw [hg] at hm; cases hm
  | some vs =>
    rw [hg] at hm
    exact VoteSet.majority_unique (hw r t vs hg) b Q hn (fun u hu => ⟨(hq u hu).1, (hq u hu).2 vs hg⟩) hp k hm

end Tmv.Cons
