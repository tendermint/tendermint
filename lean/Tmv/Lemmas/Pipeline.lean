import Tmv.Model.Pipeline
import Tmv.Lemmas.AllPrefix
/-! Helper lemmas for C05: the journal automaton over appended calls, block indexes, the recording
application's calls against the automaton, effect lists with every-prefix predicates (`PrefAll`, which is
`AllPrefix` of the effects, `prefAll_iff`; `Run`: every prefix keeps `Q`, the end satisfies `P`). -/
namespace Tmv.Pipeline

theorem jrun_append (c : Chain) (s : JState) (a b : List Call) :
    jrun c s (a ++ b) = (jrun c s a).bind fun s' => jrun c s' b := by
  induction a generalizing s with
  | nil => simp [jrun]
  | cons k ks ih =>
    simp only [List.cons_append, jrun]
    cases h : jstep c s k with
    | none => simp
    | some s' => simpa using ih s'

theorem jrun_snoc (c : Chain) (s : JState) (l : List Call) (k : Call) :
    jrun c s (l ++ [k]) = (jrun c s l).bind fun s' => jstep c s' k := by
  rw [jrun_append]
  congr 1
  funext s'
  cases h : jstep c s' k <;> simp [jrun, h]

/-! ## block indexes: the k-th block of the chain (k ≥ 1) has height `ht c k`; `ht c 0 = 0` is
"nothing yet" -/

def ht (c : Chain) (k : Nat) : Nat := if k = 0 then 0 else c.ihPred + k

/-- history after the first `k` blocks -/
def histK (c : Chain) (k : Nat) : Hist := (List.range k).map fun i => (c.ih + i, c (c.ih + i))

@[simp] theorem ht_zero (c : Chain) : ht c 0 = 0 := rfl
theorem ht_succ (c : Chain) (k : Nat) : ht c (k + 1) = c.ihPred + k + 1 := by simp [ht]; omega
theorem ht_pos (c : Chain) (k : Nat) : 0 < ht c (k + 1) := by rw [ht_succ]; omega

theorem nxt_ht (c : Chain) (k : Nat) : nxt c (ht c k) = ht c (k + 1) := by
  cases k with
  | zero => simp [nxt, ht, Chain.ih]
  | succ k => simp [nxt, ht_succ]; omega

theorem ht_lt (c : Chain) {a b : Nat} (h : a < b) : ht c a < ht c b := by
  cases b with
  | zero => omega
  | succ b =>
    cases a with
    | zero => simpa using ht_pos c b
    | succ a => rw [ht_succ, ht_succ]; omega

theorem ht_le (c : Chain) {a b : Nat} (h : a ≤ b) : ht c a ≤ ht c b := by
  rcases Nat.lt_or_eq_of_le h with e | e
  · exact Nat.le_of_lt (ht_lt c e)
  · rw [e]; exact Nat.le_refl _

theorem ht_inj (c : Chain) {a b : Nat} (h : ht c a = ht c b) : a = b := by
  rcases Nat.lt_trichotomy a b with h1 | h1 | h1
  · have := ht_lt c h1; omega
  · exact h1
  · have := ht_lt c h1; omega

theorem ht_lt_iff (c : Chain) {a b : Nat} : ht c a < ht c b ↔ a < b :=
  ⟨fun h => Nat.lt_of_not_le fun hle => absurd (ht_le c hle) (Nat.not_le_of_lt h), ht_lt c⟩

theorem ht_eq_iff (c : Chain) {a b : Nat} : ht c a = ht c b ↔ a = b := ⟨ht_inj c, congrArg _⟩

theorem ht_eq_zero (c : Chain) {k : Nat} : ht c k = 0 ↔ k = 0 := ht_eq_iff c (b := 0)

theorem ht_succ_pred (c : Chain) (k : Nat) : ht c (k + 1 + 1) - 1 = ht c (k + 1) := by
  rw [ht_succ, ht_succ]; omega

theorem hist_ht (c : Chain) (k : Nat) : hist c (ht c k) = histK c k := by
  cases k with
  | zero => simp [hist, histK, ht, Chain.ih]
  | succ k =>
    have : ht c (k + 1) + 1 - c.ih = k + 1 := by rw [ht_succ]; simp [Chain.ih]; omega
    simp [hist, histK, this]

/-- the app hash carried by block `k+1`'s header -/
theorem hist_pred_ht (c : Chain) (k : Nat) : hist c (ht c (k + 1) - 1) = histK c k := by
  have : ht c (k + 1) - 1 + 1 - c.ih = k := by rw [ht_succ]; simp [Chain.ih]
  simp [hist, histK, this]

theorem histK_succ (c : Chain) (k : Nat) :
    histK c (k + 1) = histK c k ++ [(ht c (k + 1), c (ht c (k + 1)))] := by
  have : c.ih + k = ht c (k + 1) := by rw [ht_succ]; simp [Chain.ih]; omega
  simp [histK, List.range_succ, this]

theorem histK_length (c : Chain) (k : Nat) : (histK c k).length = k := by simp [histK]

theorem histK_take (c : Chain) (k j : Nat) : (histK c k).take (k - j) = histK c (k - j) := by
  simp only [histK, ← List.map_take, List.take_range]
  congr 2
  omega

theorem reported_histK (c : Chain) (k : Nat) : reportedHeight (histK c k) = ht c k := by
  cases k with
  | zero => simp [reportedHeight, histK]
  | succ k =>
    rw [histK_succ]
    have := ht_pos c k
    simp [reportedHeight]
    omega

theorem App.call_journal (a : App) (k : Call) : (a.call k).journal = a.journal ++ [k] := by
  cases k <;> simp only [App.call] <;> try rfl
  split <;> rfl

theorem App.call_height {a : App} {k : Call} (hk : k ≠ .commit) : (a.call k).height = a.height := by
  cases k <;> first | rfl | exact absurd rfl hk

theorem App.call_hash {a : App} {k : Call} (hk : k ≠ .commit) : (a.call k).hash = a.hash := by
  cases k <;> first | rfl | exact absurd rfl hk

/-- the application has committed the first `k` blocks (canonical history), reports their height,
has the open execution `p`, and its journal drives the grammar automaton to exactly that state -/
structure AppAt (c : Chain) (a : App) (k : Nat) (p : Option Pending) : Prop where
  height : a.height = ht c k
  hash : a.hash = histK c k
  pending : a.pending = p
  run : jrun c ⟨0, none⟩ a.journal = some ⟨ht c k, p⟩

theorem AppAt.call {c a n p p'} (h : AppAt c a n p) {k : Call} (hk : k ≠ .commit)
    (hp : (a.call k).pending = p') (hj : jstep c ⟨ht c n, p⟩ k = some ⟨ht c n, p'⟩) :
    AppAt c (a.call k) n p' :=
  ⟨by rw [App.call_height hk, h.height], by rw [App.call_hash hk, h.hash], hp,
    by rw [App.call_journal, jrun_snoc, h.run, Option.bind_some, hj]⟩

theorem AppAt.restart {c a n p} (h : AppAt c a n p) : AppAt c (a.call .restart) n none :=
  h.call (by simp) rfl rfl

theorem AppAt.initChain {c a} (h : AppAt c a 0 none) : AppAt c (a.call .initChain) 0 none :=
  h.call (by simp) rfl (by simp [jstep])

theorem AppAt.begin {c a n} (h : AppAt c a n none) :
    AppAt c (a.call (.begin (ht c (n + 1)))) n (some ⟨ht c (n + 1), [], false⟩) :=
  h.call (by simp) rfl (by simp [jstep, nxt_ht])

theorem AppAt.deliver {c a n hh txs tx} (h : AppAt c a n (some ⟨hh, txs, false⟩))
    (ht' : (c hh)[txs.length]? = some tx) :
    AppAt c (a.call (.deliver tx)) n (some ⟨hh, txs ++ [tx], false⟩) :=
  h.call (by simp) (by simp [App.call, h.pending]) (by simp [jstep, ht'])

theorem AppAt.endBlock {c a n hh} (h : AppAt c a n (some ⟨hh, c hh, false⟩)) :
    AppAt c (a.call (.endBlock hh)) n (some ⟨hh, c hh, true⟩) :=
  h.call (by simp) (by simp [App.call, h.pending]) (by simp [jstep])

theorem AppAt.commit {c a n} (h : AppAt c a n (some ⟨ht c (n + 1), c (ht c (n + 1)), true⟩)) :
    AppAt c (a.call .commit) (n + 1) none := by
  have hp := h.pending
  refine ⟨?_, ?_, ?_, ?_⟩
  · simp [App.call, hp]
  · simp [App.call, hp, h.hash, histK_succ]
  · simp [App.call, hp]
  · rw [App.call_journal, jrun_snoc, h.run]
    simp [jstep]

/-- an older snapshot of the application itself -/
theorem AppAt.restore {c a n p} (h : AppAt c a n p) (j : Nat) : AppAt c (a.restore j) (n - j) none := by
  have hh : a.hash.take (a.hash.length - j) = histK c (n - j) := by
    rw [h.hash, histK_length, histK_take]
  refine ⟨?_, ?_, rfl, ?_⟩
  · simp [App.restore, hh, reported_histK]
  · simp [App.restore, hh]
  · show jrun c ⟨0, none⟩ (a.call _).journal = _
    rw [App.call_journal, jrun_snoc, h.run, hh, reported_histK]
    rfl

/-! ## every-prefix predicates over effect lists -/

theorem applyEffs_append (d : Disk) (a b : List Eff) :
    applyEffs d (a ++ b) = applyEffs (applyEffs d a) b := by
  simp [applyEffs]

/-- `Q` holds of the disk after every prefix of `es` (including the empty and the full one) -/
def PrefAll (Q : Disk → Prop) : Disk → List Eff → Prop
  | d, [] => Q d
  | d, e :: es => Q d ∧ PrefAll Q (applyEff d e) es

theorem PrefAll.head {Q d es} (h : PrefAll Q d es) : Q d := by
  cases es with
  | nil => exact h
  | cons e es => exact h.1

/-- `PrefAll` is the recursive form the C05 statements are written in; by prefixes it is `AllPrefix applyEff` -/
theorem prefAll_iff {Q d es} : PrefAll Q d es ↔ AllPrefix applyEff Q d es := by
  induction es generalizing d with
  | nil => exact ⟨fun h => .nil h, AllPrefix.first⟩
  | cons e es ih => exact (and_congr_right fun _ => ih).trans AllPrefix.cons_iff.symm

theorem PrefAll.take {Q d es} (h : PrefAll Q d es) (k : Nat) : Q (applyEffs d (es.take k)) :=
  prefAll_iff.1 h k

theorem PrefAll.append {Q d es fs} (h1 : PrefAll Q d es) (h2 : PrefAll Q (applyEffs d es) fs) :
    PrefAll Q d (es ++ fs) :=
  prefAll_iff.2 ((prefAll_iff.1 h1).append (prefAll_iff.1 h2))

theorem PrefAll.append_right {Q d es fs} (h : PrefAll Q d (es ++ fs)) : PrefAll Q (applyEffs d es) fs :=
  prefAll_iff.2 (prefAll_iff.1 h).of_append

theorem PrefAll.of_step {Q : Disk → Prop} {es : List Eff} (hs : ∀ d, ∀ e ∈ es, Q d → Q (applyEff d e))
    {d : Disk} (h : Q d) : PrefAll Q d es :=
  prefAll_iff.2 (.of_step h fun d e he => hs d e he)

theorem PrefAll.imp {Q Q' : Disk → Prop} {d : Disk} {es : List Eff} (h : PrefAll Q d es) (hq : ∀ d', Q d' → Q' d') :
    PrefAll Q' d es :=
  prefAll_iff.2 ((prefAll_iff.1 h).imp hq)

/-- the program `es` run from `d`: `Q` holds wherever a crash can cut it, `P` of the disk it leaves -/
def Run (Q P : Disk → Prop) (d : Disk) (es : List Eff) : Prop :=
  PrefAll Q d es ∧ P (applyEffs d es)

theorem Run.nil {Q P : Disk → Prop} {d : Disk} (hq : Q d) (hp : P d) : Run Q P d [] := ⟨hq, hp⟩

theorem Run.cons {Q P : Disk → Prop} {d : Disk} {e : Eff} {es : List Eff} (hq : Q d)
    (h : Run Q P (applyEff d e) es) : Run Q P d (e :: es) := ⟨⟨hq, h.1⟩, h.2⟩

theorem Run.append {Q R P : Disk → Prop} {d : Disk} {es fs : List Eff} (h1 : Run Q R d es)
    (h2 : ∀ d', R d' → Run Q P d' fs) : Run Q P d (es ++ fs) :=
  ⟨h1.1.append (h2 _ h1.2).1, by rw [applyEffs_append]; exact (h2 _ h1.2).2⟩

theorem Run.imp {Q P P' : Disk → Prop} {d : Disk} {es : List Eff} (h : Run Q P d es)
    (hp : ∀ d', P d' → P' d') : Run Q P' d es := ⟨h.1, hp _ h.2⟩

end Tmv.Pipeline
