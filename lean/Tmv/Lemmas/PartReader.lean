import Tmv.Model.PartSet
/-! `PartSetReader.Read`: whatever buffer sizes the caller uses, the bytes delivered are, in order
and without gaps, the concatenation of the parts. -/
namespace Tmv.PartSet
open Tmv.Merkle

/-- One `Read` with a non-empty buffer: delivers exactly the next `n` bytes of the concatenation
(fewer only when fewer remain), leaves exactly the rest, and flags EOF iff fewer than `n` remained. -/
theorem rd_spec : ∀ (rest : List Bytes) (cur : Bytes) (n : Nat), 0 < n →
    (rd rest cur n).1 = (cur ++ rest.flatten).take n ∧
    (rd rest cur n).2.1 ++ (rd rest cur n).2.2.1.flatten = (cur ++ rest.flatten).drop n ∧
    ((rd rest cur n).2.2.2 = true ↔ (cur ++ rest.flatten).length < n) := by
  intro rest cur n hn
  fun_induction rd rest cur n with
  | case1 rest n h => exact absurd h (Nat.not_le.2 hn)
  | case2 rest cur n h =>
    refine ⟨(List.take_append_of_le_length h).symm, (List.drop_append_of_le_length h).symm, nofun, fun hl => ?_⟩
    rw [List.length_append] at hl; omega
  | case3 cur n h =>
    have hle : cur.length ≤ n := by omega
    simp only [List.flatten_nil, List.append_nil]
    exact ⟨(List.take_of_length_le hle).symm, (List.drop_of_length_le hle).symm, fun _ => by omega, fun _ => trivial⟩
  | case4 cur n h c rest' r ih =>
    obtain ⟨h1, h2, h3⟩ := ih (by omega)
    have hle : cur.length ≤ n := by omega
    refine ⟨?_, ?_, ?_⟩
    · show cur ++ r.1 = _
      rw [h1, List.flatten_cons, List.take_append (l₁ := cur), List.take_of_length_le hle]
    · show r.2.1 ++ r.2.2.1.flatten = _
      rw [h2, List.flatten_cons, List.drop_append (l₁ := cur), List.drop_of_length_le hle, List.nil_append]
    · show r.2.2.2 = true ↔ _
      rw [h3]
      simp only [List.flatten_cons, List.length_append]
      omega

/-- Any schedule of non-empty reads: the chunks, concatenated, are the first `sum sizes` bytes of the
concatenation of the parts. -/
theorem rdSeq_flatten : ∀ (sizes : List Nat), (∀ n ∈ sizes, 0 < n) → ∀ (cur : Bytes) (rest : List Bytes),
    ((rdSeq sizes cur rest).map Prod.fst).flatten = (cur ++ rest.flatten).take sizes.sum := by
  intro sizes
  induction sizes with
  | nil => intro _ cur rest; simp [rdSeq]
  | cons n ns ih =>
    intro hp cur rest
    have hn : 0 < n := hp n List.mem_cons_self
    obtain ⟨h1, h2, _⟩ := rd_spec rest cur n hn
    simp only [rdSeq, List.map_cons, List.flatten_cons, List.sum_cons]
    rw [ih (fun m hm => hp m (List.mem_cons_of_mem _ hm)), h1, h2]
    rw [← List.take_add]

/-- EOF is reported by the `k`-th read of a schedule exactly when the data ends before the reads `0..k` are
filled (earlier reads take `min`, so this is "fewer bytes than asked remained" at read `k`). -/
theorem rdSeq_eof : ∀ (sizes : List Nat), (∀ n ∈ sizes, 0 < n) → ∀ (cur : Bytes) (rest : List Bytes)
    (k : Nat) (hk : k < sizes.length),
    (((rdSeq sizes cur rest)[k]?).map Prod.snd = some true ↔
      (cur ++ rest.flatten).length < (sizes.take (k+1)).sum) := by
  intro sizes
  induction sizes with
  | nil => intro _ _ _ k hk; simp at hk
  | cons n ns ih =>
    intro hp cur rest k hk
    have hn : 0 < n := hp n List.mem_cons_self
    obtain ⟨_, h2, h3⟩ := rd_spec rest cur n hn
    cases k with
    | zero => simp [rdSeq, h3]
    | succ k =>
      have hk' : k < ns.length := by simpa using hk
      have := ih (fun m hm => hp m (List.mem_cons_of_mem _ hm)) (rd rest cur n).2.1 (rd rest cur n).2.2.1 k hk'
      simp only [rdSeq, List.getElem?_cons_succ, List.take_succ_cons, List.sum_cons]
      rw [this, h2, List.length_drop]
      have : (List.take (k + 1) ns).sum ≥ 1 := by
        cases ns with
        | nil => simp at hk'
        | cons m ms =>
          have := hp m (by simp)
          simp only [List.take_succ_cons, List.sum_cons]; omega
      omega

end Tmv.PartSet
