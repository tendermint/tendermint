import Tmv.Lemmas.MatchA
/-! The scans of the kv tx index over a clean history, in the form `loops_exact` asks for
(`tx_range_scan`, `tx_cond_scan`), and `Search` past its shortcuts (`search_eq_loops`).
The last part (from `valTest` on) holds lemmas on two special cases — conjunctions of string-class
conditions (`StrCond`, `condHolds`) and one two-sided range on one key (`window`) — about the match
side, the scans and the loop separately; nothing assembles them into a statement about `search`. -/
namespace Tmv.Index
open Tmv.Query

/-- the conditions of the query language the theorem covers.  Excluded, each a known finding or a
stated exclusion: the key `tx.hash` (shortcut), a separator in the key or in an equality operand,
`EXISTS` on a key without '.', numbers outside int64, `> MaxInt64`; floats, TIME and DATE. -/
def CleanCond (c : Cond) : Prop :=
  sep ∉ c.key ∧ c.key ≠ txHashKey ∧
  ((c.op = .eq ∧ ∃ s, c.operand = .str s ∧ sep ∉ s) ∨
   (c.op = .eq ∧ ∃ n, c.operand = .int n ∧ n ≤ maxInt64) ∨
   (c.op = .exists ∧ c.operand = .none ∧ c.key.contains dot = true) ∨
   (c.op = .contains ∧ ∃ s, c.operand = .str s) ∨
   (isRangeOp c.op = true ∧ RangeCondOK c))

theorem CleanCond.toClass {c : Cond} (h : CleanCond c) : CondClass c := by
  obtain ⟨_, _, h⟩ := h
  rcases h with ⟨a, s, b, _⟩ | h | h | h | h
  · exact Or.inl ⟨a, s, b⟩
  · exact Or.inr (Or.inl h)
  · exact Or.inr (Or.inr (Or.inl h))
  · exact Or.inr (Or.inr (Or.inr (Or.inl h)))
  · exact Or.inr (Or.inr (Or.inr (Or.inr h)))

/-- the values of `c`'s key in `r` are canonical decimals whenever `c` compares numerically:
`CanonForA c (attrsAll r)` -/
def CanonFor (c : Cond) (r : TxResult) : Prop :=
  ∀ n, c.operand = .int n → ∀ v ∈ valuesOf (attrsAll r) c.key, ∃ m, m ≤ maxInt64 ∧ v = dec m

/-! ### scans -/
variable (H : Bytes → Bytes)

theorem mem_valueScan {hist : List TxResult} (hc : CleanHist H hist) (k : Str) (hk : sep ∉ k)
    (t : Str → Bool) (row : Bytes × Val) :
    row ∈ (prefixRows (addBatch H [] hist) (startKey [k])).filter
        (fun row => isTagKey row.1 && t (extractValue row.1)) ↔
      ∃ r ∈ hist, ∃ kv ∈ attrsAll r, kv.1 = k ∧ t kv.2 = true ∧ row = secRow H r kv := by
  simp only [List.mem_filter, mem_prefixRows H hc k [] (by simpa using hk), List.cons_prefix_cons,
    List.nil_prefix, and_true]
  constructor
  · rintro ⟨⟨r, hr, kv, hkv, h1, rfl⟩, htest⟩
    have cl := attrsAll_clean H hc hr hkv
    rw [secRow, isTagKey_key _ _ _ _ cl.1 cl.2, extractValue_key _ _ _ _ cl.1 cl.2] at htest
    exact ⟨r, hr, kv, hkv, h1.symm, htest, rfl⟩
  · rintro ⟨r, hr, kv, hkv, h1, h2, rfl⟩
    have cl := attrsAll_clean H hc hr hkv
    refine ⟨⟨r, hr, kv, hkv, h1.symm, rfl⟩, ?_⟩
    rw [secRow, isTagKey_key _ _ _ _ cl.1 cl.2, extractValue_key _ _ _ _ cl.1 cl.2]
    exact h2

/-- what the scan of a non-range clean condition finds, with the height narrowing `h` -/
theorem condRows_clean {hist : List TxResult} (hc : CleanHist H hist) (c : Cond) (hcl : CleanCond c)
    (hnr : isRangeOp c.op = false) (h : Nat) :
    ∃ rows, condRows (addBatch H [] hist) c h = some rows ∧
      ∀ row, row ∈ rows ↔
        ∃ r ∈ hist, ∃ kv ∈ attrsAll r, kv.1 = c.key ∧ valTestG c kv.2 = true ∧
          (c.op = .eq → h > 0 → r.height = h) ∧ row = secRow H r kv := by
  obtain ⟨hk, _, hcases⟩ := hcl
  -- equality with operand text `s`: the rows under `key/s/`, or under `key/s/h/` when narrowed
  have eqCase : ∀ s, sep ∉ s → c.op = .eq → operandStr c.operand = s → (∀ v, valTestG c v = (v == s)) →
      ∃ rows, condRows (addBatch H [] hist) c h = some rows ∧
      ∀ row, row ∈ rows ↔
        ∃ r ∈ hist, ∃ kv ∈ attrsAll r, kv.1 = c.key ∧ valTestG c kv.2 = true ∧
          (c.op = .eq → h > 0 → r.height = h) ∧ row = secRow H r kv := by
    intro s hsn hop hos hvt
    refine ⟨_, by simp only [condRows, hop]; rfl, fun row => ?_⟩
    by_cases hh : h > 0
    · have : startKeyFor c h = startKey [c.key, s, dec h] := by simp [startKeyFor, hh, hos]
      rw [this, mem_prefixRows H hc _ _ (by simpa using ⟨hk, hsn, dec_nosep h⟩)]
      simp only [List.cons_prefix_cons, List.nil_prefix, and_true, hvt, beq_iff_eq]
      constructor
      · rintro ⟨r, hr, kv, hkv, ⟨h1, h2, h3⟩, h4⟩
        exact ⟨r, hr, kv, hkv, h1.symm, h2.symm, fun _ _ => (dec_inj h3).symm, h4⟩
      · rintro ⟨r, hr, kv, hkv, h1, h2, h3, h4⟩
        exact ⟨r, hr, kv, hkv, ⟨h1.symm, h2.symm, by rw [h3 hop hh]⟩, h4⟩
    · have : startKeyFor c h = startKey [c.key, s] := by simp [startKeyFor, hh, hos]
      rw [this, mem_prefixRows H hc _ _ (by simpa using ⟨hk, hsn⟩)]
      simp only [List.cons_prefix_cons, List.nil_prefix, and_true, hvt, beq_iff_eq]
      constructor
      · rintro ⟨r, hr, kv, hkv, ⟨h1, h2⟩, h4⟩
        exact ⟨r, hr, kv, hkv, h1.symm, h2.symm, fun _ hp => absurd hp hh, h4⟩
      · rintro ⟨r, hr, kv, hkv, h1, h2, _, h4⟩
        exact ⟨r, hr, kv, hkv, ⟨h1.symm, h2.symm⟩, h4⟩
  rcases hcases with ⟨hop, s, hso, hsn⟩ | ⟨hop, n, hso, _⟩ | ⟨hop, hnone, _⟩ | ⟨hop, s, hso⟩ | ⟨hr, _⟩
  · exact eqCase s hsn hop (by simp [hso, operandStr]) (by intro v; simp [valTestG, hop, hso])
  · exact eqCase (dec n) (dec_nosep n) hop (by simp [hso, operandStr]) (by intro v; simp [valTestG, hop, hso])
  · refine ⟨_, by simp only [condRows, hop]; rfl, fun row => ?_⟩
    have ht : ∀ v, valTestG c v = true := by intro v; simp [valTestG, hop]
    rw [mem_prefixRows H hc _ [] (by simpa using hk)]
    simp only [List.cons_prefix_cons, List.nil_prefix, and_true, ht, hop, true_and, reduceCtorEq,
      false_implies, eq_comm (a := c.key)]
  · refine ⟨_, by simp only [condRows, hop, hso]; rfl, fun row => ?_⟩
    have ht : valTestG c = isInfix s := by funext v; simp [valTestG, hop, hso]
    rw [mem_valueScan H hc c.key hk, ht]
    simp only [hop, reduceCtorEq, false_implies, true_and]
  · rw [hr] at hnr; cases hnr

/-- the hashes a scan contributes (total version of `valHashes`) -/
def hashesOf (rows : Option DB) : List Bytes := (rows.bind valHashes).getD []

theorem hashesOf_some {rows : DB} {hs : List Bytes} (h : valHashes rows = some hs) :
    hashesOf (some rows) = hs := by
  simp only [hashesOf, Option.bind_some, h, Option.getD_some]

theorem scanOK_of_valHashes {rows : DB} {hs : List Bytes} (h : valHashes rows = some hs) :
    ScanOK scanStep (some rows) hs := by
  intro st
  simp only [scanStep, h, interStep]
  split <;> rfl

theorem scan_secRows {hist : List TxResult} (rows : DB) (P : TxResult → Str × Str → Prop)
    (hrows : ∀ row, row ∈ rows ↔ ∃ r ∈ hist, ∃ kv ∈ attrsAll r, P r kv ∧ row = secRow H r kv) :
    ScanOK scanStep (some rows) (hashesOf (some rows)) ∧ ∀ x, x ∈ hashesOf (some rows) ↔
      ∃ r ∈ hist, H r.tx = x ∧ ∃ kv ∈ attrsAll r, P r kv := by
  obtain ⟨hs, ev, hmem⟩ := valHashes_all_hash rows (by
    intro row hrow
    obtain ⟨r, _, kv, _, _, rfl⟩ := (hrows row).mp hrow
    exact ⟨_, rfl⟩)
  rw [hashesOf_some ev]
  refine ⟨scanOK_of_valHashes ev, fun x => ?_⟩
  rw [hmem]
  constructor
  · rintro ⟨row, hrow, hx⟩
    obtain ⟨r, hr, kv, hkv, hp, rfl⟩ := (hrows row).mp hrow
    exact ⟨r, hr, Val.hash.inj hx, kv, hkv, hp⟩
  · rintro ⟨r, hr, rfl, kv, hkv, hp⟩
    exact ⟨secRow H r kv, (hrows _).mpr ⟨r, hr, kv, hkv, hp, rfl⟩, rfl⟩

theorem rangeRows_eq (db : DB) (r : QRange) : rangeRows db r = (prefixRows db (startKey [r.key])).filter
    fun row => isTagKey row.1 && rangeTest r (extractValue row.1) := by
  unfold rangeRows rangeTest
  rfl

theorem tx_range_scan {hist : List TxResult} (hc : CleanHist H hist) (W : QRange) (hk : sep ∉ W.key) :
    ScanOK scanStep (some (rangeRows (addBatch H [] hist) W)) (hashesOf (some (rangeRows (addBatch H [] hist) W))) ∧
    ∀ x, x ∈ hashesOf (some (rangeRows (addBatch H [] hist) W)) ↔
      ∃ r ∈ hist, H r.tx = x ∧ ∃ kv ∈ attrsAll r, kv.1 = W.key ∧ rangeTest W kv.2 = true :=
  scan_secRows H _ (fun _ kv => kv.1 = W.key ∧ rangeTest W kv.2 = true) fun row => by
    rw [rangeRows_eq, mem_valueScan H hc W.key hk]; simp only [and_assoc]

theorem tx_cond_scan {hist : List TxResult} (hc : CleanHist H hist) (c : Cond) (hcl : CleanCond c)
    (hnr : isRangeOp c.op = false) (h : Nat) :
    ScanOK scanStep (condRows (addBatch H [] hist) c h) (hashesOf (condRows (addBatch H [] hist) c h)) ∧
    ∀ x, x ∈ hashesOf (condRows (addBatch H [] hist) c h) ↔
      ∃ r ∈ hist, H r.tx = x ∧ ∃ kv ∈ attrsAll r, kv.1 = c.key ∧ valTestG c kv.2 = true ∧
        (c.op = .eq → h > 0 → r.height = h) := by
  obtain ⟨rows, e, hrows⟩ := condRows_clean H hc c hcl hnr h
  rw [e]
  exact scan_secRows H rows (fun r kv => kv.1 = c.key ∧ valTestG c kv.2 = true ∧
    (c.op = .eq → h > 0 → r.height = h)) fun row => by simpa only [and_assoc] using hrows row

/-- a query the theorem covers, relative to the indexed history -/
structure CleanQuery (hist : List TxResult) (q : Query) : Prop where
  nonempty : q ≠ []
  conds : ∀ c ∈ q, CleanCond c
  /-- at most one lower and one upper bound per key (else: finding `range-conditions-merged-per-key`) -/
  oneLower : ∀ k, ((rangeConds q).filter fun c => decide (c.key = k) && isLower c.op).length ≤ 1
  oneUpper : ∀ k, ((rangeConds q).filter fun c => decide (c.key = k) && isUpper c.op).length ≤ 1
  /-- numerically compared values are canonical decimals (else: `noncanonical-number-value`) -/
  canon : ∀ c ∈ q, ∀ r ∈ hist, CanonFor c r
  /-- a key with both bounds carries one value per tx (else: `range-conditions-merged-per-key`) -/
  single : ∀ k, 2 ≤ ((rangeConds q).filter fun c => decide (c.key = k)).length →
    ∀ r ∈ hist, (valuesOf (attrsAll r) k).length ≤ 1

theorem CleanQuery.fits {hist : List TxResult} {q : Query} (hq : CleanQuery hist q) {r : TxResult}
    (hr : r ∈ hist) : Fits q (attrsAll r) :=
  ⟨⟨(txHeightKey, dec r.height), by simp [attrsAll]⟩, fun c hc => (hq.conds c hc).toClass, hq.oneLower,
    hq.oneUpper, fun c hc => hq.canon c hc r hr, fun k h => hq.single k h r hr⟩

/-- the application does not emit the reserved key `tx.height` (else: `reserved-key-emitted-by-app`) -/
def NoReserved (hist : List TxResult) : Prop :=
  ∀ r ∈ hist, ∀ kv ∈ indexedAttrs r, kv.1 ≠ txHeightKey

/-- per tx: when the query has `tx.height = n`, that equality condition itself pins the height, so
narrowing the other equality scans to height `n` loses nothing -/
theorem height_eq_of_conds {hist : List TxResult} (hres : NoReserved hist) (q : Query)
    (hpos : (lookForHeight q).getD 0 > 0) (r : TxResult) (hr : r ∈ hist)
    (hall : ∀ c ∈ otherConds q, holdsA c (attrsAll r) = true) : r.height = (lookForHeight q).getD 0 := by
  cases hh : lookForHeight q with
  | none => rw [hh] at hpos; cases hpos
  | some n =>
    rw [Option.getD_some]
    obtain ⟨ch, hch, he⟩ := List.exists_of_findSome?_eq_some hh
    split at he
    · rename_i hk
      simp only [Bool.and_eq_true, beq_iff_eq] at hk
      have hop : ch.operand = .int n := by
        cases ho : ch.operand <;> rw [ho] at he <;> cases he
        rfl
      obtain ⟨kv, hkv, hkk, ht⟩ := (holdsA_iff ch _).mp
        (hall ch (List.mem_filter.mpr ⟨hch, by simp [hk.2, isRangeOp]⟩))
      have hv : kv.2 = dec n := by simpa [valTestG, hk.2, hop] using ht
      rcases List.mem_append.mp hkv with h | h
      · exact absurd (hkk.trans hk.1) (hres r hr kv h)
      · rw [List.mem_singleton.mp h] at hv
        exact dec_inj hv
    · cases he

theorem CleanQuery.noHash {hist : List TxResult} {q : Query} (hq : CleanQuery hist q) :
    lookForHash q = none := by
  simp only [lookForHash, List.findSome?_eq_none_iff]
  intro c hcq
  simp [(hq.conds c hcq).2.1]

theorem search_eq_loops (db : DB) (q : Query) (h1 : conditionsOK q = true) (h2 : lookForHash q = none) :
    search db q =
      match (otherConds q).foldl (fun st c => scanStep st (condRows db c ((lookForHeight q).getD 0)))
        ((lookForRanges q).foldl (fun st W => scanStep st (some (rangeRows db W))) (.ok none)) with
      | .error e => e
      | .ok none => .hashes []
      | .ok (some hs) => .hashes hs := by
  simp only [search, h1, h2, Bool.not_true, Bool.false_eq_true, if_false]
  rfl

/-- `valTestG` without the numeric comparisons -/
def valTest (c : Cond) (v : Str) : Bool :=
  match c.op, c.operand with
  | .eq, .str s => v == s
  | .eq, .int n => v == dec n
  | .exists, _ => true
  | .contains, .str s => isInfix s v
  | _, _ => false

/-- conditions of the string class: `k = 's'`, `k EXISTS` (dotted key), `k CONTAINS 's'`, and `k = n`
for a key other than `tx.height`; no separator in the key / the equality operand and a key other
than `tx.hash` -/
def StrCond (c : Cond) : Prop :=
  sep ∉ c.key ∧ c.key ≠ txHashKey ∧
  ((c.op = .eq ∧ ∃ s, c.operand = .str s ∧ sep ∉ s) ∨
   (c.op = .exists ∧ c.operand = .none ∧ c.key.contains dot = true) ∨
   (c.op = .contains ∧ ∃ s, c.operand = .str s) ∨
   (c.op = .eq ∧ ∃ n, c.operand = .int n ∧ n ≤ maxInt64 ∧ c.key ≠ txHeightKey))

def condHolds (c : Cond) (r : TxResult) : Bool := (valuesOf (attrsAll r) c.key).any (valTest c)

theorem condHolds_iff (c : Cond) (r : TxResult) :
    condHolds c r = true ↔ ∃ kv ∈ attrsAll r, kv.1 = c.key ∧ valTest c kv.2 = true :=
  any_valuesOf_iff _ _ _

theorem StrCond.clean {c : Cond} (h : StrCond c) :
    CleanCond c ∧ isRangeOp c.op = false ∧ valTest c = valTestG c := by
  obtain ⟨hk, hh, h⟩ := h
  rcases h with ⟨hop, s, hs, hn⟩ | ⟨hop, hnone, hdot⟩ | ⟨hop, s, hs⟩ | ⟨hop, n, hn, hle, _⟩
  · exact ⟨⟨hk, hh, Or.inl ⟨hop, s, hs, hn⟩⟩, by rw [hop]; rfl, by funext v; simp [valTest, valTestG, hop, hs]⟩
  · exact ⟨⟨hk, hh, Or.inr (Or.inr (Or.inl ⟨hop, hnone, hdot⟩))⟩, by rw [hop]; rfl,
      by funext v; simp [valTest, valTestG, hop]⟩
  · exact ⟨⟨hk, hh, Or.inr (Or.inr (Or.inr (Or.inl ⟨hop, s, hs⟩)))⟩, by rw [hop]; rfl,
      by funext v; simp [valTest, valTestG, hop, hs]⟩
  · exact ⟨⟨hk, hh, Or.inr (Or.inl ⟨hop, n, hn, hle⟩)⟩, by rw [hop]; rfl,
      by funext v; simp [valTest, valTestG, hop, hn]⟩

theorem matchConds_all (q : Query) (r : TxResult) (hq : ∀ c ∈ q, StrCond c)
    (hcan : ∀ c ∈ q, ∀ n, c.operand = .int n →
      ∀ v ∈ valuesOf (attrsAll r) c.key, ∃ m, m ≤ maxInt64 ∧ v = dec m) :
    matchConds q (eventsOf r) = .ok (q.all fun c => condHolds c r) := by
  rw [eventsOf_evOf, matchConds_A q _ (fun c hc => (hq c hc).clean.1.toClass) hcan]
  congr 1
  rw [Bool.eq_iff_iff, List.all_eq_true, List.all_eq_true]
  exact forall₂_congr fun c hc => by rw [condHolds, holdsA, (hq c hc).clean.2.2]

theorem condRows_strCond {hist : List TxResult} (hc : CleanHist H hist) (c : Cond) (hs : StrCond c) :
    ∃ rows, condRows (addBatch H [] hist) c 0 = some rows ∧
      ∀ row, row ∈ rows ↔
        ∃ r ∈ hist, ∃ kv ∈ attrsAll r, kv.1 = c.key ∧ valTest c kv.2 = true ∧ row = secRow H r kv := by
  obtain ⟨rows, e, hm⟩ := condRows_clean H hc c hs.clean.1 hs.clean.2.1 0
  refine ⟨rows, e, fun row => ?_⟩
  simp only [hm, hs.clean.2.2, Nat.lt_irrefl, false_implies, implies_true, true_and, gt_iff_lt]

theorem fold_scan_first (db : DB) (q : Query) (hq : q ≠ []) (S : Cond → List Bytes)
    (hS : ∀ c ∈ q, ∃ rows, condRows db c 0 = some rows ∧ ∃ hs, valHashes rows = some hs ∧ ∀ x, x ∈ hs ↔ x ∈ S c) :
    ∃ L', q.foldl (fun st c => scanStep st (condRows db c 0)) (.ok none) = .ok (some L') ∧
      ∀ x, x ∈ L' ↔ ∀ c ∈ q, x ∈ S c := by
  obtain ⟨L', e, m⟩ := interFold_none (q.map fun c => hashesOf (condRows db c 0)) (by simpa using hq)
  refine ⟨L', ?_, fun x => ?_⟩
  · rw [foldl_scanOK scanStep q _ (fun c => hashesOf (condRows db c 0)) (fun c hc => by
      obtain ⟨rows, e, hs, ev, _⟩ := hS c hc
      rw [e, hashesOf_some ev]
      exact scanOK_of_valHashes ev) none, e]
  · rw [m, List.forall_mem_map]
    refine forall₂_congr fun c hc => ?_
    obtain ⟨rows, e, hs, ev, hm⟩ := hS c hc
    rw [e, hashesOf_some ev, hm]

theorem search_single_range (db : DB) (q : Query) (W : QRange) (hs : List Bytes)
    (h1 : conditionsOK q = true) (h2 : lookForHash q = none) (h3 : lookForRanges q = [W])
    (h4 : lookForHeight q = none) (h5 : q.filter (fun c => !isRangeOp c.op) = [])
    (hv : valHashes (rangeRows db W) = some hs) :
    ∃ L, search db q = .hashes L ∧ ∀ x, x ∈ L ↔ x ∈ hs := by
  refine ⟨hs.eraseDups, ?_, fun x => List.mem_eraseDups⟩
  rw [search_eq_loops db q h1 h2, h3, show otherConds q = [] from h5, List.foldl_nil, List.foldl_cons,
    List.foldl_nil, scanOK_of_valHashes hv none, interStep_none]

def loCond (k : Str) (a : Nat) (inc : Bool) : Cond :=
  { key := k, op := if inc then .ge else .gt, operand := .int a }
def hiCond (k : Str) (b : Nat) (inc : Bool) : Cond :=
  { key := k, op := if inc then .le else .lt, operand := .int b }

/-- the interval `LookForRanges` builds from one lower and one upper bound on the same key -/
def window (k : Str) (a : Nat) (incA : Bool) (b : Nat) (incB : Bool) : QRange :=
  { key := k, lower := some a, upper := some b, incLower := incA, incUpper := incB }

theorem lookForRanges_lo_hi (k : Str) (a : Nat) (incA : Bool) (b : Nat) (incB : Bool) :
    lookForRanges [loCond k a incA, hiCond k b incB] = [window k a incA b incB] ∧
    lookForRanges [hiCond k b incB, loCond k a incA] = [window k a incA b incB] := by
  rw [lookForRanges_pair (loCond k a incA) (hiCond k b incB) (by cases incA <;> rfl) (by cases incB <;> rfl) rfl,
    lookForRanges_pair (hiCond k b incB) (loCond k a incA) (by cases incB <;> rfl) (by cases incA <;> rfl) rfl]
  cases incA <;> cases incB <;> exact ⟨rfl, rfl⟩

theorem fits_window (k : Str) (a : Nat) (incA : Bool) (b : Nat) (incB : Bool)
    (ha : a ≤ maxInt64) (hb : b ≤ maxInt64) (hax : incA = false → a < maxInt64)
    (r : TxResult) (hcan : ∀ v ∈ valuesOf (attrsAll r) k, ∃ m, m ≤ maxInt64 ∧ v = dec m)
    (hsingle : (valuesOf (attrsAll r) k).length ≤ 1) (q : Query)
    (hq : q = [loCond k a incA, hiCond k b incB] ∨ q = [hiCond k b incB, loCond k a incA]) :
    Fits q (attrsAll r) := by
  have hmem : ∀ c ∈ q, c = loCond k a incA ∨ c = hiCond k b incB := by
    rcases hq with rfl | rfl <;> simp [or_comm]
  have hlo : CondClass (loCond k a incA) := (CondView.range k _ a (by cases incA <;> rfl) ha
    fun h => hax (by cases incA <;> first | rfl | cases h)).toClass
  have hhi : CondClass (hiCond k b incB) := (CondView.range k _ b (by cases incB <;> rfl) hb
    fun h => by cases incB <;> cases h).toClass
  refine ⟨⟨(txHeightKey, dec r.height), by simp [attrsAll]⟩, ?_, ?_, ?_, ?_, ?_⟩
  · intro c hc
    rcases hmem c hc with rfl | rfl
    · exact hlo
    · exact hhi
  · exact fun k' => Nat.le_trans (length_filter_key_le _ isLower k') (by
      rcases hq with rfl | rfl <;> cases incA <;> cases incB <;> exact Nat.le_refl 1)
  · exact fun k' => Nat.le_trans (length_filter_key_le _ isUpper k') (by
      rcases hq with rfl | rfl <;> cases incA <;> cases incB <;> exact Nat.le_refl 1)
  · intro c hc n _
    rcases hmem c hc with rfl | rfl <;> exact hcan
  · intro k' h2
    by_cases hk : k = k'
    · exact hk ▸ hsingle
    · have : (rangeConds q).filter (fun c => decide (c.key = k')) = [] := by
        refine List.filter_eq_nil_iff.mpr fun c hc => ?_
        rcases hmem c (List.mem_filter.mp hc).1 with rfl | rfl <;> simp [loCond, hiCond, hk]
      rw [this] at h2
      cases h2

theorem matches_window (k : Str) (a : Nat) (incA : Bool) (b : Nat) (incB : Bool)
    (ha : a ≤ maxInt64) (hb : b ≤ maxInt64) (hax : incA = false → a < maxInt64)
    (r : TxResult) (hcan : ∀ v ∈ valuesOf (attrsAll r) k, ∃ m, m ≤ maxInt64 ∧ v = dec m)
    (hsingle : (valuesOf (attrsAll r) k).length ≤ 1) :
    («matches» [loCond k a incA, hiCond k b incB] (eventsOf r) = .ok true ↔
      ∃ m, (k, dec m) ∈ attrsAll r ∧ inR (window k a incA b incB) m = true) ∧
    («matches» [hiCond k b incB, loCond k a incA] (eventsOf r) = .ok true ↔
      ∃ m, (k, dec m) ∈ attrsAll r ∧ inR (window k a incA b incB) m = true) := by
  have hfit := fits_window k a incA b incB ha hb hax r hcan hsingle
  have hother : ∀ q, q = [loCond k a incA, hiCond k b incB] ∨ q = [hiCond k b incB, loCond k a incA] →
      otherConds q = [] := by
    rintro q (rfl | rfl) <;> cases incA <;> cases incB <;> rfl
  obtain ⟨e1, e2⟩ := lookForRanges_lo_hi k a incA b incB
  constructor
  · rw [eventsOf_evOf, matches_iff_scans (hfit _ (Or.inl rfl)), e1, hother _ (Or.inl rfl)]
    simp [window]
  · rw [eventsOf_evOf, matches_iff_scans (hfit _ (Or.inr rfl)), e2, hother _ (Or.inr rfl)]
    simp [window]

end Tmv.Index
