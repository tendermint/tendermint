import Tmv.Model.PartSet
/-! `AddPart` by cases; the invariant `Good` a part set keeps relative to the leaves its header commits
to; `addProposalBlockPart` over any message sequence keeps the same invariant (`ConsGood`): the part
set it fills is `Good`, and the bytes handed to the block decoder are the concatenation of the leaves.
At the end, the cutter `splitF`: its pieces flatten to the data and are no longer than the part size. -/
namespace Tmv.PartSet
open Tmv.Merkle
variable (H : Bytes → Bytes)

theorem addPart_cases (ps : PartSet) (p : Part) :
    (addPart H ps p = ({ ps with parts := ps.parts.set p.index (some p) }, .added) ∧
      p.index < ps.total ∧ p.proof.index = (p.index : Int) ∧ p.proof.total = (ps.total : Int) ∧
      verify H ps.hash p.bytes p.proof = .ok ()) ∨
    ((addPart H ps p).1 = ps ∧ (addPart H ps p).2 ≠ .added) := by
  unfold addPart
  by_cases h1 : p.index ≥ ps.total
  · rw [if_pos h1]; exact Or.inr ⟨rfl, by simp⟩
  rw [if_neg h1]
  by_cases h2 : (ps.parts.getD p.index none).isSome
  · rw [if_pos h2]; exact Or.inr ⟨rfl, by simp⟩
  rw [if_neg h2]
  by_cases h3 : p.proof.index ≠ (p.index : Int) ∨ p.proof.total ≠ (ps.total : Int)
  · rw [if_pos h3]; exact Or.inr ⟨rfl, by simp⟩
  rw [if_neg h3]
  cases hv : verify H ps.hash p.bytes p.proof with
  | error e => exact Or.inr ⟨rfl, by simp⟩
  | ok u => exact Or.inl ⟨rfl, by omega, by omega, by omega, rfl⟩

theorem addPart_added {ps ps' : PartSet} {p : Part} (h : addPart H ps p = (ps', .added)) :
    ps' = { ps with parts := ps.parts.set p.index (some p) } ∧
      p.index < ps.total ∧ p.proof.index = (p.index : Int) ∧ p.proof.total = (ps.total : Int) ∧
      verify H ps.hash p.bytes p.proof = .ok () := by
  rcases addPart_cases H ps p with ⟨e, h'⟩ | ⟨_, hn⟩
  · rw [e] at h; exact ⟨(Prod.mk.inj h).1.symm, h'⟩
  · rw [h] at hn; exact absurd rfl hn

def Good (pieces : List Bytes) (ps : PartSet) : Prop :=
  ps.total = pieces.length ∧ ps.hash = root H pieces ∧ ps.parts.length = pieces.length ∧
  ∀ (i : Nat) (q : Part), ps.parts[i]? = some (some q) → pieces[i]? = some q.bytes

theorem Good.init (pieces : List Bytes) :
    Good H pieces (fromHeader pieces.length (root H pieces)) := by
  refine ⟨rfl, rfl, by simp [fromHeader], ?_⟩
  intro i q hq
  simp [fromHeader, List.getElem?_replicate] at hq

theorem Good.step {pieces : List Bytes} {ps : PartSet} (hg : Good H pieces ps) (p : Part)
    (hb : ∀ ps', addPart H ps p = (ps', .added) → ∃ h : p.index < pieces.length, p.bytes = pieces[p.index]) :
    Good H pieces (addPart H ps p).1 := by
  rcases addPart_cases H ps p with ⟨e, _⟩ | ⟨e, _⟩
  · obtain ⟨hi, he⟩ := hb _ e
    obtain ⟨h1, h2, h3, h4⟩ := hg
    rw [e]
    refine ⟨h1, h2, by simpa using h3, ?_⟩
    intro i q hq
    simp only [List.getElem?_set] at hq
    split at hq
    · split at hq
      · obtain rfl : p = q := by simpa using hq
        subst i; simp [hi, he]
      · cases hq
    · exact h4 i q hq
  · rw [e]; exact hg

theorem Good.fold {pieces : List Bytes} (offers : List Part)
    (hb : ∀ p ∈ offers, ∀ ps ps', Good H pieces ps → addPart H ps p = (ps', .added) →
      ∃ h : p.index < pieces.length, p.bytes = pieces[p.index]) :
    ∀ ps, Good H pieces ps → Good H pieces (offers.foldl (fun s p => (addPart H s p).1) ps) := by
  induction offers with
  | nil => intro ps h; exact h
  | cons o os ih =>
    intro ps h
    exact ih (fun p hp => hb p (List.mem_cons_of_mem _ hp)) _
      (h.step H o (fun ps' => hb o List.mem_cons_self ps ps' h))

theorem Good.complete {pieces : List Bytes} {ps : PartSet} (hg : Good H pieces ps)
    (hc : isComplete ps = true) : ps.parts.map partBytes = pieces := by
  obtain ⟨h1, _, h3, h4⟩ := hg
  have hall : ∀ o ∈ ps.parts, o.isSome = true := by
    apply List.length_filter_eq_length_iff.mp
    simp [isComplete, count] at hc
    omega
  apply List.ext_getElem?
  intro i
  by_cases hi : i < ps.parts.length
  · have hm := hall ps.parts[i] (List.getElem_mem hi)
    obtain ⟨q, hq⟩ := Option.isSome_iff_exists.mp hm
    have hq' : ps.parts[i]? = some (some q) := by simp [hi, hq]
    simp [hq', h4 i q hq', partBytes]
  · simp [List.getElem?_eq_none_iff.mpr (Nat.le_of_not_lt hi),
      List.getElem?_eq_none_iff.mpr (show pieces.length ≤ i by omega)]

theorem addPart_header (ps : PartSet) (p : Part) :
    (addPart H ps p).1.total = ps.total ∧ (addPart H ps p).1.hash = ps.hash := by
  rcases addPart_cases H ps p with ⟨e, _⟩ | ⟨e, _⟩ <;> rw [e] <;> exact ⟨rfl, rfl⟩

theorem consAddPart_cases (s : PartsState) (h r : Int) (p : Part) :
    (consAddPart H s h r p).1 = s ∨
    (0 ≤ h ∧ 0 ≤ r ∧ partValidateBasic p = .ok () ∧ s.height = h ∧ ∃ ps, s.parts = some ps ∧
      ((consAddPart H s h r p).1 = { s with parts := some (addPart H ps p).1 } ∨
       (isComplete (addPart H ps p).1 = true ∧
        (consAddPart H s h r p).1 =
          { s with parts := some (addPart H ps p).1, block := some (assemble (addPart H ps p).1) }))) := by
  unfold consAddPart
  by_cases h1 : h < 0 ∨ r < 0
  · rw [if_pos h1]; exact Or.inl rfl
  rw [if_neg h1]
  cases hv : partValidateBasic p with
  | error e => exact Or.inl rfl
  | ok u =>
    dsimp only
    by_cases h2 : s.height ≠ h
    · rw [if_pos h2]; exact Or.inl rfl
    rw [if_neg h2]
    cases hp : s.parts with
    | none => exact Or.inl rfl
    | some ps =>
      dsimp only
      by_cases h3 : (addPart H ps p).2 = .errIndex
      · rw [if_pos h3]; exact Or.inl rfl
      rw [if_neg h3]
      by_cases h4 : (addPart H ps p).2 = .errProof
      · rw [if_pos h4]; exact Or.inl rfl
      rw [if_neg h4]
      refine Or.inr ⟨by omega, by omega, rfl, by simpa using h2, ps, rfl, ?_⟩
      by_cases h5 : (byteSize (addPart H ps p).1 : Int) > s.maxBytes
      · rw [if_pos h5]; exact Or.inl rfl
      rw [if_neg h5]
      by_cases h6 : ((addPart H ps p).2 == .added && isComplete (addPart H ps p).1) = true
      · rw [if_pos h6]; exact Or.inr ⟨(Bool.and_eq_true _ _ ▸ h6).2, rfl⟩
      · rw [if_neg h6]; exact Or.inl rfl

/-- messages as they arrive: (height, round, part) -/
def consRun (s : PartsState) (msgs : List (Int × Int × Part)) : PartsState :=
  msgs.foldl (fun st m => (consAddPart H st m.1 m.2.1 m.2.2).1) s

def ConsGood (pieces : List Bytes) (s : PartsState) : Prop :=
  (∀ ps, s.parts = some ps → Good H pieces ps) ∧ ∀ b, s.block = some b → b = pieces.flatten

theorem ConsGood.step {pieces : List Bytes} {s : PartsState} (hs : ConsGood H pieces s) (h r : Int) (p : Part)
    (hb : ∀ ps ps', Good H pieces ps → addPart H ps p = (ps', .added) →
      ∃ h : p.index < pieces.length, p.bytes = pieces[p.index]) :
    ConsGood H pieces (consAddPart H s h r p).1 := by
  rcases consAddPart_cases H s h r p with e | ⟨_, _, _, _, ps, hps, hres⟩
  · rw [e]; exact hs
  have hg : Good H pieces (addPart H ps p).1 :=
    (hs.1 ps hps).step H p fun ps' => hb ps ps' (hs.1 ps hps)
  rcases hres with e | ⟨hc, e⟩
  · rw [e]; exact ⟨fun _ hq => Option.some.inj hq ▸ hg, hs.2⟩
  · rw [e]
    refine ⟨fun _ hq => Option.some.inj hq ▸ hg, fun b hb' => ?_⟩
    rw [← Option.some.inj hb', assemble, hg.complete H hc]

theorem ConsGood.run {pieces : List Bytes} : ∀ (msgs : List (Int × Int × Part)) (s : PartsState),
    (∀ m ∈ msgs, ∀ ps ps', Good H pieces ps → addPart H ps m.2.2 = (ps', .added) →
      ∃ h : m.2.2.index < pieces.length, m.2.2.bytes = pieces[m.2.2.index]) →
    ConsGood H pieces s → ConsGood H pieces (consRun H s msgs) := by
  intro msgs
  induction msgs with
  | nil => intro s _ h; exact h
  | cons m ms ih =>
    intro s hm h
    exact ih _ (fun x hx => hm x (List.mem_cons_of_mem _ hx))
      (h.step H m.1 m.2.1 m.2.2 (hm m List.mem_cons_self))

theorem splitF_flatten (psize : Nat) (h : 0 < psize) : ∀ (fuel : Nat) (d : Bytes), d.length ≤ fuel →
    (splitF fuel d psize).flatten = d := by
  intro fuel
  induction fuel with
  | zero => intro d hd; have : d = [] := List.length_eq_zero_iff.mp (by omega); simp [splitF, this]
  | succ f ih =>
    intro d hd
    unfold splitF
    by_cases he : d = []
    · rw [if_pos he, he]; rfl
    · have hdpos : 0 < d.length := List.length_pos_iff.mpr he
      rw [if_neg he, List.flatten_cons, ih (d.drop psize) (by rw [List.length_drop]; omega),
        List.take_append_drop]

theorem splitF_piece_len (psize : Nat) : ∀ (fuel : Nat) (d : Bytes) (x : Bytes),
    x ∈ splitF fuel d psize → x.length ≤ psize := by
  intro fuel
  induction fuel with
  | zero => intro d x hx; cases hx
  | succ f ih =>
    intro d x hx
    unfold splitF at hx
    split at hx
    · cases hx
    · rcases List.mem_cons.mp hx with rfl | hx
      · rw [List.length_take]; omega
      · exact ih _ _ hx

end Tmv.PartSet
