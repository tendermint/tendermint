import Tmv.Gen.Facts
/-! Expectations tying the C11 model to anchored source lines of /repo evidence/pool.go and
evidence/verify.go (facts are regenerated from the source on every run). -/
namespace Tmv.Expect.C11

/-- `isExpired` needs BOTH limits exceeded (model: `expired`). -/
theorem isExpired_both_limits : Facts.evpool_isExpired_both = true := rfl

/-- the expiry clause of `verify` is the same conjunction (model: `verify`, third clause). -/
theorem verify_expiry_clause : Facts.evpool_verify_expiry =
    "ageDuration > evidenceParams.MaxAgeDuration && ageNumBlocks > evidenceParams.MaxAgeNumBlocks" := rfl

/-- `CheckEvidence` verifies an item when it is light-client-attack evidence or not yet pending
(model: `checkLoop`, first guard). -/
theorem check_guard : Facts.evpool_check_guard = "isLightEv || !evpool.isPending(ev)" := rfl

/-- ... and stores / counts it only when it is not pending yet (repaired code; model: `checkLoop`
adds only `if isPending … then p else addPending`). Without it `size_eq_pending` is false. -/
theorem check_adds_once : Facts.evpool_check_add_once = "!evpool.isPending(ev)" := rfl

/-- `Update` prunes whenever something is pending (repaired code; model: `update`). With the old
pruning-height/time shortcut `pending_sound` / `check_admits_only` are false. -/
theorem update_prunes_always : Facts.evpool_update_prune = "evpool.Size() > 0" := rfl

/-- `AddEvidence`: pending test, committed test, verify, store — in this order. -/
theorem add_order : Facts.evpool_add_order =
    ["evpool.isPending", "evpool.isCommitted", "evpool.verify", "evpool.addPendingEvidence"] := rfl

/-- `Update`: flush the consensus buffer (with the NEW state), switch state, mark committed, prune. -/
theorem update_order : Facts.evpool_update_order =
    ["evpool.processConsensusBuffer", "evpool.updateState", "evpool.markEvidenceAsCommitted",
     "evpool.removeExpiredPendingEvidence"] := rfl

/-- the two key spaces are distinct prefixes (model: separate `pending` / `committed`). -/
theorem key_spaces_distinct :
    Facts.evpool_baseKeyCommitted = 0 ∧ Facts.evpool_baseKeyPending = 1 := ⟨rfl, rfl⟩

/-- `GetByzantineValidators`, equivocation branch: a slot whose address names nobody in the
conflicting set is skipped (repaired code; model: `equivocators`). Without it evidence verification
panics. -/
theorem byz_skips_unknown_address :
    Facts.evpool_byz_equiv_nil_guard = "val == nil" ∧ Facts.evpool_byz_skip_nil = true := ⟨rfl, rfl⟩

/-- `validateABCIEvidence`: an empty decoded list is not "some validators" (repaired code; model:
`validateABCI`). -/
theorem abci_nil_check :
    Facts.evpool_abci_nil_check = "validators == nil && len(ev.ByzantineValidators) != 0" := rfl

/-- `VerifyLightClientAttack`: jump / derivation check, commit check, then the ABCI part. -/
theorem lca_order : Facts.evpool_lca_order =
    ["commonVals.VerifyCommitLightTrusting", "e.ConflictingHeaderIsInvalid",
     "e.ConflictingBlock.ValidatorSet.VerifyCommitLight", "validateABCIEvidence"] := rfl

/-- `prepareEvidenceMessage`: the two guards (model: `prepare`). -/
theorem reactor_prepare_guards :
    Facts.evreactor_peer_behind = "peerHeight <= evHeight" ∧
    Facts.evreactor_too_old = "ageNumBlocks > params.MaxAgeNumBlocks" := ⟨rfl, rfl⟩

/-- `ApplyBlock`: validate, update the evidence pool, THEN save the state (model:
`applyBlockSteps`; `Props.C11.applyblock_crash_safe` is false for the other order). -/
theorem applyblock_order : Facts.applyblock_order =
    ["validateBlock", "blockExec.evpool.Update", "blockExec.store.Save"] := rfl

/-- the handshake replays stored blocks with an empty evidence pool (model: `Op.replay` does not
touch the pool; known finding `replay_skips_pool_fails`). -/
theorem replay_uses_empty_pool : Facts.replay_evpool_empty = true := rfl

end Tmv.Expect.C11
