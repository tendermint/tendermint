import Tmv.Gen.Facts
/-! Expectations tying the C02 node model (Tmv/Model/Cons.lean) to anchored source lines; the facts
are regenerated from /repo on every run. Everything else is tied behaviourally by the c02 stream. -/
namespace Tmv.Expect.C02

/-- guard at the top of `enterPropose` (model: `enterPropose`, second `if`) -/
theorem guard_enterPropose : Facts.c02_guard_enterPropose =
    "cs.Height != height || round < cs.Round || (cs.Round == round && cstypes.RoundStepPropose <= cs.Step)" := rfl

/-- guard at the top of `enterPrevote` -/
theorem guard_enterPrevote : Facts.c02_guard_enterPrevote =
    "cs.Height != height || round < cs.Round || (cs.Round == round && cstypes.RoundStepPrevote <= cs.Step)" := rfl

/-- guard at the top of `enterPrecommit` -/
theorem guard_enterPrecommit : Facts.c02_guard_enterPrecommit =
    "cs.Height != height || round < cs.Round || (cs.Round == round && cstypes.RoundStepPrecommit <= cs.Step)" := rfl

/-- `addVote` unlocks only on a polka of a round in `(LockedRound, cs.Round]` for another block -/
theorem unlock_on_polka : Facts.c02_unlock_on_polka =
    "(cs.LockedBlock != nil) && (cs.LockedRound < vote.Round) && (vote.Round <= cs.Round) && !cs.LockedBlock.HashesTo(blockID.Hash)" :=
  rfl

/-- `handleTimeout` drops timeouts of earlier rounds / earlier steps of the current round -/
theorem timeout_guard : Facts.c02_timeout_guard =
    "ti.Height != rs.Height || ti.Round < rs.Round || (ti.Round == rs.Round && ti.Step < rs.Step)" := rfl

/-- the quorum is `total*2/3 + 1` (model: `Cfg.quorum`) and it is detected when it is crossed -/
theorem quorum_expr : Facts.c02_quorum_expr = true := rfl
theorem quorum_crossing : Facts.c02_quorum_crossing = "origSum < quorum && quorum <= votesByBlock.sum" := rfl

/-- a signed vote carries `cs.Round`, not the round argument of the `enterX` that casts it -/
theorem vote_carries_cs_round : Facts.c02_vote_carries_cs_round = true := rfl

/-- the signer's regression checks (model: `sign`) -/
theorem hrs_round_regression : Facts.c02_hrs_round_regression = "lss.Round > round" := rfl
theorem hrs_step_regression : Facts.c02_hrs_step_regression = "lss.Step > step" := rfl

end Tmv.Expect.C02
