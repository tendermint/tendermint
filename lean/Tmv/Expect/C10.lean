import Tmv.Gen.Facts
/-! Expectations tying the C10 model to anchored source lines (facts are regenerated from /repo). -/
namespace Tmv.Expect.C10

/-- `AddPart` rejects a slot outside the header's total (model: `p.index ≥ ps.total`). -/
theorem addPart_index_guard : Facts.addPart_index_guard = "part.Index >= ps.total" := rfl

/-- `AddPart` pins the proof's index and total to the slot and the header (model: `addPart`'s
third guard); without it `addPart_binds_position` is false of the code. -/
theorem addPart_position_guard : Facts.addPart_position_guard =
    "part.Proof.Index != int64(part.Index) || part.Proof.Total != int64(ps.total)" := rfl

/-- `merkle.MaxAunts` and `types.BlockPartSizeBytes` as the model's `ValidateBasic` uses them
(`honest_parts_validate` needs 100 ≤ MaxAunts and the part size limit). -/
theorem maxAunts_value : Facts.merkle_MaxAunts = 100 := rfl
theorem blockPartSize_value : Facts.blockPartSizeBytes = 65536 := rfl

/-- `HasHeader` compares whole headers, and header equality is part count AND root (model:
`hasHeader`); `kept_set_reads_committed` needs the part count. -/
theorem hasHeader_compares_headers : Facts.c10_hasheader_equals = true := rfl
theorem header_equals_total_and_hash : Facts.c10_header_equals_total_and_hash = true := rfl

/-- the guards of `State.addProposalBlockPart` and `BlockPartMessage.ValidateBasic` as `consAddPart`
has them (`cons_block_is_committed`, `cons_ignores_invalid`) -/
theorem cons_height_guard : Facts.c10_cons_height_guard = "cs.Height != height" := rfl
theorem cons_maxbytes_guard : Facts.c10_cons_maxbytes_guard =
    "cs.ProposalBlockParts.ByteSize() > cs.state.ConsensusParams.Block.MaxBytes" := rfl
theorem cons_decode_guard : Facts.c10_cons_decode_guard =
    "added && cs.ProposalBlockParts.IsComplete()" := rfl
theorem blockpartmsg_round_guard : Facts.c10_blockpartmsg_round_guard = "m.Round < 0" := rfl
/-- `enterCommit` replaces the part set it holds unless `HasHeader(committed header)` -/
theorem entercommit_hasheader : Facts.c10_entercommit_hasheader = true := rfl

/-- the gate in front of the part-set header (`proposal_header_complete`) and `Verify`'s refusal of a
proof that computes no root (`shapeless_proof_never_verifies`, from the `fix:` commit) -/
theorem proposal_complete_gate : Facts.c10_proposal_complete_gate = "!p.BlockID.IsComplete()" := rfl
theorem blockid_iscomplete_root_size : Facts.c10_blockid_iscomplete = true := rfl
theorem verify_nil_root_guard : Facts.c10_verify_nil_root_guard = "computedHash == nil" := rfl

end Tmv.Expect.C10
