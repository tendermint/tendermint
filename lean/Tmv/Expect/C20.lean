import Tmv.Gen.Facts
import Tmv.Model.LightRpc
/-! Expectations tying the C20 model to anchored source lines and constants (facts are regenerated
from /repo on every run). The model's constants are DEFINED from the facts (Model/LightRpc.lean);
here their values and the repaired guards are pinned. -/
namespace Tmv.Expect.C20
open Tmv.LightRpc

/-- `BlockResults` compares the DeliverTx results root (`results.Hash()`) with the trusted header's
`LastResultsHash` … -/
theorem blockResults_hash_guard : Facts.c20_blockResults_hash_guard = "!bytes.Equal(rH, tH)" := rfl
/-- … and no longer hashes the BeginBlock/EndBlock events into it (the defect the `fix:` removed). -/
theorem blockResults_no_events : Facts.c20_blockResults_hashes_events = false := rfl
/-- the header's `LastResultsHash` is the DeliverTx results root (`state.ABCIResponsesResultsHash`) -/
theorem header_results_root : Facts.c20_header_results_root = true := rfl
/-- `BlockResults` rejects another height label than the requested one (model: `resHeight ≠ h`) -/
theorem blockResults_height_guard : Facts.c20_blockResults_height_guard = "res.Height != h" := rfl
/-- `Tx` binds the returned bytes to the proven bytes (model: `res.proof.data ≠ res.tx`) … -/
theorem tx_data_guard : Facts.c20_tx_data_guard = "!bytes.Equal(res.Proof.Data, res.Tx)" := rfl
/-- … and bytes and label to the requested hash (model: `H res.tx ≠ reqHash ∨ res.hash ≠ reqHash`) -/
theorem tx_hash_guard :
    Facts.c20_tx_hash_guard = "!bytes.Equal(txH, hash) || !bytes.Equal(res.Hash, hash)" := rfl
/-- latest-height requests fall back to the latest trusted block (model: `updateTo … none`) -/
theorem update_uses_latest_trusted : Facts.c20_update_uses_latest_trusted = true := rfl
/-- `BlockchainInfo` verifies every listed height (model: `verifyMetas`) -/
theorem bcinfo_verifies_each : Facts.c20_bcinfo_verifies_each = true := rfl
/-- `Block`: BlockID.ValidateBasic, Block.ValidateBasic, then the light client (model: `verifyBlock`) -/
theorem block_order : Facts.c20_block_order =
    ["res.BlockID.ValidateBasic", "res.Block.ValidateBasic", "c.updateLightClientIfNeededTo"] := rfl
/-- `HashConsensusParams` hashes Block.MaxBytes and Block.MaxGas only (model: `Params.hash`) -/
theorem paramsHash_only_block : Facts.c20_paramsHash_only_block = true := rfl

/-- `Block` / `BlockByHash` compare the answer with the request (model: `BlockReq.matches`) -/
theorem block_request_guard :
    Facts.c20_block_request_guard = "height != nil && res.Block.Height != *height" := rfl
theorem blockByHash_request_guard :
    Facts.c20_blockByHash_request_guard = "!bytes.Equal(res.BlockID.Hash, hash)" := rfl
/-- `TxSearch` validates every relayed proof against the verified header (model: `verifyTxSearch`) -/
theorem txSearch_verifies : Facts.c20_txSearch_verifies = true := rfl
/-- `ValueOp.Run` refuses a proof that computes no root (model: `runOp` returns `computeRoot`) -/
theorem valueOp_nil_root : Facts.c20_valueOp_nil_root = "rootHash == nil" := rfl

/-- `KeyPathToKeys` undoes `KeyPath.String`'s `url.PathEscape` with `url.PathUnescape` (model:
`keyRoundTrip` is the identity except for the `x:` prefix; `QueryUnescape` would turn '+' into ' ') -/
theorem keypath_pathunescape : Facts.c20_keypath_pathunescape = true := rfl

/-- the constants the model takes from the source -/
theorem constants :
    blockProtocol = 11 ∧ maxChainIDLen = 50 ∧ addressSize = 20 ∧ maxBlockSizeBytes = 104857600 ∧
    defaultPerPage = 30 ∧ maxPerPage = 100 ∧ maxAunts = 100 := ⟨rfl, rfl, rfl, rfl, rfl, rfl, rfl⟩

end Tmv.Expect.C20
