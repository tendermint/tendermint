import Tmv.Gen.Facts
/-! Expectations tying the C08 model to anchored source (facts are regenerated from /repo). -/
namespace Tmv.Expect.C08

/-- `MaxTotalVotingPower = MaxInt64 / 8` (the model's `maxTotal` is defined from this fact). -/
theorem maxTotal_value : Facts.c08_MaxTotalVotingPower = 9223372036854775807 / 8 := rfl

/-- `PriorityWindowSizeFactor = 2` (model: `windowFactor`). -/
theorem windowFactor_value : Facts.c08_PriorityWindowSizeFactor = 2 := rfl

/-- `valSetCheckpointInterval = 100000` (model: `ValStore.interval`). -/
theorem checkpointInterval_value : Facts.c08_valSetCheckpointInterval = 100000 := rfl

/-- addresses are 20 bytes (the model orders addresses as numbers of that width). -/
theorem addressSize_value : Facts.c08_AddressSize = 20 := rfl

/-- `saveValidatorsInfo` stores the full set iff the height is the changed-height or a checkpoint. -/
theorem saveValidatorsInfo_stored_iff : Facts.c08_saveValidatorsInfo_stored_iff =
    "height == lastHeightChanged || height%valSetCheckpointInterval == 0" := rfl

/-- `verifyUpdates` compares the running total with the limit (model: `checkSums`). -/
theorem verifyUpdates_limit : Facts.c08_verifyUpdates_limit = "tvpAfterRemovals > MaxTotalVotingPower" := rfl

/-- statement order of `updateWithChangeSet`: all verification before the first mutation. -/
theorem update_order : Facts.c08_update_order =
    ["processChanges", "numNewValidators", "verifyRemovals", "verifyUpdates", "computeNewPriorities",
     "applyUpdates", "applyRemovals", "updateTotalVotingPower", "RescalePriorities",
     "shiftByAvgProposerPriority"] := rfl

/-- `IncrementProposerPriority`: rescale, centre, then the rotation loop. -/
theorem increment_order : Facts.c08_increment_order =
    ["RescalePriorities", "shiftByAvgProposerPriority", "incrementProposerPriority"] := rfl

/-- new validators enter with priority `-(tvp + tvp>>3)`. -/
theorem new_priority_penalty : Facts.c08_new_priority_penalty = true := rfl

/-- `LoadValidators` replays single increments (`for h := lastStoredHeight; h < height; h++`) … -/
theorem load_single_increments :
    Facts.c08_load_single_increments = true ∧ Facts.c08_load_loop_cond = "h < height" := ⟨rfl, rfl⟩

/-- … and no longer performs one `IncrementProposerPriority(height - lastStoredHeight)`
(the fixed defect: `load_exact` is false of that code). -/
theorem load_not_one_shot : Facts.c08_load_one_shot_increment = false := rfl

/-- `rpc/core.Validators` takes the set it reports under `height` from
`StateStore.LoadValidators(height)` and from nowhere else (model: `rpcValidators`). -/
theorem rpc_validators_source :
    Facts.c08_rpc_validators_from_store = true ∧ Facts.c08_rpc_validators_from_memory = false := ⟨rfl, rfl⟩

end Tmv.Expect.C08
