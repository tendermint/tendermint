import Tmv.Gen.Facts
/-! Expectations tying the C19 models to anchored source lines (facts are regenerated from /repo). -/
namespace Tmv.Expect.C19

/-- `state.send` keeps going after a query that fails to match (the `fix:`); without it the
isolation theorems are false of the code. Model: `PubSub.deliver` is applied to every record. -/
theorem send_continues_after_match_error : Facts.c19_send_continues_after_match_error = true := rfl

/-- unbuffered subscriptions get a blocking send (model: `cap = 0` branch of `deliver`) -/
theorem send_unbuffered_cond : Facts.c19_send_unbuffered_cond = "cap(subscription.out) == 0" := rfl

/-- match first, then build the message, cancellation only in the full-buffer branch -/
theorem send_order : Facts.c19_send_order = ["Matches", "NewMessage", "remove"] := rfl

/-- `Subscribe` refuses capacity ≤ 0 (capacity 0 only through `SubscribeUnbuffered`) -/
theorem subscribe_capacity_guard : Facts.c19_subscribe_capacity_guard = "outCapacity[0] <= 0" := rfl

/-- `Matches` answers false on an empty event map before looking at any condition -/
theorem matches_empty_guard : Facts.c19_matches_empty_guard = "len(events) == 0" := rfl

/-- order of the phases of `TxIndex.Search` (model: `Index.search`) -/
theorem tx_search_order : Facts.c19_tx_search_order =
    ["Conditions", "lookForHash", "LookForRanges", "lookForHeight", "match"] := rfl

theorem tx_startkey_height_cond : Facts.c19_tx_startkey_height_cond = "height > 0" := rfl

/-- a tag key has exactly three separators (model: `Index.isTagKey`) -/
theorem tx_istagkey_three : Facts.c19_tx_istagkey_three = true := rfl

/-- the block index looks for the height shortcut before anything else (model: `BlockIndex.search`) -/
theorem block_search_order : Facts.c19_block_search_order =
    ["Conditions", "lookForHeight", "LookForRanges", "match"] := rfl

/-- the event bus (and `pubsub.NewServer()` in the stream) has an unbuffered command channel: a
command is received only after the previous one was fully processed (the stream's barrier) -/
theorem eventbus_defaultCapacity : Facts.c19_eventbus_defaultCapacity = 0 := rfl

theorem rpc_maxQueryLength : Facts.c19_rpc_maxQueryLength = 512 := rfl

/-- the indexer service's two subscriptions are unbuffered (a buffered one is cancelled when it
overflows and the service never looks at `Cancelled()`: indexing would stop silently); model and
stream: the service is an always-ready unbuffered reader that sees every header and tx -/
theorem service_subscribes_unbuffered : Facts.c19_service_subscribes_unbuffered = true := rfl
theorem service_never_subscribes_buffered : Facts.c19_service_subscribes_buffered = false := rfl

/-- per header: index the block's events, then the batch of its txs (model: `IndexerService.step`) -/
theorem service_order : Facts.c19_service_order = ["SubscribeUnbuffered", "Index", "AddBatch"] := rfl

end Tmv.Expect.C19
