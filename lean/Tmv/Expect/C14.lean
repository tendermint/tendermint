import Tmv.Gen.Facts
/-! Expectations tying the C14 model to anchored source lines (facts are regenerated from /repo). -/
namespace Tmv.Expect.C14

/-- `recentSnapshots` (per-peer cap in `snapshotPool.Add`; the driver runs the model with this fact) -/
theorem recentSnapshots : Facts.c14_recentSnapshots = 10 := rfl

/-- `syncer.AddChunk` consults the peer blacklist (model: `addChunk`'s `blPeer` test; without it
`Thm.deliver_ext` / `syncAny_ext` are false of the code) -/
theorem addChunk_rejected_sender_guard :
    Facts.c14_addChunk_rejected_sender_guard = "s.snapshots.IsPeerRejected(chunk.Sender)" := rfl

/-- `verifyApp`: the three comparisons (model: `verifyApp`) -/
theorem verifyApp_version_guard : Facts.c14_verifyApp_version_guard = "resp.AppVersion != appVersion" := rfl
theorem verifyApp_hash_guard :
    Facts.c14_verifyApp_hash_guard = "!bytes.Equal(snapshot.trustedAppHash, resp.LastBlockAppHash)" := rfl
theorem verifyApp_height_guard :
    Facts.c14_verifyApp_height_guard = "uint64(resp.LastBlockHeight) != snapshot.Height" := rfl

/-- `chunkQueue.Add` keeps the first recorded arrival (model: `(q.files c.index).isSome`) -/
theorem queue_add_dup_guard : Facts.c14_queue_add_dup_guard = "q.chunkFiles[chunk.Index] != \"\"" := rfl

/-- the app hash is read from the light block at snapshot height + 1 (model: `lcAppHash`) -/
theorem apphash_height_plus_one : Facts.c14_apphash_height_plus_one = true := rfl

/-- statement order of `Sync` (model: `syncBody`) and of the `applyChunks` loop (model: `applyOne`) -/
theorem sync_order : Facts.c14_sync_order =
    ["AppHash", "offerSnapshot", "State", "Commit", "applyChunks", "verifyApp"] := rfl
theorem applyChunks_order : Facts.c14_applyChunks_order =
    ["Next", "ApplySnapshotChunkSync", "Discard", "RejectPeer", "DiscardSender", "Retry"] := rfl

/-- `types.MaxBlockSizeBytes` (the driver's `Params.valid` bound is this fact) -/
theorem maxBlockSizeBytes : Facts.c14_MaxBlockSizeBytes = 104857600 := rfl

/-- light/rpc `ConsensusParams` compares `HashConsensusParams` of the answer with the verified
header's `ConsensusHash` (model: `checkParams`) -/
theorem params_hash_guard : Facts.c14_params_hash_guard = true := rfl

/-- `State()` takes the validator sets from the verified light blocks (model: `lcState`) -/
theorem state_vals_from_blocks : Facts.c14_state_vals_from_blocks = true := rfl

/-- node/node.go `startStateSync`: seen commit first, then the state store (model: `startWrites true`;
`crash_safe_commit_first` is about this order), and the seen commit is written synced -/
theorem startStateSync_order : Facts.c14_startStateSync_order =
    ["Sync", "SaveSeenCommit", "Bootstrap", "SwitchToFastSync", "SwitchToConsensus"] := rfl
theorem seen_commit_synced : Facts.c14_seen_commit_synced = true := rfl

/-- `validateMsg` (model: `StateSync.validateMsg`) -/
theorem validate_missing_with_contents :
    Facts.c14_validate_missing_with_contents = "msg.Missing && len(msg.Chunk) > 0" := rfl
theorem validate_nil_chunk : Facts.c14_validate_nil_chunk = "!msg.Missing && msg.Chunk == nil" := rfl
theorem validate_no_hash : Facts.c14_validate_no_hash = "len(msg.Hash) == 0" := rfl
theorem validate_no_chunks : Facts.c14_validate_no_chunks = "msg.Chunks == 0" := rfl

/-- `SyncAny` rejects the snapshot on an error wrapping `context.DeadlineExceeded` (model: `.deadline`) -/
theorem syncany_deadline_branch : Facts.c14_syncany_deadline_branch = true := rfl

/-- every error path of the hand-over in `startStateSync` returns (model: `Props.C14.repoHandCode`;
`handover_starts_only_if_both_stored` is about exactly this error handling) -/
theorem handover_sync_err_returns : Facts.c14_handover_sync_err_returns = true := rfl
theorem handover_seen_err_returns : Facts.c14_handover_seen_err_returns = true := rfl
theorem handover_boot_err_returns : Facts.c14_handover_boot_err_returns = true := rfl

end Tmv.Expect.C14
