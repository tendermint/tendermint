import Tmv.Gen.Facts
/-! Expectations tying the C13 model to anchored source lines (facts are regenerated from /repo). -/
namespace Tmv.Expect.C13

/-- order of the calls in `poolRoutine` (the first `StopPeerForError` is the `errorsCh` consumer):
peek, light verification, validation, on error redo + stop, else pop, save, apply -/
theorem v0_step_order : Facts.c13_v0_step_order =
    ["StopPeerForError", "PeekTwoBlocks", "VerifyCommitLight", "ValidateBlock", "RedoRequest",
     "PopRequest", "SaveBlock", "ApplyBlock"] := rfl

/-- v0 verifies `second.LastCommit` for `first`'s id with `VerifyCommitLight` (model: `checkPair`) -/
theorem v0_verify_call : Facts.c13_v0_verify_call = true := rfl

/-- … and stores that same commit as the seen commit (model: `processStep`, hand-over theorems) -/
theorem v0_save_seen : Facts.c13_v0_save_seen = true := rfl

/-- v1 and v2 make the same verification call -/
theorem v1_verify_call : Facts.c13_v1_verify_call = true := rfl
theorem v2_verify_call : Facts.c13_v2_verify_call = true := rfl

/-- `VerifyCommitLight` returns at the first +2/3 (model: `lightLoop`) -/
theorem light_early_return : Facts.c13_light_early_return = "talliedVotingPower > votingPowerNeeded" := rfl

theorem setBlock_guard : Facts.c13_setBlock_guard = "bpr.block != nil || bpr.peerID != peerID" := rfl
theorem pick_range_guard : Facts.c13_pick_range_guard = "height < peer.base || height > peer.height" := rfl
theorem caughtup : Facts.c13_caughtup = true := rfl

/-- `reconstructLastCommit`: seen commit, `CommitToVoteSet`, +2/3 (model: `reconstruct`) -/
theorem reconstruct_calls : Facts.c13_reconstruct_calls =
    ["LoadSeenCommit", "CommitToVoteSet", "HasTwoThirdsMajority"] := rfl

theorem maxPendingRequestsPerPeer : Facts.c13_maxPendingRequestsPerPeer = 20 := rfl
theorem maxDiff : Facts.c13_maxDiffBetweenCurrentAndReceivedBlockHeight = 100 := rfl

/-- v2 `pcState.handle`: light verification, then save, then apply (which validates) — the model
`V2.Pc.handle` has this order, and `v2_saved_is_canonical` its consequence -/
theorem v2_handle_order : Facts.c13_v2_handle_order =
    ["purgePeer", "nextTwo", "verifyCommit", "saveBlock", "applyBlock"] := rfl

/-- v2 `pcState.height()` is the state's `LastBlockHeight` (model: `p.st.lastHeight + 1`, `+ 2`) -/
theorem v2_height : Facts.c13_v2_height = true := rfl

/-- `makeRequestersRoutine` creates no requester while `numPending` / the number of requesters is
at its limit (model: `Pool.routineStep`, constants taken from these facts) -/
theorem routine_guards : Facts.c13_routine_guards = true := rfl
theorem maxPendingRequests : Facts.c13_maxPendingRequests = 600 := rfl
theorem maxTotalRequesters : Facts.c13_maxTotalRequesters = 600 := rfl

/-- `bpRequester.reset` counts the request as pending again only if it had a block (model:
`Pool.resetReq`; theorem `numPending_is_waiting_requesters`) -/
theorem reset_guard : Facts.c13_reset_guard = "bpr.block != nil" := rfl

/-- v1 `processBlock`: light verification of `second.LastCommit`, then `SaveBlock`, then `ApplyBlock`
(which validates) — the model `V1.Node.processOnce` has this order -/
theorem v1_process_order : Facts.c13_v1_process_order =
    ["FirstTwoBlocks", "VerifyCommitLight", "SaveBlock", "ApplyBlock"] := rfl

/-- v1 starts its pool at `state.InitialHeight` on an empty store (model: `startHeight`) -/
theorem v1_start_height : Facts.c13_v1_start_height = true := rfl
theorem v1_maxRequestsPerPeer : Facts.c13_v1_maxRequestsPerPeer = 20 := rfl

/-- v2 scheduler: a Removed peer's status is ignored (model: `V2S.Sched.setPeerRange`) and
`targetPending` is 10 -/
theorem v2_sched_removed_noop : Facts.c13_v2_sched_removed_noop = "peer.state == peerStateRemoved" := rfl
theorem v2_targetPending : Facts.c13_v2_targetPending_10 = true := rfl

/-- v0 saves and applies the very block (`first`) whose commit it verified; `PopRequest` hands
nothing back (model: the pool's head block is the verified one; taking the block from the popped requester
instead would hand over whatever it holds after a concurrent peer removal) -/
theorem v0_saves_verified_block : Facts.c13_v0_saves_verified_block = true := rfl
theorem v0_applies_verified_block : Facts.c13_v0_applies_verified_block = true := rfl
theorem v0_pop_returns_nothing : Facts.c13_v0_pop_returns_nothing = true := rfl

end Tmv.Expect.C13
