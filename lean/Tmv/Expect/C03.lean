import Tmv.Gen.Facts
/-! Expectations tying the C03 models (`Tmv.Cons` mechanisms used by the termination argument,
`Tmv.Sync` ticker and timeouts) to anchored source lines (facts are regenerated from /repo on every
run). -/
namespace Tmv.Expect.C03

/-- `enterNewRound` lets every later round through, whatever the step (model: the guard of
`Cons.enterNewRound`) — this is also the guard that lets a node leave the commit step (known finding);
a change here must be followed by a change of the model and of `NoOrphanCommit`. -/
theorem enterNewRound_guard : Facts.c03_enterNewRound_guard =
    "cs.Height != height || round < cs.Round || (cs.Round == round && cs.Step != cstypes.RoundStepNewHeight)" := rfl

/-- skipped rounds advance the proposer priorities one round at a time (fix 781020d; model:
`valRound` counts single increments, `Cfg.proposer` is indexed by it) -/
theorem enterNewRound_single_increments : Facts.c03_enterNewRound_single_increments = true := rfl

/-- round skipping on +2/3-any prevotes / precommits of a later round (`prevoteTransitions`,
`afterPrecommit`) -/
theorem round_skip_prevotes : Facts.c03_round_skip_prevotes = true := rfl
theorem round_skip_precommits : Facts.c03_round_skip_precommits = true := rfl

/-- the proposer re-proposes its valid block (`decideProposal`: `s.validBlock.getD c.ownBlock`) with
`ValidRound` as the POL round -/
theorem decide_valid_block : Facts.c03_decide_valid_block = "cs.ValidBlock != nil" := rfl
theorem proposal_carries_valid_round : Facts.c03_proposal_carries_valid_round = true := rfl

/-- the commit step is entered from any earlier step and only `handleCompleteProposal` in the commit
step finalizes when the block arrives -/
theorem enterCommit_guard : Facts.c03_enterCommit_guard =
    "cs.Height != height || cstypes.RoundStepCommit <= cs.Step" := rfl
theorem complete_proposal_in_commit : Facts.c03_complete_proposal_in_commit =
    "cs.Step == cstypes.RoundStepCommit" := rfl

/-- `timeoutRoutine` ignores a tick of the same round whose step is not later (`Ticker.schedule`) -/
theorem ticker_replace_rule : Facts.c03_ticker_replace_rule = "ti.Step > 0 && newti.Step <= ti.Step" := rfl

/-- timeouts are `base + delta * round` (`Timeouts.duration`) with positive default deltas
(`timeouts_increase_with_round`) -/
theorem timeout_formulas : Facts.c03_propose_timeout_formula = true ∧ Facts.c03_prevote_timeout_formula = true ∧
    Facts.c03_precommit_timeout_formula = true := ⟨rfl, rfl, rfl⟩
theorem default_deltas : Facts.c03_default_propose_delta = true ∧ Facts.c03_default_prevote_delta = true ∧
    Facts.c03_default_precommit_delta = true := ⟨rfl, rfl, rfl⟩

/-- the reactor hands a peer's majority claim (`VoteSetMaj23`) of ANY round of the current height to
`HeightVoteSet.SetPeerMaj23` (model: `Input.peerMaj23` is accepted whatever the node's round;
`Net.claim` delivers the claims of all rounds) -/
theorem maj23_claim_any_round : Facts.c03_maj23_claim_any_round = "height != msg.Height" := rfl
theorem maj23_claim_sets_peer_maj23 : Facts.c03_maj23_claim_sets_peer_maj23 = true := rfl

/-- a conflicting vote is refused unless a peer claimed a majority for its block (model:
`VoteSet.addVerified`, `conflicting && !bv.peerMaj23`) -/
theorem conflicting_vote_gate : Facts.c03_conflicting_vote_gate =
    "conflicting != nil && !votesByBlock.peerMaj23" := rfl

end Tmv.Expect.C03
