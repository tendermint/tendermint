import Tmv.Gen.Facts
/-! Expectations tying the C12 models to anchored source lines (facts regenerated from /repo). -/
namespace Tmv.Expect.C12

/-- `abci.CodeTypeOK` (the models' `codeOK` is defined from this fact). -/
theorem codeTypeOK : Facts.abci_CodeTypeOK = 0 := rfl

/-- v0 `ReapMaxTxs` loops while `len(txs) < max` (model: `V0.reapNGo`); with `<=` the theorem
`v0_reapMaxTxs_is_prefix_within_count` is false of the code. -/
theorem v0_reapMaxTxs_loop : Facts.mempoolV0_reapMaxTxs_loop = "e != nil && len(txs) < max" := rfl

/-- v0 `isFull` (model: `V0.isFull`). -/
theorem v0_isFull : Facts.mempoolV0_isFull =
    "memSize >= mem.config.Size || int64(txSize)+txsBytes > mem.config.MaxTxsBytes" := rfl

/-- v0 `resCbFirstTime`: the critical section is entered FIRST, then the capacity check, the
already-in-pool guard and `addTx` (model: `V0.resCbFirstTime` as one atomic step); a capacity check
outside the lock lets concurrent callers exceed the limits, without the guard `v0_no_duplicates` is
false of the code. -/
theorem v0_admit_order : Facts.mempoolV0_admit_order =
    ["mem.addTxMtx.Lock", "mem.isFull", "mem.txsMap.Load", "mem.addTx"] := rfl
theorem v0_inpool_guard : Facts.mempoolV0_inpool_guard = true := rfl

/-- v0 admission (capacity check, in-pool check, insertion) is one critical section — the models'
"one CheckTx is one atomic step" for concurrent callers over the local client. -/
theorem v0_admit_atomic : Facts.mempoolV0_admit_atomic = true := rfl

/-- v1 `addNewTransaction` has the already-in-pool guard (model: `V1.addNewTransaction`). -/
theorem v1_inpool_guard : Facts.mempoolV1_inpool_guard = true := rfl

/-- v1 `canAddTx` (model: `V1.canAddTx`). -/
theorem v1_canAddTx : Facts.mempoolV1_canAddTx =
    "numTxs >= txmp.config.Size || wtx.Size()+txBytes > txmp.config.MaxTxsBytes" := rfl

/-- v1 eviction candidates are the strictly lower-priority entries. -/
theorem v1_victim : Facts.mempoolV1_victim = "cw.priority < priority" := rfl

/-- v1 `addNewTransaction`: capacity check, evictions, then the insertion. -/
theorem v1_admit_order : Facts.mempoolV1_admit_order =
    ["txmp.canAddTx", "txmp.removeTxByElement", "txmp.insertTx"] := rfl

end Tmv.Expect.C12
