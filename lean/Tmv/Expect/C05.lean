import Tmv.Gen.Facts
import Tmv.Model.Pipeline
/-! Expectations tying the C05 models to anchored source (facts are regenerated from /repo).
The `model_…` theorems run the model: `by rfl` there (the term `rfl` would evaluate a second time for
the `defeq` attribute), `by decide` where the run itself compares strings (`dedupAdj`, the `fail.Fail`
filter). -/
namespace Tmv.Expect.C05
open Tmv.Pipeline

/-- call names of the model's persistent effects, in the vocabulary of the anchored functions -/
def callName : Eff → String
  | .initChain => "InitChainSync"
  | .saveGenesis => "Save"
  | .signVote _ _ => "signVote"
  | .pvSign _ _ => "pvSign"
  | .saveBlock _ => "SaveBlock"
  | .walEnd _ => "WriteSync"
  | .begin _ => "BeginBlockSync"
  | .deliver _ _ => "DeliverTxAsync"
  | .endBlock _ => "EndBlockSync"
  | .saveResp _ => "SaveABCIResponses"
  | .appCommit => "CommitSync"
  | .saveState _ => "Save"
  | .pruneBlocks _ => "PruneBlocks"
  | .pruneStates _ _ => "PruneStates"

/-- `finalizeCommit`: SaveBlock, then the WAL #ENDHEIGHT, then ApplyBlock, then updateToState —
the model's `finalizeEffs` has SaveBlock and the marker in this order before the block's effects. -/
theorem finalize_order :
    Facts.c05_finalize_order = ["SaveBlock", "WriteSync", "ApplyBlock", "updateToState"] := rfl

theorem model_finalize_prefix :
    ((finalizeEffs { txs := fun _ => [] } { genesisSaved := true } 1).getD []).map callName
      = ["signVote", "signVote"] ++ Facts.c05_finalize_order.take 2 ++
          Facts.c05_exec_order.take 1 ++ Facts.c05_exec_order.drop 2 ++
          ["SaveABCIResponses", "CommitSync", "Save"] := by rfl

/-- `ApplyBlock`: validate, execute, save responses, (updateState), Commit, save state. -/
theorem applyBlock_order : Facts.c05_applyBlock_order =
    ["validateBlock", "execBlockOnProxyApp", "SaveABCIResponses", "updateState", "Commit", "Save"] := rfl

/-- the model's `applyBlockReal` is that order with `execBlockOnProxyApp` and `Commit` expanded -/
theorem model_applyBlock_order :
    (applyBlockReal { txs := fun _ => [5] } 1).map callName
      = Facts.c05_exec_order ++ ["SaveABCIResponses"] ++ [(Facts.c05_commit_order.getD 2 "")] ++ ["Save"] := by rfl

/-- `BlockExecutor.Commit`: mempool Lock, FlushAppConn, app CommitSync, mempool Update (the
committer's program in `Model/MempoolLock.lean`). -/
theorem commit_order : Facts.c05_commit_order = ["Lock", "FlushAppConn", "CommitSync", "Update"] := rfl

theorem exec_order : Facts.c05_exec_order = ["BeginBlockSync", "DeliverTxAsync", "EndBlockSync"] := rfl

theorem execCommit_order : Facts.c05_execCommit_order = ["execBlockOnProxyApp", "CommitSync"] := rfl

theorem model_execCommit_order :
    (execCommit { txs := fun _ => [5] } 1).map callName = Facts.c05_exec_order ++ Facts.c05_execCommit_order.drop 1 := by
  rfl

/-- `ReplayBlocks`: InitChain iff the application reports height 0; state touched only at height 0;
the store = state / store = state + 1 split; the mock branch reads the last saved responses. -/
theorem replay_initchain_guard : Facts.c05_replay_initchain_guard = "appBlockHeight == 0" := rfl
theorem replay_genesis_state_guard : Facts.c05_replay_genesis_state_guard = "stateBlockHeight == 0" := rfl
theorem replay_store_eq_state : Facts.c05_replay_store_eq_state = "storeBlockHeight == stateBlockHeight" := rfl
theorem replay_mock_loads_last_resp : Facts.c05_replay_mock_loads_last_resp = true := rfl
theorem replay_app_ahead_case : Facts.c05_replay_app_ahead_case = true := rfl
theorem replay_store_ahead_case : Facts.c05_replay_store_ahead_case = true := rfl

/-- as repaired (9a8fd87): the height after the state is the genesis InitialHeight for an empty
state (model: `nxt`), used both for the store-ahead panic and for the store = state + 1 branch -/
theorem replay_next_is_initial_height : Facts.c05_replay_next_is_initial_height = true := rfl
theorem replay_store_next_case : Facts.c05_replay_store_next_case = true := rfl

/-- the repaired `catchupReplay` writes the missing #ENDHEIGHT (model: `startEffs`); without it
`recovery_progress` / `signed_vote_is_replayable` are false of the code. -/
theorem catchup_writes_missing_marker : Facts.c05_catchup_writes_missing_marker = true := rfl

/-- the marker is written only after the strict search for a damaged tail (which the model's
crash notion never produces) and before any message would be replayed -/
theorem catchup_marker_after_strict_pass :
    Facts.c05_catchup_order = ["SearchForEndHeight", "IsDataCorruptionError", "WriteSync", "readReplayMessage"] := rfl
theorem catchup_strict_pass_guard : Facts.c05_catchup_strict_guard = true := rfl

/-- v0 `CheckTx` keeps the read lock across `CheckTxAsync` (deferred unlock). -/
theorem v0_check_order : Facts.c05_v0_check_order = ["RLock", "RUnlock", "CheckTxAsync"] := rfl
theorem v0_check_unlock_deferred : Facts.c05_v0_check_unlock_deferred = true := rfl

/-- v1 `CheckTx`: read-locked prelude closed before `CheckTxSync`; `FlushAppConn` releases the
lock; rechecks are issued from a goroutine (the v1 discipline of `Model/MempoolLock.lean`). -/
theorem v1_check_order :
    Facts.c05_v1_check_order = ["RLock", "RUnlock", "CheckTxSync", "addNewTransaction"] := rfl
theorem v1_flush_unlocks : Facts.c05_v1_flush_unlocks = true := rfl
theorem v1_recheck_in_goroutine : Facts.c05_v1_recheck_in_goroutine = true := rfl

/-! ## fail points: the model's incarnation plan has the `fail.Fail()` call sites where the code has
them (facts: every occurrence, in source order, of `fail.Fail` and of the effectful calls) -/

def itemName : Item → String
  | .fail => "fail.Fail"
  | .prune _ => "pruneBlocks"
  | .eff (.begin _) => "execBlockOnProxyApp"
  | .eff (.deliver _ _) => "execBlockOnProxyApp"
  | .eff (.endBlock _) => "execBlockOnProxyApp"
  | .eff (.saveResp _) => "SaveABCIResponses"
  | .eff .appCommit => "Commit"
  | .eff (.saveState _) => "Save"
  | .eff e => callName e

/-- consecutive effects of one call collapse to its name -/
def dedupAdj : List String → List String
  | a :: b :: r => if a = b ∧ a ≠ "fail.Fail" then dedupAdj (b :: r) else a :: dedupAdj (b :: r)
  | l => l

theorem failseq_apply : Facts.c05_failseq_apply =
    ["execBlockOnProxyApp", "fail.Fail", "SaveABCIResponses", "fail.Fail", "Commit", "fail.Fail", "Save", "fail.Fail"] :=
  rfl

theorem failseq_finalize : Facts.c05_failseq_finalize =
    ["fail.Fail", "SaveBlock", "fail.Fail", "WriteSync", "fail.Fail", "ApplyBlock", "fail.Fail", "updateToState", "fail.Fail"] :=
  rfl

/-- `planApplyReal` = ApplyBlock's call sites -/
theorem model_plan_apply :
    dedupAdj ((planApplyReal { txs := fun _ => [5, 6] } 1).map itemName) = Facts.c05_failseq_apply := by
  decide

/-- the commit part of `planHeight` = finalizeCommit's call sites with ApplyBlock's spliced in
(`updateToState` has no persistent effect) -/
theorem model_plan_finalize :
    dedupAdj (((planHeight { txs := fun _ => [5] } 0 0 0 1).drop 4).map itemName) =
      Facts.c05_failseq_finalize.flatMap (fun n =>
        -- `pruneBlocks` and `updateToState` share the gap between the same two fail points
        -- (`finalize_prune_position`); only the former has persistent effects
        if n = "ApplyBlock" then Facts.c05_failseq_apply else if n = "updateToState" then ["pruneBlocks"] else [n]) := by
  decide

/-- `cs.pruneBlocks`: the base is read, PruneBlocks, then PruneStates (model: `pruneList`, the effects of `pruneEffs`), and it
sits between ApplyBlock's fail point and updateToState in finalizeCommit -/
theorem prune_order : Facts.c05_prune_order = ["Base", "PruneBlocks", "PruneStates"] := rfl
theorem finalize_prune_position : Facts.c05_finalize_prune_position.drop 3 =
    ["ApplyBlock", "fail.Fail", "pruneBlocks", "updateToState", "fail.Fail"] := rfl
theorem model_prune_list :
    (pruneList { txs := fun _ => [] } 2 3).map callName = Facts.c05_prune_order.drop 1 := by rfl

/-- the mock replay passes the same four fail points of ApplyBlock -/
theorem model_plan_mock_fail_count :
    ((planApplyMock 1).filter fun i => match i with | .fail => true | _ => false).length =
      (Facts.c05_failseq_apply.filter (· = "fail.Fail")).length := by
  decide

end Tmv.Expect.C05
