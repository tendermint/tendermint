import Tmv.Gen.Facts
import Tmv.Model.BlockStore
import Tmv.Model.StateStoreRange
/-! Expectations tying the C18 models to anchored source lines (facts are regenerated from /repo). -/
namespace Tmv.Expect.C18

/-- `PruneBlocks` flushes a batch every `batchSize` pruned blocks (model: `BlockStore.batchSize`). -/
theorem prune_flush_cond :
    Facts.c18_prune_flush_cond = s!"pruned%{BlockStore.batchSize} == 0 && pruned > 0" := by
  decide

/-- the intermediate flush persists `h+1` — the first height NOT in the batch — as the new base
(model: `pruneLoop`'s `.range (h + 1) H`); with `h` the theorem `prune_crash_consistent` is false. -/
theorem prune_flush_next_base : Facts.c18_prune_flush_next_base = true := rfl

/-- `SaveBlock` writes parts, meta, hash index, previous commit, seen commit, and the range
descriptor LAST (model: the order of `saveBlock`'s units). -/
theorem saveBlock_order : Facts.c18_saveBlock_order =
    ["saveBlockPart", "calcBlockMetaKey", "calcBlockHashKey", "calcBlockCommitKey", "calcSeenCommitKey", "saveState"] :=
  rfl

/-- `finalizeCommit`: validate (panic before anything is written), block store, then the state
(ApplyBlock), then pruning (model: `StoreNode.phase1` / `step`). -/
theorem finalizeCommit_order : Facts.c18_finalizeCommit_order =
    ["ValidateBlock", "SaveBlock", "ApplyBlock", "pruneBlocks"] := rfl

/-- the pruning glue prunes the block store before the state store (model: `StoreNode.pruneGlue`) -/
theorem pruneGlue_order : Facts.c18_pruneBlocks_glue_order = ["PruneBlocks", "PruneStates"] := rfl

/-- the model's checkpoint interval IS the source constant -/
theorem checkpoint_interval : StateStore.interval = Facts.c18_valSetCheckpointInterval := rfl

/-- every consensus-parameter update moves `LastHeightConsensusParamsChanged` (whatever fields it
touches: `HashConsensusParams` covers only Block.MaxBytes/MaxGas), so `LoadConsensusParams` finds
the params of every retained height (a change height that moved only when the hash changes would
lose updates of the unhashed fields) -/
theorem params_change_height_unconditional : Facts.c18_params_change_height_unconditional = true := rfl

end Tmv.Expect.C18
