import Tmv.Gen.Facts
import Tmv.Model.Sign
/-! Expectations tying the C04 model to anchored source lines (facts are regenerated from /repo on
every run). -/
namespace Tmv.Expect.C04
open Tmv

/-- step numbering of `privval/file.go` and the signed-message types (the model's `reqStep`,
`stepOfTyp` are defined from these facts; the proofs need the three steps to be strictly ordered
propose < prevote < precommit only through `CheckHRS`, and the proposal type to differ from both
vote types) -/
theorem steps_ordered : Facts.pv_stepPropose < Facts.pv_stepPrevote ∧ Facts.pv_stepPrevote < Facts.pv_stepPrecommit ∧
    0 < Facts.pv_stepPropose := by decide

theorem types_distinct : Facts.pv_ProposalType ≠ Facts.pv_PrevoteType ∧ Facts.pv_ProposalType ≠ Facts.pv_PrecommitType ∧
    Facts.pv_PrevoteType ≠ Facts.pv_PrecommitType := by decide

/-- `signVote` / `signProposal`: CheckHRS, then the sign bytes, then the signature, then
`saveSigned` (model: `begin`, then `Stage.sigDone`, `Stage.memSet`) -/
theorem signVote_order : Facts.pv_signVote_order = ["CheckHRS", "VoteSignBytes", "Sign", "saveSigned"] := rfl
theorem signProposal_order : Facts.pv_signProposal_order = ["CheckHRS", "ProposalSignBytes", "Sign", "saveSigned"] :=
  rfl

/-- the signature is assigned to the caller's message only after `saveSigned` returned (model: the
release is the micro-step after `Stage.renamed`); without this order `disk_dominates_released`
is false of the code -/
theorem persist_before_release : Facts.pv_vote_persist_before_release = true ∧
    Facts.pv_proposal_persist_before_release = true ∧ Facts.pv_saveSigned_saves = true := ⟨rfl, rfl, rfl⟩

/-- the three regression comparisons of `CheckHRS` (model: `checkHRS`) -/
theorem checkHRS_guards : Facts.pv_checkHRS_height = "lss.Height > height" ∧
    Facts.pv_checkHRS_round = "lss.Round > round" ∧ Facts.pv_checkHRS_step = "lss.Step > step" := ⟨rfl, rfl, rfl⟩

/-- `WriteFileAtomic`: create temp file, write, rename (model: `Stage.tmpWritten`, `Stage.renamed`) -/
theorem atomic_order : Facts.pv_atomic_order = ["OpenFile", "Write", "Rename"] := rfl

/-- consensus flushes+fsyncs the WAL before asking for a signature (model: `SignNode.handle` sets
`synced` to the whole WAL whenever a request is issued; `Props.C04.replay_reissues_requests`) -/
theorem flush_before_sign : Facts.cs_signVote_flush_first = ["FlushAndSync", "SignVote"] ∧
    Facts.cs_proposal_flush_first = ["FlushAndSync", "SignProposal"] := ⟨rfl, rfl⟩

/-- the proposer keeps the timestamp the signer signed (fix 14bb07b): a reused signature comes with
the stored timestamp; without this line the re-proposal after a crash is not validly signed and
`replay_not_refused_partial` has no counterpart in the code -/
theorem proposal_keeps_signed_timestamp : Facts.cs_proposal_keeps_signed_timestamp = true := rfl

/-- which loader is used where: every node start goes through `LoadOrGenFilePV` (model:
`Sign.nodeLoader`), which loads key AND state when the key file exists (`Sign.loaderDecision`);
`LoadFilePV` reads the state file, `LoadFilePVEmptyState` does not and is what the reset command
uses; `init` uses `LoadFilePV` -/
theorem loaders : Facts.pv_node_loader = true ∧ Facts.pv_loadOrGen_key_cond = "tmos.FileExists(keyFilePath)" ∧
    Facts.pv_loadOrGen_loads = true ∧ Facts.pv_load_reads_state = true ∧ Facts.pv_emptystate_skips_state = true ∧
    Facts.pv_reset_uses_emptystate = true ∧ Facts.pv_init_uses_load = true := ⟨rfl, rfl, rfl, rfl, rfl, rfl, rfl⟩

end Tmv.Expect.C04
