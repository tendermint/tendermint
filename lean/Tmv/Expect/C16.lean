import Tmv.Gen.Facts
import Tmv.Model.SecretFrames
/-! Expectations tying the C16 models to anchored source lines (facts are regenerated from /repo). -/
namespace Tmv.Expect.C16
open Tmv.SecretFrames

/-- the frame geometry the model (and the stream's 1044-byte blocks) relies on -/
theorem frame_sizes :
    Facts.c16_dataLenSize = 4 ∧ Facts.c16_dataMaxSize = 1024 ∧ Facts.c16_totalFrameSize = 1028 ∧
    Facts.c16_aeadSizeOverhead = 16 := ⟨rfl, rfl, rfl, rfl⟩

/-- the relations between the constants that the theorems use -/
theorem frame_relations :
    totalFrameSize = dataMaxSize + dataLenSize ∧ dataLenSize = 4 ∧ dataMaxSize < 2 ^ 32 ∧
    0 < dataMaxSize ∧ sealedFrameSize = 1044 := by decide

/-- `incrNonce` panics instead of wrapping (model: `incrNonce c = none` iff `c = maxU64`) -/
theorem incrNonce_guard : Facts.c16_incrNonce_guard = "counter == math.MaxUint64" := rfl

/-- `Read` refuses a length field above `dataMaxSize` (model: `chunkLength > dataMaxSize`) -/
theorem read_len_guard : Facts.c16_read_len_guard = "chunkLength > dataMaxSize" := rfl

/-- `Write`: seal, then advance the counter, then hand the frame to the conn -/
theorem write_order : Facts.c16_write_order = ["Seal", "incrNonce", "Write"] := rfl

/-- `Read`: whole sealed frame, open under the current counter, only then advance it -/
theorem read_order : Facts.c16_read_order = ["ReadFull", "Open", "incrNonce"] := rfl

/-- handshake: ephemerals, sort, DH, keys, challenge from the transcript, sign it, exchange,
verify the peer's signature over the same challenge (model: `Sts.Session.finish`) -/
theorem handshake_order : Facts.c16_handshake_order =
    ["shareEphPubKey", "sort32", "computeDHSecret", "deriveSecrets", "ExtractBytes", "signChallenge",
     "shareAuthSignature", "VerifySignature"] := rfl

theorem verify_guard :
    Facts.c16_verify_guard = "!remPubKey.VerifySignature(challenge[:], remSignature)" := rfl

/-- `transport.upgrade`: the authenticated key must be the dialed id, the self-reported id, and
not the node itself (model: `Sts.upgrade`) -/
theorem upgrade_guards :
    Facts.c16_upgrade_outbound_guard = "dialedAddr != nil" ∧
    Facts.c16_upgrade_dialed_guard = "connID != dialedID" ∧
    Facts.c16_upgrade_nodeinfo_guard = "connID != nodeInfo.ID()" ∧
    Facts.c16_upgrade_self_guard = "mt.nodeInfo.ID() == nodeInfo.ID()" := ⟨rfl, rfl, rfl, rfl⟩

end Tmv.Expect.C16
