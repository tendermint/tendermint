import Tmv.Gen.Facts
/-! Expectations tying the C06 model to anchored source (facts are regenerated from /repo).
The size constants are used by the model *through* the facts (`ProtoSize.maxHeaderBytes` …), so a
changed constant flows into `size_fits`; the values below are the ones its arithmetic was proved
for. -/
namespace Tmv.Expect.C06

theorem maxHeaderBytes : Facts.c06_MaxHeaderBytes = 626 := rfl
theorem maxOverheadForBlock : Facts.c06_MaxOverheadForBlock = 11 := rfl
theorem maxCommitOverheadBytes : Facts.c06_MaxCommitOverheadBytes = 94 := rfl
theorem maxCommitSigBytes : Facts.c06_MaxCommitSigBytes = 109 := rfl
theorem maxBlockSizeBytes : Facts.c06_MaxBlockSizeBytes = 104857600 := rfl
theorem maxChainIDLen : Facts.c06_MaxChainIDLen = 50 := rfl
theorem blockProtocol : Facts.c06_BlockProtocol = 11 := rfl
theorem addressSize : Facts.c06_AddressSize = 20 := rfl

/-- the clause order of `validateBlock` the guard list of the model follows -/
theorem validate_order : Facts.c06_validate_order =
    ["ValidateBasic", "HashConsensusParams", "VerifyCommit", "HasAddress", "After", "MedianTime", "ByteSize"] := rfl

/-- `WeightedMedian` starts at `totalVotingPower / 2` and stops at `median <= weight` (model:
`weightedMedian`, `pick`); this is the rule `makeBlock_valid_fails` is about -/
theorem median_half : Facts.c06_median_half = true := rfl
theorem median_pick : Facts.c06_median_pick = "median <= weightedTime.Weight" := rfl

/-- `CreateProposalBlock` budgets the commit by `LastValidators` (model: `proposalDataBudget`;
the `fix:` commit) — with `Validators` `size_fits` is false of the code -/
theorem proposal_budget_vals : Facts.c06_proposal_budget_vals = true := rfl

/-- `State.voteTime` consults the LOCKED block first and the proposal only without a lock (model:
`voteTime`; `voteTime_after_locked`, `next_block_valid_of_correct_votes` rest on this order) -/
theorem voteTime_first : Facts.c06_voteTime_first = "cs.LockedBlock != nil" := rfl
theorem voteTime_second : Facts.c06_voteTime_second = "cs.ProposalBlock != nil" := rfl

end Tmv.Expect.C06
