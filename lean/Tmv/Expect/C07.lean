import Tmv.Gen.Facts
/-! Expectations tying the C07 model to anchored source lines (facts are regenerated from /repo). -/
namespace Tmv.Expect.C07

/-- `MaxTotalVotingPower = MaxInt64 / 8`; the model's `maxTotalVotingPower` is defined from this
fact and the proofs only use `0 ≤ · ∧ · * 8 ≤ MaxInt64` (`CommitVerify.maxTotal_bound`). -/
theorem maxTotalVotingPower_value : Facts.c07_MaxTotalVotingPower = 9223372036854775807 / 8 := rfl

/-- `VerifyCommit` rejects unless the tally is strictly above the threshold. -/
theorem full_threshold : Facts.c07_full_threshold = "got <= needed" := rfl

/-- `VerifyCommitLight` / `VerifyCommitLightTrusting` return at the first strict crossing. -/
theorem light_threshold : Facts.c07_light_threshold = "talliedVotingPower > votingPowerNeeded" := rfl
theorem trusting_threshold : Facts.c07_trusting_threshold = "talliedVotingPower > votingPowerNeeded" := rfl

/-- both index-based variants compute `total * 2 / 3` -/
theorem needed_two_thirds : Facts.c07_full_needed_two_thirds = true ∧ Facts.c07_light_needed_two_thirds = true :=
  ⟨rfl, rfl⟩

/-- the trusting variant guards both uint64 parts of the trust level before the int64 casts
(model: `.fractionRange`); without the guard `trusting_sound` is false of the code. -/
theorem trusting_fraction_guard : Facts.c07_trusting_fraction_guard =
    "trustLevel.Numerator > math.MaxInt64 || trustLevel.Denominator > math.MaxInt64" := rfl

/-- order in the trusting variant: threshold first, then per slot lookup by address, sign bytes,
signature check -/
theorem trusting_order : Facts.c07_trusting_order =
    ["safeMul", "GetByAddress", "VoteSignBytes", "VerifySignature"] := rfl

/-- `crypto.AddressSize` (model: `addressSize`, defined from the fact) and `MaxVotesCount` (the size of
the largest sets the thorough stream drives) -/
theorem address_size_and_max_votes : Facts.c07_AddressSize = 20 ∧ Facts.c07_MaxVotesCount = 10000 := ⟨rfl, rfl⟩

/-- `ValidatorSetFromProto` recomputes the total and never reads the one on the wire (model:
`valSetFromProto` ignores `WireValSet.total`; `decoded_set_wellformed`) -/
theorem fromProto_recomputes_total :
    Facts.c07_fromProto_recomputes_total = true ∧ Facts.c07_fromProto_reads_wire_total = false := ⟨rfl, rfl⟩

/-- `CanonicalizeBlockID` maps exactly the zero block id to nil (model: `canonBlockID` tests `isZero`) -/
theorem canonical_nil_test : Facts.c07_canonical_nil_test = "rbid == nil || rbid.IsZero()" := rfl

end Tmv.Expect.C07
