import Tmv.Model.WalInst
import Tmv.Lemmas.Wal
/-! Expectations tying the C15 model to anchored source lines and constants (facts are regenerated
from /repo), and the proof that the parameters the driver runs the model with satisfy the
hypotheses (`Good`) of the C15 theorems. -/
namespace Tmv.Expect.C15
open Tmv Tmv.Wal

/-- `maxMsgSize` (consensus/reactor.go); the WAL limit is `maxMsgSize + 24`. -/
theorem maxMsgSize : Facts.c15_maxMsgSize = 1048576 := rfl

/-- `maxFilesToRemove` bounds one pruning pass. -/
theorem maxFilesToRemove : Facts.c15_maxFilesToRemove = 4 := rfl

/-- the head's write buffer is `bufio.NewWriterSize(head, 4096*10)` (model: `Inst.S = 40960`). -/
theorem headBuf : Facts.c15_headBuf_40k = true ∧ Inst.S = 4096 * 10 := ⟨rfl, rfl⟩

/-- `Decode` reports a clean EOF only when not a single checksum byte could be read
(model: `decodeG`'s first two branches). Without `nr == 0` a torn checksum goes unrepaired. -/
theorem decode_clean_eof : Facts.c15_decode_clean_eof = "errors.Is(err, io.EOF) && nr == 0" := rfl

/-- `checkHeadSizeLimit` rotates when the head *file* has reached the limit. -/
theorem rotate_guard : Facts.c15_rotate_guard = "size >= limit" := rfl

/-- the early exit of `SearchForEndHeight` (model: `searchIdx`). -/
theorem search_early_exit :
    Facts.c15_search_early_exit = "lastHeightFound > 0 && lastHeightFound < height" := rfl

/-- `repairWalFile` fsyncs the file it rewrote (model: `repairHead` sets `synced` to the length). -/
theorem repair_syncs : Facts.c15_repair_syncs = true := rfl

/-- order of the repair steps in `State.OnStart` (first occurrences). -/
theorem onstart_repair_order : Facts.c15_onstart_repair_order =
    ["loadWalFile", "catchupReplay", "Stop", "CopyFile", "repairWalFile"] := rfl

/-- `readGroupInfo` recognises rotated files by `[0-9]{3,}`: `%03d` is a minimum width, indices
from 1000 on have more digits (the model keys files by index, whatever its size). -/
theorem index_pattern : Facts.c15_index_pattern = true := rfl

/-- `State.OnStart` decides "repair or start anyway" with `IsDataCorruptionError(err)`, a plain type
assertion … -/
theorem onstart_corruption_case : Facts.c15_onstart_corruption_case = true := rfl

/-- … so `catchupReplay` must hand the decoder's `DataCorruptionError` back as it is: it tests it
with the same helper and wraps no error (`%w`). -/
theorem catchup_returns_raw_error :
    Facts.c15_catchup_corruption_case = true ∧ Facts.c15_catchup_wraps_error = false := ⟨rfl, rfl⟩

/-- after a repair `OpenWAL` opens the group without options: default limits -/
theorem default_limits : Wal.Inst.defaultHeadLimit = 10 * 1024 * 1024 ∧
    Wal.Inst.defaultTotalLimit = 1024 * 1024 * 1024 := ⟨rfl, rfl⟩

/-- the driver's parameters satisfy the hypotheses of the theorems -/
theorem inst_good : Good Inst.P where
  crcLen := fun _ => rfl
  maxLt := by decide
  parseNil := rfl

end Tmv.Expect.C15
