import Tmv.Gen.Facts
import Tmv.Model.MConn
import Tmv.Model.PeerMsgs
import Tmv.Model.ReactorMsgs
/-! Expectations tying the C17 model to anchored source lines (facts are regenerated from /repo). -/
namespace Tmv.Expect.C17

/-- `recvPacketMsg` refuses a packet that would take the buffer above `RecvMessageCapacity`
(model: `recvPacketMsg`'s first guard, strict `<`) -/
theorem recv_capacity_guard : Facts.mconn_recv_capacity_guard = "recvCap < recvReceived" := rfl

/-- `recvRoutine` checks the int32 channel id's range, not only the byte-cast lookup -/
theorem unknown_channel_guard : Facts.mconn_unknown_channel_guard =
    "pkt.PacketMsg.ChannelID < 0 || pkt.PacketMsg.ChannelID > math.MaxUint8 || !ok || channel == nil" := rfl

/-- `isSendPending` uses nil-ness (not emptiness) of `sending` as "no message in progress"
(model: `sending : Option Bytes`); with `len(ch.sending) == 0` the empty message is lost and
`nothing_to_send_only_when_idle` is false of the code -/
theorem isSendPending_guard : Facts.mconn_isSendPending_guard = "ch.sending == nil" := rfl

/-- `nextPacketMsg` sets EOF iff the rest fits one packet (`≤`) -/
theorem nextPacket_eof_guard : Facts.mconn_nextPacket_eof_guard = "len(ch.sending) <= maxSize" := rfl

/-- the defaults the model's `fillDefaults` takes from the source -/
theorem default_constants :
    MConn.defaultMaxPacketMsgPayloadSize = 1024 ∧ MConn.defaultSendQueueCapacity = 1 ∧
    MConn.defaultRecvMessageCapacity = 22020096 := ⟨rfl, rfl, rfl⟩

/-- the frame limit of the default configuration (channel id 0xff, EOF, 1024 data bytes) -/
theorem default_frame_limit : MConn.maxPacketMsgSize MConn.defaultMaxPacketMsgPayloadSize = 1035 := by rfl

/-- `BitArray.ValidateBasic` compares `len(Elems)` with the number `Bits` requires (model:
`BitArr.validateBasic`) and the three consensus validators call it -/
theorem bitarray_validation :
    Facts.bits_validate_elems_guard = "len(bA.Elems) != expected" ∧
    Facts.cons_newValidBlock_validates_bits = true ∧ Facts.cons_proposalPOL_validates_bits = true ∧
    Facts.cons_voteSetBits_validates_bits = true := ⟨rfl, rfl, rfl, rfl⟩

/-- `setIndex` returns early only on `i >= Bits` (model: `indexPanics`) -/
theorem setIndex_guard : Facts.bits_setIndex_guard = "i >= bA.Bits" := rfl

/-- `addVote` ignores a previous-height precommit when there is no `LastCommit` (initial height) -/
theorem addVote_nil_lastcommit_guard : Facts.cons_addVote_nil_lastcommit_guard = "cs.LastCommit == nil" := rfl

/-- the size limits the validators use -/
theorem size_limits : PeerMsgs.maxVotesCount = 10000 ∧ PeerMsgs.maxBlockPartsCount = 1601 := ⟨rfl, rfl⟩

/-- lock scope in `ReceiveEnvelope`, vote case: the consensus read lock is released (plain
`RUnlock`, no `defer` anywhere in the function) BEFORE the blocking hand-off to `peerMsgQueue`;
holding it across the send deadlocks readers against `receiveRoutine`'s write lock once the queue
is full (stream: `flood`, fingerprint consensus.reactor.wedged-by-flood) -/
theorem receive_vote_lock_scope :
    Facts.cons_receive_vote_unlock_before_queue = true ∧
    Facts.cons_receive_vote_deferred_runlock = false ∧
    Facts.cons_receive_any_deferred_unlock = false := ⟨rfl, rfl, rfl⟩

/-- the part count of a proposal is bounded before `SetHasProposal` sizes an array with it; the two
index-relevant lines of `libs/bits` the peer-state model mirrors are still there -/
theorem peer_state_size_anchors :
    Facts.cons_proposal_bounds_part_count = "m.Proposal.BlockID.PartSetHeader.Total > types.MaxBlockPartsCount" ∧
    Facts.bits_pickRandom_reads_last_elem = true ∧ Facts.bits_sub_loop_bound = true := ⟨rfl, rfl, rfl⟩

/-- anchors of the small reactor models: the chunk-index guard of `chunkQueue.Add`, the base/height
guard of the blockchain `ValidateMsg`, and the constants the bounds are stated with -/
theorem other_reactor_anchors :
    Facts.ss_chunk_index_guard = "chunk.Index >= q.snapshot.Chunks" ∧
    Facts.bc_status_base_guard = "msg.Base > msg.Height" ∧
    ReactorMsgs.maxTotalRequesters = 600 ∧ ReactorMsgs.pexMaxMsgSize = 64000 := ⟨rfl, rfl, rfl, rfl⟩

/-- `createMConnection.onReceive` decodes every message into a FRESH clone of the channel's message
type (the `MessageType` object of a `ChannelDescriptor` is shared by all peers of the switch):
this is what makes decoding a function of the message's own bytes (`Props.C17.peers_do_not_mix`) -/
theorem peer_onReceive_clones : Facts.peer_onReceive_clones_message_type = true := rfl

/-- anchors of the decision models and of the channel choice: the evidence reactor punishes exactly
`*types.ErrInvalidEvidence`; both mempool reactors only log an empty Txs message; a seed treats
inbound peers specially; `sendPacketMsg` replaces the least channel only on a STRICTLY smaller
ratio (model: `pickLeast`) -/
theorem decision_anchors :
    Facts.ev_receive_punishes_invalid = true ∧
    Facts.mp_v0_empty_txs_guard = "len(protoTxs) == 0" ∧ Facts.mp_v1_empty_txs_guard = "len(protoTxs) == 0" ∧
    Facts.pex_seed_inbound_guard = "r.config.SeedMode && !e.Src.IsOutbound()" ∧
    Facts.conn_least_ratio_guard = "ratio < leastRatio" := ⟨rfl, rfl, rfl, rfl, rfl⟩

/-- the accept path's error classification (model: `acceptErrOf`, `acceptRoutineOn`): every stage
of `upgrade` that a peer's bytes can fail returns `ErrRejected` (no plain `fmt.Errorf` return in
`upgrade`), a panic in the upgrade goroutine is recovered into `ErrRejected`, and
`acceptRoutine` continues on `ErrRejected` and panics on an unclassified error -/
theorem accept_path_anchors :
    Facts.acc_secretconn_is_rejection = true ∧ Facts.acc_nodeinfo_exchange_is_rejection = true ∧
    Facts.acc_nodeinfo_invalid_is_rejection = true ∧ Facts.acc_incompatible_is_rejection = true ∧
    Facts.acc_upgrade_panic_is_rejection = true ∧ Facts.acc_upgrade_plain_error_returns = false ∧
    Facts.acc_routine_continues_on_rejected = true ∧ Facts.acc_routine_panics_on_other = true :=
  ⟨rfl, rfl, rfl, rfl, rfl, rfl, rfl, rfl⟩

/-- both sends of the block pool to channels only `poolRoutine` drains are guarded by `IsRunning`
(model: `chanSend true`) -/
theorem pool_sends_guarded :
    Facts.bc_sendError_guarded = "!pool.IsRunning()" ∧ Facts.bc_sendRequest_guarded = "!pool.IsRunning()" := ⟨rfl, rfl⟩

end Tmv.Expect.C17
