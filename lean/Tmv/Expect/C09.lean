import Tmv.Gen.Facts
/-! Expectations tying the C09 model to anchored source lines (facts are regenerated from /repo). -/
namespace Tmv.Expect.C09

/-- bisection pivot fraction of `verifySkipping` (the model's `skipNum/skipDen` are these facts) -/
theorem skip_fraction : Facts.c09_skipNum = 9 ∧ Facts.c09_skipDen = 16 := ⟨rfl, rfl⟩

/-- `ValidateTrustLevel`'s guard (model: `validateTrustLevel`, with the wrapping product) -/
theorem trust_level_guard : Facts.c09_trust_level_guard =
    "lvl.Numerator*3 < lvl.Denominator || lvl.Numerator > lvl.Denominator || lvl.Denominator == 0" := rfl

/-- `compareNewHeaderWithWitness` returns right after reporting conflicting headers (one message per
witness; without it `detector_confirms_only_identical` is false of the code). -/
theorem compare_returns_after_conflict : Facts.c09_compare_returns_after_conflict = true := rfl

/-- `backwards` compares the last linked header with the header it is about to trust (without it
`stored_reachable` is false of the code). -/
theorem backwards_ends_in_new_header : Facts.c09_backwards_ends_in_new_header = true := rfl

/-- `detectDivergence` reads exactly as many messages as there are witnesses (model: one message per
element of the arrival order) -/
theorem detect_reads_cap : Facts.c09_detect_reads_cap = "i < cap(errc)" := rfl

/-- `findNewPrimary` empties the witness list when the promoted provider was the last usable witness
(model: `findLoop`'s `removeWitnesses = none` branch); without it a provider is primary and witness
at once and confirms its own headers. -/
theorem find_new_primary_clears_witnesses : Facts.c09_find_new_primary_clears_witnesses = true := rfl

end Tmv.Expect.C09
