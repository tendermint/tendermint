import Tmv.Gen.Facts
/-! Expectations tying the decision rule used by C01 (`Tmv.Cons.tryFinalizeCommit` /
`finalizeCommit`, the quorum arithmetic of `Tmv.Cons.VoteSet`) to anchored source lines; the facts
are regenerated from /repo on every run. The node model itself is tied by the C02 expectations and
stream, the network composition by the c01 stream. -/
namespace Tmv.Expect.C01

/-- `tryFinalizeCommit` goes on only with a +2/3 precommit majority for a block (not nil) … -/
theorem try_finalize_needs_block_majority :
    Facts.c01_try_finalize_needs_block_majority = "!ok || len(blockID.Hash) == 0" := rfl

/-- … and only when the node holds the block that hashes to it -/
theorem try_finalize_needs_block :
    Facts.c01_try_finalize_needs_block = "!cs.ProposalBlock.HashesTo(blockID.Hash)" := rfl

/-- `finalizeCommit` acts in the commit step only, re-checks the hash and validates the block -/
theorem finalize_step_guard :
    Facts.c01_finalize_step_guard = "cs.Height != height || cs.Step != cstypes.RoundStepCommit" := rfl
theorem finalize_hash : Facts.c01_finalize_hash = "!block.HashesTo(blockID.Hash)" := rfl
theorem finalize_validates : Facts.c01_finalize_validates = true := rfl

/-- quorum arithmetic: a majority is `total*2/3 + 1`, "+2/3 any" is `sum > total*2/3` -/
theorem quorum_expr : Facts.c01_quorum_expr = true := rfl
theorem two_thirds_any : Facts.c01_two_thirds_any = true := rfl

/-- the hand-over from fast sync to consensus (blockchain/v0 `poolRoutine`): the WAL is skipped only
if blocks were actually synced (or the node was state-synced) — with nothing synced consensus replays
its WAL, which is why a restart is invisible in the model (`Tmv.Net.Op.restart`) -/
theorem handover_skipwal : Facts.c01_handover_skipwal = true := rfl
/-- `SwitchToConsensus` turns WAL catch-up off exactly when told to skip the WAL … -/
theorem switch_skipwal : Facts.c01_switch_skipwal = "skipWAL" := rfl
/-- … and `State.OnStart` replays the WAL exactly when catch-up is on -/
theorem onstart_catchup : Facts.c01_onstart_catchup = "cs.doWALCatchup" := rfl

end Tmv.Expect.C01
