import Tmv.Model.ChunkQueue
/-! Model of /repo statesync/snapshots.go (`snapshotPool`).
`snaps` is the `snapshots` map (values; keys distinct), `peers` the relation "peer advertised key"
of which `snapshotPeers` and `peerIndex` are the two views; `formatIndex`/`heightIndex` are views
of `snaps`. The SHA-256 of the key is modelled by its preimage (assumed collision-free); the
preimage itself is NOT injective in the snapshot fields (hash ‖ metadata are concatenated without
a separator) and the model keeps that. -/
namespace Tmv.StateSync

def digitsF : Nat → Nat → Bytes → Bytes
  | 0, _, acc => acc
  | f+1, n, acc =>
    let acc' := UInt8.ofNat (48 + n % 10) :: acc
    if n / 10 = 0 then acc' else digitsF f (n / 10) acc'

/-- decimal digits of `n` (Go `%v`) -/
def natBytes (n : Nat) : Bytes := digitsF (n + 1) n []

abbrev Key := Bytes

/-- preimage of `snapshot.Key()`: `"%v:%v:%v" ‖ Hash ‖ Metadata` -/
def keyOf (s : Snapshot) : Key :=
  natBytes s.height ++ [58] ++ natBytes s.format ++ [58] ++ natBytes s.chunks ++ s.hash ++ s.metadata

structure Pool where
  snaps : List Snapshot
  peers : List (Key × String)
  blFormat : List Nat
  blPeer : List String
  blSnap : List Key

namespace Pool

def empty : Pool := { snaps := [], peers := [], blFormat := [], blPeer := [], blSnap := [] }

def peerKeys (p : Pool) (peer : String) : List Key := (p.peers.filter (fun kp => kp.2 = peer)).map (·.1)
def keyPeers (p : Pool) (k : Key) : List String := (p.peers.filter (fun kp => kp.1 = k)).map (·.2)
def hasKey (p : Pool) (k : Key) : Bool := p.snaps.any (fun s => keyOf s = k)

/-- `snapshotPeers[key][peer] = peer; peerIndex[peer][key] = true` -/
def addPeer (p : Pool) (key : Key) (peer : String) : Pool :=
  if p.peers.contains (key, peer) then p else { p with peers := p.peers ++ [(key, peer)] }

/-- the tail of `Add`: a key already present is not a new snapshot -/
def addSnap (p : Pool) (s : Snapshot) : Pool × Bool :=
  if p.hasKey (keyOf s) then (p, false) else ({ p with snaps := p.snaps ++ [s] }, true)

/-- `snapshotPool.Add`; `recent` is `recentSnapshots`, a parameter here (the driver passes the
extracted fact `Facts.c14_recentSnapshots`) -/
def add (recent : Nat) (p : Pool) (peer : String) (s : Snapshot) : Pool × Bool :=
  if p.blFormat.contains s.format then (p, false)
  else if p.blPeer.contains peer then (p, false)
  else if p.blSnap.contains (keyOf s) then (p, false)
  else if (p.peerKeys peer).length ≥ recent then (p, false)
  else addSnap (addPeer p (keyOf s) peer) s

/-- `removeSnapshot` -/
def removeSnapshot (p : Pool) (k : Key) : Pool :=
  if p.hasKey k then
    { p with snaps := p.snaps.filter (fun s => keyOf s ≠ k), peers := p.peers.filter (fun kp => kp.1 ≠ k) }
  else p

/-- `removePeer`: for every key of the peer, drop the pair, and the snapshot when no peer is left -/
def removePeer (p : Pool) (peer : String) : Pool :=
  (p.peerKeys peer).foldl (fun p k =>
    let p1 := { p with peers := p.peers.filter (fun kp => !(kp.1 = k && kp.2 = peer)) }
    if (p1.keyPeers k).isEmpty then removeSnapshot p1 k else p1) p

/-- `RejectPeer` -/
def rejectPeer (p : Pool) (peer : String) : Pool :=
  if peer = "" then p
  else
    let p1 := removePeer p peer
    { p1 with blPeer := peer :: p1.blPeer }

/-- `Reject` -/
def reject (p : Pool) (s : Snapshot) : Pool :=
  removeSnapshot { p with blSnap := keyOf s :: p.blSnap } (keyOf s)

/-- `RejectFormat` -/
def rejectFormat (p : Pool) (f : Nat) : Pool :=
  ((p.snaps.filter (fun s => s.format = f)).map keyOf).foldl removeSnapshot
    { p with blFormat := f :: p.blFormat }

def npeers (p : Pool) (s : Snapshot) : Nat := (p.keyPeers (keyOf s)).length

/-- the `less` of `Ranked`: height, then format, then number of peers, all descending -/
def better (p : Pool) (a b : Snapshot) : Bool :=
  if a.height > b.height then true
  else if a.height < b.height then false
  else if a.format > b.format then true
  else if a.format < b.format then false
  else p.npeers a > p.npeers b

/-- neither is better: Go's `sort.Slice` over map iteration order may put either first -/
def tied (p : Pool) (a b : Snapshot) : Bool := !p.better a b && !p.better b a

def insertRanked (p : Pool) (x : Snapshot) : List Snapshot → List Snapshot
  | [] => [x]
  | y :: ys => if p.better y x || (p.tied x y && decide (keyOf y ≤ keyOf x)) then y :: insertRanked p x ys else x :: y :: ys

/-- `Ranked`, ties resolved canonically by key (the code's order among ties is random) -/
def ranked (p : Pool) : List Snapshot := p.snaps.foldr (insertRanked p) []

/-- `Best` under the canonical tie-break -/
def best (p : Pool) : Option Snapshot := p.ranked.head?

/-- the head of the ranking is tied with the runner-up: the code's choice is not determined -/
def bestTied (p : Pool) : Bool :=
  match p.ranked with
  | a :: b :: _ => p.tied a b
  | _ => false

def insertStr (x : String) : List String → List String
  | [] => [x]
  | y :: ys => if y ≤ x then y :: insertStr x ys else x :: y :: ys

/-- `GetPeers` (sorted by ID) -/
def getPeers (p : Pool) (s : Snapshot) : List String := (p.keyPeers (keyOf s)).foldr insertStr []

end Pool
end Tmv.StateSync
