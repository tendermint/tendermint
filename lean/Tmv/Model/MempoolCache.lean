import Tmv.Util
import Tmv.Gen.Facts
/-! Shared pieces of the mempool models (/repo mempool/cache.go, mempool/mempool.go,
types.ComputeProtoSizeForTxs). Core-only.

Modelling conventions used by both pool models:
* `TxKey = sha256(tx)` is identified with `tx` (the pools never look at a key except for equality).
* Of the peer ids only the set kept on each entry is modelled (`senders` / `peers`, `recordSender` /
  `recordPeer`); the gossip they steer is not.
* int64 totals are `Int` (no overflow). -/
namespace Tmv.Mempool

/-- the application's CheckTx answer (abci.ResponseCheckTx: Code, GasWanted, Priority, Sender) -/
structure Verdict where
  code : Nat := 0
  gas : Int := 0
  prio : Int := 0
  sender : String := ""
deriving Repr, DecidableEq

/-- abci.CodeTypeOK -/
def codeOK : Nat := Facts.abci_CodeTypeOK.toNat

/-- number of bytes of the protobuf varint of `n` (uint64: at most 10) -/
def varintLen : Nat → Nat → Nat
  | 0, _ => 1
  | f+1, n => if n < 128 then 1 else 1 + varintLen f (n / 128)

/-- `types.ComputeProtoSizeForTxs([]types.Tx{tx})`: one repeated-bytes field entry -/
def protoSize (len : Nat) : Int := 1 + (varintLen 9 len : Int) + (len : Int)

/-- `mempool.PreCheckMaxBytes(maxBytes)` (none = no pre-check installed); true = rejected -/
def preFails (pre : Option Int) (tx : Bytes) : Bool :=
  match pre with
  | none => false
  | some m => decide (protoSize tx.length > m)

/-- `mempool.PostCheckMaxGas(maxGas)`; true = rejected -/
def postFails (post : Option Int) (gas : Int) : Bool :=
  match post with
  | none => false
  | some m => if m = -1 then false else decide (gas < 0) || decide (gas > m)

/-- `Update`: a non-nil new filter replaces the old one -/
def newFilter (new old : Option Int) : Option Int :=
  match new with
  | some m => some m
  | none => old

/-- the verdict lets the tx in / lets it stay: `Code == CodeTypeOK && postCheckErr == nil` -/
def accepted (post : Option Int) (v : Verdict) : Bool :=
  decide (v.code = codeOK) && !postFails post v.gas

/-- `LRUTxCache` (size > 0) or `NopTxCache` (cfg.CacheSize ≤ 0). `keys`: front = oldest. -/
structure Cache where
  size : Int
  keys : List Bytes
deriving Repr

namespace Cache

def new (size : Int) : Cache := { size := size, keys := [] }

/-- `Push`: false = already present (moved to the back). A full list drops its front first. -/
def push (c : Cache) (k : Bytes) : Cache × Bool :=
  if c.size ≤ 0 then (c, true)
  else if k ∈ c.keys then ({ c with keys := c.keys.erase k ++ [k] }, false)
  else
    let ks := if (c.keys.length : Int) ≥ c.size then c.keys.drop 1 else c.keys
    ({ c with keys := ks ++ [k] }, true)

def remove (c : Cache) (k : Bytes) : Cache :=
  if c.size ≤ 0 then c else { c with keys := c.keys.erase k }

def reset (c : Cache) : Cache := { c with keys := [] }

/-- `Has` -/
def has (c : Cache) (k : Bytes) : Bool := decide (c.size > 0) && decide (k ∈ c.keys)

end Cache

/-- total raw size of a list of transactions -/
def bytesOf : List Bytes → Int
  | [] => 0
  | t :: r => (t.length : Int) + bytesOf r

end Tmv.Mempool
