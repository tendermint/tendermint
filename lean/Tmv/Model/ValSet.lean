import Tmv.Gen.Facts
/-! Executable model of `types/validator_set.go` + `types/validator.go` (tendermint v0.34.24):
`updateWithChangeSet` pipeline, `RescalePriorities`, `shiftByAvgProposerPriority`,
`IncrementProposerPriority`, `NewValidatorSet`.  Core Lean only.

Conventions.  int64 values are `Int`; the clamp operations `safeAddClip/safeSubClip` and the
places where Go's int64 arithmetic could wrap (`computeMaxMinPriorityDiff`, the `ratio`
computation) are explicit (`wrap64`); `Lemmas/ValSet.lean` (`safeAddClip_eq`, `totalFrom_eq`),
`ValRotate.lean`, `ValUpdBound.lean` and `ValIncrK.lean` show when they are dead.
Go `/` on int64 = `Int.tdiv`; `big.Int.Div` (Euclidean) = `/` on `Int` (`Int.ediv`); `>> 3` on
int64 = floor division by 8.  An address is the big-endian value of its `AddressSize` (20) bytes,
so `bytes.Compare` is `<` on `Nat` (addresses of other lengths are outside the model; the driver
rejects them).  A `*Validator` mutated in place becomes a replaced list element. -/
namespace Tmv.ValSet

def maxI64 : Int := 9223372036854775807
def minI64 : Int := -9223372036854775808
/-- `MaxTotalVotingPower`, from the regenerated fact. -/
def maxTotal : Int := Facts.c08_MaxTotalVotingPower
/-- `PriorityWindowSizeFactor`, from the regenerated fact. -/
def windowFactor : Int := Facts.c08_PriorityWindowSizeFactor

/-- two's-complement wrap of an int64 result -/
def wrap64 (x : Int) : Int := (x + 9223372036854775808) % 18446744073709551616 - 9223372036854775808

/-- `safeAddClip` -/
def safeAddClip (a b : Int) : Int :=
  if b > 0 ∧ a > maxI64 - b then maxI64
  else if b < 0 ∧ a < minI64 - b then minI64
  else a + b

/-- `safeSubClip` -/
def safeSubClip (a b : Int) : Int :=
  if b > 0 ∧ a < minI64 + b then minI64
  else if b < 0 ∧ a > maxI64 + b then maxI64
  else a - b

structure Val where
  addr : Nat
  power : Int
  prio : Int
deriving DecidableEq, Repr, Inhabited

structure VSet where
  vals : List Val
  proposer : Option Val
deriving DecidableEq, Repr, Inhabited

def VSet.empty : VSet := ⟨[], none⟩

/-! ### sorting (insertion sort: structural, stable) -/

def insertBy (le : Val → Val → Bool) (x : Val) : List Val → List Val
  | [] => [x]
  | y :: ys => if le x y then x :: y :: ys else y :: insertBy le x ys

def sortBy (le : Val → Val → Bool) : List Val → List Val
  | [] => []
  | x :: xs => insertBy le x (sortBy le xs)

/-- `ValidatorsByAddress.Less` (as ≤; addresses in a set are unique) -/
def leAddr (a b : Val) : Bool := a.addr ≤ b.addr
/-- `ValidatorsByVotingPower.Less`: power descending, then address ascending -/
def lePower (a b : Val) : Bool := a.power > b.power ∨ (a.power = b.power ∧ a.addr ≤ b.addr)

def insertInt (x : Int) : List Int → List Int
  | [] => [x]
  | y :: ys => if x ≤ y then x :: y :: ys else y :: insertInt x ys
def sortInt : List Int → List Int
  | [] => []
  | x :: xs => insertInt x (sortInt xs)

/-! ### totals -/

/-- the loop of `updateTotalVotingPower`: clipped running sum -/
def totalFrom (acc : Int) : List Val → Int
  | [] => acc
  | v :: r => totalFrom (safeAddClip acc v.power) r

/-- `updateTotalVotingPower` panics iff some prefix sum exceeds `MaxTotalVotingPower` -/
def totalPanicsFrom (acc : Int) : List Val → Bool
  | [] => false
  | v :: r => let s := safeAddClip acc v.power; if s > maxTotal then true else totalPanicsFrom s r

def totalPower (l : List Val) : Int := totalFrom 0 l
def totalPanics (l : List Val) : Bool := totalPanicsFrom 0 l

/-! ### priorities: rescale, centre, increment -/

def maxPrioFrom (m : Int) : List Val → Int
  | [] => m
  | v :: r => maxPrioFrom (if v.prio > m then v.prio else m) r
def minPrioFrom (m : Int) : List Val → Int
  | [] => m
  | v :: r => minPrioFrom (if v.prio < m then v.prio else m) r

/-- `computeMaxMinPriorityDiff` -/
def prioDiff (l : List Val) : Int :=
  let d := wrap64 (maxPrioFrom minI64 l - minPrioFrom maxI64 l)
  if d < 0 then wrap64 (-1 * d) else d

def setPrio (v : Val) (p : Int) : Val := { v with prio := p }

/-- `RescalePriorities(diffMax)` (a zero `ratio` makes Go panic; `Int.tdiv _ 0 = 0` here — dead,
see `Lemmas`) -/
def rescale (l : List Val) (diffMax : Int) : List Val :=
  if diffMax ≤ 0 then l else
  let diff := prioDiff l
  let ratio := Int.tdiv (wrap64 (wrap64 (diff + diffMax) - 1)) diffMax
  if diff > diffMax then l.map (fun v => setPrio v (Int.tdiv v.prio ratio)) else l

def prioSum : List Val → Int
  | [] => 0
  | v :: r => v.prio + prioSum r

/-- `computeAvgProposerPriority` (big.Int: exact sum, Euclidean division by n > 0) -/
def avgPrio (l : List Val) : Int := prioSum l / (l.length : Int)

/-- `shiftByAvgProposerPriority` -/
def shiftByAvg (l : List Val) : List Val :=
  let avg := avgPrio l
  l.map (fun v => setPrio v (safeSubClip v.prio avg))

/-- `Validator.CompareProposerPriority` (receiver may be nil); identical addresses make Go panic,
the model keeps the receiver (dead for unique addresses) -/
def cmpPrio (v : Option Val) (o : Val) : Val :=
  match v with
  | none => o
  | some v =>
    if v.prio > o.prio then v
    else if v.prio < o.prio then o
    else if v.addr < o.addr then v
    else if v.addr > o.addr then o
    else v

/-- `getValWithMostPriority` -/
def mostFrom (res : Option Val) : List Val → Option Val
  | [] => res
  | v :: r => mostFrom (some (cmpPrio res v)) r
def mostPrio (l : List Val) : Option Val := mostFrom none l

/-- one `incrementProposerPriority()`: everybody gains its power, the validator with the most
priority pays the total and is returned -/
def incrOnce (l : List Val) (total : Int) : List Val × Option Val :=
  let l1 := l.map (fun v => setPrio v (safeAddClip v.prio v.power))
  match mostPrio l1 with
  | none => (l1, none)
  | some m =>
    let m' := setPrio m (safeSubClip m.prio total)
    (l1.map (fun v => if v.addr = m.addr then m' else v), some m')

def incrLoop : Nat → List Val → Int → Option Val → List Val × Option Val
  | 0, l, _, p => (l, p)
  | n+1, l, total, _ =>
    let r := incrOnce l total
    incrLoop n r.1 total r.2

/-- the normalisation prefix of `IncrementProposerPriority`: rescale to the window, centre -/
def normalize (l : List Val) : List Val :=
  shiftByAvg (rescale l (windowFactor * totalPower l))

/-- `IncrementProposerPriority(times)`; `none` = Go panics (empty set / non-positive times) -/
def increment (s : VSet) (times : Int) : Option VSet :=
  if s.vals = [] then none
  else if times ≤ 0 then none
  else
    let total := totalPower s.vals
    let r := incrLoop times.toNat (normalize s.vals) total none
    some ⟨r.1, r.2⟩

/-! ### updateWithChangeSet -/

inductive UpdErr
  | dup | negative | tooBig | zeroPower | empty | removeMissing | overflow | panicTotal
deriving DecidableEq, Repr

def findAddr (l : List Val) (a : Nat) : Option Val := l.find? (fun v => v.addr = a)
def hasAddr (l : List Val) (a : Nat) : Bool := l.any (fun v => v.addr = a)

/-- the scan of `processChanges` over the address-sorted copy; `prev` is `prevAddr` -/
def scanChanges (prev : Option Nat) : List Val → Except UpdErr (List Val × List Val)
  | [] => .ok ([], [])
  | v :: rest =>
    if some v.addr = prev then .error .dup
    else if v.power < 0 then .error .negative
    else if v.power > maxTotal then .error .tooBig
    else
      match scanChanges (some v.addr) rest with
      | .error e => .error e
      | .ok (u, r) => if v.power = 0 then .ok (u, v :: r) else .ok (v :: u, r)

/-- `processChanges` → (updates, removals), both sorted by address -/
def processChanges (changes : List Val) : Except UpdErr (List Val × List Val) :=
  scanChanges none (sortBy leAddr changes)

def numNewValidators (updates vals : List Val) : Nat :=
  (updates.filter (fun u => !hasAddr vals u.addr)).length

/-- `verifyRemovals`: removed power, or the missing-validator error -/
def verifyRemovals (vals : List Val) : List Val → Int → Option Int
  | [], acc => some acc
  | d :: ds, acc =>
    match findAddr vals d.addr with
    | none => none
    | some v => verifyRemovals vals ds (acc + v.power)

/-- the `delta` closure of `verifyUpdates` -/
def delta (vals : List Val) (u : Val) : Int :=
  match findAddr vals u.addr with
  | some v => u.power - v.power
  | none => u.power

def checkSums (acc : Int) : List Int → Option Int
  | [] => some acc
  | d :: ds => if acc + d > maxTotal then none else checkSums (acc + d) ds

/-- `verifyUpdates`: deltas visited in ascending order, running total checked against the limit;
`some tvpAfterUpdatesBeforeRemovals` or `none` = ErrTotalVotingPowerOverflow -/
def verifyUpdates (updates vals : List Val) (removedPower : Int) : Option Int :=
  (checkSums (totalPower vals - removedPower) (sortInt (updates.map (delta vals)))).map
    (· + removedPower)

/-- `computeNewPriorities` (`x >> 3` = floor(x/8)) -/
def computeNewPriorities (updates vals : List Val) (tvp : Int) : List Val :=
  updates.map fun u =>
    match findAddr vals u.addr with
    | none => setPrio u (-(tvp + tvp / 8))
    | some v => setPrio u v.prio

/-- the merge loop of `applyUpdates` (both lists sorted by address); fuel ≥ |es|+|us| -/
def mergeUpd : Nat → List Val → List Val → List Val
  | 0, es, us => es ++ us
  | _+1, [], us => us
  | _+1, es, [] => es
  | f+1, e :: es, u :: us =>
    if e.addr < u.addr then e :: mergeUpd f es (u :: us)
    else if e.addr = u.addr then u :: mergeUpd f es us
    else u :: mergeUpd f (e :: es) us

def applyUpdates (vals updates : List Val) : List Val :=
  let existing := sortBy leAddr vals
  mergeUpd (existing.length + updates.length) existing updates

/-- `applyRemovals` (existing exhausted before the deletes = Go index panic; dead after
`verifyRemovals`) -/
def applyRemovals : List Val → List Val → List Val
  | es, [] => es
  | [], _ :: _ => []
  | e :: es, d :: ds =>
    if e.addr = d.addr then applyRemovals es ds else e :: applyRemovals es (d :: ds)

/-- the part of `updateWithChangeSet` after `processChanges` (statement order as in the source) -/
def updateCore (s : VSet) (updates deletes : List Val) (allowDeletes : Bool) : VSet × Option UpdErr :=
  if !allowDeletes ∧ deletes ≠ [] then (s, some .zeroPower) else
  if numNewValidators updates s.vals = 0 ∧ s.vals.length = deletes.length then (s, some .empty) else
  match verifyRemovals s.vals deletes 0 with
  | none => (s, some .removeMissing)
  | some removed =>
    match verifyUpdates updates s.vals removed with
    | none => (s, some .overflow)
    | some tvp =>
      let updates' := computeNewPriorities updates s.vals tvp
      let v1 := applyUpdates s.vals updates'
      let v2 := applyRemovals v1 deletes
      if totalPanics v2 then (⟨v2, s.proposer⟩, some .panicTotal) else
      let v3 := rescale v2 (windowFactor * totalPower v2)
      let v4 := shiftByAvg v3
      (⟨sortBy lePower v4, s.proposer⟩, none)

/-- `updateWithChangeSet(changes, allowDeletes)`: returns the receiver after the call and the
error (if any).  Statement order as in the source. -/
def updateWithChangeSet (s : VSet) (changes : List Val) (allowDeletes : Bool) : VSet × Option UpdErr :=
  if changes = [] then (s, none) else
  match processChanges changes with
  | .error e => (s, some e)
  | .ok (updates, deletes) => updateCore s updates deletes allowDeletes

/-- `NewValidatorSet(valz)`; an error of the update makes Go panic -/
def newValidatorSet (valz : List Val) : Except UpdErr VSet :=
  match updateWithChangeSet VSet.empty valz false with
  | (_, some e) => .error e
  | (s, none) =>
    if valz = [] then .ok s
    else match increment s 1 with
      | some s' => .ok s'
      | none => .ok s

end Tmv.ValSet
