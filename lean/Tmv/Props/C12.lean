import Tmv.Lemmas.MempoolV1
import Tmv.Lemmas.MempoolV0Async
import Tmv.Lemmas.MempoolKeyed
/-! # C12 — Mempool contents stay unique, bounded, current and correctly ordered

Theorems about the models `Tmv.Mempool.V0` (mempool/v0 CListMempool) and `Tmv.Mempool.V1`
(mempool/v1 TxMempool), for ALL operation histories (`run (init cfg h) ops`: any interleaving of
CheckTx with any application verdict, Update with any block / delivery codes / recheck verdicts /
new filters, Flush; reaps do not change the state and are stated for every state) and ALL
configurations, including a cache smaller than the pool or disabled. -/
namespace Tmv.Props.C12
open Tmv Tmv.Mempool

/-- configurations used by the non-vacuity examples (cache smaller than the pool) -/
def exCfg0 : V0.Cfg :=
  { size := 2, maxTxsBytes := 5, maxTxBytes := 3, cacheSize := 1, keepInvalid := false, recheck := true }
def exCfg0b : V0.Cfg :=
  { size := 3, maxTxsBytes := 50, maxTxBytes := 3, cacheSize := 1, keepInvalid := false, recheck := true }
def exCfg1 : V1.Cfg :=
  { size := 2, maxTxsBytes := 100, maxTxBytes := 10, cacheSize := 1, keepInvalid := false, recheck := true,
    ttlNumBlocks := 0, ttlDuration := false }

/-! ## v0 (CListMempool) -/

/-- **no_duplicates** (v0): at every moment every transaction is in the pool at most once —
for every configuration (no validity assumption) and every history. -/
theorem v0_no_duplicates (cfg : V0.Cfg) (h : Int) (ops : List V0.Op) :
    (V0.keys (V0.run (V0.init cfg h) ops)).Nodup :=
  (V0.inv_run ops (V0.inv_init cfg h)).nodup

/-- the key index (`txsMap`) holds exactly the keys of the pool list, each once -/
theorem v0_index_consistent (cfg : V0.Cfg) (h : Int) (ops : List V0.Op) :
    let s := V0.run (V0.init cfg h) ops
    s.txsMap.Perm (V0.keys s) ∧ s.txsMap.Nodup := by
  have hi := V0.inv_run ops (V0.inv_init cfg h)
  exact ⟨hi.map, (hi.map.nodup_iff).2 hi.nodup⟩

/-- **count_bytes_bounded** (v0): `Size() ≤ config.Size`, `SizeBytes() ≤ config.MaxTxsBytes`, and
`SizeBytes()` is exactly the total length of the pooled transactions — for every configuration that
passes `ValidateBasic` and every history. -/
theorem v0_count_bytes_bounded (cfg : V0.Cfg) (hv : V0.CfgValid cfg) (h : Int) (ops : List V0.Op) :
    let s := V0.run (V0.init cfg h) ops
    (s.txs.length : Int) ≤ cfg.size ∧ s.txsBytes ≤ cfg.maxTxsBytes ∧
      s.txsBytes = bytesOf (V0.keys s) := by
  have hi0 := V0.inv_init cfg h
  have hc : (V0.run (V0.init cfg h) ops).cfg = cfg := ((V0.stable_cfg cfg).run ops hi0 rfl).2
  obtain ⟨hi, hb⟩ := V0.stable_bounded.run ops hi0 (fun _ => V0.bounded_init cfg h hv)
  have hb : V0.Bounded _ := hb (hc.symm ▸ hv)
  rw [V0.Bounded, hc] at hb
  exact ⟨hb.1, hb.2, hi.bytes⟩

example : V0.CfgValid
    { size := 2, maxTxsBytes := 5, maxTxBytes := 3, cacheSize := 1, keepInvalid := false, recheck := true } :=
  ⟨by decide, by decide⟩

/-- **committed_removed** (v0): after `Update`, no transaction of the committed block is in the
pool (whatever its delivery code, whatever the recheck answers) — in every reachable state. -/
theorem v0_committed_removed (cfg : V0.Cfg) (h0 : Int) (ops : List V0.Op)
    (h : Int) (block : List (Bytes × Nat)) (pre post : Option Int) (rv : Bytes → Verdict)
    (c : Bytes × Nat) (hc : c ∈ block) :
    c.1 ∉ V0.keys (V0.update (V0.run (V0.init cfg h0) ops) h block pre post rv) :=
  fun hk => ((V0.update_keys (V0.inv_run ops (V0.inv_init cfg h0)) h block pre post rv).1 _ hk).2 c hc rfl

/-- **no_readmit_while_cached** (v0): while the cache remembers a transaction, `CheckTx` of it is
refused and leaves the pool as it is — in every state. -/
theorem v0_no_readmit_while_cached (s : V0.State) (tx : Bytes) (v : Verdict)
    (h : s.cache.has tx = true) :
    (V0.checkTx s tx v).2 ≠ .ok ∧ (V0.checkTx s tx v).1.txs = s.txs :=
  V0.checkTx_cached s tx v h

example : ({ size := 1, keys := [[1]] } : Cache).has [1] = true := by decide

/-- a transaction committed with code OK is remembered right after its loop iteration of
`Update` (when a cache is configured) … -/
theorem v0_commit_remembers (s : V0.State) (tx : Bytes) (h : s.cache.size > 0) :
    (V0.commitOne s (tx, codeOK)).cache.has tx = true :=
  V0.commitOne_remembers s tx h

/-- … and when it is the last transaction of the block it is still remembered when `Update`
returns (the recheck only forgets transactions it removes from the pool), so by
`v0_no_readmit_while_cached` it is not re-admitted. Reachable states, any cache size ≥ 1. -/
theorem v0_update_remembers_last_committed (cfg : V0.Cfg) (h0 : Int) (ops : List V0.Op)
    (h : Int) (block : List (Bytes × Nat)) (tx : Bytes) (pre post : Option Int)
    (rv : Bytes → Verdict)
    (hs : (V0.run (V0.init cfg h0) ops).cache.size > 0) :
    let s' := V0.update (V0.run (V0.init cfg h0) ops) h (block ++ [(tx, codeOK)]) pre post rv
    s'.cache.has tx = true ∧ tx ∉ V0.keys s' := by
  have hi := V0.inv_run ops (V0.inv_init cfg h0)
  exact ⟨V0.update_remembers_last hi hs h block tx pre post rv,
    fun hk => ((V0.update_keys hi h _ pre post rv).1 _ hk).2 (tx, codeOK) (by simp) rfl⟩

/-- the hypothesis is satisfiable: a reachable state with a real cache and a non-empty pool -/
example : (V0.run (V0.init exCfg0 0) [.check [1] {}]).cache.size > 0 ∧
    (V0.run (V0.init exCfg0 0) [.check [1] {}]).txs.length = 1 := by decide

/-- **reap_is_prefix_within_limits** (v0, `ReapMaxBytesMaxGas`): the result is the first `k` pool
entries in arrival order; their proto-encoded size respects `maxBytes` (when ≥ 0), their gas
respects `maxGas` (when ≥ 0); and `k` is maximal: the next entry, if any, would break a limit.
Every state, all limits. -/
theorem v0_reap_is_prefix_within_limits (s : V0.State) (maxBytes maxGas : Int) :
    ∃ k, k ≤ s.txs.length ∧
      V0.reapMaxBytesMaxGas s maxBytes maxGas = (V0.keys s).take k ∧
      (maxBytes > -1 → V0.protoSum (s.txs.take k) ≤ maxBytes) ∧
      (maxGas > -1 → V0.gasSum (s.txs.take k) ≤ maxGas) ∧
      (∀ e, s.txs[k]? = some e →
        (maxBytes > -1 ∧ V0.protoSum (s.txs.take k) + protoSize e.tx.length > maxBytes) ∨
        (maxGas > -1 ∧ V0.gasSum (s.txs.take k) + e.gas > maxGas)) := by
  obtain ⟨k, hk, he, hb, hg, hm⟩ := V0.reapGo_spec maxBytes maxGas s.txs 0 0
    (fun h => Int.add_one_le_of_lt h) (fun h => Int.add_one_le_of_lt h)
  simp only [Int.zero_add] at hb hg hm
  exact ⟨k, hk, he.trans List.map_take, hb, hg, hm⟩

/-- **reapMaxTxs_is_prefix_within_count** (v0, `ReapMaxTxs`): exactly the first `max` entries (all of
them when `max < 0`), never more than `max`. Every state. -/
theorem v0_reapMaxTxs_is_prefix_within_count (s : V0.State) (max : Int) :
    V0.reapMaxTxs s max = (V0.keys s).take (if max < 0 then s.txs.length else max.toNat) ∧
    (0 ≤ max → ((V0.reapMaxTxs s max).length : Int) ≤ max) := by
  have he : V0.reapMaxTxs s max = (V0.keys s).take (if max < 0 then s.txs.length else max.toNat) := by
    unfold V0.reapMaxTxs V0.keys
    simp only
    rw [V0.reapNGo_spec, List.nil_append, List.map_take]
    -- the loop's budget: the whole pool when `max < 0`, else `max`
    congr 1
    show ((if max < 0 then (s.txs.length : Int) else max) - 0).toNat = _
    rw [Int.sub_zero]
    split
    · exact Int.toNat_natCast _
    · rfl
  refine ⟨he, ?_⟩
  intro h0
  rw [he]
  have : ¬ max < 0 := by omega
  simp only [this, if_false, List.length_take]
  omega

/-- **recheck_keeps_accepted_only** (v0): after `Update` with `config.Recheck`, every transaction
left in the pool was answered `CodeTypeOK` by the application's recheck and passes the post-check
now in force. Reachable states, all application verdicts. -/
theorem v0_recheck_keeps_accepted_only (cfg : V0.Cfg) (hr : cfg.recheck = true) (h0 : Int)
    (ops : List V0.Op) (h : Int) (block : List (Bytes × Nat)) (pre post : Option Int)
    (rv : Bytes → Verdict) :
    let s := V0.run (V0.init cfg h0) ops
    ∀ k ∈ V0.keys (V0.update s h block pre post rv),
      accepted (newFilter post s.post) (rv k) = true := by
  have hi0 := V0.inv_init cfg h0
  have hc : (V0.run (V0.init cfg h0) ops).cfg = cfg := ((V0.stable_cfg cfg).run ops hi0 rfl).2
  exact (V0.update_keys (V0.inv_run ops hi0) h block pre post rv).2 (hc.symm ▸ hr)

/-- `Flush` leaves pool, index, byte counter and cache empty (every state). -/
theorem v0_flush_empties (s : V0.State) :
    (V0.flush s).txs = [] ∧ (V0.flush s).txsMap = [] ∧ (V0.flush s).txsBytes = 0 ∧
      (V0.flush s).cache.keys = [] := ⟨rfl, rfl, rfl, rfl⟩

/-- the tx cache (LRU) is bounded independently of the pool: it never holds a key twice, never more
than `config.CacheSize` keys, and nothing at all when disabled — every configuration and history. -/
theorem v0_cache_bounded (cfg : V0.Cfg) (h : Int) (ops : List V0.Op) :
    let c := (V0.run (V0.init cfg h) ops).cache
    c.keys.Nodup ∧ (cfg.cacheSize ≤ 0 → c.keys = []) ∧
      (0 < cfg.cacheSize → (c.keys.length : Int) ≤ cfg.cacheSize) := by
  obtain ⟨hsize, hok⟩ := V0.cache_run (Cache.closed_okn cfg.cacheSize) ops (V0.init cfg h)
    ⟨rfl, Cache.ok_new cfg.cacheSize⟩
  rw [Cache.OK, hsize] at hok
  exact hok

/-- a recheck that really removes: cache smaller than the pool, two entries, one rejected -/
example : V0.keys (V0.update (V0.run (V0.init exCfg0b 0) [.check [1] {}, .check [2] {}])
    1 [] none none (fun t => if t = [1] then { code := 1 } else {})) = [[2]] := by decide

/-- **senders_recorded** (v0, supporting; used by the reactor not to send a tx back to a peer it
came from): when `CheckTx` from `peer` gets past the early guards and is not rejected by the
application / post-check — answered `ErrTxInCache`, or handed to the application and accepted — and
the transaction is in the pool afterwards (newly admitted or already there), `peer` is among the
entry's senders. Every state. -/
theorem v0_senders_recorded (s : V0.State) (tx : Bytes) (v : Verdict) (peer : Nat) :
    ((V0.checkTxFrom s tx v peer).2 = .inCache ∨
      ((V0.checkTxFrom s tx v peer).2 = .ok ∧ accepted s.post v = true)) →
    ∀ e ∈ (V0.checkTxFrom s tx v peer).1.txs, e.tx = tx → peer ∈ e.senders := by
  unfold V0.checkTxFrom
  simp only
  split
  · intro _; exact V0.recordSender_has _ tx peer
  · split
    · intro _; exact V0.recordSender_has _ tx peer
    · -- handed to the application and not accepted: the answer is `.ok`, not `.inCache`
      rename_i hok hacc
      intro h
      rcases h with h | ⟨_, h⟩
      · exact nomatch hok.symm.trans h
      · exact absurd h hacc
  · rename_i h1 h2
    intro h
    rcases h with h | ⟨h, _⟩
    · exact absurd h h1
    · exact absurd h h2

/-- two peers submit the same tx, cache smaller than the pool: one entry, both peers recorded -/
example : ((V0.run (V0.init exCfg0b 0) [.check [1] {} 7, .check [2] {} 7, .check [1] {} 9]).txs.map
    (fun e => (e.tx, e.senders))) = [([1], [7, 9]), ([2], [7])] := by decide

/-- **what "remembered" means.** The tx cache remembers the last `CacheSize` distinct keys BY MOST
RECENT PUSH (a push of a key already cached — a resubmission, or the commit of a cached tx in
`Update` — refreshes its recency; `Remove` forgets). Precisely: after a push of `k`, whatever pushes
and removals of OTHER keys follow, `k` is still cached as long as fewer than `CacheSize` distinct
other keys are pushed (`hfew`: no duplicate-free list of later-pushed keys reaches the cache size).
The pools touch the cache by `Push`, `Remove` and `Reset` only (this is what `V0/V1.cache_run`
rest on: whatever those three keep, every history keeps, from every state; that the cache of a history is literally
an `applyAll` is not stated as a lemma), the caches of reachable pools satisfy `c.OK`
(`v0_cache_bounded`, `v1_cache_bounded`), so with `v0_/v1_no_readmit_while_cached` a transaction
committed or submitted that recently is refused. -/
theorem cache_remembers_recent (c : Cache) (hok : c.OK) (hpos : 0 < c.size) (k : Bytes)
    (ops : List CacheOp) (hne : ∀ o ∈ ops, o.key ≠ k)
    (hfew : ∀ l : List Bytes, l.Nodup → (∀ x ∈ l, x ∈ pushedKeys ops) → k ∉ l →
      (l.length : Int) < c.size) :
    ((c.push k).1.applyAll ops).has k = true := by
  apply Cache.holds_has (D := pushedKeys ops)
  apply Cache.holds_all k (pushedKeys ops) ops _ (Cache.holds_push c k _ hok hpos) hne
    (fun j hj => mem_pushedKeys hj)
  rw [Cache.push_size]; exact hfew

/-- cache of size 3: `[9]` is pushed, then two other keys, one of them twice, and a removal — still
remembered; a third distinct key would be allowed to push it out -/
example : (((Cache.new 3).push [9]).1.applyAll
    [.push [1], .push [2], .push [1], .remove [2], .push [2]]).has [9] = true ∧
    (((Cache.new 3).push [9]).1.applyAll [.push [1], .push [2], .push [3]]).has [9] = false := by
  decide

/-! ## v0 over an asynchronous FIFO ABCI client (socket / grpc discipline)

`V0.AState`: `CheckTx` only queues its request, responses are handled one at a time later
(`globalCb`, then the request's callback), `Update` is preceded by `FlushAppConn` and only queues the
recheck requests; `resCbRecheck` is modelled WITH its mismatch-skipping loop. Histories: any
interleaving of sends, response deliveries and updates. -/

/-- the state invariants survive every asynchronous history, and the modelled code never panics
(neither "recheck cursor is not nil in reqResCb" nor a nil dereference in the skipping loop) -/
theorem v0_async_invariants (cfg : V0.Cfg) (h : Int) (ops : List V0.AOpF) :
    let a := V0.arunF (V0.ainit cfg h) ops
    (V0.keys a.s).Nodup ∧ a.s.txsMap.Perm (V0.keys a.s) ∧ a.s.txsBytes = bytesOf (V0.keys a.s) ∧
      a.panicked = false := by
  obtain ⟨he, hd⟩ := V0.arunF_eq ops (V0.ainit cfg h)
  obtain ⟨hi, hp⟩ := V0.aphase_facts (he ▸ V0.aphase_runG _ (V0.aphase_init cfg h) hd)
  exact ⟨hi.nodup, hi.map, hi.bytes, hp⟩

/-- the mismatch-skipping loop of `resCbRecheck` is dead under the FIFO discipline: whenever the
recheck cursor stands on an entry, the next response to be handled is the recheck answer for
exactly that entry -/
theorem v0_async_skip_loop_dead (cfg : V0.Cfg) (h : Int) (ops : List V0.AOpF) (c : Bytes) :
    let a := V0.arunF (V0.ainit cfg h) ops
    a.cursor = some c → ∃ q, a.queue = V0.Req.recheck c :: q := by
  intro a hc
  obtain ⟨he, hd⟩ := V0.arunF_eq ops (V0.ainit cfg h)
  rcases he ▸ V0.aphase_runG _ (V0.aphase_init cfg h) hd with hi | ⟨kept, rem, firsts, hr⟩
  · have := hi.cursor; rw [this] at hc; cases hc
  · have h1 := hr.cursor
    have h2 := hr.queue
    cases rem with
    | nil => rw [h1] at hc; cases hc
    | cons c' rem =>
      rw [h1] at hc
      simp at hc; subst hc
      exact ⟨rem.map V0.Req.recheck ++ firsts, h2⟩

/-- **recheck_keeps_accepted_only** for the asynchronous discipline: after an `Update` that started
a recheck, once as many responses have been handled as the pool had entries (interleaved with any
number of new `CheckTx` calls, whose answers queue up behind), every transaction in the pool was
accepted by the recheck. -/
theorem v0_async_recheck_keeps_accepted_only (cfg : V0.Cfg) (h0 : Int) (ops : List V0.AOpF)
    (ht : Int) (block : List (Bytes × Nat)) (pre post : Option Int) (rv : Bytes → Verdict)
    (between : List V0.AOp) :
    let a1 := V0.aupdate (V0.arunF (V0.ainit cfg h0) ops) ht block pre post rv
    a1.cursor ≠ none →
    V0.countDeliver between = (V0.keys a1.s).length →
    ∀ k ∈ V0.keys (V0.arun a1 between).s, accepted a1.s.post (rv k) = true := by
  obtain ⟨he, hd⟩ := V0.arunF_eq ops (V0.ainit cfg h0)
  rw [he]
  intro a1 hcur hcount
  obtain ⟨hb, hdb, hnu, hcnt⟩ := V0.arun_eq between a1
  rw [hb]
  exact V0.recheck_done (V0.aphase_runG _ (V0.aphase_init cfg h0) hd) ht block pre post rv _ hcur hdb hnu
    (hcnt.trans hcount)

/-- THE DISCIPLINE MADE EXPLICIT. `V0.AOpG` adds `RemoveTxByKey` and `Flush` to the operations;
`V0.Allowed` permits `RemoveTxByKey(k)` only while no recheck answer for `k` is pending and `Flush`
only while no recheck answer at all is pending (both are always permitted when no recheck is in
flight); `V0.Disciplined a ops` says every step of the history is permitted. Under it the
invariants hold and nothing panics … -/
theorem v0_async_invariants_disciplined (cfg : V0.Cfg) (h : Int) (ops : List V0.AOpG)
    (hd : V0.Disciplined (V0.ainit cfg h) ops) :
    let a := V0.arunG (V0.ainit cfg h) ops
    (V0.keys a.s).Nodup ∧ a.s.txsMap.Perm (V0.keys a.s) ∧ a.s.txsBytes = bytesOf (V0.keys a.s) ∧
      a.panicked = false := by
  obtain ⟨hi, hp⟩ := V0.aphase_facts (V0.aphase_runG ops (V0.aphase_init cfg h) hd)
  exact ⟨hi.nodup, hi.map, hi.bytes, hp⟩

/-- … and **recheck_keeps_accepted_only** holds: after an `Update` that started a recheck, for any
permitted steps in between (new submissions, answers, `RemoveTxByKey` of entries whose answer is
not pending), once all recheck answers have been handled every pooled transaction was accepted.
The hypothesis is minimal in the sense of `v0_async_recheck_fails_after_remove` (one
`RemoveTxByKey` of an entry with a pending answer breaks the conclusion) and of the known finding
`v0.async.flush-during-recheck.panic`. -/
theorem v0_async_recheck_keeps_accepted_only_disciplined (cfg : V0.Cfg) (h0 : Int)
    (ops : List V0.AOpG) (hd : V0.Disciplined (V0.ainit cfg h0) ops)
    (ht : Int) (block : List (Bytes × Nat)) (pre post : Option Int) (rv : Bytes → Verdict)
    (between : List V0.AOpG) :
    let a1 := V0.aupdate (V0.arunG (V0.ainit cfg h0) ops) ht block pre post rv
    a1.cursor ≠ none →
    V0.Disciplined a1 between → (∀ o ∈ between, o.isUpdate = false) →
    V0.countDeliverG between = (V0.keys a1.s).length →
    ∀ k ∈ V0.keys (V0.arunG a1 between).s, accepted a1.s.post (rv k) = true := by
  intro a1 hcur hdb hnu hcount
  exact V0.recheck_done (V0.aphase_runG ops (V0.aphase_init cfg h0) hd) ht block pre post rv between hcur hdb
    hnu hcount

/-- the discipline is satisfiable with a removal in the middle of a recheck: entry `[1]` is removed
after its answer has been handled, while the answer for `[2]` is still pending -/
example :
    let a1 := V0.aupdate (V0.arunG (V0.ainit exCfg0b 0)
      [.send [1] {}, .send [2] {}, .deliver, .deliver]) 1 [] none none
      (fun t => if t = [2] then { code := 1 } else {})
    V0.Disciplined a1 [.deliver, .removeByKey [1], .deliver] ∧
    V0.keys (V0.arunG a1 [.deliver, .removeByKey [1], .deliver]).s = [] := by
  refine ⟨⟨trivial, ?_, trivial, trivial⟩, by decide⟩
  intro r hr
  have : r = V0.Req.recheck [2] := by
    have h : (V0.astepG (V0.aupdate (V0.arunG (V0.ainit exCfg0b 0)
      [.send [1] {}, .send [2] {}, .deliver, .deliver]) 1 [] none none
      (fun t => if t = [2] then { code := 1 } else {})) .deliver).queue = [V0.Req.recheck [2]] := by
      decide
    rw [h] at hr; simpa using hr
  subst this; decide

/-- outside that discipline the clause fails: `RemoveTxByKey` of an entry whose recheck answer is
still in flight makes the skipping loop give up at `recheckEnd`; the rejected entry `c1` stays
(known finding `v0.async.remove-during-recheck.rejected-tx-kept`, replayed by the `hazard` stream) -/
theorem v0_async_recheck_fails_after_remove :
    V0.hazardRemove.cursor = none ∧ V0.hazardRemove.queue = [] ∧
    [0xc1] ∈ V0.keys V0.hazardRemove.s ∧
    accepted V0.hazardRemove.s.post (V0.hazardRemove.rv [0xc1]) = false := by decide

/-- a recheck of two entries, the second rejected, with a new submission in between -/
example :
    let a1 := V0.aupdate (V0.arunF (V0.ainit exCfg0b 0)
      [.send [1] {}, .send [2] {}, .deliver, .deliver]) 1 [] none none
      (fun t => if t = [2] then { code := 1 } else {})
    a1.cursor ≠ none ∧ V0.keys a1.s = [[1], [2]] ∧
    V0.keys (V0.arun a1 [.deliver, .send [3] {}, .deliver]).s = [[1]] := by decide

/-! ## v1 (TxMempool, priority mempool) -/

/-- **no_duplicates** (v1): every configuration, every history. -/
theorem v1_no_duplicates (cfg : V1.Cfg) (h : Int) (ops : List V1.Op) :
    (V1.keys (V1.run (V1.init cfg h) ops)).Nodup :=
  (V1.run_spec ops (V1.inv_init cfg h)).1.nodup

/-- the key index (`txByKey`) holds exactly the keys of the pool list, each once -/
theorem v1_index_consistent (cfg : V1.Cfg) (h : Int) (ops : List V1.Op) :
    let s := V1.run (V1.init cfg h) ops
    s.byKey.Perm (V1.keys s) ∧ s.byKey.Nodup := by
  have hi := (V1.run_spec ops (V1.inv_init cfg h)).1
  exact ⟨hi.map, (hi.map.nodup_iff).2 hi.nodup⟩

/-- **count_bytes_bounded** (v1), including through evictions: every valid configuration, every
history. -/
theorem v1_count_bytes_bounded (cfg : V1.Cfg) (hv : V1.CfgValid cfg) (h : Int) (ops : List V1.Op) :
    let s := V1.run (V1.init cfg h) ops
    (s.txs.length : Int) ≤ cfg.size ∧ s.txsBytes ≤ cfg.maxTxsBytes ∧
      s.txsBytes = bytesOf (V1.keys s) := by
  obtain ⟨hi, hc, hb⟩ := V1.run_spec ops (V1.inv_init cfg h)
  have hb := hb (V1.bounded_init cfg h hv)
  unfold V1.Bounded at hb
  rw [hc, V1.keys_length] at hb
  exact ⟨hb.1, hb.2, hi.bytes⟩

example : V1.CfgValid
    { size := 2, maxTxsBytes := 5, maxTxBytes := 3, cacheSize := 1, keepInvalid := false, recheck := true,
      ttlNumBlocks := 2, ttlDuration := false } :=
  ⟨by decide, by decide⟩

/-- **committed_removed** (v1): reachable states, any block, codes, TTL expiry and recheck
answers. -/
theorem v1_committed_removed (cfg : V1.Cfg) (h0 : Int) (ops : List V1.Op)
    (h : Int) (block : List (Bytes × Nat)) (pre post : Option Int) (rv : Bytes → Verdict)
    (expired : V1.WTx → Bool) (c : Bytes × Nat) (hc : c ∈ block) :
    c.1 ∉ V1.keys (V1.update (V1.run (V1.init cfg h0) ops) h block pre post rv expired) :=
  fun hk => ((V1.update_keys (V1.run_spec ops (V1.inv_init cfg h0)).1 h block pre post rv expired).1 _ hk).2
    c hc rfl

/-- **no_readmit_while_cached** (v1): every state. -/
theorem v1_no_readmit_while_cached (s : V1.State) (tx : Bytes) (v : Verdict)
    (h : s.cache.has tx = true) :
    (∀ me, (V1.checkTx s tx v).2 ≠ .ok me) ∧ (V1.checkTx s tx v).1.txs = s.txs :=
  V1.checkTx_cached s tx v h

theorem v1_commit_remembers (s : V1.State) (tx : Bytes) (h : s.cache.size > 0) :
    (V1.commitOne s (tx, codeOK)).cache.has tx = true :=
  V1.commitOne_remembers s tx h

/-- the last transaction of a block, committed with code OK, is remembered and out of the pool
when `Update` returns (TTL purge and recheck only forget what they remove). -/
theorem v1_update_remembers_last_committed (cfg : V1.Cfg) (h0 : Int) (ops : List V1.Op)
    (h : Int) (block : List (Bytes × Nat)) (tx : Bytes) (pre post : Option Int)
    (rv : Bytes → Verdict) (expired : V1.WTx → Bool)
    (hs : (V1.run (V1.init cfg h0) ops).cache.size > 0) :
    let s' := V1.update (V1.run (V1.init cfg h0) ops) h (block ++ [(tx, codeOK)]) pre post rv expired
    s'.cache.has tx = true ∧ tx ∉ V1.keys s' := by
  have hi := (V1.run_spec ops (V1.inv_init cfg h0)).1
  exact ⟨V1.update_remembers_last hi hs h block tx pre post rv expired,
    fun hk => ((V1.update_keys hi h _ pre post rv expired).1 _ hk).2 (tx, codeOK) (by simp) rfl⟩

example : (V1.run (V1.init exCfg1 0)
    [.check [1] { prio := 1 }]).cache.size > 0 := by decide

/-- the tx cache (LRU) is bounded independently of the pool (v1) -/
theorem v1_cache_bounded (cfg : V1.Cfg) (h : Int) (ops : List V1.Op) :
    let c := (V1.run (V1.init cfg h) ops).cache
    c.keys.Nodup ∧ (cfg.cacheSize ≤ 0 → c.keys = []) ∧
      (0 < cfg.cacheSize → (c.keys.length : Int) ≤ cfg.cacheSize) := by
  obtain ⟨hsize, hok⟩ := V1.cacheOK_run ops (V1.init cfg h) ⟨rfl, Cache.ok_new cfg.cacheSize⟩
  rw [Cache.OK, hsize] at hok
  exact hok

/-- `Flush` leaves pool, index, byte counter and cache empty (reachable states). -/
theorem v1_flush_empties (cfg : V1.Cfg) (h : Int) (ops : List V1.Op) :
    let s := V1.flush (V1.run (V1.init cfg h) ops)
    s.txs = [] ∧ s.byKey = [] ∧ s.txsBytes = 0 ∧ s.cache.keys = [] :=
  V1.flush_empties (V1.run_spec ops (V1.inv_init cfg h)).1

/-- **order_priority_then_arrival** (v1), with no assumption on the timestamps: the reap order
(`allEntriesSorted`) lists exactly the pool entries, each once; it is in non-increasing priority
and, within a priority, non-decreasing arrival timestamp; and entries that tie on both keep their
arrival (list) order — so the order is total and determined by the pool. Every state. -/
theorem v1_order_priority_then_arrival (s : V1.State) :
    (V1.allEntriesSorted s).Perm s.txs ∧
    (V1.allEntriesSorted s).Pairwise
      (fun x y => x.prio > y.prio ∨ (x.prio = y.prio ∧ x.seq ≤ y.seq)) ∧
    (∀ x y, [x, y].Sublist s.txs → x.prio = y.prio → x.seq = y.seq →
      [x, y].Sublist (V1.allEntriesSorted s)) := by
  refine ⟨V1.allEntriesSorted_perm s, V1.allEntriesSorted_sorted s, ?_⟩
  intro x y h hp hs
  apply V1.allEntriesSorted_stable s x y h
  rw [V1.reapBefore_false_iff]
  omega

/-- **reap_is_prefix_within_limits** (v1, `ReapMaxBytesMaxGas`): the first `k` entries of the reap
order, within the byte and gas limits, `k` maximal. Every state, all limits. -/
theorem v1_reap_is_prefix_within_limits (s : V1.State) (maxBytes maxGas : Int) :
    ∃ k, k ≤ (V1.allEntriesSorted s).length ∧
      V1.reapMaxBytesMaxGas s maxBytes maxGas = ((V1.allEntriesSorted s).take k).map (·.tx) ∧
      (maxBytes ≥ 0 → V1.protoSum ((V1.allEntriesSorted s).take k) ≤ maxBytes) ∧
      (maxGas ≥ 0 → V1.gasSum ((V1.allEntriesSorted s).take k) ≤ maxGas) ∧
      (∀ e, (V1.allEntriesSorted s)[k]? = some e →
        (maxBytes ≥ 0 ∧ V1.protoSum ((V1.allEntriesSorted s).take k) + protoSize e.tx.length > maxBytes) ∨
        (maxGas ≥ 0 ∧ V1.gasSum ((V1.allEntriesSorted s).take k) + e.gas > maxGas)) := by
  obtain ⟨k, hk, he, hb, hg, hm⟩ := V1.reapGo_spec maxBytes maxGas (V1.allEntriesSorted s) 0 0
    (fun h => h) (fun h => h)
  simp only [Int.zero_add] at hb hg hm
  exact ⟨k, hk, he, hb, hg, hm⟩

/-- **reapMaxTxs_is_prefix_within_count** (v1, `ReapMaxTxs`): the first `max` entries of the reap
order (all of them when `max < 0`), never more than `max`. Every state. -/
theorem v1_reapMaxTxs_is_prefix_within_count (s : V1.State) (max : Int) :
    V1.reapMaxTxs s max = ((V1.allEntriesSorted s).take
      (if max < 0 then (V1.allEntriesSorted s).length else max.toNat)).map (·.tx) ∧
    (0 ≤ max → ((V1.reapMaxTxs s max).length : Int) ≤ max) := by
  have he : V1.reapMaxTxs s max = ((V1.allEntriesSorted s).take
      (if max < 0 then (V1.allEntriesSorted s).length else max.toNat)).map (·.tx) := by
    unfold V1.reapMaxTxs
    rw [V1.reapNGo_spec, List.nil_append]
    show (List.take (if max < 0 then _ else (max - 0).toNat) _).map _ = _
    rw [Int.sub_zero]
  refine ⟨he, ?_⟩
  intro h0
  rw [he]
  have : ¬ max < 0 := by omega
  simp only [this, if_false, List.length_map, List.length_take]
  omega

/-- **recheck_keeps_accepted_only** (v1). Reachable states, all verdicts. -/
theorem v1_recheck_keeps_accepted_only (cfg : V1.Cfg) (hr : cfg.recheck = true) (h0 : Int)
    (ops : List V1.Op) (h : Int) (block : List (Bytes × Nat)) (pre post : Option Int)
    (rv : Bytes → Verdict) (expired : V1.WTx → Bool) :
    let s := V1.run (V1.init cfg h0) ops
    ∀ k ∈ V1.keys (V1.update s h block pre post rv expired),
      accepted (newFilter post s.post) (rv k) = true := by
  obtain ⟨hi, hc, _⟩ := V1.run_spec ops (V1.inv_init cfg h0)
  have hc' : (V1.run (V1.init cfg h0) ops).cfg.recheck = true := by
    rw [hc]; exact hr
  exact (V1.update_keys hi h block pre post rv expired).2 hc'

/-- **evict_makes_room** (v1): in a reachable state of a valid configuration, when the arriving
transaction (size `need`, priority `p`) does not fit and the lower-priority entries are non-empty
and large enough, then after the eviction loop `canAddTx` holds. -/
theorem v1_evict_makes_room (cfg : V1.Cfg) (hv : V1.CfgValid cfg) (h0 : Int) (ops : List V1.Op)
    (need : Nat) (p : Int) :
    let s := V1.run (V1.init cfg h0) ops
    (s.txs.filter (fun cw => decide (cw.prio < p))).length ≠ 0 →
    ¬ V1.sizeOf (s.txs.filter (fun cw => decide (cw.prio < p))) < (need : Int) →
    V1.canAddTx (V1.evictLoop need s (V1.victimsOf s p) 0) need = true := by
  obtain ⟨hi, _, hb⟩ := V1.run_spec ops (V1.inv_init cfg h0)
  exact V1.evict_makes_room hi (hb (V1.bounded_init cfg h0 hv)) need p

/-- the premises are satisfiable: a full pool (size 2) of priorities 1 and 2, an arrival of one
byte with priority 5 does not fit, both entries are victims; after the loop one was evicted -/
example :
    let s := V1.run (V1.init exCfg1 0)
      [.check [1] { prio := 1 }, .check [2] { prio := 2 }]
    (s.txs.filter (fun cw => decide (cw.prio < 5))).length ≠ 0 ∧
    ¬ V1.sizeOf (s.txs.filter (fun cw => decide (cw.prio < 5))) < ((1 : Nat) : Int) ∧
    V1.canAddTx s 1 = false ∧
    V1.keys (V1.evictLoop 1 s (V1.victimsOf s 5) 0) = [[2]] := by decide

/-- **victims_lower_priority** (v1): whatever `CheckTx` removes from the pool had a strictly lower
priority than the one the application gave the arriving transaction; and nothing but the arriving
transaction is added. Reachable states. -/
theorem v1_victims_lower_priority (cfg : V1.Cfg) (h0 : Int) (ops : List V1.Op) (tx : Bytes)
    (v : Verdict) :
    let s := V1.run (V1.init cfg h0) ops
    (∀ e ∈ s.txs, e.tx ∉ V1.keys (V1.checkTx s tx v).1 → e.prio < v.prio) ∧
    (∀ k ∈ V1.keys (V1.checkTx s tx v).1, k ∈ V1.keys s ∨ k = tx) := by
  have hi := (V1.run_spec ops (V1.inv_init cfg h0)).1
  obtain ⟨h4, h5, _⟩ := V1.checkTx_keys hi tx v
  exact ⟨h5, h4⟩

/-- **ttl_purges_exactly_expired** (v1): `purgeExpiredTxs` (run by `Update` after the committed
transactions are removed) removes exactly the entries to which a TTL rule applies — older than
`TTLNumBlocks` blocks, or (`TTLDuration > 0`) reported expired by the clock predicate `expired`;
with `expired w := now − w.seq > TTLDuration` this is the code's rule. Reachable states; that the
other invariants survive is part of `v1_no_duplicates` … `v1_cache_bounded` (their histories
contain `Update` with every `expired`). -/
theorem v1_ttl_purges_exactly_expired (cfg : V1.Cfg) (h0 : Int) (ops : List V1.Op) (h : Int)
    (expired : V1.WTx → Bool) :
    let s := V1.run (V1.init cfg h0) ops
    ∀ w ∈ s.txs, (w.tx ∈ V1.keys (V1.purgeExpiredTxs s h expired) ↔
      ¬ ((s.cfg.ttlNumBlocks > 0 ∧ h - w.height > s.cfg.ttlNumBlocks) ∨
         (s.cfg.ttlDuration = true ∧ expired w = true))) :=
  V1.purge_exact (V1.run_spec ops (V1.inv_init cfg h0)).1 h expired

/-- an entry 3 blocks old with `TTLNumBlocks = 2` goes, a younger one stays -/
example :
    let s := V1.run (V1.init { exCfg1 with ttlNumBlocks := 2, size := 5 } 1)
      [.check [1] {}, .update 3 [] none none (fun _ => {}) (fun _ => false), .check [2] {}]
    V1.keys (V1.purgeExpiredTxs s 4 (fun _ => false)) = [[2]] := by decide

/-- the reap order is STRICT — higher priority first, then strictly earlier arrival — whenever the
arrival timestamps of the pooled entries are pairwise different … -/
theorem v1_order_strict_of_distinct_timestamps (cfg : V1.Cfg) (h : Int) (ops : List V1.Op) :
    let s := V1.run (V1.init cfg h) ops
    (s.txs.map (·.seq)).Nodup →
    (V1.allEntriesSorted s).Pairwise
      (fun x y => x.prio > y.prio ∨ (x.prio = y.prio ∧ x.seq < y.seq)) := by
  intro s hnd
  have hperm := V1.allEntriesSorted_perm (V1.run (V1.init cfg h) ops)
  have hnd' : ((V1.allEntriesSorted s).map (·.seq)).Nodup := ((hperm.map (·.seq)).nodup_iff).2 hnd
  have hne : (V1.allEntriesSorted s).Pairwise (fun x y => x.seq ≠ y.seq) := by
    have := List.pairwise_map.1 hnd'
    exact this
  exact ((V1.allEntriesSorted_sorted s).and hne).imp (fun {x y} hxy => by
    rcases hxy.1 with h1 | ⟨h1, h2⟩
    · exact Or.inl h1
    · exact Or.inr ⟨h1, by have := hxy.2; omega⟩)

/-- … and with equal timestamps the comparator alone does not order two entries (finding
`v1.reap.order-undefined-on-equal-timestamps`); hence the repaired code collects in arrival order and
sorts stably: the third clause of `v1_order_priority_then_arrival`. -/
theorem v1_comparator_not_total_on_equal_timestamps :
    ∃ a b : V1.WTx, a ≠ b ∧ a.prio = b.prio ∧ a.seq = b.seq ∧
      V1.reapBefore a b = false ∧ V1.reapBefore b a = false :=
  ⟨{ tx := [1], height := 0, seq := 5, gas := 0, prio := 1, sender := "" },
   { tx := [2], height := 0, seq := 5, gas := 0, prio := 1, sender := "" }, by decide, rfl, rfl,
   by decide, by decide⟩

/-- two entries with the same priority and timestamp are reaped in arrival order -/
example :
    let s : V1.State := { V1.init exCfg1 0 with txs :=
      [{ tx := [9], height := 0, seq := 5, gas := 0, prio := 1, sender := "" },
       { tx := [2], height := 0, seq := 5, gas := 0, prio := 1, sender := "" },
       { tx := [3], height := 0, seq := 1, gas := 0, prio := 7, sender := "" }] }
    (V1.allEntriesSorted s).map (·.tx) = [[3], [9], [2]] := by decide

/-- **senders_recorded** (v1, supporting). Every state. -/
theorem v1_senders_recorded (s : V1.State) (tx : Bytes) (v : Verdict) (peer : Nat) :
    ((V1.checkTxFrom s tx v peer).2 = .inCache ∨
      ((∃ me, (V1.checkTxFrom s tx v peer).2 = .ok me) ∧ accepted s.post v = true)) →
    ∀ e ∈ (V1.checkTxFrom s tx v peer).1.txs, e.tx = tx → peer ∈ e.peers := by
  unfold V1.checkTxFrom
  simp only
  split
  · intro _; exact V1.recordPeer_has _ tx peer
  · split
    · intro _; exact V1.recordPeer_has _ tx peer
    · -- handed to the application and not accepted: the answer is `.ok`, not `.inCache`
      rename_i hok hacc
      intro h
      rcases h with h | ⟨_, h⟩
      · exact nomatch hok.symm.trans h
      · exact absurd h hacc
  · rename_i h1 h2
    intro h
    rcases h with h | ⟨⟨me, h⟩, _⟩
    · exact absurd h h1
    · exact absurd h (h2 me)

/-- a transaction the application (or the post-check) rejects never changes the pool contents -/
theorem v1_rejected_not_admitted (cfg : V1.Cfg) (h0 : Int) (ops : List V1.Op) (tx : Bytes)
    (v : Verdict) :
    let s := V1.run (V1.init cfg h0) ops
    accepted s.post v = false → V1.keys (V1.checkTx s tx v).1 = V1.keys s :=
  (V1.checkTx_keys (V1.run_spec ops (V1.inv_init cfg h0)).1 tx v).2.2

/-! ## v1 with `CheckTx` split into its two halves (calls in flight across other steps)

`V1.SState`: v1's `CheckTx` calls the application between its read-locked first phase and the
write-locked `addNewTransaction`, holding no pool lock; `sbegin` / `sfinish i v` are the halves, any
number of calls may be in flight, and `Update` may run in between. Histories: any interleaving. -/

/-- the state invariants (uniqueness, index, byte counter, limits) survive every such history -/
theorem v1_split_invariants (cfg : V1.Cfg) (hv : V1.CfgValid cfg) (h : Int) (ops : List V1.SOp) :
    let s := (V1.srun (V1.sinit cfg h) ops).s
    (V1.keys s).Nodup ∧ s.byKey.Perm (V1.keys s) ∧ s.txsBytes = bytesOf (V1.keys s) ∧
    (s.txs.length : Int) ≤ cfg.size ∧ s.txsBytes ≤ cfg.maxTxsBytes := by
  obtain ⟨hi, hc, hb⟩ := V1.srun_spec ops (a := V1.sinit cfg h) (V1.inv_init cfg h)
  have hb := hb (V1.bounded_init cfg h hv)
  unfold V1.Bounded at hb
  have hc' : (V1.srun (V1.sinit cfg h) ops).s.cfg = cfg := hc
  rw [hc', V1.keys_length] at hb
  exact ⟨hi.nodup, hi.map, hi.bytes, hb.1, hb.2⟩

/-- … but "a committed transaction is not re-admitted while remembered" FAILS for a call in flight
across the commit: the call passed the cache check before the block was committed, `Update` finds
nothing to remove, and `addNewTransaction` then inserts the committed transaction although the cache
remembers it (known finding `v1.inflight-check-readmits-committed-tx`, replayed on the real pool by
holding the call at the application). -/
theorem v1_split_committed_readmitted_fails :
    let a := V1.srun (V1.sinit exCfg1 1)
      [.begin [1] 0, .update 2 [([1], 0)] none none (fun _ => {}) (fun _ => false), .finish 0 {}]
    [1] ∈ V1.keys a.s ∧ a.s.cache.has [1] = true := by decide

/-- without a call in flight across the commit the clause holds: `v1_no_readmit_while_cached`,
`v1_update_remembers_last_committed` (there `CheckTx` is one step). -/
example : (V1.srun (V1.sinit exCfg1 1)
    [.begin [1] 0, .finish 0 {}, .update 2 [([1], 0)] none none (fun _ => {}) (fun _ => false),
     .begin [1] 0]).s.txs = [] := by decide

/-! ## The byte counter with an explicit key function

`MempoolV0/V1.lean` identify a transaction with its key. `Keyed` keeps the key function
(`TxKey = sha256(tx)`) explicit for what the counter depends on (pooled txs, key index, counter):
admissions behind the in-pool guard, removals by key as v0 `Update → removeTx(tx, …)` (counter
reduced by the length of the ARGUMENT) and as v1 `removeTxByKey` (by the size of the ELEMENT). -/

/-- v1: `SizeBytes` is exactly the total size of the pooled transactions for EVERY key function
(even a colliding one): the element's own size is subtracted. -/
theorem keyed_v1_bytes_exact (key : Bytes → Bytes) (ops : List Keyed.Op) :
    (Keyed.runV1 key Keyed.empty ops).bytes = bytesOf (Keyed.runV1 key Keyed.empty ops).entries :=
  Keyed.v1_run_exact key (ops.map Keyed.Op.tx) ops Keyed.empty (Keyed.inv_empty key _) rfl
    (fun _ ho => List.mem_map_of_mem (f := Keyed.Op.tx) ho)

/-- v0: `SizeBytes` is exactly the total size of the pooled transactions, OR two different
transactions that occur in the history have the same key (an explicit collision of the key
function among the submitted / committed transactions). Every key function, every history. -/
theorem keyed_v0_bytes_exact_or_collision (key : Bytes → Bytes) (ops : List Keyed.Op) :
    (Keyed.runV0 key Keyed.empty ops).bytes = bytesOf (Keyed.runV0 key Keyed.empty ops).entries ∨
    ∃ x ∈ ops.map Keyed.Op.tx, ∃ y ∈ ops.map Keyed.Op.tx, x ≠ y ∧ key x = key y :=
  Keyed.v0_run_exact_or_collision key (ops.map Keyed.Op.tx) ops Keyed.empty (Keyed.inv_empty key _)
    (Or.inl rfl) (fun _ ho => List.mem_map_of_mem (f := Keyed.Op.tx) ho)

/-- the collision alternative is needed for v0: with a colliding key function, committing a
3-byte transaction removes the pooled 2-byte one and the counter goes to −1 for an empty pool -/
theorem keyed_v0_bytes_wrong_on_collision :
    (Keyed.runV0 (fun _ => []) Keyed.empty [.add [1, 2], .remove [7, 8, 9]]).entries = [] ∧
    (Keyed.runV0 (fun _ => []) Keyed.empty [.add [1, 2], .remove [7, 8, 9]]).bytes = -1 := by
  decide

/-- `MempoolV0`'s `removeTx` of a transaction in the index is the keyed `removeV0` for the identity
key (on pool keys, index and counter) -/
theorem keyed_refines_v0 (s : V0.State) (tx : Bytes) (b : Bool) (h : tx ∈ s.txsMap) :
    let a : Keyed.Acc := { entries := V0.keys s, index := s.txsMap, bytes := s.txsBytes }
    (Keyed.removeV0 id a tx).entries = V0.keys (V0.removeTx s tx b) ∧
    (Keyed.removeV0 id a tx).index = (V0.removeTx s tx b).txsMap ∧
    (Keyed.removeV0 id a tx).bytes = (V0.removeTx s tx b).txsBytes := by
  simp only [Keyed.removeV0, id, h, if_true]
  refine ⟨?_, rfl, rfl⟩
  rw [V0.keys_removeTx]
  have := map_eraseP_key (fun e : Bytes => e) tx (V0.keys s)
  simpa using this

/-! ### All key-dependent clauses with an explicit key function (`Keyed.KPool`)

`KPool` = accounting core + LRU cache (of KEYS) + senders per key; whatever the pools decide
without looking at keys is an arbitrary input of the operations. So the following hold for EVERY
key function, and where the identification of a tx with its key mattered the alternative is an
explicit collision between two transactions of the history (`ops.map KOp.tx`). -/

/-- no_duplicates / index_consistent: the pooled transactions have pairwise different KEYS (hence
are pairwise different) and the index holds exactly those keys — no collision alternative needed -/
theorem keyed_no_duplicates (key : Bytes → Bytes) (n : Int) (ops : List Keyed.KOp) :
    let p := Keyed.krunV0 key (Keyed.kempty n) ops
    (p.acc.entries.map key).Nodup ∧ p.acc.entries.Nodup ∧ p.acc.index.Perm (p.acc.entries.map key) := by
  obtain ⟨hi, _⟩ := Keyed.krunV0_spec key n ops
  exact ⟨hi.nodup, hi.nodup.of_map key fun _ _ hne e => hne (congrArg key e), hi.index⟩

/-- count_bytes (the counter), v0 accounting: exact, or a traced collision -/
theorem keyed_pool_v0_bytes_exact_or_collision (key : Bytes → Bytes) (n : Int) (ops : List Keyed.KOp) :
    let p := Keyed.krunV0 key (Keyed.kempty n) ops
    p.acc.bytes = bytesOf p.acc.entries ∨
    ∃ x ∈ ops.map Keyed.KOp.tx, ∃ y ∈ ops.map Keyed.KOp.tx, x ≠ y ∧ key x = key y :=
  (Keyed.krunV0_spec key n ops).2

/-- count_bytes (the counter), v1 accounting: exact -/
theorem keyed_pool_v1_bytes_exact (key : Bytes → Bytes) (n : Int) (ops : List Keyed.KOp) :
    let p := Keyed.krunV1 key (Keyed.kempty n) ops
    p.acc.bytes = bytesOf p.acc.entries :=
  (Keyed.krunV1_spec key n ops).2

/-- committed_removed: after the `Update` iteration for `tx` no pooled transaction has `tx`'s key
— in particular `tx` itself is gone (stated for the v0 accounting, `kcommitV0` after `krunV0`) -/
theorem keyed_committed_removed (key : Bytes → Bytes) (n : Int) (ops : List Keyed.KOp)
    (tx : Bytes) (ok keep : Bool) :
    (∀ e ∈ (Keyed.kcommitV0 key (Keyed.krunV0 key (Keyed.kempty n) ops) tx ok keep).acc.entries,
      key e ≠ key tx) ∧
    tx ∉ (Keyed.kcommitV0 key (Keyed.krunV0 key (Keyed.kempty n) ops) tx ok keep).acc.entries := by
  have h := Keyed.removeV0_no_key (Keyed.krunV0_spec key n ops).1 tx
  exact ⟨h, fun hm => h tx hm rfl⟩

/-- no_readmit_while_cached: while the cache holds `tx`'s KEY, a submission of `tx` leaves the
pooled transactions, the index and the counter as they are (every state) -/
theorem keyed_no_readmit_while_cached (key : Bytes → Bytes) (p : Keyed.KPool) (tx : Bytes)
    (peer : Nat) (adm rm : Bool) (h : p.cache.has (key tx) = true) :
    (Keyed.kcheck key p tx peer adm rm).acc = p.acc :=
  Keyed.kcheck_cached key p tx peer adm rm h

/-- senders_recorded: after a submission that was a cache hit or was admitted, `peer` is recorded
under `tx`'s key whenever the index holds that key; and the entry it is recorded on is `tx` itself
unless two different transactions of the history share a key -/
theorem keyed_senders_recorded (key : Bytes → Bytes) (n : Int) (ops : List Keyed.KOp)
    (tx : Bytes) (peer : Nat) (adm rm : Bool) :
    let p := Keyed.krunV0 key (Keyed.kempty n) ops
    let p' := Keyed.kcheck key p tx peer adm rm
    ((p.cache.push (key tx)).2 = false ∨ adm = true) → key tx ∈ p'.acc.index →
    peer ∈ Keyed.sendersOf p' (key tx) ∧
    (tx ∈ p'.acc.entries ∨
      ∃ x ∈ (ops ++ [Keyed.KOp.check tx peer adm rm]).map Keyed.KOp.tx,
      ∃ y ∈ (ops ++ [Keyed.KOp.check tx peer adm rm]).map Keyed.KOp.tx, x ≠ y ∧ key x = key y) := by
  intro p p' hadm hk
  refine ⟨Keyed.kcheck_records key p tx peer adm rm hadm hk, ?_⟩
  have hrun := Keyed.krunV0_spec key n (ops ++ [Keyed.KOp.check tx peer adm rm])
  have hp' : Keyed.krunV0 key (Keyed.kempty n) (ops ++ [Keyed.KOp.check tx peer adm rm]) = p' :=
    List.foldl_append
  rw [hp'] at hrun
  exact Keyed.entry_is_tx_or_collision hrun.1 tx (by simp [Keyed.KOp.tx]) hk

/-- with a colliding key function the sender of one transaction IS recorded on another -/
example :
    (Keyed.kcheck (fun _ => []) (Keyed.kcheck (fun _ => []) (Keyed.kempty 0) [1] 7 true false)
      [2] 9 true false).acc.entries = [[1]] ∧
    Keyed.sendersOf (Keyed.kcheck (fun _ => []) (Keyed.kcheck (fun _ => []) (Keyed.kempty 0) [1] 7 true false)
      [2] 9 true false) [] = [7, 9] := by decide

end Tmv.Props.C12
