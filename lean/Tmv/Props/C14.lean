import Tmv.Model.StatesyncReactor
import Tmv.Lemmas.StateSyncQueue
import Tmv.Lemmas.StateSyncTrace
import Tmv.Lemmas.StateSyncLight
/-! # C14 — State sync bootstraps only to light-verified state that the app reproduces
Quantification: every
theorem about the syncer holds for every state-provider `env`, every application script (verdict
sequences for Offer / Apply / Info, of any length), every arrival schedule (`pre` lists of the
verdicts, the gap oracle `Script.gap : Nat → List Msg` consulted between any two atomic steps, the
`late` feed while `Next` blocks), every fuel, and every tie-break `choose` of `Best`. -/
namespace Tmv.Props.C14
open Tmv Tmv.StateSync Tmv.StateSync.Queue Tmv.StateSync.Pool Tmv.StateSync.Thm

/-! ## chunk queue -/

/-- **chunks_in_index_order** (queue): `Next` hands out the lowest index that is not currently
returned (below the snapshot's chunk count), marks exactly that index returned, and the chunk it
hands out carries the bytes and the sender recorded for that index. -/
theorem chunks_in_index_order {q q' : Queue} {c : Chunk} (h : q.next = .chunk c q') :
    ∃ s body, q.snap = some s ∧ c.index < s.chunks ∧ q.returned c.index = false ∧
      (∀ j, j < c.index → q.returned j = true) ∧
      q.files c.index = some body ∧ c.body = some body ∧ c.sender = (q.senders c.index).getD "" ∧
      c.height = s.height ∧ c.format = s.format ∧
      q' = { q with returned := upd q.returned c.index true } :=
  let ⟨s, body, n⟩ := next_chunk_spec h
  ⟨s, body, n.snap, n.lt, n.unreturned, n.lowest, n.files, n.body, n.sender, n.height, n.format, n.queue⟩

/-- `Next` blocks only on the lowest unreturned index and only because nothing is recorded for it -/
theorem next_waits_for_lowest_missing {q : Queue} {i : Nat} (h : q.next = .wait i) :
    ∃ s, q.snap = some s ∧ i < s.chunks ∧ q.returned i = false ∧ (∀ j, j < i → q.returned j = true) ∧
      q.files i = none := next_wait_spec h

/-- `Next` reports completion only when every chunk has been returned (or the queue is closed) -/
theorem next_done_only_when_all_returned {q : Queue} (h : q.next = .done) :
    q.snap = none ∨ ∃ s, q.snap = some s ∧ ∀ j, j < s.chunks → q.returned j = true := next_done_spec h

/-- **bytes_sender_as_recorded**: once an arrival for index `i` has been accepted, whatever else
arrives or is retried, allocated, returned (any operation sequence that does not discard `i` or
the sender), every later hand-out of index `i` carries exactly the bytes and the sender of that
accepted arrival; a later arrival for the same index never replaces it. -/
theorem handed_as_recorded {q q1 q3 : Queue} {c c' : Chunk} (ops : List QOp)
    (hadd : q.add c = (q1, .added))
    (hops : ∀ op ∈ ops, removes c.index c.sender op = false)
    (hnext : (qrun q1 ops).next = .chunk c' q3) (hidx : c'.index = c.index) :
    c'.body = c.body ∧ c'.sender = c.sender := by
  obtain ⟨s, body, hb, _, _, _, _, _, rfl⟩ := (add_spec hadd).elim And.right (fun h => absurd rfl h.1)
  have h := record_stable (i := c.index) (b := body) (p := c.sender) ops
    { q with files := upd q.files c.index (some body), senders := upd q.senders c.index (some c.sender) }
    (upd_same _ _ _) (upd_same _ _ _) hops
  obtain ⟨_, body', n⟩ := next_chunk_spec hnext
  have hf' := n.files
  have hs' := n.sender
  rw [hidx] at hf' hs'
  rw [h.1] at hf'
  rw [h.2] at hs'
  injection hf' with hf'
  subst hf'
  exact ⟨by rw [n.body, hb], by simpa using hs'⟩

/-- **refetch honoured** (queue): discarding a recorded chunk removes its bytes, un-returns and
un-allocates it: `Next` cannot hand it out again before a new arrival is accepted, and the
fetchers are given the index again. -/
theorem discard_spec {q : Queue} {s : Snapshot} {i : Nat} (hs : q.snap = some s) :
    (q.discard i).files i = none ∧
    ((q.files i).isSome → (q.discard i).returned i = false ∧ (q.discard i).allocated i = false) ∧
    (∀ j, j ≠ i → (q.discard i).files j = q.files j ∧ (q.discard i).returned j = q.returned j ∧
      (q.discard i).senders j = q.senders j) := by
  unfold Queue.discard
  rw [hs]
  cases hf : q.files i with
  | none => simp [hf]
  | some b =>
    refine ⟨by simp [upd], fun _ => by simp [upd], ?_⟩
    intro j hj
    simp [upd, hj]

theorem no_handout_without_bytes {q q' : Queue} {c : Chunk} {i : Nat} (hf : q.files i = none)
    (h : q.next = .chunk c q') : c.index ≠ i := by
  obtain ⟨_, _, n⟩ := next_chunk_spec h
  intro hi
  have hf' := n.files
  rw [hi, hf] at hf'
  cases hf'

/-- `Allocate` hands out the lowest unallocated index -/
theorem allocate_spec {q q' : Queue} {i : Nat} (h : q.allocate = (q', some i)) :
    ∃ s, q.snap = some s ∧ i < s.chunks ∧ q.allocated i = false ∧ (∀ j, j < i → q.allocated j = true) ∧
      q' = { q with allocated := upd q.allocated i true } := by
  unfold Queue.allocate at h
  split at h
  · cases h
  · rename_i s hs
    split at h
    · cases h
    · split at h
      · rename_i i' hi
        injection h with hq hi2
        injection hi2 with hi2
        subst hi2
        obtain ⟨h1, h2, h3⟩ := find_range_min hi
        exact ⟨s, hs, h1, by simpa using h2, fun j hj => by simpa using h3 j hj, hq.symm⟩
      · cases h

/-- an unallocated index (e.g. one just discarded for refetching) is always handed to a fetcher:
the length check of `Allocate` never hides it -/
theorem allocate_some_of_unallocated {q : Queue} {s : Snapshot} {j : Nat} (hs : q.snap = some s)
    (hj : j < s.chunks) (hna : q.allocated j = false) : ∃ q' i, q.allocate = (q', some i) := by
  unfold Queue.allocate
  rw [hs]
  simp only
  have hlt : allocCount q s.chunks < s.chunks := by
    unfold allocCount
    have hlen : ((List.range s.chunks).filter q.allocated).length < (List.range s.chunks).length := by
      apply List.length_filter_lt_length_iff_exists.mpr
      exact ⟨j, List.mem_range.mpr hj, by simp [hna]⟩
    simpa using hlen
  have : ¬ allocCount q s.chunks ≥ s.chunks := by omega
  simp only [this, if_false]
  cases hfind : (List.range s.chunks).find? (fun i => !q.allocated i) with
  | some i => exact ⟨_, i, rfl⟩
  | none =>
    rw [List.find?_eq_none] at hfind
    have := hfind j (List.mem_range.mpr hj)
    simp [hna] at this

/-- **retry honoured** (queue): after `Retry(i)` of the chunk just handed out, `Next` hands out
the same index again with the same recorded bytes and sender (no refetch). -/
theorem retry_spec {q q' : Queue} {c : Chunk} (h : q.next = .chunk c q') :
    ∃ q'', (q'.retry c.index).next = .chunk c q'' := by
  obtain ⟨s, body, n⟩ := next_chunk_spec h
  have hret := n.unreturned
  rw [n.queue]
  have hq : ({ q with returned := upd q.returned c.index true } : Queue).retry c.index = q := by
    cases q with
    | mk snap files senders allocated returned =>
      simp only [Queue.retry]
      congr
      funext j
      by_cases hj : j = c.index
      · subst hj; simp [upd]; simpa using hret
      · simp [upd, hj]
  rw [hq]
  exact ⟨_, h⟩

/-- `RetryAll` un-returns everything: the next hand-out is index 0 again -/
theorem retryAll_spec (q : Queue) (j : Nat) : (q.retryAll).returned j = false ∧
    (q.retryAll).files = q.files ∧ (q.retryAll).senders = q.senders := by
  simp [Queue.retryAll]


/-! ## snapshot pool -/

inductive POp
  | add (peer : String) (s : Snapshot) | reject (s : Snapshot) | rejectFormat (f : Nat)
  | rejectPeer (p : String) | removePeer (p : String)

def pstep (recent : Nat) (p : Pool) : POp → Pool
  | .add peer s => (p.add recent peer s).1
  | .reject s => p.reject s
  | .rejectFormat f => p.rejectFormat f
  | .rejectPeer x => p.rejectPeer x
  | .removePeer x => p.removePeer x

/-- **rejected_never_reused** (pool invariant): after any history of pool operations nothing the
pool lists — snapshot key, format, advertising peer — is blacklisted. -/
theorem pool_never_lists_rejected (recent : Nat) (ops : List POp) :
    Clean (ops.foldl (pstep recent) Pool.empty) := by
  suffices h : ∀ (p : Pool), Clean p → Clean (ops.foldl (pstep recent) p) from h _ clean_empty
  induction ops with
  | nil => intro p h; exact h
  | cons op rest ih =>
    intro p h
    apply ih
    cases op with
    | add peer s => exact (clean_add h recent peer s).1
    | reject s => exact (clean_reject h s).1
    | rejectFormat f => exact (clean_rejectFormat h f).1
    | rejectPeer x => exact (clean_rejectPeer h x).1
    | removePeer x => exact h.of_shrinks (removePeer_spec p x).1

/-- a rejection is recorded (`blacklists_only_grow`: and never forgotten by a later operation) -/
theorem rejection_recorded {p : Pool} (hc : Clean p) :
    (∀ s, keyOf s ∈ (p.reject s).blSnap) ∧ (∀ f, f ∈ (p.rejectFormat f).blFormat) ∧
    (∀ x, x ≠ "" → x ∈ (p.rejectPeer x).blPeer) :=
  ⟨fun s => (clean_reject hc s).2.1, fun f => (clean_rejectFormat hc f).2.1,
   fun x hx => (clean_rejectPeer hc x).2.1 hx⟩

theorem blacklists_only_grow (recent : Nat) {p : Pool} (hc : Clean p) (op : POp) :
    (∀ k ∈ p.blSnap, k ∈ (pstep recent p op).blSnap) ∧ (∀ f ∈ p.blFormat, f ∈ (pstep recent p op).blFormat) ∧
    (∀ x ∈ p.blPeer, x ∈ (pstep recent p op).blPeer) := by
  have g : Grows p (pstep recent p op) := by
    cases op with
    | add peer s =>
      obtain ⟨_, a, b, c⟩ := clean_add hc recent peer s
      exact Grows.of_eq a b c
    | reject s => exact (clean_reject hc s).2.2
    | rejectFormat f => exact (clean_rejectFormat hc f).2.2
    | rejectPeer x => exact (clean_rejectPeer hc x).2.2.1
    | removePeer x =>
      have hs := (removePeer_spec p x).1
      exact Grows.of_eq hs.blSnap hs.blFormat hs.blPeer
  exact ⟨g.snap, g.format, g.peer⟩

/-- `Best` (under any tie-break: any listed snapshot) never returns a rejected snapshot or format,
and `GetPeers` never returns a rejected peer -/
theorem best_and_peers_never_rejected {p : Pool} (hc : Clean p) :
    (∀ s, s ∈ p.snaps → keyOf s ∉ p.blSnap ∧ s.format ∉ p.blFormat) ∧
    (∀ s, p.best = some s → s ∈ p.snaps) ∧ (∀ s, s ∈ p.ranked ↔ s ∈ p.snaps) ∧
    (∀ s x, x ∈ p.getPeers s → x ∉ p.blPeer) :=
  ⟨fun s h => ⟨hc.snapKey s h, hc.snapFormat s h⟩, fun _ h => best_mem h, mem_ranked p,
   fun _ _ h => hc.peer _ (getPeers_mem h)⟩

theorem add_refuses_what_was_rejected (recent : Nat) (p : Pool) (peer : String) (s : Snapshot)
    (h : peer ∈ p.blPeer ∨ s.format ∈ p.blFormat ∨ keyOf s ∈ p.blSnap) :
    p.add recent peer s = (p, false) := add_refuses_rejected recent p peer s h

/-! ## syncer -/

variable (recent : Nat)

/-- what `verifyApp` accepts -/
def InfoMatches (iv : InfoV) (appVersion : Nat) (hash : Bytes) (height : Nat) : Prop :=
  ∃ h : Int, iv = .info appVersion hash h ∧ toU64 h = height

theorem verifyApp_ok {snap : Snapshot} {trusted : Bytes} {ver : Nat} {v : InfoV} (hne : v ≠ .echo)
    (h : verifyApp snap trusted ver v = .ok ()) : InfoMatches v ver trusted snap.height := by
  cases v with
  | error => cases h
  | echo => exact absurd rfl hne
  | deadline => cases h
  | info ver' hash height =>
    unfold verifyApp at h
    dsimp only at h
    by_cases h1 : ver' ≠ ver
    · rw [if_pos h1] at h; cases h
    by_cases h2 : hash ≠ trusted
    · rw [if_neg h1, if_pos h2] at h; cases h
    by_cases h3 : toU64 height ≠ snap.height
    · rw [if_neg h1, if_neg h2, if_pos h3] at h; cases h
    obtain rfl : ver' = ver := Decidable.of_not_not h1
    obtain rfl : hash = trusted := Decidable.of_not_not h2
    exact ⟨height, rfl, Decidable.of_not_not h3⟩

/-- **state_only_from_provider / returned_only_if_app_matches**, for one `Sync`: a successful
restore returns exactly the state and commit the state provider gave for the snapshot's height,
and only after the application's `Info` (the last journalled event) reported exactly the
provider's app hash for that height, the snapshot height and the state's app version. -/
theorem syncBody_ok {env : Env} {snap : Snapshot} {fuel : Nat} {sy sy' : Sy} {sc sc' : Script}
    {st : PState} {cm : PCommit}
    (h : syncBody recent env snap fuel sy sc = (.ok (st, cm), sy', sc')) :
    env.state snap.height = .ok st ∧ env.commit snap.height = .ok cm ∧
    ∃ hash iv, env.appHash snap.height = .ok hash ∧ sy'.journal.getLast? = some (.info iv) ∧
      InfoMatches iv st.appVersion hash snap.height := by
  unfold syncBody at h
  simp only at h
  split at h
  · rename_i appHash hah
    split at h
    all_goals try (cases h; done)
    rename_i hov
    split at h
    · rename_i st0 hst
      split at h
      · rename_i cm0 hcm
        split at h
        · cases h
        · rename_i syA scA happ
          split at h
          · cases h
          · rename_i hv
            injection h with h1 h2
            injection h1 with h1
            injection h1 with e1 e2
            injection h2 with e3 e4
            subst e1 e2 e3
            refine ⟨hst, hcm, appHash, resolveInfo (popInfo scA).1 st0.appVersion appHash snap.height, hah,
              by simp [log], ?_⟩
            apply verifyApp_ok _ hv
            unfold resolveInfo
            split <;> simp_all
      · cases h
    · cases h
  · cases h


/-- the conclusion of a successful restore -/
def Verified (env : Env) (snap : Snapshot) (st : PState) (cm : PCommit) (journal : List Ev) : Prop :=
  env.state snap.height = .ok st ∧ env.commit snap.height = .ok cm ∧
  ∃ hash iv, env.appHash snap.height = .ok hash ∧ journal.getLast? = some (.info iv) ∧
    InfoMatches iv st.appVersion hash snap.height

theorem sync_ok {env : Env} {snap : Snapshot} {fuel : Nat} {sy sy' : Sy} {sc sc' : Script}
    {st : PState} {cm : PCommit}
    (h : sync recent env snap fuel sy sc = (.ok (st, cm), sy', sc')) :
    Verified env snap st cm sy'.journal := by
  unfold sync at h
  split at h
  · cases h
  · cases hb : syncBody recent env snap fuel { sy with active := true } sc with
    | mk r rest =>
      cases rest with
      | mk sy1 sc1 =>
        rw [hb] at h
        simp only at h
        injection h with h1 h2
        injection h2 with h2 h3
        subst h1 h2
        exact syncBody_ok (sy' := sy1) recent hb

/-- **state_only_from_provider / returned_only_if_app_matches**, end to end: whatever the peers
send, whatever the application answers, whichever snapshots are in the pool and however `Best`
breaks ties, `SyncAny` returns a state only if that state and commit are the state provider's for
the restored snapshot's height and the application's last `Info` reported the provider's app hash,
that height and the state's app version. -/
theorem syncAny_ok (choose : Pool → Option Snapshot) (env : Env) (fuel : Nat) :
    ∀ (n : Nat) (cur : Option Snapshot) (sy : Sy) (sc : Script) (snap : Snapshot) (st : PState)
      (cm : PCommit) (sy' : Sy) (sc' : Script),
      syncAny recent choose env fuel n cur sy sc = (.ok snap st cm, sy', sc') →
      Verified env snap st cm sy'.journal := by
  intro n
  induction n with
  | zero => intro cur sy sc snap st cm sy' sc' h; simp [syncAny] at h
  | succ n ih =>
    intro cur sy sc snap st cm sy' sc' h
    unfold syncAny at h
    simp only at h
    split at h
    · cases h
    · rename_i snap0 sy0 hpick
      split at h
      · cases h
      · rename_i sy1 hmk
        split at h
        · rename_i st0 cm0 sy2 sc2 hsync
          injection h with h1 h2
          injection h1 with e1 e2 e3
          injection h2 with e4 e5
          subst e1 e2 e3 e4
          exact sync_ok (sy' := sy2) recent hsync
        · rename_i e sy2 sc2 hsync
          split at h
          all_goals first
            | (cases h; done)
            | exact ih _ _ _ _ _ _ _ _ h


/-- **rejected_never_reused**, end to end. Let `R` be any set of snapshot keys, formats and
senders that are blacklisted in a syncer whose pool lists nothing blacklisted, and let `Best`
be any function that returns a listed snapshot. Then whatever the peers send and the application
answers, everything `SyncAny` journals from there on is `Good`: every offer carries the state
provider's app hash and is never for a snapshot or format in `R`; no chunk sent by a sender in `R`
is queued; nothing advertised by a peer in `R` (and no snapshot/format in `R`) enters the pool;
and at the end `R` is still blacklisted and the pool still lists nothing blacklisted. -/
theorem syncAny_ext (choose : Pool → Option Snapshot)
    (hchoose : ∀ p s, choose p = some s → s ∈ p.snaps) (env : Env) (R : Rej) (fuel : Nat) :
    ∀ (n : Nat) (cur : Option Snapshot) (sy : Sy) (sc : Script), Inv R sy →
      (∀ s, cur = some s → keyOf s ∉ sy.pool.blSnap ∧ s.format ∉ sy.pool.blFormat) →
      ExtA env R sy (syncAny recent choose env fuel n cur sy sc).2.1 :=
  fun n cur _ sc h hcur => ExtA.thenSyncAny recent choose hchoose env R fuel n cur sc (Ext.refl h).toA hcur

/-- the same inside one restore: once `R` is rejected, the rest of the `applyChunks` loop queues
no chunk of a sender in `R` and accepts nothing a peer in `R` advertises (the fix in /repo:
`AddChunk` consults the peer blacklist; rejection and discard are one atomic step). -/
theorem applyChunks_respects_rejections (env : Env) (R : Rej) (snap : Snapshot) (fuel : Nat) (sy : Sy)
    (sc : Script) (h : Inv R sy) : Ext env R sy (applyChunks recent snap fuel sy sc).2.1 :=
  Ext.thenApplyChunks recent snap fuel sc (Ext.refl h)

/-- the rejecting steps themselves establish the hypothesis `Inv` of the two theorems above:
rejecting a snapshot / a format / a sender in a clean pool leaves a clean pool that blacklists it -/
theorem rejection_establishes_inv {sy : Sy} (hc : Clean sy.pool) (snap : Snapshot) (p : String) (hp : p ≠ "")
    (q : Option Queue) :
    Inv ⟨[keyOf snap], [], []⟩ { sy with pool := sy.pool.reject snap, queue := q } ∧
    Inv ⟨[], [snap.format], []⟩ { sy with pool := sy.pool.rejectFormat snap.format, queue := q } ∧
    Inv ⟨[], [], [p]⟩ { sy with pool := sy.pool.rejectPeer p, queue := q } := by
  obtain ⟨c1, m1, _⟩ := clean_reject hc snap
  obtain ⟨c2, m2, _⟩ := clean_rejectFormat hc snap.format
  obtain ⟨c3, m3, _⟩ := clean_rejectPeer hc p
  exact ⟨⟨c1, by simpa using m1, by simp, by simp⟩, ⟨c2, by simp, by simpa using m2, by simp⟩,
    ⟨c3, by simp, by simp, by simpa using m3 hp⟩⟩

/-- of a rejected sender's chunks, `DiscardSender` leaves only those already handed to the
application (which the application can have refetched explicitly) -/
theorem rejected_sender_keeps_only_returned (q : Queue) (p : String) (i : Nat)
    (h : (q.discardSender p).senders i = some p) : q.returned i = true := by
  unfold Queue.discardSender at h
  split at h
  all_goals
    simp only at h
    split at h
    · cases h
    · rename_i hh
      cases hr : q.returned i with
      | true => rfl
      | false => simp [h, hr] at hh

/-- a chunk whose `AddChunk` races with the rejection of its sender (both are critical sections
of `s.mtx`): whether it is queued first and then discarded with the sender's other unreturned
chunks, or refused afterwards because the sender is blacklisted, the queue ends up with the same
recorded bytes and the same returned set — the chunk is never "queued after the rejection". -/
theorem racing_chunk_linearisations_agree (q : Queue) (c : Chunk) (hr : q.returned c.index = false) :
    ((q.add c).1.discardSender c.sender).files = (q.discardSender c.sender).files ∧
    ((q.add c).1.discardSender c.sender).returned = (q.discardSender c.sender).returned ∧
    ∀ (sy : Sy), c.sender ∈ sy.pool.blPeer → addChunk sy c = (sy, .rejectedSender) ∨ addChunk sy c = (sy, .noSync) := by
  have queue : ((q.add c).1.discardSender c.sender).files = (q.discardSender c.sender).files ∧
      ((q.add c).1.discardSender c.sender).returned = (q.discardSender c.sender).returned := by
    cases hadd : q.add c with
    | mk q1 r =>
      rcases add_spec hadd with ⟨_, s, body, _, hs, _, _, _, hnone, rfl⟩ | ⟨_, rfl⟩
      · -- queued first: the chunk is unreturned and its sender's, so `DiscardSender` removes it again
        constructor
        · funext j
          simp only [Queue.discardSender, hs]
          by_cases hj : j = c.index
          · subst hj; simp [upd, hr, hnone]
          · simp [upd, hj]
        · funext j
          simp only [Queue.discardSender, hs]
          by_cases hj : j = c.index
          · subst hj; simp [upd, hr, hnone]
          · simp [upd, hj]
      · exact ⟨rfl, rfl⟩
  refine ⟨queue.1, queue.2, ?_⟩
  intro sy hin
  unfold addChunk
  split
  · left; simp [hin]
  · right; rfl

/-- **chunks_in_index_order / bytes_sender_as_recorded** (syncer): the chunk the loop body hands
to the application is exactly the one `Next` returned — lowest unreturned index, recorded bytes,
recorded sender — and it is the first thing journalled. -/
theorem applied_chunk_is_next (env : Env) {sy : Sy} (sc : Script) (hc : Clean sy.pool)
    {q q' : Queue} {c : Chunk} (hn : q.next = .chunk c q') :
    ∃ s body rest, q.snap = some s ∧ c.index < s.chunks ∧ q.returned c.index = false ∧
      (∀ j, j < c.index → q.returned j = true) ∧ q.files c.index = some body ∧
      c.sender = (q.senders c.index).getD "" ∧
      (applyOne recent c { sy with queue := some q' } sc).2.1.journal =
        sy.journal ++ .apply c.index body c.sender (popApply sc).1.result (popApply sc).1.refetch
          (popApply sc).1.rejectSenders :: rest := by
  obtain ⟨s, body, n⟩ := next_chunk_spec hn
  have hinv : Inv ⟨[], [], []⟩ { sy with queue := some q' } := ⟨hc, by simp, by simp, by simp⟩
  obtain ⟨_, _, _, l, hl, _⟩ := Ext.thenApplyOne_after (env := env) (sy := { sy with queue := some q' })
    recent c sc (Ext.refl hinv)
  exact ⟨s, body, l, n.snap, n.lt, n.unreturned, n.lowest, n.files, n.sender, by rw [hl]; simp [log, n.body]⟩

/-! ## the reactor's Receive -/

/-- **what reaches the syncer through `Receive` is well-formed**: a snapshot handed to
`AddSnapshot` comes from the peer that sent it, on the snapshot channel, while a sync is attached,
and has height > 0, a non-empty hash and at least one chunk (so `newChunkQueue` cannot fail for
it); a chunk handed to `AddChunk` carries the sending peer as its sender, came on the chunk
channel, has height > 0 and — unless the peer flagged it missing — bytes that are present (not nil;
non-empty for a message as decoded from the wire, where an empty field is nil: `WireMsg.decoded`). -/
theorem receive_to_syncer_wellformed (recent : Nat) (app : ServeApp) (syncing : Bool) (chan : Nat)
    (peer : String) (m : WireMsg) :
    (∀ p s, receive recent app syncing chan peer m = .addSnapshot p s →
      p = peer ∧ syncing = true ∧ chan = snapshotChannel ∧ m = .snapshotsResponse s ∧
      0 < s.height ∧ s.hash ≠ [] ∧ 0 < s.chunks ∧ (Queue.new s).isSome = true) ∧
    (∀ c, receive recent app syncing chan peer m = .addChunk c →
      c.sender = peer ∧ syncing = true ∧ chan = chunkChannel ∧ 0 < c.height ∧
      ∃ missing, m = .chunkResponse c.height c.format c.index c.body missing ∧
        (missing = false → ∃ b, c.body = some b)) := by
  unfold receive
  by_cases hv : (!validateMsg m) = true
  · rw [if_pos hv]; exact ⟨fun _ _ => nofun, fun _ => nofun⟩
  rw [if_neg hv]
  have hv' : validateMsg m = true := by simpa using hv
  by_cases hs : chan = snapshotChannel
  · -- snapshot channel: only a `SnapshotsResponse` while syncing reaches the syncer
    rw [if_pos hs]
    refine ⟨fun p s h => ?_, fun c h => ?_⟩
    · cases m with
      | snapshotsResponse s' =>
        dsimp only at h
        cases syncing with
        | false => cases h
        | true =>
          obtain ⟨rfl, rfl⟩ : peer = p ∧ s' = s := by simpa using h
          simp only [validateMsg, Bool.and_eq_true, Bool.not_eq_true', decide_eq_false_iff_not] at hv'
          obtain ⟨⟨h1, h2⟩, h3⟩ := hv'
          refine ⟨rfl, rfl, hs, rfl, by omega, fun he => h2 (by rw [he]; rfl), by omega, ?_⟩
          simp [Queue.new]; omega
      | _ => cases h
    · cases m with
      | snapshotsResponse s' => dsimp only at h; split at h <;> cases h
      | _ => cases h
  rw [if_neg hs]
  by_cases hc : chan = chunkChannel
  · -- chunk channel: only a `ChunkResponse` while syncing reaches the syncer
    rw [if_pos hc]
    refine ⟨fun p s h => ?_, fun c h => ?_⟩
    · cases m with
      | chunkResponse _ _ _ _ _ => dsimp only at h; split at h <;> cases h
      | _ => cases h
    · cases m with
      | chunkResponse hh f i cb mi =>
        dsimp only at h
        cases syncing with
        | false => cases h
        | true =>
          obtain rfl : Chunk.mk hh f i cb peer = c := by simpa using h
          simp only [validateMsg, Bool.and_eq_true, Bool.not_eq_true', decide_eq_false_iff_not,
            Bool.and_eq_false_iff] at hv'
          obtain ⟨⟨h1, _⟩, h3⟩ := hv'
          refine ⟨rfl, rfl, hc, Nat.pos_of_ne_zero h1, mi, rfl, fun hm => ?_⟩
          subst hm
          cases cb with
          | none => simp at h3
          | some b => exact ⟨b, rfl⟩
      | _ => cases h
  · rw [if_neg hc]; exact ⟨fun _ _ => nofun, fun _ => nofun⟩

/-- an invalid message only ever stops the peer; without an attached syncer nothing reaches one;
at most `recent` snapshots are advertised, all of them the application's -/
theorem receive_decisions (recent : Nat) (app : ServeApp) (syncing : Bool) (chan : Nat) (peer : String) (m : WireMsg) :
    (validateMsg m = false → receive recent app syncing chan peer m = .stopPeer) ∧
    (syncing = false → (∀ p s, receive recent app syncing chan peer m ≠ .addSnapshot p s) ∧
      (∀ c, receive recent app syncing chan peer m ≠ .addChunk c)) ∧
    (recentSnapshots recent app).length ≤ recent := by
  refine ⟨?_, ?_, ?_⟩
  · intro h; simp [receive, h]
  · intro hs
    have h1 := receive_to_syncer_wellformed recent app syncing chan peer m
    constructor
    · intro p s he; have := (h1.1 p s he).2.1; rw [hs] at this; cases this
    · intro c he; have := (h1.2 c he).2.1; rw [hs] at this; cases this
  · simp [recentSnapshots, List.length_take]; omega

/-- KNOWN FINDING (`syncer.SyncAny.reject-sender-misses-peer-removed-before-verdict`): the senders
rejected for an offer answered REJECT_SENDER are the peers the pool lists when the verdict is
processed; a peer removed in between (stopped for an invalid message, or disconnected) escapes the
blacklist. Model witness: the only advertiser is stopped during the offer, the verdict rejects
nobody, and the pool accepts the same peer's next advertisement. -/
theorem reject_sender_misses_removed_peer :
    let s : Snapshot := { height := 4, format := 2, chunks := 3, hash := [0xaa], metadata := [] }
    let p0 := (Pool.empty.add 10 "p3" s).1
    let p1 := p0.removePeer "p3"                                   -- `stop:p3` while the app handles the offer
    let p2 := (p1.getPeers s).foldl Pool.rejectPeer p1             -- SyncAny on errRejectSender
    p2.blPeer = [] ∧ (p2.add 10 "p3" s).2 = true := by
  decide

/-! ## light-client state provider -/

/-- what the verifying RPC client lets through: valid parameters, for the requested height, whose
HASHED part (`Block.MaxBytes`, `Block.MaxGas`) is what the verified header commits to -/
theorem checkParams_ok {maxBlock : Int} {want : Nat} {trusted : Int × Int} {r : ProvRes ParamsResp} {p : Params}
    (h : checkParams maxBlock want trusted r = .ok p) :
    ∃ resp, r = .ok resp ∧ resp.params = p ∧ resp.height = (want : Int) ∧ p.hashed = trusted ∧
      p.valid maxBlock = true := by
  cases r with
  | ok resp =>
    unfold checkParams at h
    dsimp only at h
    by_cases h1 : (!resp.params.valid maxBlock) = true
    · rw [if_pos h1] at h; cases h
    by_cases h2 : resp.height ≤ 0
    · rw [if_neg h1, if_pos h2] at h; cases h
    by_cases h3 : resp.height ≠ (want : Int)
    · rw [if_neg h1, if_neg h2, if_pos h3] at h; cases h
    by_cases h4 : resp.params.hashed ≠ trusted
    · rw [if_neg h1, if_neg h2, if_neg h3, if_pos h4] at h; cases h
    rw [if_neg h1, if_neg h2, if_neg h3, if_neg h4] at h
    cases h
    exact ⟨resp, rfl, rfl, Decidable.of_not_not h3, Decidable.of_not_not h4, by simpa using h1⟩
  | noWitness => exact absurd h (reErr_ne_ok (.noWitness : ProvRes ParamsResp) p)
  | err => exact absurd h (reErr_ne_ok (.err : ProvRes ParamsResp) p)

/-- **the returned state is assembled from light-verified blocks**: the app hash is the one in
the verified header at snapshot height + 1 (and height + 2 must verify); the commit is the one of
the verified block at the snapshot height; `LastValidators / Validators / NextValidators` are the
validator sets of the verified blocks at h, h+1, h+2; `LastBlockID`, app version, results hash
come from those blocks; of the consensus parameters exactly the hashed part is bound. -/
theorem provider_answers_from_verified_blocks (lc : Nat → ProvRes LightBlock) (maxBlock : Int)
    (rpc : Nat → ProvRes ParamsResp) (ih h : Nat) :
    (∀ x, lcAppHash lc h = .ok x → ∃ b b2, lc (h + 1) = .ok b ∧ lc (h + 2) = .ok b2 ∧ x = b.appHash) ∧
    (∀ c, lcCommit lc h = .ok c → ∃ b, lc h = .ok b ∧ c = ⟨b.height, b.hash⟩) ∧
    (∀ st, lcState lc maxBlock rpc ih h = .ok st → ∃ b0 b1 b2, lc h = .ok b0 ∧ lc (h + 1) = .ok b1 ∧
      lc (h + 2) = .ok b2 ∧
      st.lastBlockHeight = b0.height ∧ st.lastBlockID = b0.hash ∧ st.lastValidators = b0.vals ∧
      st.appHash = b1.appHash ∧ st.appVersion = b1.appVersion ∧ st.validators = b1.vals ∧
      st.lastResults = b1.lastResults ∧ st.nextValidators = b2.vals ∧
      st.lastHeightValidatorsChanged = b2.height ∧ st.lastHeightParamsChanged = b1.height ∧
      st.params.hashed = b1.consHashed ∧ st.params.valid maxBlock = true ∧
      ∃ resp, rpc b1.height = .ok resp ∧ resp.params = st.params) := by
  refine ⟨fun x hx => assembleAppHash_ok hx, fun c hc => assembleCommit_ok hc, fun st hst => ?_⟩
  obtain ⟨b0, b1, b2, h0, h1, h2, hp, e⟩ := assembleState_ok hst
  obtain ⟨resp, hr, hrp, _, hh, hv⟩ := checkParams_ok hp
  obtain ⟨e1, e2, e3, e4, e5, e6, e7, e8, e9, e10⟩ := e
  exact ⟨b0, b1, b2, h0, h1, h2, e1, e2, e3, e4, e5, e6, e7, e8, e9, e10, hh, hv, resp, hr, hrp⟩

/-- KNOWN FINDING (`stateprovider.State.consensus-params-unhashed-fields-not-verified`): the header's
`ConsensusHash` covers only `Block.MaxBytes/MaxGas`, so the rest of the consensus parameters of
the returned state (evidence age and size, `TimeIotaMs`, pubkey types, app version) is whatever
the primary RPC server says: two answers that differ in an unhashed field are both accepted
against the same verified header. The full-strength claim "the state's consensus parameters are
the chain's" is therefore false of the code; `provider_answers_from_verified_blocks` proves the
partial one (hashed part bound, parameters valid). -/
theorem consensus_params_determined_by_header_fails :
    ¬ (∀ (maxBlock : Int) (want : Nat) (trusted : Int × Int) (r r' : ParamsResp) (p p' : Params),
        checkParams maxBlock want trusted (.ok r) = .ok p →
        checkParams maxBlock want trusted (.ok r') = .ok p' → p = p') := by
  intro hall
  let p : Params := { maxBytes := 100, maxGas := -1, timeIota := 1000, evAgeBlocks := 100000, evAgeDur := 1
                      evMaxBytes := 10, pubKeyTypes := ["ed25519"], appVersion := 0 }
  let p' : Params := { p with evAgeBlocks := 1, appVersion := 7 }
  have h := hall 104857600 5 (100, -1) ⟨5, p⟩ ⟨5, p'⟩ p p' rfl rfl
  exact absurd h (by decide)

/-! ## the provider over C09's light client -/

/-- **bootstrapped_state_is_light_verified**: with `VerifyLightBlockAtHeight` instantiated by C09's
light-client model (C07's commit verification composed in), on ANY client state satisfying C09's
invariant — in particular the state after `NewClient` with trust root `root` and any sequence of
calls (`Props.C09.stored_reachable_session`) — for every behaviour of the primary, the witnesses
and the RPC server, every arrival order of witness replies and every clock:
if `AppHash`, `State` and `Commit` (the calls of `Sync`, in its order, on the one light client)
all succeed, then the app hash offered to the application, the state's `LastBlockID`, its three
validator sets, its app hash and results hash, the hashed part of its consensus parameters, and
the commit are those of light blocks REACHABLE from the trust root by steps the verifier accepted
(C09's `Reach`), and the client still satisfies the invariant. -/
theorem bootstrapped_state_is_light_verified (v : LightView) (maxBlock : Int) (rpc : Nat → ProvRes ParamsResp)
    (ih : Nat) (eA eS eC : CallEnv) {cfg : Light.Config} {root : Light.Hash → Prop} {c c1 c2 c3 : Light.Client}
    (hinv : Light.Inv cfg root c) (h : Nat) {ah : Bytes} {st : LcState} {cm : LcCommit}
    (hA : lightAppHash v eA c h = (c1, .ok ah))
    (hS : lightState v maxBlock rpc ih eS c1 h = (c2, .ok st))
    (hC : lightCommit v eC c2 h = (c3, .ok cm)) :
    (∃ b1, Light.Reach cfg root b1 ∧ ah = v.enc b1.hdr.appHash) ∧
    (∃ b0 b1 b2, Light.Reach cfg root b0 ∧ Light.Reach cfg root b1 ∧ Light.Reach cfg root b2 ∧
      st.lastBlockID = v.enc b0.hash ∧ st.lastValidators = v.enc b0.vals.hash ∧
      st.appHash = v.enc b1.hdr.appHash ∧ st.validators = v.enc b1.vals.hash ∧
      st.lastResults = v.enc b1.hdr.resHash ∧ st.appVersion = v.hdrApp b1.hash ∧
      st.params.hashed = v.hdrCons b1.hash ∧ st.nextValidators = v.enc b2.vals.hash) ∧
    (∃ b, Light.Reach cfg root b ∧ cm.blockHash = v.enc b.hash) ∧
    Light.Inv cfg root c3 := by
  -- each call answers with the pure assembly over results that are `Sound`; inverting it names the blocks
  obtain ⟨iA, _, _, sa1, _, hA'⟩ := lightAppHash_spec v eA h hinv
  rw [hA] at iA hA'
  obtain ⟨_, _, rfl, _, rfl⟩ := assembleAppHash_ok hA'.symm
  obtain ⟨l1, rl1, rfl⟩ := sa1 _ rfl
  obtain ⟨iS, _, _, _, s0, s1, s2, hS'⟩ := lightState_spec v eS h iA maxBlock rpc ih
  rw [hS] at iS hS'
  obtain ⟨_, _, _, rfl, rfl, rfl, hp, _, e1, e2, e3, e4, e5, e6, e7, _⟩ := assembleState_ok hS'.symm
  obtain ⟨_, _, _, _, hh, _⟩ := checkParams_ok hp
  obtain ⟨b0, rb0, rfl⟩ := s0 _ rfl
  obtain ⟨b1, rb1, rfl⟩ := s1 _ rfl
  obtain ⟨b2, rb2, rfl⟩ := s2 _ rfl
  obtain ⟨iC, _, s, hC'⟩ := lightCommit_spec v eC h iS
  rw [hC] at iC hC'
  obtain ⟨_, rfl, rfl⟩ := assembleCommit_ok hC'.symm
  obtain ⟨b, rb, rfl⟩ := s _ rfl
  exact ⟨⟨l1, rl1, rfl⟩, ⟨b0, b1, b2, rb0, rb1, rb2, e1, e2, e3, e5, e6, e4, hh, e7⟩, ⟨b, rb, rfl⟩, iC⟩

/-- the hypothesis `Light.Inv` of the theorem above is what C09 establishes for a freshly created
client (trust root given by hash) -/
theorem light_inv_after_newClient {cfg : Light.Config} {primary : Light.Prov} {witnesses : List Light.Prov}
    {sched : List Light.Prov → List Nat} {period height : Int} {root : Light.Hash} {c0 : Light.Client}
    (hnew : Light.newClient cfg primary witnesses sched period height root = .ok c0) :
    Light.Inv cfg (· = root) c0 := Light.newClient_inv hnew

/-! ## what the node does with the answers (`startStateSync`: `SaveSeenCommit`, `Bootstrap`) -/

/-- the answers of one provider for one height, given that the light client returns the block
of the height it was asked for -/
structure Restored (lc : Nat → ProvRes LightBlock) (maxBlock : Int) (rpc : Nat → ProvRes ParamsResp)
    (ih h : Nat) (st : LcState) (c : LcCommit) : Prop where
  atHeight : ∀ k b, lc k = .ok b → b.height = k
  state : lcState lc maxBlock rpc ih h = .ok st
  commit : lcCommit lc h = .ok c

theorem restored_facts {lc : Nat → ProvRes LightBlock} {maxBlock : Int} {rpc : Nat → ProvRes ParamsResp}
    {ih h : Nat} {st : LcState} {c : LcCommit} (r : Restored lc maxBlock rpc ih h st c) :
    st.lastBlockHeight = h ∧ c.height = h ∧ c.blockHash = st.lastBlockID ∧ st.lastHeightParamsChanged = h + 1 := by
  obtain ⟨_, hc, hs⟩ := provider_answers_from_verified_blocks lc maxBlock rpc ih h
  obtain ⟨b0, b1, b2, h0, h1, _, e1, e2, _, _, _, _, _, _, _, e3, _⟩ := hs st r.state
  obtain ⟨b, hb, rfl⟩ := hc c r.commit
  rw [h0] at hb
  injection hb with hb
  subst hb
  have := r.atHeight h b0 h0
  have := r.atHeight (h + 1) b1 h1
  exact ⟨by omega, by simpa using r.atHeight h b0 h0, e2.symm, by omega⟩

/-- **the bootstrapped node can start**: after both writes (in either order) the state store
holds exactly the restored state, `LoadValidators` at h, h+1, h+2 returns the light-verified
sets, `LoadConsensusParams(h+1)` the restored parameters, the seen commit is the verified
block's, and consensus reconstructs its `LastCommit` (`startNode = ok`). -/
theorem bootstrapped_node_starts {lc : Nat → ProvRes LightBlock} {maxBlock : Int}
    {rpc : Nat → ProvRes ParamsResp} {ih h : Nat} {st : LcState} {c : LcCommit}
    (r : Restored lc maxBlock rpc ih h st c) (hpos : 0 < h) (hv : st.lastValidators ≠ []) (commitFirst : Bool) :
    let s := startWrites commitFirst .none st c
    startNode s = .ok ∧ s.state = some st ∧ s.vals h = some st.lastValidators ∧
    s.vals (h + 1) = some st.validators ∧ s.vals (h + 2) = some st.nextValidators ∧
    loadParams s (h + 1) = some st.params ∧ s.seen h = some c := by
  obtain ⟨e1, e2, e3, e4⟩ := restored_facts r
  have hz : ¬ h = 0 := by omega
  have a1 : ¬ h = h + 1 + 1 := by omega
  have a2 : ¬ h = h + 1 := by omega
  have a3 : h + 1 - 1 = h := by omega
  have a4 : ¬ h + 1 = h + 1 + 1 := by omega
  have a5 : ¬ h + 2 = h + 1 := by omega
  have a6 : 1 < h + 1 := by omega
  cases commitFirst <;>
    simp [startWrites, startNode, bootstrap, saveSeenCommit, loadParams, Stores.empty, upd, e1, e2, e3, e4, hz, hv,
      a1, a2, a3, a4, a5, a6]

/-- **no crash leaves a node that can neither start nor state-sync again** (order of /repo after
the fix: synced seen commit first, then the state): whatever the crash point, a restarting node
either finds an empty state (and runs state sync again) or starts consensus. -/
theorem crash_safe_commit_first {lc : Nat → ProvRes LightBlock} {maxBlock : Int}
    {rpc : Nat → ProvRes ParamsResp} {ih h : Nat} {st : LcState} {c : LcCommit}
    (r : Restored lc maxBlock rpc ih h st c) (crash : Crash) :
    startNode (startWrites true crash st c) = .ok ∨ startNode (startWrites true crash st c) = .stateSyncAgain := by
  obtain ⟨e1, e2, e3, e4⟩ := restored_facts r
  cases crash
  · left
    simp [startWrites, startNode, bootstrap, saveSeenCommit, Stores.empty, upd, e1, e2, e3]
  · right; simp [startWrites, startNode, saveSeenCommit, Stores.empty]
  · right; simp [startWrites, startNode, Stores.empty]

/-- the order before the fix (state first, unsynced seen commit second): a crash between the
two writes leaves the restored state without its seen commit — consensus panics in
`reconstructLastCommit`, and the node does not state-sync again (replayed on the real
`consensus.NewState`: replays/C14-witness-crash-between-bootstrap-and-seen-commit-before-fix.json) -/
theorem crash_between_state_first_unstartable {lc : Nat → ProvRes LightBlock} {maxBlock : Int}
    {rpc : Nat → ProvRes ParamsResp} {ih h : Nat} {st : LcState} {c : LcCommit}
    (r : Restored lc maxBlock rpc ih h st c) (hpos : 0 < h) :
    startNode (startWrites false .between st c) = .panicNoSeenCommit := by
  obtain ⟨e1, _, _, _⟩ := restored_facts r
  have : ¬ h = 0 := by omega
  simp [startWrites, startNode, bootstrap, Stores.empty, e1, this]

/-! ## non-vacuity: the hypotheses of the theorems above are satisfiable by concrete, non-trivial
states (a queue that hands out a recorded chunk / blocks on a missing one; a pool with a listed
snapshot and non-empty blacklists satisfying `Inv`; `Best` satisfying `hchoose`; a complete
`SyncAny` run with a RETRY verdict and late chunk arrivals that ends in `.ok`). -/

def exSnap : Snapshot := { height := 2, format := 1, chunks := 2, hash := [0xaa], metadata := [] }
def exQ0 : Queue :=
  { snap := some exSnap
    files := fun _ => none
    senders := fun _ => none
    allocated := fun _ => false
    returned := fun _ => false }
def exC (i : Nat) (b : UInt8) (p : String) : Chunk := { height := 2, format := 1, index := i, body := some [b], sender := p }

/-- non-vacuity: a queue holding chunk 0 from p1 hands it out -/
example : ∃ c q', ((exQ0.add (exC 0 7 "p1")).1).next = .chunk c q' ∧ c.index = 0 ∧ c.sender = "p1" :=
  ⟨_, _, rfl, rfl, rfl⟩

example : (exQ0.add (exC 1 7 "p1")).2 = .added := rfl
example : (exQ0.add (exC 1 7 "p1")).1.next = .wait 0 := rfl

def exPool : Pool := { snaps := [exSnap], peers := [(keyOf exSnap, "p2")], blFormat := [7], blPeer := ["p1"], blSnap := [[1]] }
theorem exPool_clean : Clean exPool := ⟨by decide, by decide, by decide⟩
def exSy : Sy := { pool := exPool, queue := none, active := false, journal := [] }
example : Inv ⟨[[1]], [7], ["p1"]⟩ exSy := ⟨exPool_clean, by decide, by decide, by decide⟩
example : ∀ p s, Pool.best p = some s → s ∈ p.snaps := fun _ _ h => best_mem h

def exEnv : Env := { appHash := fun _ => .ok [0xa1], state := fun h => .ok ⟨h, 1⟩, commit := fun h => .ok ⟨h⟩ }
def exScript : Script :=
  { offers := []
    applies := [{ result := .retry, refetch := [], rejectSenders := [], pre := [] }]
    infos := []
    late := [.chunk (exC 0 7 "p2"), .chunk (exC 1 8 "p2")]
    fallback := none
    gap := fun _ => []
    tick := 0 }
example : (syncAny 10 Pool.best exEnv 50 10 none exSy exScript).1 = .ok exSnap ⟨2, 1⟩ ⟨2⟩   := by rfl

def exLc (k : Nat) : ProvRes LightBlock :=
  if 1 ≤ k ∧ k ≤ 9 then .ok { height := k, hash := [UInt8.ofNat k], appHash := [UInt8.ofNat (k + 100)], appVersion := 0
                              vals := [UInt8.ofNat (k / 3 + 1)], lastResults := [], consHashed := (100, -1) }
  else .err
def exParams : Params := { maxBytes := 100, maxGas := -1, timeIota := 1000, evAgeBlocks := 5, evAgeDur := 1
                           evMaxBytes := 10, pubKeyTypes := ["ed25519"], appVersion := 0 }
def exRpc (k : Nat) : ProvRes ParamsResp := .ok ⟨k, exParams⟩

/-- non-vacuity of `Restored` (snapshot height 2 on a 9-block chain with validator changes) -/
example : ∃ st c, Restored exLc 104857600 exRpc 1 2 st c ∧ st.validators ≠ st.lastValidators := by
  refine ⟨_, _, ⟨?_, rfl, rfl⟩, by decide⟩
  intro k b hk
  unfold exLc at hk
  split at hk
  · injection hk with hk; subst hk; rfl
  · cases hk

/-! ## the hand-over with failing steps -/

/-- `Bootstrap` without a failing write is `bootstrap` (stated for the state key, on empty stores) -/
theorem bootstrapFailing_none (st : LcState) :
    (bootstrapFailing Stores.empty st 0).2 = true ∧
    (bootstrapFailing Stores.empty st 0).1.state = (bootstrap Stores.empty st).state := by
  obtain ⟨s, ok, e, _, hst⟩ := bootstrapFailing_cases Stores.empty st 0
  obtain rfl : ok = true := by simpa [bootstrapFailing] using (congrArg Prod.snd e).symm
  rw [e]
  exact ⟨rfl, hst⟩

/-- the order and error handling of node/node.go `startStateSync` (anchored by the facts
`c14_startStateSync_order`, `c14_handover_seen_err_returns`, `c14_handover_boot_err_returns`) -/
def repoHandCode : HandCode := { commitFirst := true, seenErrReturns := true, bootErrReturns := true }

/-- **the node starts from the restored state only if state AND seen commit are stored**, for
every failure pattern of the hand-over (`SaveSeenCommit` failing, any write of `Bootstrap`
failing, `SwitchToFastSync` failing): if afterwards the state store is not empty — so that a
(re)starting node goes on from the restored state instead of state syncing again — or the node
switched to block sync, then the seen commit of the restored height is stored; and if it switched,
the state store holds exactly the restored state. -/
theorem handover_starts_only_if_both_stored (f : Faults) (st : LcState) (c : LcCommit) :
    let r := handOver repoHandCode f st c
    (r.2 = true ∨ r.1.state ≠ none) →
      r.1.seen st.lastBlockHeight = some c ∧ (r.2 = true → r.1.state = some st) := by
  unfold handOver repoHandCode
  simp only [if_true]
  cases hs : f.seenFails with
  | true => simp [Stores.empty]
  | false =>
    simp only [Bool.false_eq_true, if_false, Bool.not_true, Bool.false_and]
    obtain ⟨s2, ok2, e, hseen, hst⟩ :=
      bootstrapFailing_cases (saveSeenCommit Stores.empty st.lastBlockHeight c) st f.bootFailAt
    have hseen : s2.seen st.lastBlockHeight = some c := by rw [hseen]; simp [saveSeenCommit, upd]
    rw [e]
    cases ok2 with
    | true => simp [hseen, hst]
    | false =>
      have : s2.state = none := hst
      simp [hseen, this]

/-- with both error paths returning, the node switches to block sync only after both writes
succeeded — in either order of the writes -/
theorem handover_switches_only_after_both (commitFirst : Bool) (f : Faults) (st : LcState) (c : LcCommit) :
    let r := handOver { commitFirst := commitFirst, seenErrReturns := true, bootErrReturns := true } f st c
    r.2 = true → r.1.seen st.lastBlockHeight = some c ∧ r.1.state = some st := by
  unfold handOver
  cases commitFirst
  · -- state first
    simp only [Bool.false_eq_true, if_false]
    obtain ⟨s1, ok1, e, _, hst⟩ := bootstrapFailing_cases Stores.empty st f.bootFailAt
    rw [e]
    cases ok1 with
    | false => simp
    | true =>
      cases hs : f.seenFails with
      | true => simp
      | false => simp [saveSeenCommit, upd, hst]
  · simp only [if_true]
    cases hs : f.seenFails with
    | true => simp
    | false =>
      simp only [Bool.false_eq_true, if_false, Bool.not_true, Bool.false_and]
      obtain ⟨s2, ok2, e, hseen, hst⟩ :=
        bootstrapFailing_cases (saveSeenCommit Stores.empty st.lastBlockHeight c) st f.bootFailAt
      rw [e]
      cases ok2 with
      | false => simp
      | true =>
        intro _
        simp only [Bool.not_true, Bool.false_and, Bool.false_eq_true, if_false]
        exact ⟨by rw [hseen]; simp [saveSeenCommit, upd], hst⟩

/-- an error of `SaveSeenCommit` that is only logged (the hand-over goes on) breaks it: the node
switches to block sync from the restored state without the commit of its last block -/
theorem handover_ignoring_seen_error_fails (st : LcState) (c : LcCommit) :
    let r := handOver { commitFirst := true, seenErrReturns := false, bootErrReturns := true }
      { seenFails := true, bootFailAt := 0, switchFails := false } st c
    r.2 = true ∧ r.1.state = some st ∧ r.1.seen st.lastBlockHeight = none := by
  obtain ⟨s2, ok2, e, hseen, hst⟩ := bootstrapFailing_cases Stores.empty st 0
  obtain rfl : ok2 = true := by simpa [bootstrapFailing] using (congrArg Prod.snd e).symm
  unfold handOver
  simp only [if_true]
  rw [e]
  simp [hst, hseen, Stores.empty]

/-! non-vacuity of `bootstrapped_state_is_light_verified`: a concrete chain and honest providers
(the same chain as the example of Props/C09.lean), snapshot height 1, trust root = block 1 -/
namespace ExLight
open Tmv.Light

def V : ValSet := { vals := [(0, 1), (1, 1), (2, 1)], hash := 1 }
def hdr (h t : Int) (app hash last : Nat) : Header := {
  chain := 0, height := h, time := t, valsHash := 1, nextValsHash := 1
  lastBlockHash := last, appHash := app, consHash := 0, resHash := 0, basicOK := true, hash := hash }
/-- signature tokens: 1 = valid for the slot's validator over this commit, anything else invalid -/
def sigOK : SigOK := fun _ _ s => s == 1
def bid (hash : Nat) : CommitVerify.BlockID :=
  { hash := List.replicate 32 (UInt8.ofNat hash), total := 1, psHash := List.replicate 32 1 }
/-- a commit in which exactly the validators `signers` (ids 0..2, in set order) signed for the block -/
def mkCommit (h : Int) (hash : Nat) (signers : List Nat) : CommitVerify.Commit Nat :=
  { height := h, round := 0, blockID := bid hash,
    sigs := [0, 1, 2].map fun id =>
      if signers.contains id then { flag := 2, addr := [UInt8.ofNat id], ts := 7, sig := 1 }
      else { flag := 1, addr := [], ts := 0, sig := 0 } }
def blk (h t : Int) (app hash last : Nat) (signers : List Nat) : Light.LightBlock :=
  { hdr := hdr h t app hash last, commitOK := true, commit := mkCommit h hash signers, vals := V }
def b1 := blk 1 10 0 1 0 [0, 1, 2]
def b2 := blk 2 20 0 2 1 [0, 1, 2]
def b3 := blk 3 30 0 3 2 [0, 1, 2]
def b4 := blk 4 40 0 4 3 [0, 1]        -- signed by 2/3 only: not enough
def f3 := blk 3 30 1 5 2 [0, 1, 2]     -- equivocation at height 3
def table (l : List Light.LightBlock) : Nat → Int → Resp := fun _ h =>
  match l.find? (fun b => b.height == (if h = 0 then 3 else h)) with
  | some b => .ok b
  | none => .err .notFound
def honest (id : Nat) : Prov := { id := id, chain := 0, script := table [b1, b2, b3] }
def liar (id : Nat) : Prov := { id := id, chain := 0, script := table [b1, b2, f3] }
def silent (id : Nat) : Prov := { id := id, chain := 0, script := fun _ _ => .err .noResponse }
def cfg : Config := {
  chain := 0, period := 1000, sequential := false, level := ⟨1, 3⟩, drift := 1
  pruning := 0, fuel := 30, sigOK := sigOK }
def fifo : List Prov → List Nat := fun ws => List.range ws.length

instance : Inhabited Client := ⟨{
  cfg := cfg, primary := default, witnesses := [], calls := (fun _ => 0)
  store := default, latest := none, evidence := [], sched := fifo }⟩

def start (primary : Prov) (ws : List Prov) : Client :=
  match newClient cfg primary ws fifo 1000 1 1 with
  | .ok c => c
  | .error _ => default

def errOf {α : Type} : Except Err α → Option Err
  | .error e => some e
  | .ok _ => none

end ExLight
open ExLight in
def exView : LightView := { enc := fun n => [UInt8.ofNat n], hdrApp := fun _ => 0, hdrCons := fun _ => (100, -1) }
open ExLight in
def exCall : CallEnv := { now := fun _ => 35, sched := fun _ => fifo }

def okOf {α : Type} : ProvRes α → Option α
  | .ok a => some a
  | _ => none

open ExLight in
/-- the three provider calls succeed on a concrete client, with non-trivial answers -/
example :
    let c := start (honest 1) [honest 2]
    let a := lightAppHash exView exCall c 1
    let s := lightState exView 104857600 exRpc 1 exCall a.1 1
    let k := lightCommit exView exCall s.1 1
    okOf a.2 = some [0] ∧ (okOf s.2).map (fun st => (st.lastBlockID, st.lastBlockHeight)) = some ([1], 1) ∧
    (okOf k.2).map (·.blockHash) = some [1] := by
  decide
end Tmv.Props.C14
