import Tmv.Lemmas.MerkleComplete
import Tmv.Lemmas.MerkleTraced
import Tmv.Lemmas.MerkleDepth
import Tmv.Lemmas.PartReader
import Tmv.Lemmas.PartCons
import Tmv.Lemmas.ListFacts
/-! # C10 — Block parts and Merkle proofs bind content to position
`H` is an arbitrary function; the only thing assumed about it is a fixed output length `L` (true of
SHA-256, needed to split `l ++ r`; that `L > 0` is used by `rootless_header_accepts_nothing` alone).
Soundness theorems conclude "claim ∨ an explicit hash collision", never "no collision exists". Where a
statement has a `_traced` version, the one with an unlocated collision follows from it. -/
namespace Tmv.Props.C10
open Tmv Tmv.Merkle Tmv.PartSet Tmv.TxProof
variable (H : Bytes → Bytes)

/-- Completeness: the proof built for position `i` verifies for the item at `i`. -/
theorem proofs_verify (items : List Bytes) (i : Nat) (hi : i < items.length) :
    verify H (root H items) items[i] (proofOf H items i) = .ok () :=
  (verify_ok H).mpr
    ⟨by simp [proofOf, List.getD_eq_getElem?_getD, hi], computeRoot_proofOf H items i hi⟩

/-- `verify_position` with a *traced* collision: the alternative to the claim is a collision
between two byte strings that were actually passed to `H` in this very run — `0x00‖leaf` or an
inner node of the claimed path on one side, a node of the real tree on the other. (For a
fixed-length `H` "some collision exists" is true by counting and would make the disjunction
classically trivial; a collision inside these explicitly listed, linearly many inputs is not.) -/
theorem verify_position_traced (L : Nat) (hL : 0 < L) (hlen : ∀ x, (H x).length = L)
    (items : List Bytes) (hne : items ≠ []) (leaf : Bytes) (p : Proof)
    (ht : p.total = items.length)
    (hv : verify H (root H items) leaf p = .ok ()) :
    (0 ≤ p.index ∧ ∃ h : p.index.toNat < items.length, leaf = items[p.index.toNat])
      ∨ CollisionIn H
          ((0 :: leaf) :: pathPre H items.length p.index.toNat items.length (leafHash H leaf) p.aunts)
          (rootPre H items.length items) := by
  obtain ⟨h0, hb⟩ := verify_binds_traced H L hlen items leaf p hv
  rw [show p.total.toNat = items.length by omega] at hb
  rcases hb with ⟨j, hj, he, hpos⟩ | hc
  · obtain rfl := hpos rfl
    exact Or.inl ⟨h0, hj, he⟩
  · exact Or.inr hc

/-- Soundness with position: a proof whose stated total is the real number of leaves verifies
against the real root only for the item that sits at the stated index (or exhibits a collision). -/
theorem verify_position (L : Nat) (hL : 0 < L) (hlen : ∀ x, (H x).length = L)
    (items : List Bytes) (hne : items ≠ []) (leaf : Bytes) (p : Proof)
    (ht : p.total = items.length)
    (hv : verify H (root H items) leaf p = .ok ()) :
    (0 ≤ p.index ∧ ∃ h : p.index.toNat < items.length, leaf = items[p.index.toNat])
      ∨ Nonempty (Collision H) :=
  (verify_position_traced H L hL hlen items hne leaf p ht hv).imp_right (CollisionIn.toCollision H)

theorem verify_inclusion_traced (L : Nat) (hL : 0 < L) (hlen : ∀ x, (H x).length = L)
    (items : List Bytes) (hne : items ≠ []) (leaf : Bytes) (p : Proof)
    (hv : verify H (root H items) leaf p = .ok ()) :
    leaf ∈ items ∨ CollisionIn H
      ((0 :: leaf) :: pathPre H p.total.toNat p.index.toNat p.total.toNat (leafHash H leaf) p.aunts)
      (rootPre H items.length items) :=
  verify_mem_traced H L hlen items leaf p hv

/-- Inclusion with nothing pinned: whatever (index,total,path) the proof states, if it verifies
against the real root then the leaf is one of the items (or a collision is exhibited) — so
leaf/inner-node confusion, wrong-length aunts and transplanted paths can at worst restate the
position of a genuine item, never introduce a foreign one. -/
theorem verify_inclusion (L : Nat) (hL : 0 < L) (hlen : ∀ x, (H x).length = L)
    (items : List Bytes) (hne : items ≠ []) (leaf : Bytes) (p : Proof)
    (hv : verify H (root H items) leaf p = .ok ()) :
    leaf ∈ items ∨ Nonempty (Collision H) :=
  (verify_inclusion_traced H L hL hlen items hne leaf p hv).imp_right (CollisionIn.toCollision H)

/-- The proof a full node serves for transaction `i` validates against the block's data hash. -/
theorem txproof_validates (L : Nat) (hL : 0 < L) (hlen : ∀ x, (H x).length = L)
    (txs : List Bytes) (i : Nat) (hi : i < txs.length) :
    validate H (txsHash H txs) (proofFor H txs i) = .ok () :=
  proofFor_validates H txs i hi

/-- A transaction proof that validates against the data hash of a block whose transactions are
`txs`, and that states the true number of transactions, is for the transaction that sits at the
stated index (or a collision is exhibited). -/
theorem txproof_position (L : Nat) (hL : 0 < L) (hlen : ∀ x, (H x).length = L)
    (txs : List Bytes) (hne : txs ≠ []) (tp : TxProof)
    (ht : tp.proof.total = txs.length)
    (hv : validate H (txsHash H txs) tp = .ok ()) :
    (0 ≤ tp.proof.index ∧ ∃ h : tp.proof.index.toNat < txs.length, tp.data = txs[tp.proof.index.toNat])
      ∨ Nonempty (Collision H) := by
  obtain ⟨hdh, hver⟩ := validate_ok H hv
  rw [← hdh] at hver
  rcases verify_position H L hL hlen (txs.map H) (by simpa using hne) (H tp.data) tp.proof
      (by simpa using ht) hver with ⟨h0, hi, he⟩ | hc
  · have hi' : tp.proof.index.toNat < txs.length := by simpa using hi
    rw [List.getElem_map] at he
    by_cases hx : tp.data = txs[tp.proof.index.toNat]
    · exact Or.inl ⟨h0, hi', hx⟩
    · exact Or.inr ⟨⟨_, _, hx, he⟩⟩
  · exact Or.inr hc

/-- `Verify` alone does not bind `total`: in a 2-leaf tree, the second item also verifies as
"item 2 of 3". This is why callers (e.g. `AddPart`) must pin `total` themselves. -/
theorem total_not_bound_by_verify (a b : Bytes) :
    verify H (root H [a, b]) b
      { total := 3, index := 2, leafHash := leafHash H b, aunts := [leafHash H a] } = .ok () := by
  have s3 : splitPoint 3 = 2 := by decide
  have s2 : splitPoint 2 = 1 := by decide
  simp [verify, computeRoot, root, rootF, fromAunts, s3, s2]

/-- Splitting and re-joining is the identity. -/
theorem split_join (data : Bytes) (psize : Nat) (h : 0 < psize) :
    (split data psize).flatten = data :=
  splitF_flatten psize h _ _ (Nat.le_refl _)

/-- the strings hashed while `AddPart` checks part `p` against a header of `n` parts -/
def partPre (n : Nat) (p : Part) : List Bytes :=
  (0 :: p.bytes) :: pathPre H n p.index n (leafHash H p.bytes) p.proof.aunts

theorem addPart_binds_position_traced (L : Nat) (hL : 0 < L) (hlen : ∀ x, (H x).length = L)
    (pieces : List Bytes) (hne : pieces ≠ []) (ps ps' : PartSet) (p : Part)
    (htot : ps.total = pieces.length) (hhash : ps.hash = root H pieces)
    (hadd : addPart H ps p = (ps', .added)) :
    (∃ h : p.index < pieces.length, p.bytes = pieces[p.index]) ∨
      CollisionIn H (partPre H pieces.length p) (rootPre H pieces.length pieces) := by
  obtain ⟨_, _, hpi, hpt, hv⟩ := addPart_added H hadd
  rw [hhash] at hv
  have hidx : p.proof.index.toNat = p.index := by omega
  rcases verify_position_traced H L hL hlen pieces hne p.bytes p.proof (by omega) hv with
    ⟨_, hi, he⟩ | hc
  · left
    simp only [hidx] at hi he
    exact ⟨hi, he⟩
  · right
    simp only [hidx] at hc
    exact hc

/-- `AddPart` accepts a part at slot `i` only if its bytes are the `i`-th piece of the data the
header commits to (root and part count), or a collision is exhibited. -/
theorem addPart_binds_position (L : Nat) (hL : 0 < L) (hlen : ∀ x, (H x).length = L)
    (pieces : List Bytes) (hne : pieces ≠ []) (ps ps' : PartSet) (p : Part)
    (htot : ps.total = pieces.length) (hhash : ps.hash = root H pieces)
    (hadd : addPart H ps p = (ps', .added)) :
    (∃ h : p.index < pieces.length, p.bytes = pieces[p.index]) ∨ Nonempty (Collision H) :=
  (addPart_binds_position_traced H L hL hlen pieces hne ps ps' p htot hhash hadd).imp_right (CollisionIn.toCollision H)

/-- running `AddPart` over any sequence of offered parts (any order, repetitions, junk) -/
def addAll (ps : PartSet) (offers : List Part) : PartSet :=
  offers.foldl (fun s p => (addPart H s p).1) ps

/-! ## Completed part sets -/

/-- `complete_reassembles_traced` for ANY non-empty list of leaves the header commits to — pieces
of any sizes, empty pieces included (a proposer need not cut with `NewPartSetFromData`): a part set
made from the header `(pieces.length, root pieces)` and completed through `AddPart`, whatever was
offered, holds exactly `pieces`, so it reassembles to their concatenation — unless one of the
OFFERED parts collides with a node of the real tree. -/
theorem complete_reassembles_leaves_traced (L : Nat) (hL : 0 < L) (hlen : ∀ x, (H x).length = L)
    (pieces : List Bytes) (hne : pieces ≠ []) (offers : List Part)
    (hcomplete : isComplete (addAll H (fromHeader pieces.length (root H pieces)) offers) = true) :
    ((addAll H (fromHeader pieces.length (root H pieces)) offers).parts.map partBytes = pieces ∧
      assemble (addAll H (fromHeader pieces.length (root H pieces)) offers) = pieces.flatten) ∨
      ∃ p ∈ offers, CollisionIn H (partPre H pieces.length p) (rootPre H pieces.length pieces) := by
  by_cases hex : ∃ p ∈ offers, CollisionIn H (partPre H pieces.length p) (rootPre H pieces.length pieces)
  · exact Or.inr hex
  -- no offered part collides, so every accepted one is the piece of its slot (`addAll` is the fold of `Good.fold`)
  have hgood : Good H pieces (addAll H (fromHeader pieces.length (root H pieces)) offers) :=
    Good.fold H offers
      (fun p hp ps ps' hg hadd =>
        (addPart_binds_position_traced H L hL hlen pieces hne ps ps' p hg.1 hg.2.1 hadd).resolve_right
          fun hc => hex ⟨p, hp, hc⟩)
      _ (Good.init H pieces)
  have hmap := hgood.complete H hcomplete
  exact Or.inl ⟨hmap, by unfold assemble; rw [hmap]⟩

/-- `complete_reassembles` with a traced collision: a completed part set reassembles to the
original bytes unless one of the OFFERED parts collides, on a string hashed while checking it,
with a node of the real tree. -/
theorem complete_reassembles_traced (L : Nat) (hL : 0 < L) (hlen : ∀ x, (H x).length = L)
    (data : Bytes) (psize : Nat) (hps : 0 < psize) (hd : data ≠ [])
    (offers : List Part)
    (hcomplete : isComplete (addAll H (fromHeader (split data psize).length
        (root H (split data psize))) offers) = true) :
    assemble (addAll H (fromHeader (split data psize).length (root H (split data psize))) offers)
        = data ∨
      ∃ p ∈ offers, CollisionIn H (partPre H (split data psize).length p)
        (rootPre H (split data psize).length (split data psize)) := by
  have hne : split data psize ≠ [] := by
    intro h
    have := split_join data psize hps
    rw [h] at this
    exact hd this.symm
  rcases complete_reassembles_leaves_traced H L hL hlen _ hne offers hcomplete with ⟨_, ha⟩ | hc
  · exact Or.inl (ha.trans (split_join data psize hps))
  · exact Or.inr hc

/-- A part set created from a header and completed through `AddPart` — whatever was offered, in
whatever order, however often — reassembles to exactly the original bytes (hence the original
block hash), or a collision exists. -/
theorem complete_reassembles (L : Nat) (hL : 0 < L) (hlen : ∀ x, (H x).length = L)
    (data : Bytes) (psize : Nat) (hps : 0 < psize) (hd : data ≠ [])
    (offers : List Part)
    (hcomplete : isComplete (addAll H (fromHeader (split data psize).length
        (root H (split data psize))) offers) = true) :
    assemble (addAll H (fromHeader (split data psize).length (root H (split data psize))) offers)
        = data ∨ Nonempty (Collision H) :=
  (complete_reassembles_traced H L hL hlen data psize hps hd offers hcomplete).imp_right
    fun ⟨_, _, hc⟩ => hc.toCollision H

/-! ## The wire glue: honest parts pass `Part.ValidateBasic` -/

/-- Every part a correct proposer cuts (part size within `BlockPartSizeBytes`, fewer than 2^100
parts) passes the validation the reactor applies to parts from the wire, for any 32-byte hash —
so `ValidateBasic` never stands between an honest part and `AddPart`. (`100 ≤ maxAunts` is
discharged from the regenerated constant: changing `merkle.MaxAunts` below 100 breaks this proof.) -/
theorem honest_parts_validate (hlen : ∀ x, (H x).length = hashSize)
    (data : Bytes) (psize : Nat) (hpsz : psize ≤ blockPartSizeBytes)
    (hcount : (split data psize).length ≤ 2 ^ 100)
    (i : Nat) (hi : i < (split data psize).length) :
    partValidateBasic { index := i, bytes := (split data psize)[i],
                        proof := proofOf H (split data psize) i } = .ok () := by
  have hma : 100 ≤ maxAunts := by decide
  generalize hp : split data psize = pieces at *
  have hpl : pieces[i].length ≤ psize := by
    have hm : pieces[i] ∈ pieces := List.getElem_mem hi
    have hm' : pieces[i] ∈ split data psize := by rw [hp]; exact hm
    exact splitF_piece_len psize _ _ _ hm'
  have ha := auntsF_length_le H pieces.length pieces i 100 hcount
  have hal := aunts_len_hash H hashSize hlen pieces.length pieces i
  unfold partValidateBasic proofValidateBasic proofOf
  have h1 : ¬ pieces[i].length > blockPartSizeBytes := by omega
  have h2 : ¬ ((pieces.length : Int) < 0) := by omega
  have h3 : ¬ ((i : Int) < 0) := by omega
  have h4 : (leafHash H (pieces[i]?.getD [])).length = hashSize := by simp [leafHash, hlen]
  have h5 : ¬ (auntsF H pieces.length pieces i).length > maxAunts := by omega
  have h6 : (auntsF H pieces.length pieces i).all (fun a => a.length == hashSize) = true := by
    rw [List.all_eq_true]
    intro a haa
    simpa using hal a haa
  simp [h1, h2, h3, h4, h5, h6]

/-! ## The reader, `HasHeader` -/

/-- One `PartSetReader.Read` with a non-empty buffer of `n` bytes delivers exactly the next `n` bytes
of the concatenation of the parts (fewer only when fewer remain, an empty part in the middle is
stepped over), leaves exactly the rest unread, and reports `io.EOF` iff fewer than `n` remained. -/
theorem reader_read_exact (rest : List Bytes) (cur : Bytes) (n : Nat) (hn : 0 < n) :
    (rd rest cur n).1 = (cur ++ rest.flatten).take n ∧
    (rd rest cur n).2.1 ++ (rd rest cur n).2.2.1.flatten = (cur ++ rest.flatten).drop n ∧
    ((rd rest cur n).2.2.2 = true ↔ (cur ++ rest.flatten).length < n) :=
  rd_spec rest cur n hn

/-- Every read schedule: whatever non-empty buffer sizes a caller of `GetReader` uses, the chunks it
is handed, concatenated, are the first `sizes.sum` bytes of the concatenation of the parts — no gap,
no repetition, no reordering — and the `k`-th read reports EOF exactly when the data ran out within it. -/
theorem reader_any_schedule (ps : PartSet) (sizes : List Nat) (hp : ∀ n ∈ sizes, 0 < n) :
    (((rdSeq sizes (readerOf ps).1 (readerOf ps).2).map Prod.fst).flatten
        = (assemble ps).take sizes.sum) ∧
    ∀ k, k < sizes.length →
      ((((rdSeq sizes (readerOf ps).1 (readerOf ps).2)[k]?).map Prod.snd = some true) ↔
        (assemble ps).length < (sizes.take (k+1)).sum) := by
  have hasm : (readerOf ps).1 ++ (readerOf ps).2.flatten = assemble ps := by
    unfold readerOf assemble
    cases ps.parts.map partBytes with
    | nil => simp
    | cons c r => simp
  refine ⟨?_, ?_⟩
  · rw [rdSeq_flatten sizes hp, hasm]
  · intro k hk
    rw [rdSeq_eof sizes hp _ _ k hk, hasm]

/-- `HasHeader` is header equality: part count AND root. -/
theorem hasHeader_iff (ps : PartSet) (total : Nat) (hash : Bytes) :
    hasHeader (some ps) total hash = true ↔ ps.total = total ∧ ps.hash = hash := by
  simp [hasHeader]

theorem hasHeader_nil (total : Nat) (hash : Bytes) : hasHeader none total hash = false := rfl

/-- `AddPart` never changes the header of the set (whatever is delivered). -/
theorem addAll_keeps_header (ps : PartSet) (offers : List Part) :
    (addAll H ps offers).total = ps.total ∧ (addAll H ps offers).hash = ps.hash :=
  ⟨foldl_frame _ PartSet.total offers ps fun o _ s => (addPart_header H s o).1,
    foldl_frame _ PartSet.hash offers ps fun o _ s => (addPart_header H s o).2⟩

/-- The chain consensus relies on when it keeps the part set it already holds for a committed block
id: a set that was created from its own header, `HasHeader` the committed header
`(pieces.length, root pieces)`, and was completed by `AddPart` reads back — under every read
schedule — as the committed bytes, or an offered part collides with the real tree. (With the part
count left out of `HasHeader`, `hasHeader_iff` would no longer give `ps.total = pieces.length`, and a
set with another count is kept, which can never complete.) -/
theorem kept_set_reads_committed (L : Nat) (hL : 0 < L) (hlen : ∀ x, (H x).length = L)
    (pieces : List Bytes) (hne : pieces ≠ []) (t : Nat) (r : Bytes) (offers : List Part)
    (hhas : hasHeader (some (addAll H (fromHeader t r) offers)) pieces.length (root H pieces) = true)
    (hcomplete : isComplete (addAll H (fromHeader t r) offers) = true)
    (sizes : List Nat) (hp : ∀ n ∈ sizes, 0 < n) :
    (((rdSeq sizes (readerOf (addAll H (fromHeader t r) offers)).1
        (readerOf (addAll H (fromHeader t r) offers)).2).map Prod.fst).flatten
        = pieces.flatten.take sizes.sum) ∨
      ∃ p ∈ offers, CollisionIn H (partPre H pieces.length p) (rootPre H pieces.length pieces) := by
  rw [hasHeader_iff] at hhas
  obtain ⟨ht, hr⟩ := hhas
  have hkeep := addAll_keeps_header H (fromHeader t r) offers
  simp only [fromHeader] at hkeep
  have ht' : t = pieces.length := by rw [← hkeep.1]; exact ht
  have hr' : r = root H pieces := by rw [← hkeep.2]; exact hr
  subst ht'; subst hr'
  rcases complete_reassembles_leaves_traced H L hL hlen pieces hne offers hcomplete with ⟨_, ha⟩ | hc
  · left
    rw [(reader_any_schedule _ sizes hp).1, ha]
  · right; exact hc

/-! ## The consumer: what consensus hands to the block decoder -/

/-- `State.addProposalBlockPart` behind the reactor's `ValidateBasic`, over ANY sequence of block
part messages (any heights, rounds, orders, repetitions, junk, oversized sets): once the state
expects the parts of the header `(pieces.length, root pieces)`, the only byte string it ever hands
to the block decoder is the concatenation of the committed pieces — so the block it votes on is the
one the header commits to — unless one of the offered parts collides with a node of the real tree. -/
theorem cons_block_is_committed (L : Nat) (hL : 0 < L) (hlen : ∀ x, (H x).length = L)
    (pieces : List Bytes) (hne : pieces ≠ []) (h maxBytes : Int) (msgs : List (Int × Int × Part))
    (b : Bytes)
    (hb : (consRun H (PartsState.mk h maxBytes (some (fromHeader pieces.length (root H pieces))) none)
        msgs).block = some b) :
    b = pieces.flatten ∨
      ∃ m ∈ msgs, CollisionIn H (partPre H pieces.length m.2.2) (rootPre H pieces.length pieces) := by
  by_cases hex : ∃ m ∈ msgs, CollisionIn H (partPre H pieces.length m.2.2) (rootPre H pieces.length pieces)
  · exact Or.inr hex
  -- no offered part collides, so every accepted one is the piece of its slot
  have hrun := ConsGood.run H msgs
    (PartsState.mk h maxBytes (some (fromHeader pieces.length (root H pieces))) none)
    (fun m hm ps ps' hg hadd =>
      (addPart_binds_position_traced H L hL hlen pieces hne ps ps' m.2.2 hg.1 hg.2.1 hadd).resolve_right
        fun hc => hex ⟨m, hm, hc⟩)
    ⟨fun _ hq => Option.some.inj hq ▸ Good.init H pieces, fun _ hq => by cases hq⟩
  exact Or.inl (hrun.2 b hb)

/-- A part that fails the reactor's `ValidateBasic`, or is for another height, changes nothing. -/
theorem cons_ignores_invalid (s : PartsState) (h r : Int) (p : Part)
    (hbad : h < 0 ∨ r < 0 ∨ (partValidateBasic p ≠ .ok ()) ∨ s.height ≠ h) :
    (consAddPart H s h r p).1 = s := by
  rcases consAddPart_cases H s h r p with e | ⟨h0, r0, hv, hh, _⟩
  · exact e
  · rcases hbad with h1 | h1 | h1 | h1
    · omega
    · omega
    · exact absurd hv h1
    · exact absurd hh h1

/-! ## The gate in front of the header: only a complete block id becomes a part set -/

/-- A proposal that passes `Proposal.ValidateBasic` carries a part-set header with a positive part
count and a root of hash length (so `defaultSetProposal` never builds a part set from a header
without a root). -/
theorem proposal_header_complete (p : ProposalHdr) (h : proposalValidateBasic p = .ok ()) :
    p.root.length = hashSize ∧ 0 < p.total ∧ p.blockHash.length = hashSize := by
  unfold proposalValidateBasic at h
  obtain ⟨_, h⟩ := of_ite_ne h nofun
  obtain ⟨_, h⟩ := of_ite_ne h nofun
  obtain ⟨_, h⟩ := of_ite_ne h nofun
  obtain ⟨_, h⟩ := of_ite_ne h nofun
  obtain ⟨_, h⟩ := of_ite_ne h nofun
  obtain ⟨hc, _⟩ := of_ite_ne h nofun
  simp [isCompleteID] at hc
  exact ⟨hc.2, Nat.pos_of_ne_zero hc.1.2, hc.1.1⟩

/-- A proof whose (index, total, number of aunts) describe no path is refused against EVERY root,
the empty one included (before the `fix:` commit Go's `bytes.Equal(nil, [])` made it verify against
an empty root for any item). -/
theorem shapeless_proof_never_verifies (r leaf : Bytes) (p : Proof)
    (hshape : computeRoot H p = none) : ∀ u, verify H r leaf p ≠ .ok u := by
  intro u hv
  have hc := ((verify_ok H).mp hv).2
  rw [hshape] at hc
  cases hc

/-- Hence no part set — whatever its header, a rootless one included — accepts a part carried by
such a proof. -/
theorem header_rejects_shapeless (ps : PartSet) (p : Part)
    (hshape : computeRoot H p.proof = none) : (addPart H ps p).2 ≠ .added := by
  rcases addPart_cases H ps p with ⟨_, _, _, _, hv⟩ | ⟨_, hn⟩
  · exact absurd hv (shapeless_proof_never_verifies H ps.hash p.bytes p.proof hshape ())
  · exact hn

/-- A header WITHOUT a root (which commits to no data) accepts nothing at all: a verifying proof
computes a hash, and a hash is never empty. -/
theorem rootless_header_accepts_nothing (L : Nat) (hL : 0 < L) (hlen : ∀ x, (H x).length = L)
    (ps : PartSet) (hroot : ps.hash = []) (p : Part) : (addPart H ps p).2 ≠ .added := by
  rcases addPart_cases H ps p with ⟨_, _, _, _, hv⟩ | ⟨_, hn⟩
  · exfalso
    obtain ⟨hl, hc⟩ := (verify_ok H).mp hv
    obtain ⟨_, _, hf⟩ := (computeRoot_eq_some H).mp hc
    have hlenr := fromAunts_len H L hlen (hl ▸ hlen _) hf
    rw [hroot] at hlenr
    exact absurd hlenr (by simp; omega)
  · exact hn

example : proposalValidateBasic {
    isProposalType := true, height := 3, round := 0, polRound := -1,
    blockHash := List.replicate 32 1, total := 1, root := List.replicate 32 2, sigLen := 64 } = .ok () := by
  simp [proposalValidateBasic, validateHash, isCompleteID, hashSize, maxSignatureSize]
example : proposalValidateBasic {
    isProposalType := true, height := 3, round := 0, polRound := -1,
    blockHash := List.replicate 32 1, total := 1, root := [], sigLen := 64 } = .error .incomplete := by
  simp [proposalValidateBasic, validateHash, isCompleteID, hashSize, maxSignatureSize]

/-! ## The block store keeps what the part set held -/

/-- `LoadBlock` after `SaveBlock` of the part set cut from `data`: exactly `data` reaches the decoder. -/
theorem store_load_after_save (st : BStore) (h : Int) (data : Bytes) (psize : Nat) (hp : 0 < psize) :
    bsLoadBlock (bsSave st h (fromData H data psize)) h = some data := by
  have hasm : assemble (fromData H data psize) = data := by
    have hm : (fromData H data psize).parts.map partBytes = split data psize := by
      unfold fromData
      apply List.ext_getElem?
      intro i
      by_cases hi : i < (split data psize).length
      · simp [hi, partBytes]
      · simp [hi, List.getElem?_eq_none_iff.mpr (Nat.le_of_not_lt hi)]
    unfold assemble
    rw [hm]
    exact split_join data psize hp
  simp [bsLoadBlock, bsParts, bsSave, hasm]

/-- Saving another height does not disturb it. -/
theorem store_other_heights_untouched (st : BStore) (h h' : Int) (ps : PartSet) (hne : h' ≠ h) :
    bsLoadBlock (bsSave st h ps) h' = bsLoadBlock st h' := by
  have h1 : ((h == h') = false) := by simp; exact fun e => hne e.symm
  simp only [bsLoadBlock, bsParts, bsSave, List.find?_cons, h1]
  rw [List.find?_filter]
  congr; funext e
  by_cases he : e.1 = h' <;> simp [he, hne]

/-- Each stored part read back is the part that was saved, at its own index. -/
theorem store_part_after_save (st : BStore) (h : Int) (data : Bytes) (psize : Nat) (i : Nat)
    (hi : i < (split data psize).length) :
    (bsLoadPart (bsSave st h (fromData H data psize)) h i).map (fun p => (p.index, p.bytes, p.proof)) =
      some (i, (split data psize).getD i [], proofOf H (split data psize) i) := by
  simp [bsLoadPart, bsParts, bsSave, fromData, hi]

/-! Non-vacuity of the reader theorems: a set with an empty part in the middle, read 2 bytes at a time. -/
example : rdSeq [2, 2, 2] [1] [[], [2, 3], []] = [([1, 2], false), ([3], true), ([], true)] := by decide

/-! Non-vacuity: the length hypothesis is satisfiable, and `split` cuts as `NewPartSetFromData` does. -/
example : let Hx : Bytes → Bytes := fun x => [UInt8.ofNat x.length];
    (∀ x, (Hx x).length = 1) ∧ split [1,2,3] 2 = [[1,2],[3]] := by
  simp [split, splitF]

end Tmv.Props.C10
