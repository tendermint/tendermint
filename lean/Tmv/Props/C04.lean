import Tmv.Lemmas.SignCons
import Tmv.Lemmas.SignWal
import Tmv.Lemmas.ConsReplay
/-! # C04 — no crash or restart can make a validator sign conflicting messages

Signer model: `Tmv.Sign` (`privval/file.go` FilePV + `libs/tempfile.WriteFileAtomic` as a micro-step
machine). An event list `es : List Ev` is an arbitrary interleaving of signing requests
(`Ev.req`, any content), micro-steps of the call in progress (`Ev.tick`) and crashes (`Ev.crash`,
at any micro-step, any number of them). `(run sigOf (init l) es).rel` is the journal of everything
the signer *returned* in any incarnation. The theorems about it hold for every signature function
`sigOf`, every event list and every well-formed initial state file `l` (`WF`; only
`released_signature_valid` asks for an honest one, `SigOK`, instead).

Further down the signer is put behind a node that logs its inputs before handling them
(`Tmv.SignNode`), behind the consensus model of C02 (`Tmv.Node04`), and behind the byte-level WAL
of C15 (`Tmv.Wal.Group`). -/
namespace Tmv.Props.C04
open Tmv Tmv.Sign

variable {Sig : Type}

/-- **Main clause.** Across any sequence of requests, micro-steps and crashes, two released answers
for the same height/round/step are the *same message with the same signature* (so the same block
id and the same timestamp: the earlier signature is reused), and the two requests that obtained
them differ at most in their timestamps (same block id asked for). -/
theorem released_consistent (sigOf : SB → Sig) (l : LSS Sig) (hl : WF l) (es : List Ev)
    (e1 e2 : Rel Sig) (h1 : e1 ∈ (run sigOf (init l) es).rel) (h2 : e2 ∈ (run sigOf (init l) es).rel)
    (hh : hrsOf e1.sb = hrsOf e2.sb) :
    e1.sb = e2.sb ∧ e1.sig = e2.sig ∧ e1.sb.bid = e2.sb.bid ∧ e1.req.bid = e2.req.bid ∧
      eqModTs e1.req e2.req = true := by
  have inv := inv_run sigOf (inv_init hl) es
  obtain ⟨hsb, hsig⟩ := inv.j.consistent e1 h1 e2 h2 hh
  have q1 := inv.j.req e1 h1
  have q2 := inv.j.req e2 h2
  have q12 : eqModTs e1.req e2.req = true := by
    rw [hsb] at q1
    exact eqModTs_trans (eqModTs_symm q1) q2
  exact ⟨hsb, hsig, by rw [hsb], (eqModTs_fields q12).2.2.2.2.1, q12⟩

/-- the same, keyed on the height/round/step of the *requests* -/
theorem released_consistent_by_request (sigOf : SB → Sig) (l : LSS Sig) (hl : WF l) (es : List Ev)
    (e1 e2 : Rel Sig) (h1 : e1 ∈ (run sigOf (init l) es).rel) (h2 : e2 ∈ (run sigOf (init l) es).rel)
    (hh : hrsOf e1.req = hrsOf e2.req) :
    e1.sb = e2.sb ∧ e1.sig = e2.sig ∧ e1.req.bid = e2.req.bid := by
  have inv := inv_run sigOf (inv_init hl) es
  have q1 := eqModTs_hrs (inv.j.req e1 h1)
  have q2 := eqModTs_hrs (inv.j.req e2 h2)
  obtain ⟨a, b, _, d, _⟩ := released_consistent sigOf l hl es e1 e2 h1 h2 (by rw [q1, q2, hh])
  exact ⟨a, b, d⟩

/-- **Earlier signature reused.** In journal order (newest first): a later answer for a
height/round/step already answered carries the earlier message, timestamp and signature. -/
theorem earlier_signature_reused (sigOf : SB → Sig) (l : LSS Sig) (hl : WF l) (es : List Ev)
    (newer older : List (Rel Sig)) (e1 e2 : Rel Sig)
    (hj : (run sigOf (init l) es).rel = newer ++ e2 :: older) (h1 : e1 ∈ older)
    (hh : hrsOf e2.req = hrsOf e1.req) :
    e2.sb = e1.sb ∧ e2.sig = e1.sig ∧ e2.sb.ts = e1.sb.ts := by
  have m1 : e1 ∈ (run sigOf (init l) es).rel := by
    rw [hj]; exact List.mem_append_right _ (List.mem_cons_of_mem _ h1)
  have m2 : e2 ∈ (run sigOf (init l) es).rel := by
    rw [hj]; exact List.mem_append_right _ (List.mem_cons_self ..)
  obtain ⟨a, b, _⟩ := released_consistent_by_request sigOf l hl es e2 e1 m2 m1 hh
  exact ⟨a, b, by rw [a]⟩

/-- **Invariant.** The state file dominates everything ever released: its height/round/step is at
least that of every released answer, and where equal it holds exactly that message and signature
(this is what "persist before returning the signature" buys). -/
theorem disk_dominates_released (sigOf : SB → Sig) (l : LSS Sig) (hl : WF l) (es : List Ev)
    (e : Rel Sig) (he : e ∈ (run sigOf (init l) es).rel) :
    hrsLe (hrsOf e.sb) (lssHRS (run sigOf (init l) es).disk) ∧
      (hrsOf e.sb = lssHRS (run sigOf (init l) es).disk →
        (run sigOf (init l) es).disk.sb = some e.sb ∧ (run sigOf (init l) es).disk.sig = some e.sig) := by
  have h := (inv_run sigOf (inv_init hl) es).j.disk e he
  exact ⟨h.le, h.eq⟩

theorem disk_monotone (sigOf : SB → Sig) (l : LSS Sig) (hl : WF l) (es es' : List Ev) :
    hrsLe (lssHRS (run sigOf (init l) es).disk) (lssHRS (run sigOf (init l) (es ++ es')).disk) := by
  rw [run_append]
  have inv := inv_run sigOf (inv_init hl) es
  generalize run sigOf (init l) es = c at inv
  induction es' generalizing c with
  | nil => exact hrsLe_refl _
  | cons e es' ih =>
    exact hrsLe_trans (disk_move_le (step_move sigOf c e) inv) (ih _ (inv_move (step_move sigOf c e) inv))

/-- the journal never goes back in height/round/step (newest first) -/
theorem released_never_goes_back (sigOf : SB → Sig) (l : LSS Sig) (hl : WF l) (es : List Ev) :
    (run sigOf (init l) es).rel.Pairwise (fun newer older => hrsLe (hrsOf older.sb) (hrsOf newer.sb)) :=
  (inv_run sigOf (inv_init hl) es).j.sorted.imp Under.le

/-- **Regression refused.** In any reachable state with no call in progress, a request strictly
below the persisted height/round/step is answered with an error; nothing changes, nothing is
released. -/
theorem regression_refused (sigOf : SB → Sig) (l : LSS Sig) (hl : WF l) (es : List Ev)
    (hidle : (run sigOf (init l) es).pc = .idle) (q : Req) (st : Int) (hst : reqStep q = some st)
    (hlt : hrsLt (q.h, q.r, st) (lssHRS (run sigOf (init l) es).disk)) :
    ∃ e, step sigOf (run sigOf (init l) es) (.req q) = (run sigOf (init l) es, .err e) := by
  have inv := inv_run sigOf (inv_init hl) es
  generalize run sigOf (init l) es = c at *
  obtain ⟨disk, rel, rfl⟩ := inv.idle hidle
  obtain ⟨e, he⟩ := checkHRS_regression (l := disk) hlt
  exact ⟨e, begin_err hst he⟩

/-- every released signature is the key's signature of the released message, provided the initial
state file is honest (`SigOK`) -/
theorem released_signature_valid (sigOf : SB → Sig) (l : LSS Sig) (hs : SigOK sigOf l) (es : List Ev)
    (e : Rel Sig) (he : e ∈ (run sigOf (init l) es).rel) : e.sig = sigOf e.sb :=
  (sinv_run sigOf (sinv_init sigOf hs) es).rel e he

/-- **Replay clause (signer side).** After any history (crash anywhere: before or after the rename,
between signing and the WAL write, during replay …) a request *at or below* the persisted
height/round/step — which is what WAL replay re-issues — is either refused (error/panic, nothing
changes) or answered with exactly the persisted message and signature, which equals the request
up to its timestamp (same block). It is never freshly signed. -/
theorem replay_requests_match (sigOf : SB → Sig) (l : LSS Sig) (hl : WF l) (es : List Ev)
    (hidle : (run sigOf (init l) es).pc = .idle) (q : Req) (st : Int) (hst : reqStep q = some st)
    (hle : hrsLe (q.h, q.r, st) (lssHRS (run sigOf (init l) es).disk)) :
    (∃ e, call sigOf (run sigOf (init l) es) q none = (run sigOf (init l) es, .err e)) ∨
    call sigOf (run sigOf (init l) es) q none = (run sigOf (init l) es, .panic) ∨
    (∃ sb lsb lsig, signBytes q = some sb ∧ (run sigOf (init l) es).disk.sb = some lsb ∧
      (run sigOf (init l) es).disk.sig = some lsig ∧ eqModTs lsb sb = true ∧
      call sigOf (run sigOf (init l) es) q none =
        ({ run sigOf (init l) es with rel := ⟨sb, lsb, lsig⟩ :: (run sigOf (init l) es).rel }, .ok lsb lsig)) := by
  have inv := inv_run sigOf (inv_init hl) es
  generalize run sigOf (init l) es = c at *
  obtain ⟨mem, rel, rfl⟩ := inv.idle hidle
  rcases begin_spec (Sig := Sig) ⟨mem, mem, .idle, rel⟩ q with ⟨h1, ⟨e, h2⟩ | h2⟩ |
      ⟨st', sb, hst', _, hchk, _⟩ | ⟨st', sb, lsb, lsig, _, hsb, _, hlsb, hlsig, hts, h⟩
  · exact Or.inl ⟨e, call_refused sigOf (Prod.ext h1 h2)⟩
  · exact Or.inr (Or.inl (call_refused sigOf (Prod.ext h1 h2)))
  · -- a fresh signature needs a request strictly above the state file
    rw [hst] at hst'; injection hst' with hst'; subst hst'
    have hlt := checkHRS_fresh hchk
    exact absurd (hrsLe_lt_trans hle hlt) (hrsLt_irrefl _)
  · exact Or.inr (Or.inr ⟨sb, lsb, lsig, hsb, hlsb, hlsig, hts, call_reusing sigOf h⟩)

/-- **Replay makes progress (signer side).** A request that repeats the persisted message up to
its timestamp is answered with the persisted message and signature (not refused). -/
theorem repeat_reuses (sigOf : SB → Sig) (l : LSS Sig) (hl : WF l) (es : List Ev)
    (hidle : (run sigOf (init l) es).pc = .idle) (q : Req) (st : Int) (sb lsb : SB) (lsig : Sig)
    (hst : reqStep q = some st) (hsb : signBytes q = some sb)
    (hlsb : (run sigOf (init l) es).disk.sb = some lsb) (hlsig : (run sigOf (init l) es).disk.sig = some lsig)
    (hts : eqModTs lsb sb = true) :
    call sigOf (run sigOf (init l) es) q none =
      ({ run sigOf (init l) es with rel := ⟨sb, lsb, lsig⟩ :: (run sigOf (init l) es).rel }, .ok lsb lsig) := by
  rw [(inv_run sigOf (inv_init hl) es).call_same hidle sigOf hst hsb hlsb hlsig
    ((eqModTs_hrs hts).trans (hrsOf_signBytes hst hsb)), if_pos hts]

/-- **Flush before sign (consensus side, any deterministic core).** For every consensus core that is
a function of its logged inputs (`SignNode.Core`; the timestamp of a request is the wall clock),
every input sequence and every WAL that can survive a crash (a prefix of the written records
containing the synced ones — any length of the unsynced tail): each signing request issued before
the crash is re-issued by replay, while handling the same record, identical up to its timestamp.
(Because records are written before they are handled and the WAL is flushed+fsynced before a
signing request is issued — anchored by `Expect.C04.flush_before_sign`.) -/
theorem replay_reissues_requests {S I : Type} (k : SignNode.Core S I) (ins : List (I × Int)) (w : List I)
    (hw : SignNode.Survives (SignNode.runNode k (SignNode.start k) ins) w)
    (j : Nat) (q : Req) (hq : (j, q) ∈ (SignNode.runNode k (SignNode.start k) ins).log) :
    j < w.length ∧ ∃ q0 ∈ SignNode.reqsAt k w j, q = SignNode.stamp q.ts q0 := by
  have inv := SignNode.ninv_run k (SignNode.ninv_start k) ins
  obtain ⟨h1, q0, hq0, h2⟩ := inv.log (j, q) hq
  obtain ⟨⟨r, hr⟩, hlen⟩ := hw
  have hj : j < w.length := Nat.lt_of_lt_of_le h1 hlen
  refine ⟨hj, q0, ?_, h2⟩
  rw [← hr, SignNode.reqsAt_append k w r j hj] at hq0
  exact hq0

/-- **Replay is answered, not refused — partial.** Composition of the two sides: if a request issued
before the crash got as far as the rename (the state file holds its message) then, after any
further signer history `es` that leaves it there, the request re-issued by WAL replay (new
timestamp `t'`) is answered with the very same message and signature.

Partial because the consensus side is the hypothesis built into `SignNode.Core`: the requests are a
function of the logged inputs. `consensus/state.go` is not used by this theorem (C02 models one
height of it as such a function; the composition with that model is further down), and the real
code does not have the property for proposals:
`createProposalBlock` reads the mempool, which is not in the WAL, so a replayed proposal can be for
another block — the signer then refuses it (`replay_requests_match`), which costs the round, never
safety. `released_consistent` and `replay_requests_match` do not depend on this hypothesis. -/
theorem replay_not_refused_partial {S I : Type} (k : SignNode.Core S I) (ins : List (I × Int)) (w : List I)
    (hw : SignNode.Survives (SignNode.runNode k (SignNode.start k) ins) w)
    (j : Nat) (q : Req) (hq : (j, q) ∈ (SignNode.runNode k (SignNode.start k) ins).log)
    (sigOf : SB → Sig) (l : LSS Sig) (hl : WF l) (es : List Ev)
    (hidle : (run sigOf (init l) es).pc = .idle)
    (st : Int) (lsb : SB) (lsig : Sig) (hst : reqStep q = some st) (hpre : signBytes q = some lsb)
    (hdisk : (run sigOf (init l) es).disk.sb = some lsb)
    (hdsig : (run sigOf (init l) es).disk.sig = some lsig) (t' : Int) :
    ∃ q0 ∈ SignNode.reqsAt k w j, ∃ sb, signBytes (SignNode.stamp t' q0) = some sb ∧
      call sigOf (run sigOf (init l) es) (SignNode.stamp t' q0) none =
        ({ run sigOf (init l) es with rel := ⟨sb, lsb, lsig⟩ :: (run sigOf (init l) es).rel }, .ok lsb lsig) := by
  obtain ⟨_, q0, hq0, h2⟩ := replay_reissues_requests k ins w hw j q hq
  have hst' : SignNode.stamp t' q0 = SignNode.stamp t' q := by rw [h2]; rfl
  obtain ⟨sb, hsb, hts⟩ := SignNode.signBytes_stamp_eqModTs (t := t') hpre
  refine ⟨q0, hq0, sb, by rw [hst']; exact hsb, ?_⟩
  rw [hst']
  exact repeat_reuses sigOf l hl es hidle (SignNode.stamp t' q) st sb lsb lsig
    (by rw [SignNode.reqStep_stamp]; exact hst) hsb hdisk hdsig hts

/-! ### restarts go through a loader -/

/-- **A restart with an existing state file resumes from it.** For the loader every node start uses
(`LoadOrGenFilePV`, `node/node.go DefaultNewNode`) and for `LoadFilePV`: when key file and state
file exist, the restart is exactly `Ev.crash` — memory := state file — so every theorem above about
event lists covers it. -/
theorem restart_with_state_file_resumes (sigOf : SB → Sig) (c : Cfg Sig) :
    restartWith sigOf nodeLoader true true c = some (step sigOf c .crash).1 ∧
    restartWith sigOf .loadOrGen true true c = some (step sigOf c .crash).1 ∧
    restartWith sigOf .load true true c = some (step sigOf c .crash).1 :=
  ⟨rfl, rfl, rfl⟩

/-- the whole decision table: a loader that comes up with an existing state file WITHOUT resuming
from it is `LoadFilePVEmptyState` (or a freshly generated key) and nothing else; a missing state
file with an existing key never yields an empty sign state silently — the process exits -/
theorem loader_table :
    (∀ ld st, loaderDecision ld true st = .empty ↔ ld = .emptyState) ∧
    (∀ ld, loaderDecision ld true true = .resume ↔ (ld = .loadOrGen ∨ ld = .load)) ∧
    loaderDecision .loadOrGen true false = .exit ∧ loaderDecision .load true false = .exit ∧
    (∀ st, loaderDecision .loadOrGen false st = .generate) := by
  refine ⟨?_, ?_, rfl, rfl, fun st => rfl⟩
  · intro ld st; cases ld <;> cases st <;> decide
  · intro ld; cases ld <;> decide

/-- a history whose restarts all go through the node's loader with both files present is an event
list of the signer machine: `released_consistent` applies to it -/
theorem node_restarts_are_crash_events (sigOf : SB → Sig) (c c' : Cfg Sig)
    (h : restartWith sigOf nodeLoader true true c = some c') : c' = run sigOf c [.crash] := by
  cases h; rfl

/-! ### composition with the consensus model (C02's `Tmv.Cons`) and the WAL (C15) -/

/-- **The property, composed.** `Node04` = the consensus state machine of one height (`Cons.step`,
any configuration: validators, powers, proposer schedule, block validity, what
`createProposalBlock` yields), the real signer machine and the WAL at record level. For EVERY
event list — inputs of any kind, and crashes
* between two inputs (`crash`),
* while an input is handled: after `j` complete signer calls and `k` micro-steps into the next
  (`crashInInput`; k = 1..4 before the sign-state rename, 5 after it and before the signature is
  returned = before the own message reaches the WAL),
* while a surviving record is replayed (`crashInReplay`), any number of crashes in a row,
each followed by a restart over ANY list `w` of surviving WAL records — no assumption about the log
at all, so in particular for what the real WAL returns after recovery (C15
`durable_returned_history`: every fsynced record, a sublist of what was written, in order; see
`replay_reissues_requests_real_wal` for the clause that does need it) —
two signatures the key released for one height/round/step are over the same message: same block, and
the later one is the earlier one reused (same timestamp and signature). Nothing is assumed about
the consensus model, the WAL or the replay: the signer alone enforces it. -/
theorem no_conflicting_signatures_across_crashes (e : Node04.Env) (c : Cons.Cfg) (sigOf : SB → Sig)
    (l : LSS Sig) (hl : WF l) (evs : List Node04.Ev)
    (e1 e2 : Rel Sig) (h1 : e1 ∈ (Node04.run e c sigOf (Node04.start l) evs).sg.rel)
    (h2 : e2 ∈ (Node04.run e c sigOf (Node04.start l) evs).sg.rel) (hh : hrsOf e1.sb = hrsOf e2.sb) :
    e1.sb = e2.sb ∧ e1.sig = e2.sig ∧ e1.sb.bid = e2.sb.bid ∧ e1.req.bid = e2.req.bid ∧
      eqModTs e1.req e2.req = true := by
  obtain ⟨es, hes⟩ := Node04.run_sg_reach e c sigOf (Node04.start l) evs
  rw [hes] at h1 h2
  exact released_consistent sigOf l hl es e1 e2 h1 h2 hh

/-- the state file dominates everything released, in the composed system too (so what replay asks
again at or below it is refused or answered from the file: `replay_requests_match`) -/
theorem composed_disk_dominates (e : Node04.Env) (c : Cons.Cfg) (sigOf : SB → Sig)
    (l : LSS Sig) (hl : WF l) (evs : List Node04.Ev) (r : Rel Sig)
    (hr : r ∈ (Node04.run e c sigOf (Node04.start l) evs).sg.rel) :
    hrsLe (hrsOf r.sb) (lssHRS (Node04.run e c sigOf (Node04.start l) evs).sg.disk) := by
  obtain ⟨es, hes⟩ := Node04.run_sg_reach e c sigOf (Node04.start l) evs
  rw [hes] at hr ⊢
  exact (disk_dominates_released sigOf l hl es r hr).1

/-- **The signer inside the consensus model is the FilePV.** `Tmv.Cons.sign` (C02's mirror of
CheckHRS at the level (round, step, payload), on which `Props.C02.one_per_step` rests) and one
complete call of the real signer machine agree: on an idle signer whose state file is of a lower
height or holds a request of this height (`Node04.Good`) and whose abstraction is the model's
`lss`, the abstract signer releases a signature iff the real call returns one, the new states
correspond again, and an abstract refusal is an error answer that changes nothing. -/
theorem abstract_signer_is_filepv {e : Node04.Env} (he : Node04.EnvOK e) {c : Cons.Cfg}
    (hc : c.checkHRS = true) (sigOf : SB → Sig) (disk : LSS Sig) (rel : List (Rel Sig))
    (hg : Node04.Good e disk) (s : Cons.NodeState) (hs : s.lss = e.absLss disk)
    (o : Cons.Output) (round code : Nat) (p : Cons.Payload) (hk : Cons.sigKey o = some (round, code, p))
    (t : Int) (q : Req) (hq : e.reqOf t o = some q) :
    (∀ s', Cons.sign c s round code p = some s' →
      ∃ disk' rel' sb sig, call sigOf ⟨disk, disk, .idle, rel⟩ q none = (⟨disk', disk', .idle, rel'⟩, .ok sb sig) ∧
        s'.lss = e.absLss disk' ∧ Node04.Good e disk' ∧ rel'.length = rel.length + 1) ∧
    (Cons.sign c s round code p = none →
      ∃ er, call sigOf ⟨disk, disk, .idle, rel⟩ q none = (⟨disk, disk, .idle, rel⟩, .err er)) :=
  Node04.sign_refines he hc sigOf disk rel hg s hs o round code p hk t q hq

/-- **The composed system is a refinement, input by input.** The call-by-call agreement chained
through all of `Cons.step` (which may sign several times and handle the node's own messages): on
an idle `Good` real signer, after the consensus model handled ANY input with its abstract signer
set to the abstraction of the state file, every request it released is answered by the real
signer with a signature (the journal grows by exactly their number — nothing the model released is
refused, nothing else is signed), the real signer is idle and `Good` again and its abstraction is
the model's final `lss`. Hence the re-abstraction `Node04.consStep` performs before each input is
the identity, and `Props.C02.one_per_step` (about `Cons.run`'s outputs) and `released_consistent`
(about the key's journal) speak about the same signatures. Hypothesis: the node did not panic
while handling the input (a panic is the death of the process, i.e. a crash event). -/
theorem composed_step_refines {e : Node04.Env} (he : Node04.EnvOK e) {c : Cons.Cfg} (hc : c.checkHRS = true)
    (sigOf : SB → Sig) (disk : LSS Sig) (rel : List (Rel Sig)) (hg : Node04.Good e disk)
    (ns : Cons.NodeState) (i : Cons.Input) (t : Int)
    (hh : (Node04.consStep e c ns ⟨disk, disk, .idle, rel⟩ i t).1.halted = false) :
    ∃ disk' rel', Node04.signAll sigOf ⟨disk, disk, .idle, rel⟩ (Node04.consStep e c ns ⟨disk, disk, .idle, rel⟩ i t).2 =
        ⟨disk', disk', .idle, rel'⟩ ∧ Node04.Good e disk' ∧
      (Node04.consStep e c ns ⟨disk, disk, .idle, rel⟩ i t).1.lss = e.absLss disk' ∧
      rel'.length = rel.length + (Node04.consStep e c ns ⟨disk, disk, .idle, rel⟩ i t).2.length := by
  let ns0 : Cons.NodeState := { ns with lss := e.absLss disk }
  have h0 : ns0.halted = true ∨ Node04.StepRel e t sigOf ⟨disk, disk, .idle, rel⟩ ns0.out ns0.out ns0.lss :=
    Or.inr ⟨disk, rel, List.prefix_refl _, by simp [Node04.signAll], hg, rfl, by simp⟩
  have h1 := Cons.step_chain (Node04.stepRel_closed he hc t sigOf ⟨disk, disk, .idle, rel⟩ ns0.out) i h0
  rcases h1 with h1 | ⟨disk', rel', _, hsa, hg', hl', hlen⟩
  · have : (Node04.consStep e c ns ⟨disk, disk, .idle, rel⟩ i t).1.halted = true := h1
    rw [hh] at this; cases this
  · exact ⟨disk', rel', hsa, hg', hl', hlen⟩

/-- **A re-proposal that differs is refused.** `createProposalBlock` reads the mempool, which is not
in the WAL, so after a crash the proposer may build another block (`c.ownBlock` differs) or see
another valid round. If the proposal of round `r` reached the state file (`hdisk`), then after any
further signer history a proposal request for the same height and round is answered with the
persisted message and signature when block and POL round are the same, and refused with
"conflicting data" otherwise — never a second signature. -/
theorem replayed_proposal_refused_or_same {e : Node04.Env} (he : Node04.EnvOK e) (sigOf : SB → Sig)
    (l : LSS Sig) (hl : WF l) (es : List Ev) (hidle : (run sigOf (init l) es).pc = .idle)
    (r b : Nat) (pol : Int) (t0 : Int) (lsb : SB) (g : Sig)
    (hlsb : e.sbOf t0 (.signProposal r b pol) = some lsb)
    (hdisk : (run sigOf (init l) es).disk.sb = some lsb) (hdsig : (run sigOf (init l) es).disk.sig = some g)
    (b' : Nat) (pol' : Int) (t : Int) (q : Req) (hq : e.reqOf t (.signProposal r b' pol') = some q) :
    (b' = b ∧ pol' = pol ∧ ∃ sb, call sigOf (run sigOf (init l) es) q none =
        ({ run sigOf (init l) es with rel := ⟨sb, lsb, g⟩ :: (run sigOf (init l) es).rel }, .ok lsb g)) ∨
    ((b' ≠ b ∨ pol' ≠ pol) ∧
      call sigOf (run sigOf (init l) es) q none = (run sigOf (init l) es, .err .conflict)) := by
  have hk : Cons.sigKey (.signProposal r b pol) = some (r, 1, .prop b pol) := rfl
  have hk' : Cons.sigKey (.signProposal r b' pol') = some (r, 1, .prop b' pol') := rfl
  obtain ⟨hst, hqh, hqr⟩ := Node04.reqStep_reqOf hq hk'
  have hsbq : signBytes q = e.sbOf t (.signProposal r b' pol') := Node04.signBytes_reqOf he hq
  obtain ⟨_, hh, hr, hstp⟩ := Node04.payloadOf_sbOf he hlsb hk
  have hcall := (inv_run sigOf (inv_init hl) es).call_same hidle sigOf hst hsbq hdisk hdsig
    (by simp [hrsOf, hh, hr, hstp, hqh, hqr])
  have hiff := Node04.sbOf_eqModTs he hlsb (rfl : e.sbOf t (.signProposal r b' pol') = some _) hk hk'
  by_cases hp : Cons.Payload.prop b pol = Cons.Payload.prop b' pol'
  · have hts := hiff.2 hp
    injection hp with h1 h2
    exact Or.inl ⟨h1.symm, h2.symm, _, by rw [hcall, if_pos hts]⟩
  · have hts : ¬ _ := fun h => hp (hiff.1 h)
    refine Or.inr ⟨?_, by rw [hcall, if_neg hts]⟩
    by_cases hb : b' = b
    · right; intro hpo; exact hp (by rw [hb, hpo])
    · exact Or.inl hb

/-- **What is asked again (determinism of the consensus model over the replayed inputs).** With the
consensus model as the core (`Node04.consCore`: round state from `NodeState.init`, abstract signer
starting at any `lss0`), every signing request the node issued before a crash is re-issued by
replaying any surviving WAL, while handling the same record, identical up to its timestamp. -/
theorem replay_reissues_cons_requests (e : Node04.Env) (c : Cons.Cfg) (lss0 : Option (Nat × Nat × Cons.Payload))
    (ins : List (Cons.Input × Int)) (w : List Cons.Input)
    (hw : SignNode.Survives (SignNode.runNode (Node04.consCore e c lss0) (SignNode.start (Node04.consCore e c lss0)) ins) w)
    (j : Nat) (q : Req)
    (hq : (j, q) ∈ (SignNode.runNode (Node04.consCore e c lss0) (SignNode.start (Node04.consCore e c lss0)) ins).log) :
    j < w.length ∧ ∃ q0 ∈ SignNode.reqsAt (Node04.consCore e c lss0) w j, q = SignNode.stamp q.ts q0 :=
  replay_reissues_requests _ ins w hw j q hq

/-- **Replay restores the round state (C15's round-state clause, model level).** For the consensus
model with a fixed signer start: replaying the records that survived a crash (any prefix of the
written inputs containing the synced ones: a hypothesis, `SignNode.Survives`, which no theorem derives
from C15's byte-level log; see `SignNode.survives_of_durable`) from the initial round state yields exactly the state — height
round, step, lock, valid block, proposal, vote sets, last sign state, everything in
`Cons.NodeState` — the node had when it had handled exactly those records, i.e.
`Cons.run c init survivors`.

What this does NOT say (and the node rig checks on the real code instead): in the real WAL the
node's own proposal/votes are records too and are replayed from the WAL while the signer, whose
file is AHEAD of the replayed prefix, refuses the older requests (`replay_requests_match`); here
own messages are re-derived inside `Cons.step` by an abstract signer that starts from the same
`lss0` as before the crash. That the round state does not depend on which of the two supplies the
own message is `replay_with_own_records_equiv` below. -/
theorem replay_restores (e : Node04.Env) (c : Cons.Cfg) (lss0 : Option (Nat × Nat × Cons.Payload))
    (ins : List (Cons.Input × Int)) (w : List Cons.Input)
    (hw : SignNode.Survives (SignNode.runNode (Node04.consCore e c lss0) (SignNode.start (Node04.consCore e c lss0)) ins) w) :
    Cons.run c { Cons.NodeState.init with lss := lss0 } w =
      (SignNode.runNode (Node04.consCore e c lss0) (SignNode.start (Node04.consCore e c lss0)) (ins.take w.length)).s := by
  rw [← SignNode.runCore_survivors _ ins w hw]
  exact (Cons.runCore_consCore e lss0 _ w).symm

/-- **Replay with the node's own messages as WAL records.** In the real WAL the node's own proposal,
block part and votes are records (`msgInfo` with an empty peer id); `catchupReplay` feeds every
record through `handleMsg`/`handleTimeout` (`Node04.replayRecs`: own messages come from the record,
the internal queue is not touched) while the signer — already ahead of the replayed prefix —
refuses the signing attempts made on the way or reuses its stored signature, and the errors are
ignored (`replayMode`). `Node04.runLog c s is` is the record list the receive routine writes when
the node (state `s`) handles the external inputs `is`: each input followed by the own messages
`Cons.drain` takes off the queue. Then for ANY replaying state `s'` with the same round state as
`s` — any last-sign state (so: whatever the signer answers), any outputs, any queue — replaying
that record list yields exactly the round state of `Cons.run c s is`: height-local round, step,
locked round/block, valid round/block, proposal, proposal block and parts, commit round, vote sets,
proposer rotation, decision (`Cons.er` erases only `lss`, `out`, `queue`). The round state does not
depend on which of the two — the queue of the running node or the WAL record — supplies the own
message. With `replay_restores` (external inputs) this is C15's round-state clause for the real
record format. -/
theorem replay_with_own_records_equiv (c : Cons.Cfg) (s s' : Cons.NodeState) (hs : Cons.er s = Cons.er s')
    (is : List Cons.Input) :
    Cons.er (Cons.run c s is) = Cons.er (Node04.replayRecs c s' (Node04.runLog c s is)) :=
  Cons.run_replay is hs

/-- the same, field by field, for a replay that starts from the initial round state with an
arbitrary signer state `L` (the state file after the crash) -/
theorem replay_with_own_records_fields (c : Cons.Cfg) (lss0 L : Option (Nat × Nat × Cons.Payload))
    (is : List Cons.Input) :
    let orig := Cons.run c { Cons.NodeState.init with lss := lss0 } is
    let rep := Node04.replayRecs c { Cons.NodeState.init with lss := L }
      (Node04.runLog c { Cons.NodeState.init with lss := lss0 } is)
    orig.round = rep.round ∧ orig.step = rep.step ∧ orig.lockedRound = rep.lockedRound ∧
      orig.lockedBlock = rep.lockedBlock ∧ orig.validRound = rep.validRound ∧ orig.validBlock = rep.validBlock ∧
      orig.proposal = rep.proposal ∧ orig.proposalBlock = rep.proposalBlock ∧ orig.votes = rep.votes ∧
      orig.commitRound = rep.commitRound ∧ orig.decided = rep.decided := by
  intro orig rep
  have h : Cons.er orig = Cons.er rep := Cons.run_replay is rfl
  exact ⟨Cons.er_round h, Cons.er_step h, Cons.er_lockedRound h, Cons.er_lockedBlock h, Cons.er_validRound h,
    Cons.er_validBlock h, Cons.er_proposal h, Cons.er_proposalBlock h, Cons.er_votes h, Cons.er_commitRound h,
    Cons.er_decided h⟩

/-- replaying ANY surviving record list (a crash may cut the log inside a step): the round state
reached does not depend on the signer state, outputs or queue of the replaying node -/
theorem replay_signer_independent (c : Cons.Cfg) (w : List Node04.Rec) (s s' : Cons.NodeState)
    (hs : Cons.er s = Cons.er s') :
    Cons.er (Node04.replayRecs c s w) = Cons.er (Node04.replayRecs c s' w) :=
  Cons.replayRecs_cong w hs

/-- **Flush before sign, with the REAL WAL (C15's byte-level model, no list hypothesis).** The log is
`Tmv.Wal.Group` (40 KB buffered head file, `FlushAndSync`, rotation, the two decoders, crash cuts,
reopen, repair, the catch-up loop). The node's first incarnation starts on an empty log `g0`,
handles the inputs `pre` (`walOps`: each written before handled, flushed+fsynced before a signing
request), writes input `i` (reaching `gb`) and — because handling `i` issues signing requests —
flushes and fsyncs (`Wal.flushAndSync gb`). Then ANYTHING C15's history theorem covers may happen (`ops2`: further
writes, rotations, any number of crashes with any cut of the unsynced tail, also inside an unfinished
fsync, reopen, repair, recovery; no pruning of these files). Whatever a reader then returns (`R`,
`Tmv.Wal.readAll`), decoded, replay over it re-issues at record `pre.length` exactly the requests
the node issued when it handled `i` before the crash — or a checksum collision is exhibited
(`Props.C15.durable_returned_history`). Hypotheses: the record encoding is decodable and within the
WAL's size limit (`ValidRec`), the writes of `walOps` succeeded (`Steps`). -/
theorem replay_reissues_requests_real_wal {S I : Type} (k : SignNode.Core S I)
    (P : Wal.Params) (G : Wal.Good P) (Sz dhl dtl kk : Nat)
    (enc : I → Bytes) (dec : Bytes → Option I) (hdec : ∀ a, dec (enc a) = some a)
    (g0 ga gb g' : Wal.Group) (hi : Wal.HInv P g0 []) (hempty : Wal.wlog P g0 = [])
    (pre : List (I × Int)) (i : I) (ops2 : List Wal.HOp)
    (st1 : Wal.Steps P Sz dhl dtl kk g0 (SignNode.walOps enc k k.init pre) ga)
    (hv : Wal.ValidRec P (enc i)) (hw : Wal.write P Sz ga (enc i) = some gb)
    (st2 : Wal.Steps P Sz dhl dtl kk (Wal.flushAndSync gb) ops2 g') (hnp : ops2.any Wal.HOp.isPrune = false) :
    (∃ R e, (Wal.readAll P g').1 = (R, e) ∧
        SignNode.reqsAt k (R.filterMap dec) pre.length =
          (k.step (SignNode.runCore k k.init (pre.map (·.1))) i).2) ∨ Wal.Collision P := by
  have stA : Wal.Steps P Sz dhl dtl kk g0 (SignNode.walOps enc k k.init pre ++ [Wal.HOp.write (enc i)]) gb :=
    Wal.Steps.append st1 (Wal.Steps.cons (Wal.Step.write hv hw) Wal.Steps.nil)
  have hd0 : Wal.dlog P g0 = [] := by
    rw [Wal.wlog_eq P G g0 [] hi, List.append_nil] at hempty
    rw [Wal.dlog_eq P G g0 [] hi, hempty]; rfl
  obtain ⟨⟨hsa, hia⟩, hwa, _⟩ := SignNode.walOps_node P G Sz dhl dtl kk enc k pre (SignNode.start k) g0 ga []
    (SignNode.ninv_start k) hi hempty hd0 st1
  have hlog : Wal.wlog P gb = (pre.map (·.1) ++ [i]).map enc := by
    rw [(Wal.write_step P G Sz ga gb hsa (enc i) hia hv hw).2.2, hwa, SignNode.runNode_wal]
    simp [SignNode.start]
  rcases SignNode.synced_log_is_prefix_of_reader P G Sz dhl dtl kk _ ops2 g0 gb g' [] hi stA st2 hnp with
    ⟨R, e, h1, _, ⟨rest, hR⟩, _⟩ | hc
  · left
    refine ⟨R, e, h1, ?_⟩
    have hRd : R.filterMap dec = pre.map (·.1) ++ [i] ++ rest.filterMap dec := by
      rw [← hR, hlog, List.filterMap_append, SignNode.filterMap_map_of_left_inv enc dec hdec]
    rw [hRd]
    have := SignNode.reqsAt_mid k (pre.map (·.1)) (rest.filterMap dec) i
    simpa using this
  · exact Or.inr hc

/-! ### the driver's `call` (one op line) is a run of the machine, so every op-line history the
correspondence stream exercises is covered by the theorems above -/

theorem call_is_run (sigOf : SB → Sig) (c : Cfg Sig) (q : Req) (k : Option Nat) :
    ∃ es, (call sigOf c q k).1 = run sigOf c es :=
  call_reach sigOf c q k

/-- a call during which the state file cannot be written is a run too (the panic of `Save` is a
crash at `Stage.memSet`) -/
theorem callFail_is_run (sigOf : SB → Sig) (c : Cfg Sig) (q : Req) :
    ∃ es, (callFail sigOf c q).1 = run sigOf c es := by
  unfold callFail
  simp only
  split
  · exact hold_crash_reach sigOf 2 c q
  · exact (Reach.step c (.req q)).trans (ticks_reach sigOf 8 _ _)

/-! ### non-vacuity: the hypotheses are satisfiable and the journal really contains several
answers for one height/round/step in a history with crashes -/
section NonVacuity

def exBid : BlockID := { hash := List.replicate 32 0xaa, total := 1, phash := List.replicate 32 0xcc }
def exReq (ts : Int) : Req :=
  { kind := .vote, typ := 1, h := 1, r := 0, pol := 0, bid := exBid, ts := ts, chain := "c" }
def exNil (ts : Int) : Req := { exReq ts with bid := { hash := [], total := 0, phash := [] } }

/-- prevote for A released; crash; re-request at another time (reused, old timestamp); other block
(refused); precommit dies after the rename, before returning; replay re-requests it (reused) -/
def exEvents : List Ev :=
  [.req (exReq 5), .tick, .tick, .tick, .tick, .tick, .crash,
   .req (exReq 7), .tick,
   .req (exNil 7),
   .req { exReq 9 with typ := 2 }, .tick, .tick, .tick, .tick, .crash,
   .req { exReq 11 with typ := 2 }, .tick]

def exFinal : Cfg SB := run id (init genesis) exEvents

example : WF (genesis : LSS SB) := by intro s h; cases h
example : SigOK id (genesis : LSS SB) := by intro s g h; cases h

def exSB (typ ts : Int) : SB := { typ := typ, h := 1, r := 0, pol := 0, bid := some exBid, ts := ts, chain := "c" }

/-- the run of `exEvents`, evaluated once for the examples below -/
theorem exFinal_eq : exFinal =
    ⟨⟨1, 0, 3, some (exSB 2 9), some (exSB 2 9)⟩, ⟨1, 0, 3, some (exSB 2 9), some (exSB 2 9)⟩, .idle,
      [⟨exSB 2 11, exSB 2 9, exSB 2 9⟩, ⟨exSB 1 7, exSB 1 5, exSB 1 5⟩, ⟨exSB 1 5, exSB 1 5, exSB 1 5⟩]⟩ := by rfl

/-- three answers, two of them for (1,0,prevote): same message time 5 for requests at 5 and 7 -/
example : exFinal.rel.map (fun e => (hrsOf e.sb, e.sb.ts, e.req.ts)) =
    [((1, 0, 3), 9, 11), ((1, 0, 2), 5, 7), ((1, 0, 2), 5, 5)] := by rw [exFinal_eq]; decide
example : exFinal.pc = .idle ∧ lssHRS exFinal.disk = (1, 0, 3) := by rw [exFinal_eq]; exact ⟨rfl, by decide⟩
/-- hypotheses of `regression_refused` at `exFinal` -/
example : reqStep (exReq 3) = some 2 ∧ hrsLt ((exReq 3).h, (exReq 3).r, 2) (lssHRS exFinal.disk) := by
  rw [exFinal_eq]; decide
/-- hypotheses of `repeat_reuses` at `exFinal` -/
example : ∃ sb lsb, reqStep { exReq 13 with typ := 2 } = some 3 ∧ signBytes { exReq 13 with typ := 2 } = some sb ∧
    exFinal.disk.sb = some lsb ∧ exFinal.disk.sig = some lsb ∧ eqModTs lsb sb = true := by
  rw [exFinal_eq]; exact ⟨_, _, by decide, rfl, rfl, rfl, by decide⟩
/-- a consensus core for `replay_reissues_requests` / `replay_not_refused_partial`: input `true`
makes the node prevote for `exBid` (a signing request), input `false` is a peer message without
one. Three inputs; the prevote issued while handling record 1 is logged, record 1 is synced, the
unsynced record 2 may be lost. -/
def exCore : SignNode.Core Nat Bool :=
  { init := 0, step := fun s i => (s + 1, if i then [exReq 0] else []), internal := fun _ => false }
def exNode : SignNode.Node Nat Bool :=
  SignNode.runNode exCore (SignNode.start exCore) [(false, 10), (true, 11), (false, 12)]
example : exNode.log = [(1, exReq 11)] ∧ exNode.synced = 2 ∧ exNode.wal.length = 3 := by decide
example : SignNode.Survives exNode [false, true] := ⟨⟨[false], rfl⟩, by decide⟩
example : SignNode.Survives exNode [false, true, false] := ⟨⟨[], rfl⟩, by decide⟩
example : ¬ SignNode.Survives exNode [false] := fun h => absurd h.2 (by decide)

/-- environment and configuration for the composed theorems: height 1, a single validator that
proposes block 7 -/
def exEnv : Node04.Env :=
  { H := 1, chain := "c", blk := fun b => ⟨List.replicate 32 1, (b : Int) + 1, List.replicate 32 0xcc⟩,
    unblk := fun bid => (bid.total - 1).toNat }
def exCfg : Cons.Cfg :=
  { n := 1, power := fun _ => 1, self := some 0, proposer := fun _ => 0, valid := fun _ => true, ownBlock := 7,
    waitForTxs := false, needProofBlock := false, emptyInterval := false, checkHRS := true }
example : Node04.EnvOK exEnv :=
  ⟨fun b => by simp [exEnv, bidValid, validHash, hashSize],
   fun b => by simp [exEnv, bidIsZero],
   fun b => by simp [exEnv]⟩
example : Node04.Good exEnv (genesis : LSS SB) := Or.inl (by decide)
/-- `replay_with_own_records_equiv` is not vacuous: handling the first timeout the single validator
writes the timeout and four own records (proposal, part, prevote, precommit) -/
example : (Node04.runLog exCfg .init [.timeout 0 .newHeight]).length = 5 := by decide
/-- hypothesis of `composed_step_refines`: handling the first timeout does not panic; the single
validator releases proposal, prevote and precommit while handling it -/
example : (Node04.consStep exEnv exCfg .init (init (genesis : LSS SB)) (.timeout 0 .newHeight) 10).1.halted = false ∧
    (Node04.consStep exEnv exCfg .init (init (genesis : LSS SB)) (.timeout 0 .newHeight) 10).2.length = 3 := by decide
/-- the node dies after the rename of its proposal's sign state (time 10); replay at time 20 gets
the persisted proposal signature back (message time 10) and goes on to prevote and precommit;
after another crash the replayed proposal request is below the state file and refused: the
journal does not grow -/
def exComposed : Node04.St SB :=
  Node04.run exEnv exCfg id (Node04.start genesis)
    [.crashInInput (.timeout 0 .newHeight) 10 0 5 [.timeout 0 .newHeight], .replayNext 20,
     .crash [.timeout 0 .newHeight], .replayNext 30]
example : exComposed.sg.rel.map (fun r => (hrsOf r.sb, r.sb.ts, r.req.ts)) =
    [((1, 0, 3), 20, 20), ((1, 0, 2), 20, 20), ((1, 0, 1), 10, 20)] := by decide

end NonVacuity

/-! ### the file-system hypothesis is necessary
`Ev.crash` keeps the state file as the last completed `rename` left it. `WriteFileAtomic` opens the
temp file `O_SYNC` but never fsyncs the directory, so after a *power loss* (not a process crash) the
directory entry may still point to the previous file. If a crash can undo the last rename, the
main clause is false — so "rename is durable once it returned" is a genuine hypothesis of
`released_consistent`, not a convenience. -/

/-- a crash after which the state file is `prev` again (the last rename did not survive) -/
def crashLosingRename {Sig : Type} (prev : LSS Sig) (c : Cfg Sig) : Cfg Sig :=
  { c with disk := prev, mem := prev, pc := .idle }

def exSBA : SB := { typ := 1, h := 1, r := 0, pol := 0, bid := some exBid, ts := 5, chain := "c" }
def exSBN : SB := { typ := 1, h := 1, r := 0, pol := 0, bid := none, ts := 6, chain := "c" }
/-- a prevote for block A is released; the rename is lost; a prevote for nil at the same
height/round is then freshly signed and released -/
def exLostRename : Cfg SB :=
  run id (crashLosingRename genesis
      (run id (init genesis) [.req (exReq 5), .tick, .tick, .tick, .tick, .tick]))
    [.req (exNil 6), .tick, .tick, .tick, .tick, .tick]

theorem rename_durability_needed :
    ∃ e1 ∈ exLostRename.rel, ∃ e2 ∈ exLostRename.rel,
      hrsOf e1.sb = hrsOf e2.sb ∧ e1.sb.bid ≠ e2.sb.bid := by
  have h : exLostRename.rel = [⟨exSBN, exSBN, exSBN⟩, ⟨exSBA, exSBA, exSBA⟩] := rfl
  refine ⟨⟨exSBA, exSBA, exSBA⟩, ?_, ⟨exSBN, exSBN, exSBN⟩, ?_, by decide, by decide⟩
  · rw [h]; exact List.mem_cons_of_mem _ (List.mem_cons_self ..)
  · rw [h]; exact List.mem_cons_self ..

/-- **Why only the reset commands may use `LoadFilePVEmptyState`.** A restart that comes up with an
empty sign state although the state file holds a signature lets the key sign another block for a
height/round/step it already signed: the main clause fails (witness: prevote for block A released,
restart with empty state, prevote for nil at the same height/round released). -/
theorem empty_state_restart_breaks_consistency :
    ∃ c1 c2 : Cfg SB, c1 = run id (init genesis) [.req (exReq 5), .tick, .tick, .tick, .tick, .tick] ∧
      restartWith id .emptyState true true c1 = some c2 ∧
      ∃ e1 ∈ (run id c2 [.req (exNil 6), .tick, .tick, .tick, .tick, .tick]).rel,
      ∃ e2 ∈ (run id c2 [.req (exNil 6), .tick, .tick, .tick, .tick, .tick]).rel,
        hrsOf e1.sb = hrsOf e2.sb ∧ e1.sb.bid ≠ e2.sb.bid := by
  refine ⟨_, _, rfl, rfl, ⟨exSBA, exSBA, exSBA⟩, ?_, ⟨exSBN, exSBN, exSBN⟩, ?_, by decide, by decide⟩
  · exact List.mem_cons_of_mem _ (List.mem_cons_self ..)
  · exact List.mem_cons_self ..

end Tmv.Props.C04
