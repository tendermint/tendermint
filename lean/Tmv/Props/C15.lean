import Tmv.Lemmas.WalReader
/-! # C15 — The consensus write-ahead log returns what was durably written, in order

The model (`Tmv.Wal`, files `Model/Wal.lean`, `Model/Group.lean`) is the
repaired code (three `fix:` commits, see known-findings.json). Parameters: `P.crc` an arbitrary
function returning 4 bytes, `P.parse` an arbitrary message decoder that rejects the empty payload,
`P.maxLen < 2^32` (`Good P`). Nothing is assumed about the checksum's strength: where the code
relies on it (the repair zero-fills a torn record) the theorems conclude "claim ∨ an explicit
collision". The round-state clause of the property (replay restores height/round/step/lock/votes)
belongs to the consensus model and is not stated here (partial). -/
namespace Tmv.Props.C15
open Tmv Tmv.Wal

/-! ## roundtrip -/

/-- `Encode` accepts a record within the size limit and both decoders (group reader, plain file)
return exactly that record and leave the rest of the stream untouched. -/
theorem roundtrip (P : Params) (G : Good P) (d rest : Bytes) (hv : ValidRec P d) :
    encode P d = some (frame P d) ∧ decodeG P (frame P d ++ rest) = (.msg d, rest) ∧
      decodeF P (frame P d ++ rest) = (.msg d, rest) :=
  ⟨encode_valid P d hv.2.1, decodeG_frame P G d rest hv, decodeF_frame P G d rest hv⟩

/-- A stream of records reads back as the same records, in order, and ends with a clean EOF. -/
theorem roundtrip_stream (P : Params) (G : Good P) (ds : List Bytes) (hv : ∀ d ∈ ds, ValidRec P d) :
    readAllG P (frames P ds) = (ds, .eof) := readAllG_frames P G ds hv

/-- A record above the limit is refused and nothing is written. -/
theorem too_big_refused (P : Params) (S : Nat) (g : Group) (d : Bytes) (h : P.maxLen < d.length) :
    write P S g d = none := by
  unfold write encode
  simp [h]

/-! ## reader soundness -/

/-- Any prefix of the written byte stream (= what a crash can leave) reads back as a prefix of the
written records: exactly those whose frames are whole, in write order, byte-identical; the reader
then stops (never a record that was not written). -/
theorem reader_sound_stream (P : Params) (G : Good P) (ds : List Bytes)
    (hv : ∀ d ∈ ds, ValidRec P d) (n : Nat) :
    ∃ r, r.isMsg = false ∧ readAllG P ((frames P ds).take n) = (ds.take (whole P ds n), r) :=
  readAllG_prefix P G ds hv n

/-- A reader over the whole group (`NewReader(MinIndex)`), when every rotated file holds whole
records and the head file is a prefix of the frames of the records `hs` written to it, returns
the records of the files `minIndex … maxIndex-1` in index order followed by the head records
whose frames are whole — nothing else, and it does not change what is on disk. -/
theorem reader_sound (P : Params) (G : Good P) (g : Group) (hf : FilesOK P g) (hs : List Bytes)
    (hv : ∀ d ∈ hs, ValidRec P d) (n : Nat) (hh : g.head = (frames P hs).take n) :
    (∃ r, r.isMsg = false ∧ (readAll P g).1 =
      (fileRecs P g (List.range' g.minIndex (g.maxIndex - g.minIndex)) ++ hs.take (whole P hs n), r))
      ∧ SameDisk g (readAll P g).2 :=
  ⟨stream_read P G g hf hs hv n hh g.minIndex, sameDisk_touch g g.minIndex⟩

/-- The repair (`repairWalFile`: decode from a plain file until the first error, re-encode) of a
torn log keeps every whole record and adds nothing that was not written — or a checksum
collision between two different payloads of equal length is exhibited. -/
theorem repair_sound (P : Params) (G : Good P) (ds : List Bytes) (hv : ∀ d ∈ ds, ValidRec P d)
    (n : Nat) :
    (∃ k, whole P ds n ≤ k ∧ k ≤ ds.length ∧ repair P ((frames P ds).take n) = frames P (ds.take k))
      ∨ Collision P :=
  (readAllF_prefix P G ds hv n).imp_left fun ⟨k, h1, h2, h3⟩ => ⟨k, h1, h2, by unfold repair; rw [h3]⟩

/-! ## durability across crash, reopen and recovery -/

/-- One crash/restart cycle. Before: rotated files hold whole records, `hs` are the records
handed to the head (file + write buffer). The process dies (`crash`, any cut of the unsynced
tail, also inside an unfinished `FlushAndSync`), the WAL is reopened and started, and the
catch-up loop of `State.OnStart` reports success (directly or after one repair). Then:
every rotated file is unchanged, the head holds whole records only (`hw'`), every durable head
record is among them in order (`durableHead … <+: hw'`), and they are written records
(`hw' <+: hs`) or the single height-0 marker `OnStart` puts into an empty head — or a checksum
collision is exhibited. The conclusion re-establishes the hypotheses (`FilesOK`, head ++ buffer =
frames of valid records), and `hist_write`, `hist_sync`, `hist_rotate`, `prune_whole_oldest_files_only`
keep them, so the theorem applies again at the next of any number of successive cycles. -/
theorem durable_returned (P : Params) (G : Good P) (S : Nat) (g : Group) (hf : FilesOK P g)
    (hs : List Bytes) (hv : ∀ d ∈ hs, ValidRec P d) (hc : g.head ++ g.buf = frames P hs)
    (cut hl tl : Nat) (h : Int) (e0 : Bytes) (he : ValidRec P e0) (res : RecoverRes) (g' : Group)
    (dhl dtl : Nat)
    (hrec : recover P S dhl dtl (onStart P S (openGroup (crash g cut) hl tl) e0).1 h e0 = (res, g'))
    (hok : RecoveredOK res) :
    (∀ j, fileAt g' j = fileAt g j) ∧ g'.buf = [] ∧
      ((∃ hw', (∀ d ∈ hw', ValidRec P d) ∧ g'.head = frames P hw' ∧
          durableHead P g hs <+: hw' ∧ (hw' <+: hs ∨ hw' = [e0])) ∨ Collision P) :=
  have ⟨c1, c2, _, c3⟩ := cycle_clean P G S g hf hs hv hc cut hl tl h e0 he res g' dhl dtl hrec hok
  ⟨c1, c2, c3⟩

/-- A write of a valid record between two cycles appends its frame to what was handed to the head;
rotated files, the fsync watermark and the indices do not change. -/
theorem hist_write (P : Params) (S : Nat) (g g' : Group) (d : Bytes) (hd : ValidRec P d)
    (hw : write P S g d = some g') :
    g'.head ++ g'.buf = g.head ++ g.buf ++ frame P d ∧ g'.files = g.files ∧ g'.synced = g.synced ∧
      g'.minIndex = g.minIndex ∧ g'.maxIndex = g.maxIndex ∧ (∃ x, g'.head = g.head ++ x) :=
  write_concat P S g g' d hd.2.1 hw

/-- `FlushAndSync` moves everything handed to the head under the fsync watermark. -/
theorem hist_sync (g : Group) :
    (flushAndSync g).head ++ (flushAndSync g).buf = g.head ++ g.buf ∧
      (flushAndSync g).synced = (g.head ++ g.buf).length ∧ (flushAndSync g).files = g.files := by
  simp [flushAndSync]

/-- A rotation turns everything handed to the head into the rotated file `maxIndex` (fsynced
before the rename) and leaves every other file as it is; the new head is empty. -/
theorem hist_rotate (g : Group) :
    (∀ j, fileAt (rotateFile g) j = if j = g.maxIndex then g.head ++ g.buf else fileAt g j) ∧
      (rotateFile g).head = [] ∧ (rotateFile g).buf = [] ∧ (rotateFile g).maxIndex = g.maxIndex + 1 :=
  ⟨fileAt_rotate g, rfl, rfl, rfl⟩

/-- **History theorem** (`Step`, `Steps`, `HInv`, `dlog`/`wlog` in Lemmas/WalHistory.lean). Let a
group satisfy the invariant (`HInv`: rotated files hold whole valid records, head ++ buffer are the
frames of the records handed to it, indices cover the files). Run ANY history `ops1` of writes,
synced writes, syncs, rotations (`checkHeadSizeLimit`), prunings (`checkTotalSizeLimit`), readers
and searches, and crash/reopen/recover cycles (every cut of the unsynced tail, also inside an
unfinished `FlushAndSync`; any limits at reopen; the catch-up loop reported success), reaching
`g1`; then ANY further history `ops2`, reaching `g'`. Then a reader over the whole group at the end
returns `R` with: the durable log of `g1` (`dlog`: everything a successful fsync had covered by
then — rotated files and the head up to the watermark) is `dropped ++ kept`, where `dropped` is
empty unless `ops2` contains a pruning (and then consists of whole oldest files,
`prune_whole_oldest_files_only`), and `kept` is a prefix of `R` — every acknowledged record not in
a pruned file is returned, in write order; and `R` is a sublist of what the log held at the start
followed by what the operations wrote, in that order — nothing unwritten is returned. Or a
checksum collision is exhibited (the repair's zero-filling). -/
theorem durable_returned_history (P : Params) (G : Good P) (S dhl dtl k : Nat) (ops1 ops2 : List HOp)
    (g g1 g' : Group) (hs : List Bytes) (hi : HInv P g hs)
    (st1 : Steps P S dhl dtl k g ops1 g1) (st2 : Steps P S dhl dtl k g1 ops2 g') :
    (∃ dropped kept R e, dlog P g1 = dropped ++ kept ∧ (ops2.any HOp.isPrune = false → dropped = []) ∧
        (readAll P g').1 = (R, e) ∧ e.isMsg = false ∧ kept <+: R ∧
        R.Sublist (wlog P g ++ (ops1 ++ ops2).flatMap HOp.recs))
      ∨ Collision P := by
  rcases history P G S dhl dtl k ops1 g g1 hs hi st1 with ⟨hs1, i1, _, w1⟩ | hc
  · refine (reader_after_history P G S dhl dtl k ops2 g1 g' hs1 i1 st2).imp_left
      fun ⟨dr, kept, R, e, e1, e3, hr, he, hk, w2⟩ => ⟨dr, kept, R, e, e1, e3, hr, he, hk, ?_⟩
    rw [List.flatMap_append, ← List.append_assoc]
    exact w2.trans (List.Sublist.append w1 (List.Sublist.refl _))
  · exact Or.inr hc

/-- What `dlog` means right after a successful fsync: everything written so far. -/
theorem sync_makes_durable (P : Params) (G : Good P) (g : Group) (hs : List Bytes) (hi : HInv P g hs) :
    dlog P (flushAndSync g) = wlog P g ∧ wlog P g = filesPart P g ++ hs :=
  ⟨(sync_step P G g hs hi).2.1, wlog_eq P G g hs hi⟩

/-- The marker-missing branch of `catchupReplay` (it writes the previous height's marker) is
not taken by a recovery that reported a successful replay: `durable_returned` is about the state
the real start-up leaves. -/
theorem recover_marker_branch_inert (P : Params) (S dhl dtl : Nat) (g : Group) (h : Int)
    (e0 em : Bytes) (hok : RecoveredOK (recover P S dhl dtl g h e0).1) :
    recoverW P S dhl dtl g h e0 em = recover P S dhl dtl g h e0 := by
  unfold recoverW
  cases hr : recover P S dhl dtl g h e0 with
  | mk res g' =>
    rw [hr] at hok
    simp only
    cases res with
    | first r => cases r <;> first | rfl | exact hok.elim
    | repaired e r w => cases r <;> first | rfl | exact hok.elim

/-! ## pruning -/

/-- The size limit (`checkTotalSizeLimit`) discards only whole oldest files: the head, its buffer
and the indices are untouched; every rotated file is afterwards either exactly as before or gone;
the removed ones existed, are never the head's index, and every file that remains has a larger
index than every removed one. -/
theorem prune_whole_oldest_files_only (k : Nat) (g g' : Group) (rem : List Nat)
    (hr : checkTotalSizeLimit k g = (g', rem)) :
    g'.head = g.head ∧ g'.buf = g.buf ∧ g'.synced = g.synced ∧
    g'.minIndex = g.minIndex ∧ g'.maxIndex = g.maxIndex ∧
    (∀ j, lookupFile g'.files j = if j ∈ rem then none else lookupFile g.files j) ∧
    (∀ x ∈ rem, (lookupFile g.files x).isSome = true ∧ x ≠ (readGroupInfo g).maxIndex) ∧
    (∀ j, (lookupFile g'.files j).isSome = true → ∀ x ∈ rem, x < j) :=
  have h := prune_spec k g g' rem hr
  ⟨h.head, h.buf, h.synced, h.minIndex, h.maxIndex, h.files, h.existed, h.oldest⟩

/-! ## searching for the end-height marker -/

/-- `SearchForEndHeight` succeeds only for a marker that was written and is still on disk as a
whole record, and the reader it hands back is positioned right after that marker: what follows
are the written records after it and the head's torn tail, if any. -/
theorem search_sound (P : Params) (G : Good P) (g : Group) (hf : FilesOK P g) (hw : List Bytes)
    (t : Bytes) (hr : HeadRep P g hw t) (h : Int) (ign : Bool) (rest : Bytes)
    (hx : (search P g h ign).1 = .found rest) :
    ∃ suf, (∀ d ∈ suf, ValidRec P d) ∧ rest = frames P suf ++ t ∧ SameDisk g (search P g h ign).2 := by
  obtain ⟨suf, h1, h2⟩ := search_found P G g hf hw t hr h ign rest hx
  exact ⟨suf, h1, h2, search_sameDisk P g h ign⟩

/-- Searching for the end-of-height marker succeeds exactly when the marker is on disk as a whole
record of a file the group still has (by `reader_sound`/`durable_returned` this includes every
fsynced marker whose file was not pruned): `logFrom … minIndex` are the records of the rotated
files `minIndex…` and of the head. Hypotheses, as the code needs them: the search tolerates
corruption (`ign`, as `catchupReplay` calls it) or the head has no torn tail; heights are written
in increasing order, i.e. after a marker `h` only the height-0 marker of `OnStart` or higher
markers follow (otherwise the early exit `0 < lastHeightFound < height` gives up too soon). -/
theorem search_iff_durable_marker (P : Params) (G : Good P) (g : Group) (hf : FilesOK P g)
    (hw : List Bytes) (t : Bytes) (hr : HeadRep P g hw t) (hmin : g.minIndex ≤ g.maxIndex)
    (h : Int) (ign : Bool) (hign : ign = true ∨ t = [])
    (hinc : ∀ pre m suf, logFrom P g hw g.minIndex = pre ++ m :: suf → P.parse m = some (some h) →
      MarkersAbove P h suf) :
    (∃ rest, (search P g h ign).1 = .found rest) ↔
      (∃ d ∈ logFrom P g hw g.minIndex, P.parse d = some (some h)) := by
  have hidx : ∀ i, i ∈ (List.range' g.minIndex (g.maxIndex + 1 - g.minIndex)).reverse ↔
      g.minIndex ≤ i ∧ i ≤ g.maxIndex := by
    intro i
    rw [List.mem_reverse, List.mem_range'_1]
    omega
  constructor
  · rintro ⟨rest, hx⟩
    obtain ⟨i, suf, hi, ham, _⟩ := searchIdx_found P G g hf hw t hr h ign _ _ _ rest hx
    obtain ⟨h1, h2⟩ := (hidx i).mp hi
    obtain ⟨pre, d, he, hp⟩ := afterMarker_suffix P h _ _ ham
    obtain ⟨p, hpe⟩ := logFrom_suffix P g hw g.minIndex i h1 h2
    exact ⟨d, by rw [hpe, he]; simp, hp⟩
  · rintro ⟨d, hd, hp⟩
    obtain ⟨pre, suf, he⟩ := List.append_of_mem hd
    have habove := hinc pre d suf he hp
    -- a reader started at `i` passes the marker, or starts behind it and sees higher markers only
    apply searchIdx_complete P G g hf hw t hr h ign (scanErr_none P ign t hign)
    · omega
    · intro i hi
      obtain ⟨h1, h2⟩ := (hidx i).mp hi
      obtain ⟨p, hpe⟩ := logFrom_suffix P g hw g.minIndex i h1 h2
      rw [he] at hpe
      rcases suffix_cases pre d suf (logFrom P g hw i) p hpe with ⟨pre', hs⟩ | ⟨q, hs⟩
      · left; rw [hs]; exact afterMarker_isSome_of_mem P h pre' d suf hp
      · right
        intro x hx k hk
        exact habove x (by rw [hs]; simp [hx]) k hk
    · refine ⟨g.minIndex, (hidx _).mpr ⟨Nat.le_refl _, hmin⟩, ?_⟩
      rw [he]; exact afterMarker_isSome_of_mem P h pre d suf hp

/-- `search_iff_durable_marker` across histories: after any history (as in
`durable_returned_history`) the search for `#ENDHEIGHT h` succeeds exactly when the marker is among
the records a reader returns (`rlog`: rotated files the group still has + whole records of the head
file); in particular every marker of the durable log — fsynced and not pruned — is found.
Hypotheses as in `search_iff_durable_marker`: tolerant search or nothing in the write buffer, and
heights written in increasing order. -/
theorem search_iff_after_history (P : Params) (G : Good P) (S dhl dtl k : Nat) (ops : List HOp)
    (g g' : Group) (hs : List Bytes) (hi : HInv P g hs) (st : Steps P S dhl dtl k g ops g')
    (h : Int) (ign : Bool) (hign : ign = true ∨ g'.buf = [])
    (hinc : ∀ pre m suf, rlog P g' = pre ++ m :: suf → P.parse m = some (some h) → MarkersAbove P h suf) :
    (((∃ rest, (search P g' h ign).1 = .found rest) ↔ (∃ d ∈ rlog P g', P.parse d = some (some h))) ∧
      ((∃ d ∈ dlog P g', P.parse d = some (some h)) → ∃ rest, (search P g' h ign).1 = .found rest))
      ∨ Collision P := by
  rcases history P G S dhl dtl k ops g g' hs hi st with ⟨hs', i', _, _⟩ | hc
  · left
    obtain ⟨t, hrep, hbuf⟩ := headRep_inv P g' hs' i'
    have hlog : logFrom P g' (hs'.take (whole P hs' g'.head.length)) g'.minIndex = rlog P g' := by
      rw [rlog_eq P G g' hs' i']; rfl
    have hign' : ign = true ∨ t = [] := hign.imp id hbuf
    have key := search_iff_durable_marker P G g' i'.filesOK _ t hrep i'.idx.2 h ign hign' (by rw [hlog]; exact hinc)
    rw [hlog] at key
    refine ⟨key, ?_⟩
    rintro ⟨d, hd, hp⟩
    obtain ⟨_, _, _, hpre, _⟩ := readAll_inv P G g' hs' i'
    exact key.mpr ⟨d, hpre.subset hd, hp⟩
  · exact Or.inr hc

/-! ## readers that stay open -/

/-- **An open reader returns exactly the records from its position on, in order.** The reader model
(`Reader`: file index, offset, pinned content of a file unlinked under it; `readerRead` mirrors
`GroupReader.Read` with the next file chosen under the group lock from the live `maxIndex`;
`readerDecode`/`readerNext` mirror `WALDecoder.Decode` on it). If the bytes ahead of the cursor
are the frames of the valid records `ds` followed by a torn tail, then `readerNext P n` returns the first
`n` of them (all of them, and why it stopped, when `n` is larger), the cursor is then in front of
the remaining ones, stays inside its file, and the disk is unchanged but for empty files created. -/
theorem open_reader_sound (P : Params) (G : Good P) (t : Bytes) (ht : TornTail P t) (n : Nat)
    (ds : List Bytes) (g : Group) (r : Reader) (hok : ReaderOK g r) (hv : ∀ d ∈ ds, ValidRec P d)
    (hs : readerStream g r = frames P ds ++ t) :
    ∃ e r' g', readerNext P n g r = (ds.take n, e, r', g') ∧ SameDisk g g' ∧ ReaderOK g' r' ∧
      ((n ≤ ds.length ∧ e = none ∧ readerStream g' r' = frames P (ds.drop n) ++ t) ∨
       (ds.length < n ∧ e = some (decodeG P t).1 ∧ readerStream g' r' = [])) := by
  obtain ⟨e, r', g', s, h1, adv, h4⟩ := readerNext_frames P G t ht n ds g r hok.1 hv hs
  refine ⟨e, r', g', h1, adv.sameDisk, ⟨adv.idx, adv.off hok.2⟩, ?_⟩
  rw [adv.stream]; exact h4

/-- A reader opened at index `i` (`NewReader(i)`) has ahead of it the records of the rotated files
`i …` and the whole records of the head, in order (`logFrom`), then the head's torn tail. -/
theorem open_reader_start (P : Params) (G : Good P) (g : Group) (hf : FilesOK P g) (hw : List Bytes)
    (t : Bytes) (hr : HeadRep P g hw t) (i : Nat) (hi : i ≤ g.maxIndex) :
    readerStream (readerOpen g i) { idx := i } = frames P (logFrom P g hw i) ++ t ∧
      (∀ d ∈ logFrom P g hw i, ValidRec P d) ∧ ReaderOK (readerOpen g i) { idx := i } := by
  have sd := sameDisk_readerOpen g i
  have hi' : i ≤ (readerOpen g i).maxIndex := by rw [sd.maxIndex]; exact hi
  have hs := streamFrom_rep P G g hf hw t hr i
  exact ⟨by rw [readerStream_fresh _ i hi', sd.streamFrom_eq, hs.1], hs.2, hi', Nat.zero_le _⟩

/-- Across the writer's operations an open reader loses nothing and sees nothing out of order:
what was ahead of it stays ahead, and what the operation put into the head file is appended —
for a write that flushed part of the buffer or a `FlushAndSync` (the head file grew by `x`) … -/
theorem open_reader_across_head_growth (g g' : Group) (r : Reader) (x : Bytes)
    (hf : g'.files = g.files) (hm : g'.maxIndex = g.maxIndex) (hh : g'.head = g.head ++ x)
    (hok : ReaderOK g r) (hp : r.idx = g.maxIndex → r.pinned = none) :
    readerStream g' r = readerStream g r ++ x := by
  unfold readerStream
  by_cases he : r.idx = g.maxIndex
  · have hpn := hp he
    have hoff : r.off ≤ g.head.length := by have := hok.2; rwa [readerContent_head hpn he] at this
    rw [readerContent_head hpn he, readerContent_head hpn (he.trans hm.symm), hh,
      readerTail_ge g _ (by omega), readerTail_ge g' _ (by omega), List.drop_append_of_le_length hoff]
    simp
  · have hlt : r.idx < g.maxIndex := by have := hok.1; omega
    have hc' : readerContent g' r = readerContent g r := by
      unfold readerContent; rw [hm, hf]; simp [he]
    have hs : streamFrom g' (r.idx + 1) = streamFrom g (r.idx + 1) ++ x := by
      unfold streamFrom; rw [hm, hf, hh, List.append_assoc]
    rw [hc', readerTail_lt g' _ (by omega), readerTail_lt g _ hlt, hs, List.append_assoc]

/-- … and for a rotation (the reader's index keeps naming the same file, which is now a rotated
one; the next file is looked up with the new `maxIndex`). -/
theorem open_reader_across_rotate (g : Group) (r : Reader) (hok : ReaderOK g r)
    (hp : r.idx = g.maxIndex → r.pinned = none) :
    readerStream (rotateFile g) r = readerStream g r ++ g.buf := by
  unfold readerStream
  have hmax : (rotateFile g).maxIndex = g.maxIndex + 1 := rfl
  have hne : ¬ r.idx = (rotateFile g).maxIndex := by have := hok.1; omega
  by_cases he : r.idx = g.maxIndex
  · -- the reader is in the head file, which becomes the rotated file of that index
    have hpn := hp he
    have hoff : r.off ≤ g.head.length := by have := hok.2; rwa [readerContent_head hpn he] at this
    rw [readerContent_head hpn he, readerContent_file hpn hne, fileAt_rotate, if_pos he,
      readerTail_ge g _ (by omega), readerTail_lt _ _ (by omega), he, ← hmax, streamFrom_max (rotateFile g),
      List.drop_append_of_le_length hoff]
    simp [rotateFile]
  · have hlt : r.idx < g.maxIndex := by have := hok.1; omega
    have hc' : readerContent (rotateFile g) r = readerContent g r := by
      cases hpi : r.pinned with
      | some b => unfold readerContent; rw [hpi]
      | none => rw [readerContent_file hpi hne, readerContent_file hpi he, fileAt_rotate, if_neg he]
    rw [hc', readerTail_lt _ _ (by omega), readerTail_lt g _ hlt, streamFrom_rotate g _ hlt,
      List.append_assoc]

/-- Under pruning (the property lets the size limit discard whole oldest files): the reader keeps
reading the file it is in even if that file was removed; each file ahead of it is either unchanged
or, if removed, gone as a whole. -/
theorem open_reader_under_prune (k : Nat) (g g' : Group) (rem : List Nat) (r : Reader)
    (hr : checkTotalSizeLimit k g = (g', rem)) :
    (∀ p ∈ pinReaders g rem [("r", r)], readerContent g' p.2 = readerContent g r ∧ p.2.off = r.off ∧
      p.2.idx = r.idx) ∧
    (∀ j, fileAt g' j = if j ∈ rem then [] else fileAt g j) ∧ g'.head = g.head ∧
      g'.maxIndex = g.maxIndex := by
  have hp := prune_spec k g g' rem hr
  refine ⟨?_, ?_, hp.head, hp.maxIndex⟩
  · intro p hp
    simp only [pinReaders, List.map_cons, List.map_nil, List.mem_singleton] at hp
    subst hp
    split
    · rename_i hc
      obtain ⟨hn, hmem, hne⟩ := hc
      have hpn : r.pinned = none := by simpa using hn
      refine ⟨?_, rfl, rfl⟩
      unfold readerContent
      simp only [hpn, hne, if_false]
    · rename_i hc
      refine ⟨?_, rfl, rfl⟩
      unfold readerContent
      cases hpi : r.pinned with
      | some b => rfl
      | none =>
        simp only [hp.maxIndex, hp.head]
        by_cases he : r.idx = g.maxIndex
        · simp [he]
        · simp only [he, if_false]
          rw [hp.files r.idx]
          have : ¬ r.idx ∈ rem := by
            intro hm
            apply hc
            exact ⟨by simp [hpi], by simpa using hm, he⟩
          simp [this]
  · exact fileAt_prune hr

/-! ## single-byte corruption -/

/-! per region: payload, checksum field, length field -/

theorem flip_payload_rejected (P : Params) (G : Good P) (hdet : DetectsByteFlips P) (d rest : Bytes)
    (hv : ValidRec P d) (i : Nat) (b : UInt8) (hne : d.set i b ≠ d) :
    decodeG P (P.crc d ++ (be32 d.length ++ (d.set i b ++ rest))) = (.corrupt .crcMismatch, rest) := by
  have := decodeG_parts P G (P.crc d) (d.set i b) rest (G.crcLen d) (by simpa using hv.1) (by simpa using hv.2.1)
  simp only [List.length_set] at this
  rw [this]
  unfold check
  simp [hdet d i b hne]

theorem flip_crc_rejected (P : Params) (G : Good P) (d rest : Bytes) (hv : ValidRec P d) (i : Nat)
    (b : UInt8) (hne : (P.crc d).set i b ≠ P.crc d) :
    decodeG P ((P.crc d).set i b ++ (be32 d.length ++ (d ++ rest))) = (.corrupt .crcMismatch, rest) := by
  rw [decodeG_parts P G _ d rest (by simp [G.crcLen]) hv.1 hv.2.1]
  unfold check
  have : P.crc d ≠ (P.crc d).set i b := fun e => hne e.symm
  simp [this]

theorem flip_length_rejected_or_collision (P : Params) (G : Good P) (d rest : Bytes) (i : Nat)
    (b : UInt8) (hne : (be32 d.length).set i b ≠ be32 d.length) :
    (decodeG P (P.crc d ++ ((be32 d.length).set i b ++ (d ++ rest)))).1.isMsg = false ∨
      ∃ x, (decodeG P (P.crc d ++ ((be32 d.length).set i b ++ (d ++ rest)))).1 = .msg x ∧
        x.length ≠ d.length ∧ P.crc x = P.crc d := by
  cases h : decodeG P (P.crc d ++ ((be32 d.length).set i b ++ (d ++ rest))) with
  | mk r rest' =>
    cases r with
    | eof => left; rfl
    | corrupt e => left; rfl
    | msg x =>
      right
      have hl : ((be32 d.length).set i b).length = 4 := by simp [be32_length]
      obtain ⟨h1, h2⟩ := decodeG_msg_inv P _ _ _ x rest' (G.crcLen d) hl h
      refine ⟨x, rfl, ?_, h2⟩
      intro e
      apply hne
      rw [← be32_ofBe32 _ hl, ← h1, e]

/-- Hypothesis `DetectsByteFlips P`: changing one byte of a payload changes its checksum. It is
true of CRC-32C (every error burst of at most 32 bits is detected), hence of the driver's
instance; it is not proved here and is used by `flip_payload_rejected` and `flip_detected` only.

`flip_detected`: one byte of one record's frame is changed (`i` = offset in the frame), records
`pre` before and `post` after it are intact.
* checksum field (`i < 4`) or payload (`8 ≤ i`): a reader returns exactly `pre` and stops with
  "checksums do not match" at the damaged record; the decoder is left exactly at the next record
  (so `SearchForEndHeight` with `IgnoreDataCorruptionErrors` goes on with `post`);
* length field (`4 ≤ i < 8`): the reader returns exactly `pre` and stops at the damaged record
  (too big / short read / checksum / decoder), unless the bytes the wrong length selects carry
  the written record's checksum — two byte strings of different length with the same checksum.
In no case is something returned that was not written, short of such a collision. -/
theorem flip_detected (P : Params) (G : Good P) (hdet : DetectsByteFlips P)
    (pre post : List Bytes) (d : Bytes) (hpre : ∀ x ∈ pre, ValidRec P x) (hd : ValidRec P d)
    (i : Nat) (b : UInt8) (hne : (frame P d).set i b ≠ frame P d) :
    ((i < 4 ∨ 8 ≤ i) →
      readAllG P (frames P pre ++ ((frame P d).set i b ++ frames P post)) = (pre, .corrupt .crcMismatch) ∧
      decodeG P ((frame P d).set i b ++ frames P post) = (.corrupt .crcMismatch, frames P post)) ∧
    ((4 ≤ i ∧ i < 8) →
      (readAllG P (frames P pre ++ ((frame P d).set i b ++ frames P post))).1 = pre ∨
        ∃ x, x.length ≠ d.length ∧ P.crc x = P.crc d) := by
  have stop : ∀ s, decodeG P s = (.corrupt .crcMismatch, frames P post) →
      readAllG P (frames P pre ++ s) = (pre, .corrupt .crcMismatch) ∧
        decodeG P s = (.corrupt .crcMismatch, frames P post) :=
    fun s h => ⟨by rw [readAllG_stop P G pre hpre s (by rw [h]; rfl), h], h⟩
  -- the changed byte lies in the checksum, the length field or the payload
  rw [frame_eq, set_header _ _ _ (G.crcLen d) (be32_length _)] at hne ⊢
  refine ⟨fun hreg => ?_, fun ⟨h4, h8⟩ => ?_⟩
  · rcases hreg with h4 | h8
    · rw [if_pos h4] at hne ⊢
      rw [List.append_assoc, List.append_assoc]
      exact stop _ (flip_crc_rejected P G d _ hd i b fun e => hne (by rw [e]))
    · rw [if_neg (by omega), if_neg (by omega)] at hne ⊢
      rw [List.append_assoc, List.append_assoc]
      exact stop _ (flip_payload_rejected P G hdet d _ hd (i - 8) b fun e => hne (by rw [e]))
  · rw [if_neg (by omega), if_pos h8] at hne ⊢
    rw [List.append_assoc, List.append_assoc]
    rcases flip_length_rejected_or_collision P G d (frames P post) (i - 4) b (fun e => hne (by rw [e])) with
      hstop | ⟨x, _, h1, h2⟩
    · exact Or.inl (by rw [readAllG_stop P G pre hpre _ hstop])
    · exact Or.inr ⟨x, h1, h2⟩

/-! ## the hypotheses are satisfiable (non-vacuity) -/

/-- a toy instance: checksum = length, a message = any non-empty payload, `[k]` with k<10 = marker k -/
def exP : Params :=
  { crc := fun d => be32 d.length,
    parse := fun d => match d with
      | [] => none
      | [k] => if k.toNat < 10 then some (some k.toNat) else some none
      | _ => some none,
    maxLen := 100 }

example : Good exP := ⟨fun _ => rfl, by decide, rfl⟩
example : ValidRec exP [1] ∧ ValidRec exP [7, 7] := by unfold ValidRec; decide
example : Collision exP := ⟨[1], [2], by decide, rfl, rfl⟩

def exE0 : Bytes := [0]
/-- head file: marker 0, marker 1, a message whose frame is written but not fsynced -/
def exG : Group :=
  { head := frames exP [[0], [1], [7, 7, 0]], synced := 18, isOpen := true }

example : exG.head ++ exG.buf = frames exP [[0], [1], [7, 7, 0]] := rfl
example : FilesOK exP exG := fun _ => ⟨[], by simp, rfl⟩
example : HeadRep exP exG [[0], [1], [7, 7, 0]] [] :=
  ⟨by intro d hd; simp at hd; rcases hd with rfl | rfl | rfl <;> (unfold ValidRec; decide),
   by simp [exG], Or.inl rfl⟩
/-- a crash that tears the last record inside its checksum: repaired, both durable markers kept -/
example : ∃ e ds w, (recover exP 40960 0 0 (onStart exP 40960 (openGroup (crash exG 9) 0 0) exE0).1 2 exE0).1
    = .repaired e (.ok ds) w := ⟨_, _, _, rfl⟩
example : (recover exP 40960 0 0 (onStart exP 40960 (openGroup (crash exG 9) 0 0) exE0).1 2 exE0).2.head
    = frames exP [[0], [1]] := by decide
/-- a crash that loses only the record's last byte, which was zero: the repair restores it -/
example : (recover exP 40960 0 0 (onStart exP 40960 (openGroup (crash exG 1) 0 0) exE0).1 2 exE0).2.head
    = frames exP [[0], [1], [7, 7, 0]] := by decide
/-- the search finds the durable marker 1 -/
example : (∃ rest, (search exP exG 1 true).1 = .found rest) := ⟨_, rfl⟩

theorem ex_sum_set (d : Bytes) : ∀ (i : Nat) (b : UInt8) (hi : i < d.length),
    ((d.set i b).map UInt8.toNat).sum + (d[i]).toNat = (d.map UInt8.toNat).sum + b.toNat := by
  induction d with
  | nil => intro i b hi; simp at hi
  | cons a t ih =>
    intro i b hi
    cases i with
    | zero => simp; omega
    | succ j =>
      have := ih j b (by simpa using hi)
      simp only [List.set_cons_succ, List.map_cons, List.sum_cons, List.getElem_cons_succ]
      omega

/-- a toy checksum that detects single-byte changes: the byte sum modulo 256 -/
def exQ : Params := { exP with crc := fun d => be32 ((d.map UInt8.toNat).sum % 256) }

example : DetectsByteFlips exQ := by
  intro d i b hne hcrc
  have hi : i < d.length := by
    rcases Nat.lt_or_ge i d.length with h | h
    · exact h
    · exact absurd (List.set_eq_of_length_le h) hne
  have hb : b ≠ d[i] := by
    intro e; apply hne; rw [e]; exact List.set_getElem_self hi
  have hs := ex_sum_set d i b hi
  simp only [List.map_set] at hs
  have h4 := congrArg (fun l => (l.getD 3 0).toNat) hcrc
  simp [exQ, be32, List.getD] at h4
  have h1 := b.toNat_lt
  have h2 := (d[i]).toNat_lt
  apply hb
  apply UInt8.toNat_inj.mp
  omega

example : HInv exP exG [[0], [1], [7, 7, 0]] :=
  ⟨fun _ => ⟨[], by simp, rfl⟩, ⟨fun j hj => absurd rfl hj, Nat.le_refl _⟩,
   by intro d hd; simp at hd; rcases hd with rfl | rfl | rfl <;> (unfold ValidRec; decide),
   by simp [exG], by decide⟩

/-- an open reader on the toy instance: in front of three records, it returns the first two -/
example : ReaderOK exG { idx := 0 } ∧ readerStream exG { idx := 0 } = frames exP [[0], [1], [7, 7, 0]] ++ [] :=
  ⟨⟨by decide, by decide⟩, by decide⟩
example : (readerNext exP 2 exG { idx := 0 }).1 = [[0], [1]] := by decide

/-- a history on the toy instance: a synced write, then a crash that tears nothing durable, the
reopening and a successful catch-up -/
example : ∃ g', Steps exP 40960 0 0 4 exG [.writeSync [8, 8], .restart 5 0 0 2 exE0] g' := by
  have hv : ValidRec exP [8, 8] := by unfold ValidRec; decide
  have he : ValidRec exP exE0 := by unfold ValidRec; decide
  refine ⟨_, Steps.cons (Step.writeSync (g' := ((writeSync exP 40960 exG [8, 8]).getD exG)) hv rfl)
    (Steps.cons (Step.restart (res := (recover exP 40960 0 0 (onStart exP 40960 (openGroup (crash
      ((writeSync exP 40960 exG [8, 8]).getD exG) 5) 0 0) exE0).1 2 exE0).1) he rfl ?_) Steps.nil)⟩
  have : (recover exP 40960 0 0 (onStart exP 40960 (openGroup (crash
      ((writeSync exP 40960 exG [8, 8]).getD exG) 5) 0 0) exE0).1 2 exE0).1 = .first (.ok [[7, 7, 0], [8, 8]]) := rfl
  rw [this]; trivial

end Tmv.Props.C15
