import Tmv.Lemmas.GoodRound
import Tmv.Lemmas.SyncCommit
import Tmv.Lemmas.SyncEval
/-! # C03 — termination: correct nodes decide once the network behaves  (**partial**)

Models: `Tmv.Cons` (one node, `consensus/state.go` statement by statement; tied to the real
`consensus.State` by the C02 stream) and `Tmv.Sync` (Tmv/Model/Sync.lean: the correct nodes, the
log of every message sent, one `consensus/ticker.go` timer per node with `config.go` durations in
virtual time, `closure` = the idealised gossip of the statement, `syncRun` = a synchronous suffix).
The C03 stream runs every schedule on n real `consensus.State` nodes and on `Tmv.Sync` and compares
every node's state after every move.

What is proved here, each for EVERY configuration / state / schedule it quantifies over:

* the five mechanisms the property names, as theorems about the functions the real code runs:
  round skipping (`round_skip_on_prevotes`, `round_skip_on_precommits`), re-proposal of the valid
  block with its POL round (`reproposal_of_valid_block`), timeouts growing with the round
  (`timeouts_increase_with_round`), the ticker keeping the latest timeout (`ticker_moves_forward`),
  the commit step waiting for the block while keeping the commit round
  (`commit_step_waits_for_block`, `commit_for_held_block_is_final`), the unlock rule
  (`unlock_on_later_polka`, `lock_kept_while_behind`);
* **vote-set arithmetic**: after ANY input list every vote set is
  well-formed (`vote_sets_well_formed`), a delivered vote is recorded and stays recorded
  (`delivered_vote_recorded`), votes carrying the quorum yield the recorded +2/3 majority whatever
  else was delivered and in whatever order (`votes_yield_majority`), votes for anything of more than
  2/3 yield `hasTwoThirdsAny` (`votes_yield_any`);
* **one node, one good round**: the three stage theorems (`good_round_prevote_stage`,
  `good_round_precommit_stage`, `good_round_commit_stage`) and, over the internal queue and the vote
  sets, `good_round_decides_node` (Lemmas/GoodRound.lean, over Lemmas/GoodRoundInv.lean: an invariant of the round kept by every
  vote handled; proposal and block, then ANY interleaving of the prevotes
  and precommits of the quorum ⇒ decision in that round); why the proposal and the block must come
  first or be re-delivered: `block_before_header_is_lost`, `proposal_after_block_waits_for_timeout`;
* for every schedule of the network model (any interleaving of deliveries, faulty messages, claims,
  timeouts, closures): `decisions_are_final`, `log_only_grows`, `nodes_are_runs` (every node of the
  net is the node model run on some input list, so every single-node theorem applies),
  `net_vote_sets_well_formed`, `commit_waiting_node_decides_on_delivery`,
  `quorum_and_block_decide` / `net_quorum_and_block_decide` (any order: not an orphan + precommit
  quorum recorded + block held ⇒ decided; universal commit-path invariants `Cons.KI`); what the
  idealised gossip
  achieves: `closure_records_votes`, `closure_spreads_majority` (after a converged closure every
  logged vote / every +2/3 majority in the log is recorded at every node that can take it),
  `correct_votes_never_conflict` (one vote per round lifted to the log: a correct validator's logged
  vote is its only vote for that round and type at every correct node) and hence
  `closure_spreads_correct_majority` / `correct_majority_known_to_all` (polkas and commits of correct
  validators spread to every live idle node tracking the round, no side condition; uses
  `own_votes_recorded`), `closure_converged_of_count`; round monotonicity and quiet steps
  (`step_never_goes_back`, relation `Cons.Quiet`) and with them the fixpoint argument for proposals
  and block parts (`closure_delivers_proposal`, `closure_delivers_block`), hence **`commit_spreads`**:
  after a converged closure a correct node that is not an orphan and waits for block `b` has decided
  `b` once the correct precommit quorum and the block are in the log; the
  discipline of the synchronous suffix (`suffix_timeout_needs_closed_net`,
  `suffix_timeouts_in_time_order`);
* the full statement `Termination` is FALSE of the model and of the code, for two reasons, both
  kernel-checked on the model and replayed on real nodes on every run (known findings):
  `termination_fails_after_leaving_commit_step` (a node that has seen a commit without the block is
  pulled out of the commit step by +2/3 prevotes of the next round and never decides) and
  `stale_lock_survives_its_polka` / `stale_lock_reachable` / `closure_single_lock_fails` (a lock
  outlives its releasing polka when the polka is completed before the node reaches its round: the
  unlock rule is only evaluated when a prevote of that round is added).

What is NOT proved: `Termination` under `NoOrphanCommit`, `NoStaleLock` and `FairSchedule` (stated as the
definition `TerminationRemaining`); its lemmas `good_round_decides` and `bad_round_harmless` at network
level are named in its doc, not stated. `closure_single_lock` is false as stated
(`ClosureSingleLock`, `closure_single_lock_fails`); under `NoStaleLock` it is open. The four
pieces the network-level good round needs: (a) the lift of one-vote-per-round to the net's log is proved
(`correct_votes_never_conflict`, `closure_spreads_correct_majority`: no `only` hypotheses for
correct validators); (b) convergence of `closure` within its fuel is reduced to the executable test
`closureCount` (`closure_converged_of_count`), which the stream evaluates on both sides for every
closure of every run (never more than a handful of passes) — a proof for all reachable nets needs a
protocol-level measure and is open; (c) the fixpoint argument is done for votes, proposals and block
parts, own votes are recorded (`own_votes_recorded`), and the commit half of the good round holds at
network level (`commit_spreads`); what is missing for `good_round_decides` is the PREVOTE/PRECOMMIT half at
network level: a static characterisation of closed idle states ("a live node in round r that holds the
complete proposal and the polka has precommitted, or one of its timers is pending"), which needs
invariants linking step, ticker and signed votes (step ≥ prevote ⇒ a prevote of the round is signed;
step = propose / prevoteWait ⇒ that timeout is pending; the value of the prevote is the complete valid
proposal unless the node timed out first), the provenance of `proposal` (from the log or own, unique
per correct proposer), and the round synchronisation of (d); (d) round synchronisation in virtual time
(`bad_round_ends_at_precommit_wait_timeout` is the single-node step; `step_never_goes_back` gives
round monotonicity).
The Go stream's oracle checks the bound of `Termination` on every generated run instead. -/
namespace Tmv.Props.C03
open Tmv.Cons Tmv.Sync

/-! ### timeouts and the ticker -/

/-- **timeouts grow with the round** (`config.go` Propose / Prevote / Precommit): with positive
deltas every timeout of round `r+1` is strictly longer than the same timeout of round `r`, so the
timeouts eventually exceed any fixed message delay. -/
theorem timeouts_increase_with_round (t : Timeouts)
    (hp : 0 < t.proposeDelta) (hv : 0 < t.prevoteDelta) (hc : 0 < t.precommitDelta) (r : Nat) :
    t.duration r .propose < t.duration (r + 1) .propose ∧
    t.duration r .prevoteWait < t.duration (r + 1) .prevoteWait ∧
    t.duration r .precommitWait < t.duration (r + 1) .precommitWait := by
  simp only [Timeouts.duration, Nat.mul_add, Nat.mul_one]
  omega

/-- … and for any delay `d` there is a round from which on all three exceed it -/
theorem timeouts_exceed_any_delay (t : Timeouts)
    (hp : 0 < t.proposeDelta) (hv : 0 < t.prevoteDelta) (hc : 0 < t.precommitDelta) (d : Nat) :
    ∀ r, d ≤ r → d < t.duration r .propose + 1 ∧ d < t.duration r .prevoteWait + 1 ∧
      d < t.duration r .precommitWait + 1 := by
  intro r hr
  simp only [Timeouts.duration]
  have h1 : r ≤ t.proposeDelta * r := Nat.le_mul_of_pos_left r hp
  have h2 : r ≤ t.prevoteDelta * r := Nat.le_mul_of_pos_left r hv
  have h3 : r ≤ t.precommitDelta * r := Nat.le_mul_of_pos_left r hc
  omega

/-- the timeouts of `DefaultConsensusConfig` (ms); tied to the source by Tmv.Expect.C03 and, for
every timeout a real node schedules, by the stream (the expiry is part of the compared state) -/
def defaultTimeouts : Timeouts := ⟨3000, 500, 1000, 500, 1000, 500⟩

example : 0 < defaultTimeouts.proposeDelta ∧ 0 < defaultTimeouts.prevoteDelta ∧
    0 < defaultTimeouts.precommitDelta := by decide

/-- **the ticker only moves forward** (`timeoutRoutine`): the (round, step) of the routine's current
timeout never decreases lexicographically, whatever is scheduled — a timeout for an earlier round or
an earlier-or-equal step of the same round never replaces the armed one. -/
theorem ticker_moves_forward (t : Ticker) (e r : Nat) (st : Step) (lr ls : Nat)
    (hl : t.last = some (lr, ls)) (hpos : 0 < ls) :
    ∃ lr' ls', (t.schedule e r st).last = some (lr', ls') ∧ (lr < lr' ∨ (lr = lr' ∧ ls ≤ ls')) := by
  unfold Ticker.schedule
  rw [hl]
  dsimp only
  by_cases h1 : r < lr
  · rw [if_pos h1]; exact ⟨lr, ls, hl, Or.inr ⟨rfl, Nat.le_refl _⟩⟩
  · rw [if_neg h1]
    by_cases h2 : r = lr ∧ (0 < ls ∧ st.rank ≤ ls)
    · rw [if_pos h2]; exact ⟨lr, ls, hl, Or.inr ⟨rfl, Nat.le_refl _⟩⟩
    · rw [if_neg h2]
      refine ⟨r, st.rank, rfl, ?_⟩
      by_cases h3 : r = lr
      · right; refine ⟨h3.symm, ?_⟩
        have : ¬ (st.rank ≤ ls) := fun h => h2 ⟨h3, hpos, h⟩
        omega
      · left; omega

/-! ### mechanisms of `consensus/state.go`, for every state of a node -/

/-- **round skipping on +2/3-any prevotes of a later round** -/
theorem round_skip_on_prevotes (c : Cfg) (s : NodeState) (vr : Nat) (hh : s.halted = false)
    (hlt : s.round < vr) (hany : hasAnyOf c (s.votes.prevotes vr) = true) :
    (afterPrevote c s vr).halted = true ∨ (afterPrevote c s vr).round = vr := by
  unfold afterPrevote
  split
  · rename_i bid _
    have h := onPolka_round s vr bid
    exact Cons.round_skip_on_prevotes c _ vr (by rw [h.2.1]; exact hh) (by rw [h.1]; exact hlt)
      (by rw [h.2.2]; exact hany)
  · exact Cons.round_skip_on_prevotes c s vr hh hlt hany

/-- **round skipping on +2/3-any precommits of a later round** -/
theorem round_skip_on_precommits (c : Cfg) (s : NodeState) (vr : Nat) (hh : s.halted = false)
    (hlt : s.round < vr) (hany : hasAnyOf c (s.votes.precommits vr) = true)
    (hno : maj23Of (s.votes.precommits vr) = none) :
    (afterPrecommit c s vr).halted = true ∨ (afterPrecommit c s vr).round = vr :=
  Cons.round_skip_on_precommits c s vr hh hlt hany hno

/-- **a bad round ends at the precommit-wait timeout**: a live node in round `r` (not in the commit
step) that is given its `PrecommitWait` timeout of round `r` moves on to round `r + 1` -/
theorem bad_round_ends_at_precommit_wait_timeout (c : Cfg) (s : NodeState) (r : Nat) (hh : s.halted = false)
    (hr : s.round = r) (hst : s.step.rank ≤ Step.precommitWait.rank) :
    (handleTimeout c s r .precommitWait).halted = true ∨ (handleTimeout c s r .precommitWait).round = r + 1 := by
  unfold handleTimeout
  have hg : ¬ (r < s.round ∨ (r = s.round ∧ Step.precommitWait.rank < s.step.rank)) := by omega
  simp only [hg, if_false]
  cases hh' : (enterPrecommit c s r).halted with
  | true => left; unfold enterNewRound; simp [hh']
  | false =>
    apply enterNewRound_round c _ (r + 1) hh'
    rcases enterPrecommit_round c s r with h | h <;> rw [h] <;> omega

/-- **unlock on a later polka**: locked on `b` since a round before `vr`, in round `vr` or later,
and the round-`vr` prevotes have a +2/3 majority for something else (nil included) ⇒ unlocked -/
theorem unlock_on_later_polka (s : NodeState) (vr : Nat) (bid : Bid) (b : Nat)
    (hl : s.lockedBlock = some b) (hlr : s.lockedRound < (vr : Int)) (hr : vr ≤ s.round)
    (hne : bid ≠ some b) :
    (onPolka s vr bid).lockedBlock = none ∧ (onPolka s vr bid).lockedRound = -1 :=
  Cons.unlock_on_later_polka s vr bid b hl hlr hr hne

/-- … but a node that is still in an earlier round than the polka keeps its lock when the polka is
recorded (`vote.Round <= cs.Round` fails); the rule is applied again when the node's own prevote of
round `vr` is added. This is why `closure_single_lock` needs the nodes to have prevoted. -/
theorem lock_kept_while_behind (s : NodeState) (vr : Nat) (bid : Bid) (hr : s.round < vr) :
    (onPolka s vr bid).lockedBlock = s.lockedBlock := by
  unfold onPolka
  have h1 : ¬ (vr ≤ s.round) := by omega
  have h2 : ¬ (vr = s.round) := by omega
  simp [h1, h2]

/-- **re-proposal of the valid block with its POL round** (`defaultDecideProposal`) -/
theorem reproposal_of_valid_block (c : Cfg) (s : NodeState) (round me b : Nat)
    (hh : s.halted = false) (hv : s.validBlock = some b) (hs : c.checkHRS = false) :
    (decideProposal c s round me).out = s.out ++ [.signProposal round b s.validRound] ∧
    (decideProposal c s round me).queue =
      s.queue ++ [.proposal ⟨round, b, s.validRound, me⟩, .part b] := by
  unfold decideProposal sign
  simp [hv, hs, emit, hh]

/-- **good round, prevote stage**: not locked (or locked on the proposed block), complete valid
proposal block ⇒ the prevote is for it -/
theorem good_round_prevote_stage (c : Cfg) (s : NodeState) (b me : Nat)
    (hh : s.halted = false) (hs : c.checkHRS = false) (hme : c.self = some me)
    (hl : s.lockedBlock = none ∨ s.lockedBlock = some b) (hb : s.proposalBlock = some b) (hv : c.valid b = true) :
    (doPrevote c s).out = s.out ++ [.signVote .prevote s.round (some b)] := by
  rw [doPrevote_proposal_eq c s b hl hb hv, signAddVote_mock c s _ _ me hh hs hme]

/-- **good round, precommit stage**: +2/3 prevotes of the current round for the block held ⇒ lock it
(in this round) and precommit it -/
theorem good_round_precommit_stage (c : Cfg) (s : NodeState) (r b me : Nat)
    (hh : s.halted = false) (hs : c.checkHRS = false) (hme : c.self = some me)
    (hr : s.round = r) (hst : s.step.rank < Step.precommit.rank)
    (hm : maj23Of (s.votes.prevotes (r : Int)) = some (some b)) (hvr : (r : Int) ≤ s.votes.round)
    (hl : s.lockedBlock = none ∨ s.lockedBlock = some b)
    (hb : s.proposalBlock = some b) (hv : c.valid b = true) :
    (enterPrecommit c s r).lockedBlock = some b ∧ (enterPrecommit c s r).lockedRound = (r : Int) ∧
    (enterPrecommit c s r).out = s.out ++ [.signVote .precommit r (some b)] ∧
    (enterPrecommit c s r).step = .precommit := by
  rw [enterPrecommit_polka_eq c s r b me hh hs hme hr hst hm hvr hl hb hv]
  exact ⟨rfl, rfl, rfl, rfl⟩

/-- **good round, commit stage**: +2/3 precommits of the current round for the block held ⇒ the node
decides it, in this round -/
theorem good_round_commit_stage (c : Cfg) (s : NodeState) (r b : Nat)
    (hh : s.halted = false) (hr : s.round = r)
    (hst : Step.precommit.rank ≤ s.step.rank ∧ s.step.rank < Step.commit.rank)
    (hm : maj23Of (s.votes.precommits (r : Int)) = some (some b))
    (hb : s.lockedBlock = some b ∨ (s.proposalBlock = some b ∧ s.proposalParts = some b))
    (hv : c.valid b = true) :
    (afterPrecommit c s r).decided = some (b, (r : Int)) :=
  precommit_quorum_decides c s r b hh hr hst hm hb hv

/-- **a commit for a block the node holds is final at once**, from whatever round and step before
the commit step the node is in (`enterCommit`) -/
theorem commit_for_held_block_is_final (c : Cfg) (s : NodeState) (r b : Nat)
    (hh : s.halted = false) (hst : s.step.rank < Step.commit.rank)
    (hm : maj23Of (s.votes.precommits (r : Int)) = some (some b))
    (hb : s.lockedBlock = some b ∨ (s.proposalBlock = some b ∧ s.proposalParts = some b))
    (hv : c.valid b = true) :
    (enterCommit c s r).decided = some (b, (r : Int)) :=
  enterCommit_decides c s r b hh hst hm hb hv

/-- **the commit step waits for the block while keeping the commit round**: in the commit step for
round `r`, set up for block `b`, the node decides `b` in round `r` when the block arrives -/
theorem commit_step_waits_for_block (c : Cfg) (s : NodeState) (r b : Nat)
    (hh : s.halted = false) (hst : s.step = .commit) (hcr : s.commitRound = (r : Int))
    (hm : maj23Of (s.votes.precommits (r : Int)) = some (some b))
    (hp : s.proposalParts = some b) (hd : s.partsDone = false) (hv : c.valid b = true) :
    (addBlockPart c s b).decided = some (b, (r : Int)) :=
  commit_step_block_arrival_decides c s r b hh hst hcr hm hp hd hv

/-! ### vote-set arithmetic: delivered votes yield the recorded majority, in any order -/

/-- every vote set a node ever holds, after ANY input list, satisfies the well-formedness invariant
`VoteSet.WF` (distinct bucket members, sums = powers, a bucket at or above the quorum implies a
recorded majority, …) -/
theorem vote_sets_well_formed (c : Cfg) (me : Nat) (hc : c.self = some me) (is : List Input) :
    HVS.WF c (run c .init is).votes := run_WF is

/-- **a delivered vote is recorded and stays recorded**: at the moment the vote arrives (`pre` has
been handled) the node is live and tracks the vote's round, the vote is well signed and its validator
has no conflicting vote in that set ⇒ it is in the set after the whole run `pre ++ vote :: post`,
whatever `post` contains. -/
theorem delivered_vote_recorded (c : Cfg) (me : Nat) (hc : c.self = some me) (pre post : List Input)
    (v : Vote) (peer : Peer) (hv : v.wellSigned c)
    (hlive : (run c .init pre).halted = false ∧ (run c .init pre).decided = none)
    (ht : ((run c .init pre).votes.getVoteSet (v.round : Int) v.typ).isSome = true)
    (ho : (run c .init pre).votes.only (v.round : Int) v.typ v.bid v.val) :
    (run c .init (pre ++ Input.vote v peer :: post)).votes.has (v.round : Int) v.typ v.bid v.val :=
  Cons.delivered_vote_recorded hc pre post v peer hv hlive ht ho

/-- **votes carrying the quorum yield the recorded +2/3 majority** — after ANY run (any order, any
junk from other validators, conflicting votes of faulty validators in other buckets, majority claims,
catch-up rounds, timeouts): if validators `Q` (distinct, power at least the quorum) all have a
recorded vote for `b` in the set of (r, t), no vote input of the run carries another value for one of
them, and the node itself — if it is one of them — signed nothing else, the recorded majority of
that set is `b`. -/
theorem votes_yield_majority (c : Cfg) (me : Nat) (hc : c.self = some me) (is : List Input)
    (r : Nat) (t : VType) (b : Bid) (Q : List Nat) (hn : Q.Nodup)
    (hq : ∀ u ∈ Q, u < c.n ∧ (run c .init is).votes.has (r : Int) t b u)
    (hin : ∀ v peer, Input.vote v peer ∈ is → v.typ = t → v.round = r → v.val ∈ Q → v.bid = b)
    (hown : me ∈ Q → ∀ x, Output.signVote t r x ∈ (run c .init is).out → x = b)
    (hp : c.quorum ≤ (Q.map c.power).sum) :
    maj23Of ((run c .init is).votes.getVoteSet (r : Int) t) = some b :=
  Cons.votes_yield_majority hc is r t b Q hn hq hin hown hp

/-- **recorded votes for anything of validators carrying more than 2/3 of the power yield
`hasTwoThirdsAny`** (what round skipping and the wait steps test) -/
theorem votes_yield_any (c : Cfg) (me : Nat) (hc : c.self = some me) (is : List Input)
    (r : Nat) (t : VType) (R : List Nat) (hn : R.Nodup)
    (hr : ∀ u ∈ R, u < c.n ∧ ∃ k, (run c .init is).votes.has (r : Int) t k u)
    (hp : c.total * 2 / 3 < (R.map c.power).sum) :
    hasAnyOf c ((run c .init is).votes.getVoteSet (r : Int) t) = true :=
  Cons.votes_yield_any hc is r t R hn hr hp

/-! ### one node, one good round -/

/-- **good_round_decides_node**: a node that has just entered round `r` (`GoodStart`: propose step,
nothing of the round received yet, unlocked or locked on `b`, `b` valid, the validators of
`me :: Q1` / `me :: Q2` carry the quorum and hold no conflicting votes at this node) is delivered the
proposal of the round's proposer for `b` and its block, and then — in ANY interleaving (`hperm`) — the
prevotes for `b` of `Q1` and the precommits for `b` of `Q2`; its own proposal-completion, prevote and
precommit travel through the internal queue as in the real receive routine. Then it decides `b` in
round `r`. (`hfresh`: the start state does not already contain the node's own precommit together with
a recorded precommit majority — without it the statement is false, `Cons.good_round_needs_fresh`.) -/
theorem good_round_decides_node (c : Cfg) (me : Nat) (s : NodeState) (r b : Nat) (Q1 Q2 : List Nat)
    (hs : GoodStart c me s r b Q1 Q2) (pr : Nat) (hpr : c.proposer s.valRound = pr ∧ pr < c.n)
    (hfresh : maj23Of (s.votes.precommits (r : Int)) = none ∨ ¬ s.votes.has (r : Int) .precommit (some b) me)
    (votes : List Input)
    (hperm : votes.Perm (goodVotes r b .prevote Q1 ++ goodVotes r b .precommit Q2)) :
    (run c s ([Input.proposal ⟨r, b, -1, pr⟩, Input.blockComplete b] ++ votes)).decided = some (b, (r : Int)) :=
  Cons.good_round_decides_node c me s r b Q1 Q2 hs pr hpr hfresh votes hperm

/-- **not an orphan + precommit quorum recorded + block held ⇒ decided** — after ANY input list in
any order: the node is not halted, is in the commit step if it has ever entered it (`hnorphan`, the
state form of `NoOrphanCommit`), its precommits of round `r` have the recorded +2/3 majority for `b`,
the round it committed in carries the same block (`hcv`: it is `r` itself, or agreement gives it), and
it holds `b`. Then it has decided `b`. (Universal invariants behind it, `Cons.KI`: the proposal block
is always held with its complete part set; a node in the commit step never holds the committed block
undecided; a recorded precommit majority for a block implies the node went through `enterCommit`.) -/
theorem quorum_and_block_decide (c : Cfg) (is : List Input) (r b : Nat)
    (hh : (run c .init is).halted = false)
    (hnorphan : 0 ≤ (run c .init is).commitRound → (run c .init is).step = .commit)
    (hm : maj23Of ((run c .init is).votes.getVoteSet (r : Int) .precommit) = some (some b))
    (hcv : ∀ b', maj23Of ((run c .init is).votes.getVoteSet (run c .init is).commitRound .precommit) = some (some b') →
      b' = b)
    (hb : (run c .init is).proposalBlock = some b) :
    (run c .init is).decided = some (b, (run c .init is).commitRound) :=
  Cons.quorum_and_block_decide is r b hh hnorphan hm hcv hb

/-! ### the network, every schedule -/

/-- **decisions are final**: whatever the scheduler and the faulty validators do (any list of
deliveries, faulty messages, claims, timeouts, closures), a node that has decided keeps exactly that
decision. -/
theorem decisions_are_final (c : SCfg) (net : Net) (ops : List Op) (i : Nat) (d : Nat × Int)
    (h : net.decidedAt i = some d) : (net.run c ops).decidedAt i = some d :=
  (run_moves c ops net).decidedAt h

/-- **the log only grows** (nothing a correct node sent is ever lost: it stays available for
delivery), and the set of correct nodes is fixed -/
theorem log_only_grows (c : SCfg) (net : Net) (ops : List Op) :
    (∃ ext, (net.run c ops).log = net.log ++ ext) ∧ (net.run c ops).nodes.length = net.nodes.length :=
  ⟨(run_moves c ops net).log_ext, (run_moves c ops net).length_eq⟩

/-- **a node that knows the commit and is still in the commit step decides as soon as the block is
delivered, and keeps that decision in every continuation** (the "decision seen without its block"
prefix of the property, for the nodes the defect below has not pulled out of the commit step):
node `i` is live, in the commit step for round `r`, set up for block `b` which is log entry `k`. -/
theorem commit_waiting_node_decides_on_delivery (c : SCfg) (net : Net) (i k r b : Nat) (nd : Node)
    (hi : net.nodes[i]? = some nd) (hk : net.log[k]? = some (.block b))
    (hh : nd.s.halted = false) (hd : nd.s.decided = none)
    (hst : nd.s.step = .commit) (hcr : nd.s.commitRound = (r : Int))
    (hm : maj23Of (nd.s.votes.precommits (r : Int)) = some (some b))
    (hp : nd.s.proposalParts = some b) (hpd : nd.s.partsDone = false) (hv : c.cfg.valid b = true)
    (ops : List Op) :
    ((net.deliver c i k).run c ops).decidedAt i = some (b, (r : Int)) := by
  apply decisions_are_final
  have e : net.deliver c i k = net.input c i (.blockComplete b) := by unfold Net.deliver; rw [hi, hk]; rfl
  rw [e, input_decidedAt c net i _ nd hi]
  exact step_block_in_commit_step_decides (nodeCfg c.cfg nd.idx) nd.s r b hh hd hst hcr hm hp hpd hv

/-- **the precommit that completes the +2/3 majority makes a node decide** (one input of the
receive routine, own messages included; the vote-set arithmetic is the hypothesis `hm`) -/
theorem commit_quorum_vote_decides (c : Cfg) (s : NodeState) (v : Vote) (peer : Peer) (r b : Nat)
    (hh : s.halted = false) (hd : s.decided = none) (hr : s.round = r)
    (hst : Step.precommit.rank ≤ s.step.rank ∧ s.step.rank < Step.commit.rank)
    (hv : v.typ = .precommit ∧ v.round = r)
    (hadd : (s.votes.addVote c v peer).2 = true)
    (hm : maj23Of ((s.votes.addVote c v peer).1.precommits (r : Int)) = some (some b))
    (hb : s.lockedBlock = some b ∨ (s.proposalBlock = some b ∧ s.proposalParts = some b))
    (hval : c.valid b = true) :
    (step c s (.vote v peer)).decided = some (b, (r : Int)) := by
  have h1 : handleInput c s (.vote v peer) = afterPrecommit c { s with votes := (s.votes.addVote c v peer).1 } r := by
    show addVote c s v peer = _
    unfold addVote
    simp [hadd, hv.1, hv.2]
  have h2 := precommit_quorum_decides c { s with votes := (s.votes.addVote c v peer).1 } r b
    (by simpa using hh) (by simpa using hr) (by simpa using hst) (by simpa using hm) (by simpa using hb) hval
  rw [step_of_live c s _ ⟨hh, hd⟩, h1, drain_of_not_live c _ _ (NodeState.not_live_of_decided h2)]
  exact h2

/-- **every node of the net is the node model run on some input list**, under every schedule: all
single-node theorems (`Tmv.Cons`, C02, the vote arithmetic above) apply to the nodes of the net -/
theorem nodes_are_runs (c : SCfg) (correct : List Nat) (ops : List Op) :
    AllNodes (fun idx s => ∃ is, s = Cons.run (nodeCfg c.cfg idx) .init is) ((Net.init correct).run c ops) :=
  Sync.nodes_are_runs c correct ops

/-- … in particular every vote set of every node of every reachable net is well-formed -/
theorem net_vote_sets_well_formed (c : SCfg) (correct : List Nat) (ops : List Op) :
    AllNodes (fun idx s => HVS.WF (nodeCfg c.cfg idx) s.votes) ((Net.init correct).run c ops) :=
  (reach_run c correct ops).wf

/-- **what the idealised gossip achieves** (`closure`, when its loop ends at a fixpoint rather than
by running out of fuel): every logged vote of another validator is recorded at every node that is
live, tracks the vote's round and holds no conflicting vote of that validator. Together with
`votes_yield_majority`: after closure a +2/3 majority that exists in the log is recorded at every
such node. -/
theorem closure_records_votes (c : SCfg) (correct : List Nat) (ops : List Op)
    (hconv : ((Net.init correct).run c ops).closureConverged c)
    (i k : Nat) (nd : Node) (v : Vote)
    (hi : (((Net.init correct).run c ops).closure c).nodes[i]? = some nd)
    (hk : (((Net.init correct).run c ops).closure c).log[k]? = some (.vote v))
    (hv : v.wellSigned (nodeCfg c.cfg nd.idx)) (hnot : v.val ≠ nd.idx)
    (hlive : nd.s.halted = false ∧ nd.s.decided = none)
    (ht : (nd.s.votes.getVoteSet (v.round : Int) v.typ).isSome = true)
    (ho : nd.s.votes.only (v.round : Int) v.typ v.bid v.val) :
    nd.s.votes.has (v.round : Int) v.typ v.bid v.val :=
  Sync.closure_records_votes c _ hconv (net_vote_sets_well_formed c correct ops) i k nd v hi hk hv hnot hlive ht ho

/-- **after closure a +2/3 majority that exists in the log is recorded at every node that can take
it** (polkas and commits spread): validators `Q` (distinct, carrying the quorum) have their votes
(t, r, b) in the log — the node's own one, if it is among them, recorded at the node —; the node is
live, tracks round `r` and holds no conflicting vote of any of them ⇒ its set of (r, t) has the
recorded majority `b`. -/
theorem closure_spreads_majority (c : SCfg) (correct : List Nat) (ops : List Op)
    (hconv : ((Net.init correct).run c ops).closureConverged c)
    (i : Nat) (nd : Node) (hi : (((Net.init correct).run c ops).closure c).nodes[i]? = some nd)
    (r : Nat) (t : VType) (b : Bid) (Q : List Nat) (hn : Q.Nodup) (hlt : ∀ u ∈ Q, u < c.cfg.n)
    (hlog : ∀ u ∈ Q, u ≠ nd.idx → ∃ k : Nat,
      (((Net.init correct).run c ops).closure c).log[k]? = some (Msg.vote ⟨t, r, b, u, true, u, u⟩))
    (hself : nd.idx ∈ Q → nd.s.votes.has (r : Int) t b nd.idx)
    (hlive : nd.s.halted = false ∧ nd.s.decided = none)
    (ht : (nd.s.votes.getVoteSet (r : Int) t).isSome = true)
    (honly : ∀ u ∈ Q, nd.s.votes.only (r : Int) t b u)
    (hp : (nodeCfg c.cfg nd.idx).quorum ≤ (Q.map (nodeCfg c.cfg nd.idx).power).sum) :
    maj23Of (nd.s.votes.getVoteSet (r : Int) t) = some b :=
  Sync.closure_spreads_majority c _ hconv (net_vote_sets_well_formed c correct ops) i nd hi r t b Q hn hlt
    hlog hself hlive ht honly hp

/-- **`quorum_and_block_decide` for every node of every reachable net** (commit half of `good_round_decides` at
network level, every schedule): a correct node that is not halted, not an orphan, has the recorded
precommit majority for `b` in some round, whose commit round carries `b`, and that holds `b`, has
decided `b`. -/
theorem net_quorum_and_block_decide (c : SCfg) (correct : List Nat) (ops : List Op) (nd : Node)
    (hm : nd ∈ ((Net.init correct).run c ops).nodes) (r b : Nat)
    (hh : nd.s.halted = false)
    (hnorphan : 0 ≤ nd.s.commitRound → nd.s.step = .commit)
    (hq : maj23Of (nd.s.votes.getVoteSet (r : Int) .precommit) = some (some b))
    (hcv : ∀ b', maj23Of (nd.s.votes.getVoteSet nd.s.commitRound .precommit) = some (some b') → b' = b)
    (hb : nd.s.proposalBlock = some b) :
    nd.s.decided = some (b, nd.s.commitRound) := by
  exact ((reach_run c correct ops).ki_pd nd hm).1.decides r b hh hnorphan hq hcv hb

/-- **one vote per round, lifted to the net's log** (every schedule, whatever the faulty validators
do, MockPV or FilePV signer): a vote in the log that carries the index of a correct validator `u` is
the ONLY vote of `u` for that (round, type) that any correct node holds — so `u`'s votes can never be
refused as conflicting anywhere. (Invariant behind it, `Sync.LogInv`: every correct node satisfies
C02's step-guard invariant because the timeouts it is given are the ones it scheduled; a logged vote
with a correct index was signed by that node; a recorded vote is an own signed vote or a logged
vote.) -/
theorem correct_votes_never_conflict (c : SCfg) (correct : List Nat) (hn : correct.Nodup) (ops : List Op)
    (nd ndu : Node) (hm : nd ∈ ((Net.init correct).run c ops).nodes)
    (hmu : ndu ∈ ((Net.init correct).run c ops).nodes)
    (v : Vote) (hv : Msg.vote v ∈ ((Net.init correct).run c ops).log) (hval : v.val = ndu.idx) :
    nd.s.votes.only (v.round : Int) v.typ v.bid ndu.idx :=
  only_of_logged _ ((reach_run c correct ops).logInv hn) nd ndu hm hmu v hv hval

/-- **after closure a +2/3 majority of CORRECT validators that exists in the log is recorded at every
live node that tracks the round** — no hypothesis about conflicting votes (`correct_votes_never_conflict` discharges it): polkas and
commits of correct validators spread to everybody. (`hself`: if the node is one of the voters, its
own vote is recorded at it.) -/
theorem closure_spreads_correct_majority (c : SCfg) (correct : List Nat) (hn : correct.Nodup) (ops : List Op)
    (hconv : ((Net.init correct).run c ops).closureConverged c)
    (i : Nat) (nd : Node) (hi : (((Net.init correct).run c ops).closure c).nodes[i]? = some nd)
    (r : Nat) (t : VType) (b : Bid) (Q : List Nat) (hQ : Q.Nodup)
    (hQc : ∀ u ∈ Q, u ∈ correct ∧ u < c.cfg.n)
    (hlog : ∀ u ∈ Q, Msg.vote ⟨t, r, b, u, true, u, u⟩ ∈ (((Net.init correct).run c ops).closure c).log)
    (hself : nd.idx ∈ Q → nd.s.votes.has (r : Int) t b nd.idx)
    (hlive : nd.s.halted = false ∧ nd.s.decided = none)
    (ht : (nd.s.votes.getVoteSet (r : Int) t).isSome = true)
    (hp : (nodeCfg c.cfg nd.idx).quorum ≤ (Q.map (nodeCfg c.cfg nd.idx).power).sum) :
    maj23Of (nd.s.votes.getVoteSet (r : Int) t) = some b :=
  (reach_run c correct ops).majority_known hn hconv i nd hi r t b Q hQ hQc hlog hself hlive ht hp

/-- **convergence of the gossip closure is checkable**: `closureCount` (the number of passes the loop
makes when it stops at a pass that changed nothing; printed by the driver for EVERY closure of every
generated run and counted independently on the real nodes by the Go side — evidence key
`gossip_passes_per_closure`, oracle fingerprint `sync.closure-did-not-converge`) being `some _` is
exactly the hypothesis `closureConverged` of `closure_records_votes` / `closure_spreads_*`. That
the count stays below the fuel (64) on every reachable net is NOT proved (it is observed: at most a
handful of passes). -/
theorem closure_converged_of_count (c : SCfg) (net : Net) (k : Nat)
    (h : closureCount c closureFuel net = some (k + 1)) : net.closureConverged c := by
  obtain ⟨h1, h2⟩ := closureLoop_of_count c closureFuel net k h
  exact ⟨k, by unfold Net.closure; rw [h1], h2⟩

/-- **every live node of every reachable net has recorded every vote it signed** (its queue is empty:
it always is between the moves of the scheduler — the stream compares the queue length of every
node after every move) -/
theorem own_votes_recorded (c : SCfg) (correct : List Nat) (hn : correct.Nodup) (ops : List Op)
    (nd : Node) (hm : nd ∈ ((Net.init correct).run c ops).nodes)
    (hlt : nd.idx < c.cfg.n) (hlive : nd.s.halted = false ∧ nd.s.decided = none)
    (hq : nd.s.queue = [])
    (t : VType) (r : Nat) (b : Bid) (hs : Output.signVote t r b ∈ nd.s.out) :
    nd.s.votes.has (r : Int) t b nd.idx :=
  Sync.own_votes_recorded c correct hn ops nd hm hlt hlive hq t r b hs

/-- **polkas and commits of correct validators are known to every correct node after closure**: as
`closure_spreads_correct_majority`, with the node's own vote taken care of — the only conditions left
on the receiving node are that it is live, idle (empty queue) and tracks the round. -/
theorem correct_majority_known_to_all (c : SCfg) (correct : List Nat) (hn : correct.Nodup) (ops : List Op)
    (hconv : ((Net.init correct).run c ops).closureConverged c)
    (i : Nat) (nd : Node) (hi : (((Net.init correct).run c ops).closure c).nodes[i]? = some nd)
    (r : Nat) (t : VType) (b : Bid) (Q : List Nat) (hQ : Q.Nodup)
    (hQc : ∀ u ∈ Q, u ∈ correct ∧ u < c.cfg.n)
    (hlog : ∀ u ∈ Q, Msg.vote ⟨t, r, b, u, true, u, u⟩ ∈ (((Net.init correct).run c ops).closure c).log)
    (hlive : nd.s.halted = false ∧ nd.s.decided = none) (hq : nd.s.queue = [])
    (ht : (nd.s.votes.getVoteSet (r : Int) t).isSome = true)
    (hp : (nodeCfg c.cfg nd.idx).quorum ≤ (Q.map (nodeCfg c.cfg nd.idx).power).sum) :
    maj23Of (nd.s.votes.getVoteSet (r : Int) t) = some b :=
  (reach_run c correct ops).majority_known hn hconv i nd hi r t b Q hQ hQc hlog
    (fun hs => (reach_run c correct ops).closure.logged_own_vote hn (List.mem_of_getElem? hi) (hQc _ hs).2 hq (hlog _ hs))
    hlive ht hp

/-! ### round monotonicity, quiet steps, and what closure delivers besides votes -/

/-- **one input of the receive routine never takes a node back** (`Cons.Quiet`): the round never
decreases; within one round the step only moves forward, the proposer-priority count is fixed and an
accepted proposal stays; with round, step and outputs unchanged a known part-set header stays (and a
complete part set stays complete) unless it is replaced by the header of the round's polka; recorded
majorities, halting and decisions are permanent. -/
theorem step_never_goes_back (c : Cfg) (s : NodeState) (i : Input) (hn : NHI s) :
    Quiet s (step c s i) ∧ NHI (step c s i) :=
  step_Quiet c s i hn

/-- **after a converged closure every live node has a proposal for its round** if the round's proposal
— by the proposer the node expects, with an admissible POL round, not its own — is in the log -/
theorem closure_delivers_proposal (c : SCfg) (correct : List Nat) (ops : List Op)
    (hconv : ((Net.init correct).run c ops).closureConverged c)
    (i k : Nat) (nd : Node) (p : Proposal)
    (hi : (((Net.init correct).run c ops).closure c).nodes[i]? = some nd)
    (hk : (((Net.init correct).run c ops).closure c).log[k]? = some (.proposal p))
    (hlive : nd.s.halted = false ∧ nd.s.decided = none)
    (hround : p.round = nd.s.round)
    (hpol : ¬ (p.pol < -1 ∨ (p.pol ≥ 0 ∧ p.pol ≥ (p.round : Int))))
    (hsigner : p.signer = (nodeCfg c.cfg nd.idx).proposer nd.s.valRound ∧ p.signer < c.cfg.n)
    (hnot : p.signer ≠ nd.idx) :
    nd.s.proposal.isSome = true :=
  Sync.closure_delivers_proposal c _ hconv (reach_run c correct ops).nhi i k nd p hi hk hlive hround hpol hsigner hnot

/-- **after a converged closure every live node that waits for the parts of a block that is in the log
has them** (the fixpoint argument of `closure_records_votes`, for block parts: uses that a quiet pass
cannot move a part-set header away and back) -/
theorem closure_delivers_block (c : SCfg) (correct : List Nat) (ops : List Op)
    (hconv : ((Net.init correct).run c ops).closureConverged c)
    (i k : Nat) (nd : Node) (b : Nat)
    (hi : (((Net.init correct).run c ops).closure c).nodes[i]? = some nd)
    (hk : (((Net.init correct).run c ops).closure c).log[k]? = some (.block b))
    (hlive : nd.s.halted = false ∧ nd.s.decided = none)
    (hparts : nd.s.proposalParts = some b) :
    nd.s.partsDone = true :=
  Sync.closure_delivers_block c _ hconv (reach_run c correct ops).nhi i k nd b hi hk hlive hparts

/-- **a commit spreads** (the "decision seen without its block" clause of the property, at network
level, every schedule): after a converged closure, a correct node that is not halted, idle, tracks
round `r`, is NOT an orphan (`hnorphan`), waits for block `b` and whose commit round carries `b`
(`hcv`) has decided `b` as soon as the precommits for `b` of correct validators carrying the quorum and
the block are in the log — whatever else the faulty validators sent and in whatever order everything
arrived. -/
theorem commit_spreads (c : SCfg) (correct : List Nat) (hn : correct.Nodup) (ops : List Op)
    (hconv : ((Net.init correct).run c ops).closureConverged c)
    (i : Nat) (nd : Node) (hi : (((Net.init correct).run c ops).closure c).nodes[i]? = some nd)
    (r b : Nat) (Q : List Nat) (hQ : Q.Nodup) (hQc : ∀ u ∈ Q, u ∈ correct ∧ u < c.cfg.n)
    (hlog : ∀ u ∈ Q, Msg.vote ⟨.precommit, r, some b, u, true, u, u⟩ ∈
      (((Net.init correct).run c ops).closure c).log)
    (hp : (nodeCfg c.cfg nd.idx).quorum ≤ (Q.map (nodeCfg c.cfg nd.idx).power).sum)
    (hblock : Msg.block b ∈ (((Net.init correct).run c ops).closure c).log)
    (hh : nd.s.halted = false) (hq : nd.s.queue = [])
    (ht : (nd.s.votes.getVoteSet (r : Int) .precommit).isSome = true)
    (hnorphan : 0 ≤ nd.s.commitRound → nd.s.step = .commit)
    (hcv : ∀ b', maj23Of (nd.s.votes.getVoteSet nd.s.commitRound .precommit) = some (some b') → b' = b)
    (hparts : nd.s.proposalParts = some b) :
    nd.s.decided = some (b, nd.s.commitRound) :=
  Sync.commit_spreads c correct hn ops hconv i nd hi r b Q hQ hQc hlog hp hblock hh hq ht hnorphan hcv hparts

/-- `decisions_are_final` for a synchronous suffix -/
theorem decisions_are_final_in_suffix (c : SCfg) (net : Net) (moves : List Op) (i : Nat) (d : Nat × Int)
    (h : net.decidedAt i = some d) : (syncRun c net moves).decidedAt i = some d :=
  (syncRun_moves c moves net).decidedAt h

/-- **in the synchronous suffix a timeout fires only when nothing else is enabled**: while the net
is not closed (some message may still be undelivered) a `fire` move does nothing -/
theorem suffix_timeout_needs_closed_net (c : SCfg) (net : Net) (i : Nat)
    (hs : net.synced = true) (hc : net.closed = false) : net.op c (.fire i) = net := by
  simp [Net.op, hs, hc]

/-- … and only in the order of virtual time: a timer that expires more than `skew` after the
earliest pending one does not fire -/
theorem suffix_timeouts_in_time_order (c : SCfg) (net : Net) (i e m : Nat) (hs : net.synced = true)
    (he : (net.nodes[i]?).bind Node.expiry = some e) (hm : net.minExpiry = some m)
    (hlate : m + c.skew < e) : net.op c (.fire i) = net := by
  have hne : ¬ (e ≤ m + c.skew) := by omega
  cases hc : net.closed with
  | false => simp [Net.op, hs, hc]
  | true => simp [Net.op, hs, hc, Net.fireAllowed, he, hm, hne]

/-! ### the property, and why it is false of the code as it stands -/

/-- power of the validators that are not correct nodes -/
def faultyPower (c : Cfg) (correct : List Nat) : Nat :=
  (((List.range c.n).filter fun v => !correct.contains v).map c.power).sum

/-- **the property** (full statement, as a proposition about the model): faulty validators hold
less than a third of the power ⇒ for every adversarial prefix (any list of moves) and every
synchronous suffix (`moves`: eligible timeouts and anything the faulty validators keep doing, each
followed by closure) the run is never stuck before every correct node has decided, and never gets
more than `B` rounds past the round reached at the synchrony point. -/
def Termination (sc : SCfg) (correct : List Nat) (B : Nat) : Prop :=
  3 * faultyPower sc.cfg correct < sc.cfg.total →
  ∀ (pre moves : List Op),
    let net := (Net.init correct).run sc pre
    let net' := syncRun sc net moves
    (net'.allDecided = true ∨ net'.somePending = true) ∧
    net'.maxRound ≤ (syncRun sc net []).maxRound + B

/-- the hypothesis the defect below forces: no undecided correct node knows a commit round while
being outside the commit step -/
def NoOrphanCommit (net : Net) : Prop :=
  ∀ nd ∈ net.nodes, nd.s.decided = none → nd.s.halted = false → 0 ≤ nd.s.commitRound → nd.s.step = .commit

/-- the node is locked on a block although it holds, for a round after its lock round that it has
reached, a recorded +2/3 prevote majority for something else (executable) -/
def hasStaleLock (s : NodeState) : Bool :=
  match s.lockedBlock with
  | none => false
  | some b => (List.range (s.round + 1)).any fun q =>
      decide (s.lockedRound < (q : Int)) &&
      (match maj23Of (s.votes.prevotes (q : Int)) with
       | some x => decide (x ≠ some b)
       | none => false)

/-- the hypothesis the second defect forces: no live correct node holds a lock that has outlived a
releasing polka (`unlock_on_later_polka` was due but the rule was not evaluated) -/
def NoStaleLock (net : Net) : Prop :=
  ∀ nd ∈ net.nodes, nd.s.decided = none → nd.s.halted = false → hasStaleLock nd.s = false

/-- `closure_single_lock` of DESIGN.md as a statement: after the synchrony point and closure all
live correct nodes that are locked are locked on one block. FALSE of the code:
`closure_single_lock_fails`. -/
def ClosureSingleLock (sc : SCfg) (correct : List Nat) : Prop :=
  3 * faultyPower sc.cfg correct < sc.cfg.total →
  ∀ (pre : List Op) (nd nd' : Node) (b b' : Nat),
    let net := syncRun sc ((Net.init correct).run sc pre) []
    nd ∈ net.nodes → nd' ∈ net.nodes → nd.s.decided = none → nd'.s.decided = none →
    nd.s.halted = false → nd'.s.halted = false →
    nd.s.lockedBlock = some b → nd'.s.lockedBlock = some b' → b = b'

/-- every validator with positive power is the proposer of some round in any window of `W` rounds -/
def FairSchedule (c : Cfg) (W : Nat) : Prop :=
  ∀ v, v < c.n → 0 < c.power v → ∀ r, ∃ k, k < W ∧ c.proposer (r + k) = v

/-- **what remains to be proved** (`termination_partial` of DESIGN.md, not a theorem here): under
`FairSchedule W`, and with `NoOrphanCommit` and `NoStaleLock` holding in every net the suffix passes
through, the
statement of `Termination` with `B = W + 1`. Its three lemmas, also unproved:
`closure_single_lock` (after closure — and after every correct node has prevoted in the round of the
highest polka, cf. `lock_kept_while_behind` — all locked correct nodes are locked on one block),
`good_round_decides` at network level (one node: `good_round_decides_node`; commit half:
`commit_spreads`; the prevote/precommit half is missing, see the head comment), `bad_round_harmless`. -/
def TerminationRemaining (sc : SCfg) (correct : List Nat) (W : Nat) : Prop :=
  FairSchedule sc.cfg W → 3 * faultyPower sc.cfg correct < sc.cfg.total →
  ∀ (pre moves : List Op),
    let net := (Net.init correct).run sc pre
    (∀ k, NoOrphanCommit (syncRun sc net (moves.take k)) ∧ NoStaleLock (syncRun sc net (moves.take k))) →
    let net' := syncRun sc net moves
    (net'.allDecided = true ∨ net'.somePending = true) ∧
    net'.maxRound ≤ (syncRun sc net []).maxRound + (W + 1)

/-! #### the witness: 4 validators of power 1, validator 1 faulty -/

def exCfg : SCfg where
  cfg := { n := 4, power := fun _ => 1, self := none, proposer := fun k => k % 4, valid := fun b => b != 8,
           ownBlock := 0, waitForTxs := false, needProofBlock := true, emptyInterval := false,
           checkHRS := false }
  tmo := defaultTimeouts
  skew := 500

def exPv (r : Nat) (b : Bid) (v : Nat) : Msg := .vote ⟨.prevote, r, b, v, true, v, v⟩
def exPc (r : Nat) (b : Bid) (v : Nat) : Msg := .vote ⟨.precommit, r, b, v, true, v, v⟩

/-- the prefix of corpus/C03/commit-seen-then-round-skip.ops (positions: validator 0 ↦ 0, 2 ↦ 1,
3 ↦ 2): validator 0 proposes block 0 in round 0; validators 0 and 3 get it, validator 2 does not
and prevotes nil; the faulty validator 1 prevotes and precommits block 0. Validator 2 is handed every
prevote and precommit of round 0: it precommits nil and enters the commit step without the block.
Validators 0 and 3 each miss one precommit, time out and prevote block 0 in round 1; with the faulty
validator's prevote these are +2/3 prevotes of round 1 at validator 2, which leaves the commit step. -/
def exPrefix : List Op :=
  [.fire 0, .fire 1, .fire 2, .dl 0 1, .dl 2 0, .dl 2 1, .fire 1,
   .byz (exPv 0 (some 0) 1), .byz (exPc 0 (some 0) 1),
   .dl 0 3, .dl 0 4, .dl 0 5, .dl 2 2, .dl 2 4, .dl 2 5,
   .dl 1 2, .dl 1 3, .dl 1 5, .dl 1 6, .dl 1 7, .dl 1 8,
   .dl 0 6, .dl 0 9, .dl 2 6, .dl 2 9,
   .fire 0, .fire 2, .fire 0, .fire 2,
   .byz (exPv 1 (some 0) 1), .dl 1 10, .dl 1 11, .dl 1 12]

/-- the suffix: validator 2's propose and prevote-wait timeouts -/
def exMoves : List Op := [.fire 1, .fire 1]

def exFinal : Net := syncRun exCfg ((Net.init [0, 2, 3]).run exCfg exPrefix) exMoves

/-- Boolean form of `¬ NoOrphanCommit` -/
def hasOrphanCommit (net : Net) : Bool :=
  net.nodes.any fun nd =>
    nd.s.decided.isNone && !nd.s.halted && decide (0 ≤ nd.s.commitRound) && decide (nd.s.step ≠ .commit)

theorem noOrphan_bool (net : Net) (h : NoOrphanCommit net) : hasOrphanCommit net = false := by
  cases hb : hasOrphanCommit net with
  | false => rfl
  | true =>
    unfold hasOrphanCommit at hb
    obtain ⟨nd, hmem, hc⟩ := List.any_eq_true.1 hb
    simp only [Bool.and_eq_true, Option.isNone_iff_eq_none, Bool.not_eq_true', decide_eq_true_eq] at hc
    exact absurd (h nd hmem hc.1.1.1 hc.1.1.2 hc.1.2) hc.2

/-- validator 2 at the end of the run -/
def exStuck : NodeState := ((exFinal.nodes[1]?).map (·.s)).getD .init

/-- the end of that run: validators 0 and 3 have decided block 0 in round 0; validator 2 holds the
block and the +2/3 precommits of round 0 for it, knows commit round 0, sits in the precommit step of
round 1 locked on the block, with no timeout pending — and everything has been delivered to it. -/
theorem orphan_commit_state :
    exFinal.allDecided = false ∧ exFinal.somePending = false ∧ exFinal.closed = true ∧
    exFinal.nodes.map (·.idx) = [0, 2, 3] ∧
    exFinal.nodes.map (·.s.decided) = [some (0, 0), none, some (0, 0)] ∧
    exStuck.round = 1 ∧ exStuck.step = .precommit ∧ exStuck.commitRound = 0 ∧
    exStuck.proposalBlock = some 0 ∧ exStuck.lockedBlock = some 0 ∧
    maj23Of (exStuck.votes.precommits 0) = some (some 0) ∧ hasOrphanCommit exFinal = true := by
  simp only [exStuck, exFinal, syncRun, Net.closure, closureLoop_eq_B]
  decide +kernel

/-- **the property is false of the code as it stands** (known finding
`sync.correct-node-never-decides.left-commit-step`): for no bound `B` does `Termination` hold of the
4-validator configuration with one faulty validator. -/
theorem termination_fails_after_leaving_commit_step (B : Nat) : ¬ Termination exCfg [0, 2, 3] B := by
  intro h
  have hp : 3 * faultyPower exCfg.cfg [0, 2, 3] < exCfg.cfg.total := by decide
  have := (h hp exPrefix exMoves).1
  have hw := orphan_commit_state
  change exFinal.allDecided = true ∨ exFinal.somePending = true at this
  rcases this with h1 | h1
  · rw [hw.1] at h1; cases h1
  · rw [hw.2.1] at h1; cases h1

/-- the run violates exactly the hypothesis `NoOrphanCommit` -/
theorem witness_violates_no_orphan_commit : ¬ NoOrphanCommit exFinal := by
  intro h
  have h1 := noOrphan_bool exFinal h
  have h2 := orphan_commit_state.2.2.2.2.2.2.2.2.2.2.2
  rw [h1] at h2; cases h2

/-! ### why "delivered in any order" needs re-delivery and the propose timeout -/

/-- validator 1 of the witness configuration (not the proposer of round 0) -/
def exNode1 : Cfg := nodeCfg exCfg.cfg 1

def exPvIn (r : Nat) (b : Bid) (v : Nat) : Input := .vote ⟨.prevote, r, b, v, true, v, v⟩ (1 + v)

/-- **a block part that arrives before the node knows the part-set header is lost**: the block, then
the proposal — the node ends up with the proposal but without the block (`addProposalBlockPart`
drops parts while `ProposalBlockParts == nil`); only a second delivery of the block completes the
proposal and makes the node prevote. (This is why the gossip of the statement — and `closure` —
re-delivers.) -/
theorem block_before_header_is_lost :
    let is := [Input.timeout 0 .newHeight, .blockComplete 0, .proposal ⟨0, 0, -1, 0⟩]
    (run exNode1 .init is).proposalBlock = none ∧ (run exNode1 .init is).step = .propose ∧
    (run exNode1 .init (is ++ [.blockComplete 0])).proposalBlock = some 0 ∧
    Output.signVote .prevote 0 (some 0) ∈ (run exNode1 .init (is ++ [.blockComplete 0])).out := by
  decide

/-- the inputs of the next witness: the prevotes of validators 0, 2, 3 (a polka, which makes the
part-set header known), the block, and only then the proposal -/
def exLateProposal : List Input :=
  [.timeout 0 .newHeight, exPvIn 0 (some 0) 0, exPvIn 0 (some 0) 2, exPvIn 0 (some 0) 3,
   .blockComplete 0, .proposal ⟨0, 0, -1, 0⟩]

/-- **a proposal that arrives after its block is acted upon only by the propose timeout**
(`handleMsg` runs no transition after `setProposal`): the node holds the complete proposal AND the
+2/3 prevotes for it, sits in the propose step and has signed nothing; delivering everything again
changes nothing; the propose timeout makes it prevote and precommit at once. So "decides in round r
whatever the order" holds only together with "timeouts fire when nothing else is enabled". -/
theorem proposal_after_block_waits_for_timeout :
    (run exNode1 .init exLateProposal).step = .propose ∧
    (run exNode1 .init exLateProposal).proposalBlock = some 0 ∧
    (run exNode1 .init exLateProposal).proposal.isSome = true ∧
    maj23Of ((run exNode1 .init exLateProposal).votes.prevotes 0) = some (some 0) ∧
    (∀ t r x, Output.signVote t r x ∉ (run exNode1 .init exLateProposal).out) ∧
    (run exNode1 .init (exLateProposal ++ exLateProposal)).step = .propose ∧
    Output.signVote .precommit 0 (some 0) ∈
      (run exNode1 .init (exLateProposal ++ [.timeout 0 .propose])).out := by
  refine ⟨by decide, by decide, by decide, by decide, ?_, by decide, by decide⟩
  intro t r x h
  have : (run exNode1 .init exLateProposal).out = [.schedule 0 .propose] := by decide
  rw [this] at h
  simp at h

/-- the same run is an instance of `votes_yield_majority` (hypotheses evaluated): validators 0, 2, 3
carry the quorum 3 of 4 and are recorded for block 0 in the prevote set of round 0 -/
example : (∀ u ∈ [0, 2, 3], u < exNode1.n ∧
      (run exNode1 .init exLateProposal).votes.has (0 : Nat) .prevote (some 0) u) ∧
    exNode1.quorum ≤ ([0, 2, 3].map exNode1.power).sum ∧
    maj23Of ((run exNode1 .init exLateProposal).votes.getVoteSet (0 : Nat) .prevote) = some (some 0) := by
  refine ⟨?_, by decide, by decide⟩
  intro u hu
  have hb : ∀ u ∈ [0, 2, 3], u < exNode1.n ∧
      (run exNode1 .init exLateProposal).votes.hasB (0 : Nat) .prevote (some 0) u = true := by decide
  exact ⟨(hb u hu).1, HVS.has_of_hasB (hb u hu).2⟩

/-! ### a lock that outlives its releasing polka (second known finding) -/

/-- validator 0 of the witness configuration (the proposer of round 0) -/
def exNode0 : Cfg := nodeCfg exCfg.cfg 0

/-- validator 0 proposes block 0 and locks it on the polka of round 0 (its own prevote and those of
validators 1 and 3); then it is handed the complete polka for block 1 of round 1 (validators 1, 2, 3)
— while it is in round 0, so the unlock rule `LockedRound < vote.Round <= cs.Round` does not fire —
and the prevotes of round 2, on which it moves on to round 2 -/
def exStaleLock : List Input :=
  [.timeout 0 .newHeight, exPvIn 0 (some 0) 1, exPvIn 0 (some 0) 3,
   exPvIn 1 (some 1) 1, exPvIn 1 (some 1) 2, exPvIn 1 (some 1) 3,
   exPvIn 2 (some 1) 1, exPvIn 2 (some 1) 2, exPvIn 2 none 3]

/-- everything of round 1 again, and the round-2 proposal for block 1 with POL round 1 and its block -/
def exStaleMore : List Input :=
  [exPvIn 1 (some 1) 1, exPvIn 1 (some 1) 2, exPvIn 1 (some 1) 3, .proposal ⟨2, 1, 1, 2⟩, .blockComplete 1]

/-- **closure_single_lock is false of the code** (known finding `sync.stale-lock-never-released`,
replayed on real nodes: corpus/C03/stale-lock-after-round-skip.ops): the node is in round 2, still
locked on block 0 since round 0, although it holds the +2/3 prevotes for block 1 of round 1 and
`LockedRound < 1 ≤ Round`; the unlock rule is only evaluated when a prevote of round 1 is ADDED, so
delivering all of them again changes nothing; and given the complete round-2 proposal for block 1
with POL round 1 it prevotes its locked block 0 (`defaultDoPrevote` ignores the POL round). With the
two other correct nodes locked on block 1 by that polka and the faulty validator silent, no round
reaches +2/3 again. -/
theorem stale_lock_survives_its_polka :
    (run exNode0 .init exStaleLock).round = 2 ∧ (run exNode0 .init exStaleLock).lockedBlock = some 0 ∧
    (run exNode0 .init exStaleLock).lockedRound = 0 ∧
    maj23Of ((run exNode0 .init exStaleLock).votes.prevotes 1) = some (some 1) ∧
    (run exNode0 .init (exStaleLock ++ exStaleMore)).lockedBlock = some 0 ∧
    isProposalComplete (run exNode0 .init (exStaleLock ++ exStaleMore)) = true ∧
    Output.signVote .prevote 2 (some 0) ∈ (run exNode0 .init (exStaleLock ++ exStaleMore)).out := by
  decide

/-- the prefix of corpus/C03/stale-lock-after-round-skip.ops (validator 2 faulty; positions:
validator 0 ↦ 0, 1 ↦ 1, 3 ↦ 2) -/
def exStalePrefix : List Op :=
  [.fire 0, .fire 1, .fire 2, .dl 1 0, .dl 1 1, .fire 2, .byz (exPv 0 (some 0) 2),
   .byz (exPv 0 none 2), .dl 0 5, .dl 1 6, .dl 2 6, .dl 0 3, .dl 0 4, .dl 1 2, .dl 1 4, .dl 2 2,
   .dl 2 3, .fire 1, .fire 2, .byz (exPc 0 none 2), .dl 1 7, .dl 1 9, .dl 1 10, .fire 1, .dl 2 7,
   .dl 2 8, .dl 2 10, .fire 2, .dl 2 11, .dl 2 12, .byz (exPv 1 (some 1) 2), .dl 1 14, .dl 1 15,
   .dl 2 13, .dl 2 15, .byz (exPc 1 none 2), .dl 1 17, .dl 1 18, .fire 1, .dl 2 16, .dl 2 18,
   .fire 2, .fire 1, .fire 2, .byz (exPv 2 none 2), .dl 0 13, .dl 0 14, .dl 0 15, .dl 0 19, .dl 0 20,
   .dl 0 21]

def exStaleNet : Net := (Net.init [0, 1, 3]).run exCfg exStalePrefix

/-- … at the synchrony point, after closure -/
def exStaleClosed : Net := syncRun exCfg exStaleNet []

/-- the closed net of the second witness, node by node; the three theorems below read off this one evaluation -/
theorem exStale_eval :
    (exStaleClosed.nodes.map fun nd =>
      ((nd.idx, nd.s.round, nd.s.lockedBlock), hasStaleLock nd.s, nd.s.halted, nd.s.decided)) =
      [((0, 2, some 0), true, false, none), ((1, 2, some 1), false, false, none),
       ((3, 2, some 1), false, false, none)] ∧
    exStaleClosed.closed = true := by
  simp only [exStaleClosed, syncRun, Net.closure, closureLoop_eq_B]
  decide +kernel

/-- **the stale lock in the network model**: with one of four validators faulty the net reaches, and
keeps through the synchrony point and closure, a state in which validator 0 is locked on block 0 and
validators 1 and 3 on block 1 — validator 0's lock has outlived the polka of round 1 that it holds. -/
theorem stale_lock_reachable :
    (exStaleClosed.nodes.map fun nd =>
      (nd.idx, nd.s.round, nd.s.lockedBlock, hasStaleLock nd.s && !nd.s.halted && nd.s.decided.isNone)) =
      [(0, 2, some 0, true), (1, 2, some 1, false), (3, 2, some 1, false)] ∧
    exStaleClosed.closed = true := by
  refine ⟨?_, exStale_eval.2⟩
  have := congrArg (List.map fun x : (Nat × Nat × Option Nat) × Bool × Bool × Option (Nat × Int) =>
    (x.1.1, x.1.2.1, x.1.2.2, x.2.1 && !x.2.2.1 && x.2.2.2.isNone)) exStale_eval.1
  rwa [List.map_map] at this

/-- **closure_single_lock is false** of the model (and of the code: same schedule replayed on real
nodes) -/
theorem closure_single_lock_fails : ¬ ClosureSingleLock exCfg [0, 1, 3] := by
  intro h
  have hp : 3 * faultyPower exCfg.cfg [0, 1, 3] < exCfg.cfg.total := by decide
  obtain ⟨n0, l0, e0, f0, hw⟩ := List.map_eq_cons_iff.1 exStale_eval.1
  obtain ⟨n1, l1, e1, f1, _⟩ := List.map_eq_cons_iff.1 hw
  simp only [Prod.mk.injEq] at f0 f1
  have m0 : n0 ∈ exStaleClosed.nodes := by rw [e0]; simp
  have m1 : n1 ∈ exStaleClosed.nodes := by rw [e0, e1]; simp
  -- both live, locked on blocks 0 and 1
  cases h hp exStalePrefix n0 n1 0 1 m0 m1 f0.2.2.2 f1.2.2.2 f0.2.2.1 f1.2.2.1 f0.1.2.2 f1.1.2.2

/-- … and the state violates exactly `NoStaleLock` -/
theorem witness_violates_no_stale_lock : ¬ NoStaleLock exStaleClosed := by
  intro h
  obtain ⟨n0, l0, e0, f0, _⟩ := List.map_eq_cons_iff.1 exStale_eval.1
  simp only [Prod.mk.injEq] at f0
  have := h n0 (by rw [e0]; simp) f0.2.2.2 f0.2.2.1
  rw [f0.2.1] at this; cases this

/-! ### the majority-claim gate for conflicting votes (reactor glue that lets late information in) -/

def exPcIn (r : Nat) (b : Bid) (v : Nat) : Input := .vote ⟨.precommit, r, b, v, true, v, v⟩ (1 + v)

/-- validator 0 locks block 0 in round 0; in round 1 it sees the prevotes of validators 1 and 2 for
block 1 and the prevote NIL of the equivocating validator 3 (no polka); it moves on to round 2 -/
def exGate : List Input :=
  [.timeout 0 .newHeight, exPvIn 0 (some 0) 1, exPvIn 0 (some 0) 3,
   exPcIn 0 none 1, exPcIn 0 none 2, exPcIn 0 none 3, .timeout 0 .precommitWait,
   .proposal ⟨1, 1, -1, 1⟩, .blockComplete 1,
   exPvIn 1 (some 1) 1, exPvIn 1 (some 1) 2, exPvIn 1 none 3, .timeout 1 .prevoteWait,
   exPcIn 1 (some 1) 1, exPcIn 1 (some 1) 2, exPcIn 1 none 3, .timeout 1 .precommitWait]

/-- **a peer's majority claim for a PAST round is what admits the equivocator's second vote**
(`VoteSetMaj23` → `Reactor.ReceiveEnvelope` → `HeightVoteSet.SetPeerMaj23`, then the `peerMaj23` gate
of `VoteSet.addVerifiedVote`): in round 2, still locked on block 0, the node is handed validator 3's
OTHER prevote of round 1, for block 1. Without a claim it is refused as conflicting: no polka, the lock
stays. After the claim "+2/3 prevoted block 1 in round 1" of peer 2 — a round BELOW the node's round —
the same vote is admitted, completes the polka of round 1, and the node unlocks. (The stream drives
the real `Reactor.ReceiveEnvelope` for every claim; generator kind `equivocator-past-round-claim`;
oracle fingerprint `sync.conflicting-vote-not-admitted.peer-maj23-claim-ignored`.) -/
theorem past_round_claim_admits_conflicting_vote :
    (run exNode0 .init exGate).round = 2 ∧ (run exNode0 .init exGate).lockedBlock = some 0 ∧
    (run exNode0 .init (exGate ++ [exPvIn 1 (some 1) 3])).lockedBlock = some 0 ∧
    maj23Of ((run exNode0 .init (exGate ++ [exPvIn 1 (some 1) 3])).votes.prevotes 1) = none ∧
    (run exNode0 .init (exGate ++ [.peerMaj23 1 .prevote 2 (some 1), exPvIn 1 (some 1) 3])).lockedBlock = none ∧
    maj23Of ((run exNode0 .init (exGate ++ [.peerMaj23 1 .prevote 2 (some 1), exPvIn 1 (some 1) 3])).votes.prevotes 1) =
      some (some 1) := by
  decide

/-! ### non-vacuity of the hypotheses above -/

/-- a node state satisfying the hypotheses of `commit_step_waits_for_block`: validator 2 of the
witness run right after it entered the commit step without the block -/
def exWaiting : NodeState :=
  ((((Net.init [0, 2, 3]).run exCfg (exPrefix.take 21)).nodes[1]?).map (·.s)).getD .init

example : exWaiting.halted = false ∧ exWaiting.step = .commit ∧ exWaiting.commitRound = 0 ∧
    maj23Of (exWaiting.votes.precommits 0) = some (some 0) ∧ exWaiting.proposalParts = some 0 ∧
    exWaiting.partsDone = false ∧ (nodeCfg exCfg.cfg 2).valid 0 = true := by decide +kernel

/-- … so the block's arrival at that moment decides (instance of the theorem, evaluated) -/
example : (addBlockPart (nodeCfg exCfg.cfg 2) exWaiting 0).decided = some (0, 0) := by decide +kernel

/-- the net in which validator 2 waits in the commit step, block 0 being log entry 1: the hypotheses
of `commit_waiting_node_decides_on_delivery` hold and delivering the block decides (evaluated) -/
def exWaitingNet : Net := (Net.init [0, 2, 3]).run exCfg (exPrefix.take 21)

example : exWaitingNet.log[1]? = some (.block 0) ∧
    (exWaitingNet.nodes[1]?.map fun nd => (nd.s.step, nd.s.halted, nd.s.decided, nd.s.partsDone)) =
      some (.commit, false, none, false) ∧
    (exWaitingNet.deliver exCfg 1 1).decidedAt 1 = some (0, 0) := by decide +kernel

/-- validator 1 right after it entered round 0 (it is not the proposer) -/
def exFresh : NodeState := run exNode1 .init [.timeout 0 .newHeight]

theorem exFresh_only (t : VType) (key : Bid) (u : Nat) : exFresh.votes.only (0 : Nat) t key u := by
  have hout : exFresh.out = [.schedule 0 .propose] := by decide
  have h := (run_XO (c := exNode1) (me := 1) (base := []) (E := fun _ => False) (outF := exFresh.out)
    (h0 := HVS.init) rfl [.timeout 0 .newHeight] (by intro v peer hm; simp at hm)
    ⟨N.init 1, fun _ => HExt.refl _ _ _⟩).2 (fun _ ho => ho)
  apply h.only (HVS.only_init _ _ _ _)
  intro w hw
  rcases hw.2.2 with hf | ⟨_, hs⟩
  · exact hf.elim
  · rw [hout] at hs; simp at hs

/-- the hypotheses of `good_round_decides_node` hold of it, with the validators 0 and 2 as the other
voters (1 + 2 of 4 = the quorum 3) -/
example : GoodStart exNode1 1 exFresh 0 0 [0, 2] [0, 2] where
  self := rfl
  mock := rfl
  meLt := by decide
  live := by decide
  round := by decide
  step := by decide
  noProp := by decide
  queue := by decide
  lock := Or.inl (by decide)
  valid := by decide
  hvsRound := by decide
  tracked := by decide
  wf := run_WF _
  notVoted := by
    intro t x h
    have hout : exFresh.out = [.schedule 0 .propose] := by decide
    rw [hout] at h; simp at h
  clean1 := fun u _ => exFresh_only _ _ u
  clean2 := fun u _ => exFresh_only _ _ u
  q1 := ⟨by decide, by decide, by decide⟩
  q2 := ⟨by decide, by decide, by decide⟩

/-- … and one interleaving of the votes (a precommit first), evaluated -/
example : exNode1.proposer exFresh.valRound = 0 ∧
    (maj23Of (exFresh.votes.precommits (0 : Nat)) = none) ∧
    (run exNode1 exFresh ([Input.proposal ⟨0, 0, -1, 0⟩, Input.blockComplete 0] ++
      (goodVotes 0 0 .precommit [2] ++ goodVotes 0 0 .prevote [0, 2] ++ goodVotes 0 0 .precommit [0]))).decided = some (0, 0) := by
  decide

/-- the hypotheses of `quorum_and_block_decide` hold of the run in which validator 1 goes through
that good round (from the initial state) -/
def exGoodRun : List Input :=
  [.timeout 0 .newHeight, .proposal ⟨0, 0, -1, 0⟩, .blockComplete 0] ++
    (goodVotes 0 0 .precommit [2] ++ goodVotes 0 0 .prevote [0, 2] ++ goodVotes 0 0 .precommit [0])

example : (run exNode1 .init exGoodRun).halted = false ∧
    (0 ≤ (run exNode1 .init exGoodRun).commitRound → (run exNode1 .init exGoodRun).step = .commit) ∧
    maj23Of ((run exNode1 .init exGoodRun).votes.getVoteSet (0 : Nat) .precommit) = some (some 0) ∧
    (run exNode1 .init exGoodRun).commitRound = 0 ∧
    (run exNode1 .init exGoodRun).proposalBlock = some 0 ∧
    (run exNode1 .init exGoodRun).decided = some (0, 0) := by decide

/-- the closure at the synchrony point of the first witness run converges with the second pass -/
example : closureCount exCfg closureFuel { (Net.init [0, 2, 3]).run exCfg exPrefix with synced := true } = some 2 := by
  rw [closureCount_eq_B]
  decide +kernel

/-- an instance of `commit_spreads` evaluated: in `exWaitingNet` validator 2 waits in the commit step
for block 0 (not an orphan); the closure converges with its second pass and validator 2 — like
validators 0 and 3, which were missing one precommit each — has decided block 0 in round 0 -/
example : closureCount exCfg closureFuel exWaitingNet = some 2 ∧
    ((exWaitingNet.closure exCfg).nodes.map fun nd => (nd.idx, nd.s.decided)) =
      [(0, some (0, 0)), (2, some (0, 0)), (3, some (0, 0))] := by
  simp only [closureCount_eq_B, Net.closure, closureLoop_eq_B]
  decide +kernel

/-- the round-robin schedule of the witness configuration is fair with window 4 -/
example : FairSchedule exCfg.cfg 4 := by
  intro v hv _ r
  refine ⟨(v + 4 - r % 4) % 4, Nat.mod_lt _ (by decide), ?_⟩
  show (r + (v + 4 - r % 4) % 4) % 4 = v
  have : v < 4 := hv
  omega

/-- validator 2 of the witness run in round 0, before the last prevote of round 1 reaches it -/
def exBehind : NodeState :=
  ((((Net.init [0, 2, 3]).run exCfg (exPrefix.take 32)).nodes[1]?).map (·.s)).getD .init

/-- … and with that prevote recorded: the hypotheses of `round_skip_on_prevotes` hold (not halted,
in round 0 < 1, +2/3-any prevotes of round 1) -/
def exBehind' : NodeState :=
  { exBehind with votes := (exBehind.votes.addVote (nodeCfg exCfg.cfg 2) ⟨.prevote, 1, some 0, 1, true, 1, 1⟩ 2).1 }

example : exBehind'.halted = false ∧ exBehind'.round < 1 ∧
    hasAnyOf (nodeCfg exCfg.cfg 2) (exBehind'.votes.prevotes 1) = true := by decide +kernel

end Tmv.Props.C03
