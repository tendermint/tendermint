import Tmv.Lemmas.PubSub
import Tmv.Lemmas.IndexExact
import Tmv.Lemmas.BlockExact
import Tmv.Model.EventBus
/-! # C19 — Subscribers get exactly their matching events; searches return exact matches
Pub/sub part: the model is `Tmv.PubSub` (libs/pubsub as repaired by the `fix:` commit), histories
are arbitrary lists of the command loop's atomic steps.  Index part: `Tmv.Index` (kv tx index),
`Tmv.BlockIndex` (kv block index), `Tmv.IndexerService` fed through `Tmv.EventBus`. -/
namespace Tmv.Props.C19
open Tmv Tmv.Query Tmv.PubSub

deriving instance DecidableEq for Except

/-- the answers client `c` gets to its own commands (subscribe / unsubscribe / read results) -/
def answers (c : Str) : State → List PsOp → List Out
  | _, [] => []
  | s, o :: rest => (if ownOp c o then [(step s o).2] else []) ++ answers c (step s o).1 rest

/-- **Isolation (state).** What the server holds for client `c` after any history — its
registrations, its subscription objects with their buffers and cancellation reasons — is what it
would hold had only `c`'s own commands and the publications happened. -/
theorem view_run (c : Str) (s : State) (ops : List PsOp) :
    viewS c (run s ops) = run (viewS c s) (ops.filter (relevant c)) := by
  induction ops generalizing s with
  | nil => rfl
  | cons o rest ih =>
    by_cases h : relevant c o = true
    · simp only [run, List.filter_cons, h, if_true]
      rw [ih, (step_relevant c s o h).1]
    · have h' : relevant c o = false := by simpa using h
      simp only [run, List.filter_cons, h', Bool.false_eq_true, if_false]
      rw [ih, step_irrelevant c s o h']

/-- **Isolation (observations).** The sequence of answers `c` receives (every message id read,
every `empty`, every cancellation reason, every subscribe/unsubscribe verdict) is the sequence it
would receive had the other clients never issued a command. -/
theorem answers_run (c : Str) (s : State) (ops : List PsOp) :
    answers c s ops = answers c (viewS c s) (ops.filter (relevant c)) := by
  induction ops generalizing s with
  | nil => rfl
  | cons o rest ih =>
    by_cases h : relevant c o = true
    · have hs := step_relevant c s o h
      simp only [answers, List.filter_cons, h, if_true]
      rw [ih, hs.1]
      by_cases ho : ownOp c o = true
      · simp only [ho, if_true]; rw [hs.2 ho]
      · simp [ho]
    · have h' : relevant c o = false := by simpa using h
      have ho : ownOp c o = false := by
        cases o <;> simp_all [ownOp, relevant]
      simp only [answers, List.filter_cons, h', ho, Bool.false_eq_true, if_false, List.nil_append]
      rw [ih, step_irrelevant c s o h']

/-- **Isolation.** Two histories that agree on `c`'s own commands and on the publications — and
differ arbitrarily in what other clients subscribe to (including queries whose comparisons do not
fit the events), in their capacities and in how they read — give `c` the same answers and leave
the same state for `c`. -/
theorem isolation (c : Str) (ops₁ ops₂ : List PsOp)
    (h : ops₁.filter (relevant c) = ops₂.filter (relevant c)) :
    answers c State.init ops₁ = answers c State.init ops₂ ∧
    viewS c (run State.init ops₁) = viewS c (run State.init ops₂) := by
  rw [answers_run, answers_run c _ ops₂, view_run, view_run c _ ops₂, h]
  exact ⟨rfl, rfl⟩

/-- non-vacuity of `isolation`: the scenario of the repaired defect — another client whose query
compares `acc.n` numerically while the event carries a non-numeric value -/
example :
    let q1 : Str := [1]; let q2 : Str := [2]; let c1 : Str := [1]; let c2 : Str := [2]
    let key : Str := [97]
    let ill : Query := [{ key := key, op := .ge, operand := .int 100 }]
    let ok : Query := [{ key := key, op := .exists, operand := .none }]
    let ev : Events := [(key, [[120]])]
    answers c1 State.init [.sub c2 q2 ill 1, .sub c1 q1 ok 1, .pub (8, ev), .read c1 q1]
      = [.ok, .msg 8] ∧
    answers c1 State.init [.sub c1 q1 ok 1, .pub (8, ev), .read c1 q1] = [.ok, .msg 8] := by
  decide

/-! ### every matching event once, in publication order, or an explicit cancellation -/

/-- Follow the subscription object created by a successful `Subscribe(c, q, cap)` through ANY
later history in which `c` does not subscribe to `q` again (other clients do what they like; `c`
may read, unsubscribe, subscribe to other queries).  At the end the object exists, and what the
client has received from it followed by what is still buffered is a prefix — without gaps,
repetitions or reordering — of the publications its own query matches; it is ALL of them while
the subscription is active, and otherwise the object carries an explicit cancellation reason
(`Status.cancelled r`: unsubscribed by the client itself, or out of capacity). -/
theorem once_in_order_or_cancelled (s : State) (c q : Str) (ast : Query) (cap : Nat)
    (post : List PsOp)
    (hsub : (step s (.sub c q ast cap)).2 = .ok)
    (hpost : ∀ o ∈ post, isSub c q o = false) :
    ∃ r, (run (step s (.sub c q ast cap)).1 post).recs.filter (·.isFor c q) = [r] ∧
      r.query = ast ∧
      r.content <+: owed ast post ∧
      (r.status = .active → r.content = owed ast post) ∧
      (r.status ≠ .active → ∃ why, r.status = .cancelled why) := by
  obtain ⟨r, hf, h⟩ := sub_object s c q ast cap post hsub hpost
  refine ⟨r, hf, h.query_eq, h.pre, h.all, fun hna => ?_⟩
  cases hs : r.status with
  | active => exact absurd hs hna
  | cancelled why => exact ⟨why, rfl⟩

/-- the hypotheses of `once_in_order_or_cancelled` are satisfiable, and both outcomes occur: with
capacity 1 and two matching publications before any read the subscription ends up cancelled
(out of capacity) holding the first message only; with a read in between it stays active and holds
both in order. -/
example :
    let c : Str := [1]; let q : Str := [2]; let key : Str := [97, 46, 98]
    let ast : Query := [{ key := key, op := .exists, operand := .none }]
    let ev : Events := [(key, [[120]])]
    let slow : List PsOp := [.pub (1, ev), .sub [9] q ast 0, .pub (2, ev), .read c q]
    let fast : List PsOp := [.pub (1, ev), .read c q, .pub (2, ev)]
    (step State.init (.sub c q ast 1)).2 = .ok ∧ (∀ o ∈ slow, isSub c q o = false) ∧
    (∀ o ∈ fast, isSub c q o = false) ∧
    ((run (step State.init (.sub c q ast 1)).1 slow).recs.filter (·.isFor c q)).map
        (fun r => (r.content.map (·.1), r.status)) = [([1], .cancelled .outOfCapacity)] ∧
    ((run (step State.init (.sub c q ast 1)).1 fast).recs.filter (·.isFor c q)).map
        (fun r => (r.content.map (·.1), r.status)) = [([1, 2], .active)] := by
  decide

/-! ### corners: capacity, unsubscribe, re-subscribe after a cancellation -/

/-- does the op take the pair (c, q) out of the server's registry? -/
def isUnsubOf (c q : Str) : PsOp → Bool
  | .unsub c' q' => c' == c && q' == q
  | .unsubAll c' => c' == c
  | _ => false

/-- **Re-subscribing after a cancellation is refused until the client unsubscribes.**  After a
successful `Subscribe(c, q)` and ANY history in which `c` neither unsubscribes `q` nor all — in
particular one in which the server cancelled the subscription for being out of capacity — the
pair is still registered (`Server.subscriptions` is only updated by Unsubscribe/UnsubscribeAll),
so a new `Subscribe(c, q)` with any capacity answers `ErrAlreadySubscribed` and changes nothing. -/
theorem resubscribe_refused_until_unsubscribe (s : State) (c q : Str) (ast : Query) (cap : Nat)
    (post : List PsOp) (hsub : (step s (.sub c q ast cap)).2 = .ok)
    (hpost : ∀ o ∈ post, isUnsubOf c q o = false) (ast' : Query) (cap' : Nat) :
    let s' := run (step s (.sub c q ast cap)).1 post
    step s' (.sub c q ast' cap') = (s', .errAlready) := by
  intro s'
  have hreg0 : (c, q) ∈ (step s (.sub c q ast cap)).1.registry := by
    simp only [step] at hsub ⊢
    split at hsub
    · cases hsub
    · rename_i h
      rw [if_neg h]
      exact List.mem_append_right _ (List.mem_singleton_self _)
  -- only Unsubscribe(c, q) and UnsubscribeAll(c) take the pair out of the registry
  have key : ∀ (post : List PsOp) (s : State), (c, q) ∈ s.registry →
      (∀ o ∈ post, isUnsubOf c q o = false) → (c, q) ∈ (run s post).registry := by
    intro post
    induction post with
    | nil => intro s h _; exact h
    | cons o rest ih =>
      intro s h hp
      refine ih (step s o).1 ?_ (fun o' ho' => hp o' (List.mem_cons_of_mem _ ho'))
      have ho := hp o List.mem_cons_self
      cases o with
      | sub c' q' a' k' =>
        simp only [step]; split
        · exact h
        · exact List.mem_append_left _ h
      | unsub c' q' =>
        simp only [step]; split
        · exact h
        · have hne : ¬ (c' = c ∧ q' = q) := by simpa [isUnsubOf] using ho
          exact List.mem_filter.mpr ⟨h, bne_iff_ne.mpr fun e =>
            hne ⟨(Prod.mk.inj e).1.symm, (Prod.mk.inj e).2.symm⟩⟩
      | unsubAll c' =>
        simp only [step]; split
        · exact h
        · have hne : ¬ c' = c := by simpa [isUnsubOf] using ho
          exact List.mem_filter.mpr ⟨h, bne_iff_ne.mpr fun e => hne e.symm⟩
      | pub m => exact h
      | read c' q' => exact h
  have := key post _ hreg0 hpost
  simp only [step]
  rw [if_pos (by simpa using this)]

/-- **Unsubscribe (or UnsubscribeAll) re-opens the pair.**  Whenever the pair is registered —
whether its subscription is still active or was cancelled by the server — `Unsubscribe(c, q)` and
`UnsubscribeAll(c)` answer ok, and a `Subscribe(c, q)` issued next succeeds; by
`once_in_order_or_cancelled` the new subscription object then receives exactly the publications
from that point on. -/
theorem unsubscribe_then_resubscribe (s : State) (c q : Str) (ast : Query) (cap : Nat)
    (hreg : s.registry.contains (c, q) = true) :
    (step s (.unsub c q)).2 = .ok ∧ (step (step s (.unsub c q)).1 (.sub c q ast cap)).2 = .ok ∧
    (step s (.unsubAll c)).2 = .ok ∧ (step (step s (.unsubAll c)).1 (.sub c q ast cap)).2 = .ok := by
  -- both are one `unsub` command that finds something to remove and whose `keep` drops the pair
  have reopen : ∀ found keep p, found = true → keep (c, q) = false →
      (unsubWith s found keep p).2 = .ok ∧ (step (unsubWith s found keep p).1 (.sub c q ast cap)).2 = .ok := by
    intro found keep p hf hk
    have hout : (s.registry.filter keep).contains (c, q) = false := by simp [List.mem_filter, hk]
    simp only [unsubWith, step, hf, hout, Bool.not_true, Bool.false_eq_true, if_false, and_self]
  have hany : s.registry.any (·.1 == c) = true :=
    List.any_eq_true.mpr ⟨(c, q), by simpa using hreg, beq_self_eq_true c⟩
  rw [step_unsub, step_unsubAll]
  exact and_assoc.mp ⟨reopen _ _ _ hreg (by simp), reopen _ _ _ hany (by simp)⟩

/-- **An unbuffered subscription is never cancelled for capacity, and a buffered one keeps its
capacity.**  For the subscription object created by a successful `Subscribe(c, q, cap)` /
`SubscribeUnbuffered` (`cap = 0`), after ANY later history without a re-subscription of the pair:
its capacity is still `cap`, at most `cap` messages are buffered when `cap > 0`, and when
`cap = 0` its status is never `cancelled outOfCapacity` — so (with `once_in_order_or_cancelled`)
an unbuffered subscriber such as the indexer service gets EVERY matching publication until it
unsubscribes itself. -/
theorem capacity_respected (s : State) (c q : Str) (ast : Query) (cap : Nat) (post : List PsOp)
    (hsub : (step s (.sub c q ast cap)).2 = .ok)
    (hpost : ∀ o ∈ post, isSub c q o = false) :
    ∃ r, (run (step s (.sub c q ast cap)).1 post).recs.filter (·.isFor c q) = [r] ∧
      r.cap = cap ∧ (cap > 0 → r.queue.length ≤ cap) ∧
      (cap = 0 → r.status ≠ .cancelled .outOfCapacity) := by
  obtain ⟨r, hf, h⟩ := sub_object s c q ast cap post hsub hpost
  exact ⟨r, hf, h.cap_eq, h.room, h.unbuffered⟩

/-- non-vacuity of the three corner theorems, on the out-of-capacity scenario: capacity 1, two
matching publications, no read → cancelled; re-subscribe refused; unsubscribe; re-subscribe
accepted and the fresh subscription gets publication 3 only -/
example :
    let c : Str := [1]; let q : Str := [2]; let key : Str := [97, 46, 98]
    let ast : Query := [{ key := key, op := .exists, operand := .none }]
    let ev : Events := [(key, [[120]])]
    let ops : List PsOp := [.sub c q ast 1, .pub (1, ev), .pub (2, ev), .sub c q ast 3, .read c q, .read c q,
      .unsub c q, .sub c q ast 3, .pub (3, ev), .read c q, .read c q]
    answers c State.init ops =
      [.ok, .errAlready, .msg 1, .cancelled .outOfCapacity, .ok, .ok, .msg 3, .empty] := by
  decide

/-! ## the kv tx index -/
section index
open Tmv.Index
variable (H : Bytes → Bytes)

/-- **Indexed once, under height, position and events** (partial: needs `CleanHist` — distinct tx
hashes, distinct positions, no '/' in indexed keys/values nor in the hash bytes, non-empty hashes;
the first is violated by the known finding `txindex.duplicate-tx-overwritten`, the third by
`txindex.Search.separator-in-key-or-value`).  After indexing ANY clean history (batches in any
grouping, replays of the same result allowed): `Get(hash)` returns the result itself, every
secondary row of the result (one per indexed attribute, one for the height) is present and points
at its hash, and no key occurs twice in the database. -/
theorem indexed_once_partial (hist : List TxResult) (hc : CleanHist H hist) (r : TxResult)
    (hr : r ∈ hist) :
    Index.get (addBatch H [] hist) (H r.tx) = .found r ∧
    (∀ kv ∈ attrsAll r, dbGet (addBatch H [] hist) (keyForEvent kv.1 kv.2 r.height r.index)
        = some (.hash (H r.tx))) ∧
    ((addBatch H [] hist).map (·.1)).Nodup := by
  refine ⟨?_, fun kv hkv => ?_, db_keys_nodup H hist⟩
  · have := dbGet_of_mem H hc (H r.tx, Val.result r) ((mem_rows H _).mpr ⟨r, hr, Or.inr rfl⟩)
    have hne : (H r.tx).isEmpty = false := by simpa using hc.hashNonempty r hr
    simp only [Index.get, hne, Bool.false_eq_true, if_false]
    rw [this]
  · exact dbGet_of_mem H hc (secRow H r kv) ((mem_rows H _).mpr ⟨r, hr, Or.inl ⟨kv, hkv, rfl⟩⟩)

/-- the hypotheses of `indexed_once_partial` are satisfiable by a non-trivial history -/
example : CleanHist (fun x => x)
    [{ height := 1, index := 0, tx := [1], events := [{ type := [97], attrs := [{ key := [98], value := [120], index := true }] }] },
     { height := 1, index := 1, tx := [2], events := [] }] := by
  constructor <;> decide

/-- The property's clause `indexed_once` at full strength (`indexed_once_partial` without `CleanHist`) is false of the code: the same tx bytes committed at two
heights leave only the later record retrievable. -/
theorem indexed_once_fails_on_duplicate :
    let r1 : TxResult := { height := 1, index := 0, tx := [1], events := [] }
    let r2 : TxResult := { height := 2, index := 0, tx := [1], events := [] }
    Index.get (addBatch (fun x => x) [] [r1, r2]) [1] = .found r2 ∧ r1 ≠ r2 := by
  decide

/-- **Search exactness on clean input** — the general theorem of the tx index.
For EVERY history satisfying `CleanHist` (distinct tx hashes and positions; no '/' in indexed
keys/values nor in hash bytes; non-empty hashes) and `NoReserved` (the application does not emit `tx.height`), and
EVERY query of the language satisfying `CleanQuery` — any non-empty conjunction, in any order, of
`k = 's'`, `k = n`, `k EXISTS`, `k CONTAINS 's'`, `k < n`, `k <= n`, `k > n`, `k >= n`, including
`tx.height = n` (with the narrowing of the other equality scans it triggers), several range keys,
one- and two-sided ranges, ranges mixed with the other conditions — `Search` succeeds and returns
exactly the hashes of the indexed txs whose event map satisfies `Query.Matches`.
What `CleanQuery` excludes, each with its witness theorem / known finding: the key `tx.hash`
(`search_hash_shortcut_fails`), '/' in a key or equality operand (`search_exact_fails_on_separator`),
`EXISTS` on a key without '.' (`search_exists_undotted_fails`), two bounds of the same side on one
key, or both bounds on a key that has several values in one tx (`search_range_merge_fails`),
non-canonical decimal values under a numerically compared key, numbers beyond int64 and
`k > MaxInt64`; and by the stated exclusions of the model: float, TIME and DATE operands.
ORDER: the code builds the result by ranging over a Go map (`filteredHashes`), so the order of
the returned txs is unspecified; what is guaranteed, and stated, is that no tx is returned twice
(`hs.Nodup`) — together with the membership clause the result is determined up to permutation. -/
theorem search_exact_clean (hist : List TxResult) (hc : CleanHist H hist) (hres : NoReserved hist)
    (q : Query) (hq : CleanQuery hist q) :
    ∃ hs, search (addBatch H [] hist) q = .hashes hs ∧ hs.Nodup ∧
      ∀ x, x ∈ hs ↔ ∃ r ∈ hist, H r.tx = x ∧ «matches» q (eventsOf r) = .ok true := by
  -- the narrowing to height `n` of the equality scans is implied by the condition `tx.height = n`
  obtain ⟨L, eL, nL, mL⟩ := loops_exact hist attrsAll (fun r => H r.tx) hc.hashInj q hq.nonempty
    (fun r hr => hq.fits hr)
    (fun c r => c.op = .eq → (lookForHeight q).getD 0 > 0 → r.height = (lookForHeight q).getD 0)
    (fun r hr hall _ _ _ hpos => height_eq_of_conds hres q hpos r hr hall)
    scanStep hashesOf (fun W => some (rangeRows (addBatch H [] hist) W))
    (fun c => condRows (addBatch H [] hist) c ((lookForHeight q).getD 0))
    (fun W hW => by
      obtain ⟨c0, hc0, hk0⟩ := (lookForRanges_spec q).onlyKeys W hW
      exact tx_range_scan H hc W (hk0 ▸ (hq.conds c0 (List.mem_filter.mp hc0).1).1))
    (fun c hcq => tx_cond_scan H hc c (hq.conds c (List.mem_filter.mp hcq).1)
      (by simpa using (List.mem_filter.mp hcq).2) _)
  refine ⟨L, ?_, nL, fun x => by rw [mL]; simp only [eventsOf_evOf]⟩
  rw [search_eq_loops _ q (conditionsOK_of_class q fun c hcq => (hq.conds c hcq).toClass) hq.noHash, eL]

/-- the hypotheses of `search_exact_clean` are satisfiable by a query that uses the height
narrowing, a range, a CONTAINS and an EXISTS at once:
`tx.height = 10 AND a.n >= 5 AND a.b CONTAINS 'x' AND a.n EXISTS` over a three-tx history; the
search returns the one tx at height 10 that satisfies it -/
example :
    let an : Str := [97, 46, 110]; let ab : Str := [97, 46, 98]
    let mk : Nat → Nat → Bytes → Str → Str → TxResult := fun h i tx n b =>
      { height := h, index := i, tx := tx, events := [{ type := [97], attrs :=
          [{ key := [110], value := n, index := true }, { key := [98], value := b, index := true }] }] }
    let hist : List TxResult := [mk 9 0 [1] [53] [120], mk 10 0 [2] [49, 48, 53] [120, 121], mk 10 1 [3] [50] [120]]
    let q : Query := [{ key := txHeightKey, op := .eq, operand := .int 10 }, { key := an, op := .ge, operand := .int 5 },
                      { key := ab, op := .contains, operand := .str [120] }, { key := an, op := .exists, operand := .none }]
    CleanHist (fun x => x) hist ∧ NoReserved hist ∧ CleanQuery hist q ∧
      search (addBatch (fun x => x) [] hist) q = .hashes [[2]] := by
  intro an ab mk hist q
  refine ⟨by constructor <;> decide, by unfold NoReserved; decide, ?_, by decide⟩
  have hcanon : ∀ r ∈ hist, ∀ k ∈ [txHeightKey, an], ∀ v ∈ valuesOf (attrsAll r) k,
      (v == dec (digitsVal v) && decide (digitsVal v ≤ maxInt64)) = true := by decide
  have hrc : rangeConds q = [{ key := an, op := .ge, operand := .int 5 }] := by decide
  refine ⟨by decide, ?_, ?_, ?_, ?_, ?_⟩
  · intro c hc
    simp only [q, List.mem_cons, List.not_mem_nil, or_false] at hc
    rcases hc with rfl | rfl | rfl | rfl
    · exact ⟨by decide, by decide, Or.inr (Or.inl ⟨rfl, 10, rfl, by decide⟩)⟩
    · exact ⟨by decide, by decide, Or.inr (Or.inr (Or.inr (Or.inr ⟨rfl, 5, rfl, by decide, by intro h; cases h⟩)))⟩
    · exact ⟨by decide, by decide, Or.inr (Or.inr (Or.inr (Or.inl ⟨rfl, _, rfl⟩)))⟩
    · exact ⟨by decide, by decide, Or.inr (Or.inr (Or.inl ⟨rfl, rfl, by decide⟩))⟩
  · intro k; rw [hrc]; exact List.length_filter_le _ _
  · intro k; rw [hrc]; exact List.length_filter_le _ _
  · intro c hc r hr n hn v hv
    simp only [q, List.mem_cons, List.not_mem_nil, or_false] at hc
    rcases hc with rfl | rfl | rfl | rfl
    · exact canon_of_check (hcanon r hr _ (by simp) v hv)
    · exact canon_of_check (hcanon r hr _ (by simp) v hv)
    · cases hn
    · cases hn
  · intro k h2; rw [hrc] at h2
    exact absurd (Nat.le_trans h2 (List.length_filter_le _ _)) (by decide)

/-- The property's clause `search_exact` at full strength (`search_exact_clean` without its cleanliness hypotheses) is
false of the code (1): a value containing the separator.
The tx carries `a.b = "x/1"`; the query `a.b = 'x'` does not match its events, yet `Search`
returns it (prefix `a.b/x/` of the row `a.b/x/1/1/0`). -/
theorem search_exact_fails_on_separator :
    let ab : Str := [97, 46, 98]
    let r : TxResult := { height := 1, index := 0, tx := [1], events := [{ type := [97], attrs := [{ key := [98], value := [120, 47, 49], index := true }] }] }
    let q : Query := [{ key := ab, op := .eq, operand := .str [120] }]
    search (addBatch (fun x => x) [] [r]) q = .hashes [[1]] ∧ «matches» q (eventsOf r) = .ok false := by
  decide

/-- (2): the `tx.hash` shortcut ignores every other condition: the tx sits at height 1, the query
asks for height 7 as well, `Search` still returns it.  (`tx.hash` is hex: "01" = [48, 49].) -/
theorem search_hash_shortcut_fails :
    let r : TxResult := { height := 1, index := 0, tx := [1], events := [] }
    let q : Query := [{ key := txHashKey, op := .eq, operand := .str [48, 49] },
                      { key := txHeightKey, op := .eq, operand := .int 7 }]
    search (addBatch (fun x => x) [] [r]) q = .hashes [[1]] ∧ «matches» q (eventsOf r) = .ok false := by
  decide

/-- (3): `k EXISTS` with an undotted key is a prefix test on composite keys for `Matches` and an
exact-key scan for the index. -/
theorem search_exists_undotted_fails :
    let r : TxResult := { height := 1, index := 0, tx := [1], events := [{ type := [97], attrs := [{ key := [98], value := [120], index := true }] }] }
    let q : Query := [{ key := [97], op := .exists, operand := .none }]
    search (addBatch (fun x => x) [] [r]) q = .hashes [] ∧ «matches» q (eventsOf r) = .ok true := by
  decide

/-- (4): range conditions on one key are merged into one interval: `a.n >= 1 AND a.n > 5` is
scanned as `a.n >= 5`, so a tx with `a.n = 5` is returned although it does not satisfy `a.n > 5`. -/
theorem search_range_merge_fails :
    let an : Str := [97, 46, 110]
    let r : TxResult := { height := 1, index := 0, tx := [1], events := [{ type := [97], attrs := [{ key := [110], value := [53], index := true }] }] }
    let q : Query := [{ key := an, op := .ge, operand := .int 1 }, { key := an, op := .gt, operand := .int 5 }]
    search (addBatch (fun x => x) [] [r]) q = .hashes [[1]] ∧ «matches» q (eventsOf r) = .ok false := by
  decide

/-- the block index's `block.height = H` shortcut ignores every other condition -/
theorem block_height_shortcut_fails :
    let q : Query := [{ key := BlockIndex.blockHeightKey, op := .eq, operand := .int 1 },
                      { key := [97, 46, 98], op := .exists, operand := .none }]
    (BlockIndex.index [] 1 [] []).map (fun db => BlockIndex.search db q) = some (.heights [1]) := by
  decide

/-- **What a subscriber is matched against and what the index is searched by are the same
attributes**: `validateAndStringifyEvents` (event bus) and `indexEvents` (tx index) flatten the
ABCI events in the same way — same skipping of empty types and empty keys, empty values kept —
and differ only by the `index` flag: when every attribute of a tx asks to be indexed, the two
attribute lists are equal.  (With `search_exact_clean` and `Query.Matches` on the published map,
a subscriber and a search with the same query — not mentioning `tm.event`/`tx.hash` — then agree
on that tx; the stream checks this agreement on the real EventBus and the real index.) -/
theorem bus_and_index_flatten_alike (r : TxResult)
    (hall : ∀ e ∈ r.events, ∀ a ∈ e.attrs, a.index = true) :
    EventBus.flatten r.events = indexedAttrs r := by
  unfold EventBus.flatten indexedAttrs
  generalize r.events = evs at hall
  induction evs with
  | nil => rfl
  | cons e rest ih =>
    simp only [List.flatMap_cons]
    rw [ih (fun e' he' => hall e' (List.mem_cons_of_mem _ he'))]
    congr 1
    split
    · rfl
    · have hfe := hall e List.mem_cons_self
      generalize e.attrs = as at hfe
      induction as with
      | nil => rfl
      | cons a rest' ih2 =>
        simp only [List.filterMap_cons, hfe a List.mem_cons_self, if_true]
        rw [ih2 (fun a' ha' => hfe a' (List.mem_cons_of_mem _ ha'))]

end index

/-! ## the indexer service: committed blocks arriving through the event bus -/
section service
open Tmv.Index Tmv.IndexerService
variable (H : Bytes → Bytes)

/-- **Every committed tx is indexed once under its height, position and events** — over histories
of service steps.  For EVERY sequence of committed blocks (0..n txs each, any begin/end events,
including blocks whose own events the block index rejects) whose tx results form a clean history:
after the service has processed them, `Get(hash)` returns each committed tx's result, each of its
secondary rows (indexed attributes and height) is present and points at it, no key of the tx
index occurs twice, and the tx index is exactly the one `search_exact_clean` speaks about
(`AddBatch` of all results in commit order) — in particular a rejected block never costs its txs
their index entries. -/
theorem service_indexes_every_tx (bs : List Block) (hc : CleanHist H (allResults bs))
    (b : Block) (hb : b ∈ bs) (r : TxResult) (hr : r ∈ blockResults b) :
    (run H {} bs).db = addBatch H [] (allResults bs) ∧
    Index.get (run H {} bs).db (H r.tx) = .found r ∧
    (∀ kv ∈ attrsAll r, dbGet (run H {} bs).db (keyForEvent kv.1 kv.2 r.height r.index)
        = some (.hash (H r.tx))) ∧
    ((run H {} bs).db.map (·.1)).Nodup := by
  have hdb : (run H {} bs).db = addBatch H [] (allResults bs) := run_db H {} bs
  have hmem : r ∈ allResults bs := by
    simp only [allResults, List.mem_flatMap]; exact ⟨b, hb, hr⟩
  rw [hdb]
  exact ⟨rfl, indexed_once_partial H (allResults bs) hc r hmem⟩

/-- **Every committed block is indexed once, or explicitly refused.**  For every history
`pre ++ b :: post` of committed blocks: if the block index accepts `b`'s events when `b` arrives,
`Has(b.height)` holds at the end of the history (later blocks never remove it); if it refuses
them (the reserved key `block.height` among the begin/end events), the block index is left
exactly as it was; and in every case no key of the block index occurs twice. -/
theorem service_indexes_every_block (pre post : List Block) (b : Block) :
    (accepted (run H {} pre) b = true →
        BlockIndex.has (run H {} (pre ++ b :: post)).bdb b.height = true) ∧
    (accepted (run H {} pre) b = false → (run H {} (pre ++ [b])).bdb = (run H {} pre).bdb) ∧
    ((run H {} (pre ++ b :: post)).bdb.map (·.1)).Nodup := by
  simp only [BlockIndex.accepted_eq, BlockIndex.run_bdb H {}]
  refine ⟨fun ha => ?_, fun ha => ?_, BlockIndex.indexed_keys_nodup _⟩
  · exact (BlockIndex.has_indexed _ _).mpr ⟨b, by simp, ha, rfl⟩
  · simp [List.filter_append, ha]

/-- non-vacuity: a three-block history whose middle block is refused by the block index (its
BeginBlock events use the reserved key `block.height`): the middle block's tx is indexed all the
same, the block index knows heights 1 and 3 only -/
example :
    let ev : Event := { type := [97], attrs := [{ key := [98], value := [120], index := true }] }
    let bad : Event := { type := [98, 108, 111, 99, 107], attrs := [{ key := [104, 101, 105, 103, 104, 116], value := [49], index := true }] }
    let b1 : Block := { height := 1, beginEvents := [ev], endEvents := [], txs := [([1], [ev])] }
    let b2 : Block := { height := 2, beginEvents := [bad], endEvents := [], txs := [([2], [ev])] }
    let b3 : Block := { height := 3, beginEvents := [], endEvents := [ev], txs := [] }
    let s := run (fun x => x) {} [b1, b2, b3]
    CleanHist (fun x => x) (allResults [b1, b2, b3]) ∧
    accepted (run (fun x => x) {} [b1]) b2 = false ∧
    Index.get s.db [2] = .found { height := 2, index := 0, tx := [2], events := [ev] } ∧
    (BlockIndex.has s.bdb 1, BlockIndex.has s.bdb 2, BlockIndex.has s.bdb 3) = (true, false, true) := by
  refine ⟨by constructor <;> decide, by decide, by decide, by decide⟩

/-- **`Has` is exact** (block index, over the orderedcode tuple model): after any history of
committed blocks, `Has(x)` holds iff some block of height `x` was accepted by the block index
when it arrived. -/
theorem block_has_exact (bs : List Block) (x : Nat) :
    BlockIndex.has (run H {} bs).bdb x = true ↔
      ∃ pre b post, bs = pre ++ b :: post ∧ b.height = x ∧ accepted (run H {} pre) b = true := by
  simp only [BlockIndex.accepted_eq, BlockIndex.run_bdb H {}]
  rw [show setAll _ _ = BlockIndex.indexed bs from rfl, BlockIndex.has_indexed]
  constructor
  · rintro ⟨b, hb, ha, hx⟩
    obtain ⟨pre, post, rfl⟩ := List.append_of_mem hb
    exact ⟨pre, b, post, rfl, hx, ha⟩
  · rintro ⟨pre, b, post, rfl, hx, ha⟩
    exact ⟨b, by simp, ha, hx⟩

/-- **`Search` by height is exact** (block index): a query whose first `block.height = n`
condition has a numeric operand (whatever else it contains — see `block_height_shortcut_fails`)
and whose numbers fit int64 returns `[n]` iff a block of height `n` was accepted, `[]` otherwise. -/
theorem block_search_by_height (bs : List Block) (q : Query) (n : Nat)
    (hok : conditionsOK q = true) (hh : BlockIndex.lookForHeight q = some n) :
    BlockIndex.search (run H {} bs).bdb q =
      .heights (if BlockIndex.has (run H {} bs).bdb n then [n] else []) ∧
    (BlockIndex.has (run H {} bs).bdb n = true ↔
      ∃ pre b post, bs = pre ++ b :: post ∧ b.height = n ∧ accepted (run H {} pre) b = true) := by
  refine ⟨?_, block_has_exact H bs n⟩
  simp only [BlockIndex.search, hok, hh, Bool.not_true, Bool.false_eq_true, if_false]
  split <;> rfl

/-- **Block search exactness on clean input** (over the orderedcode tuple model: `orderedcode.Append`
assumed an injective, prefix-free, order-preserving tuple encoding).
For EVERY history of committed blocks in which accepted blocks have distinct heights, and EVERY
query satisfying `CleanQueryB` — any non-empty conjunction, in any order, of `k = 's'`, `k = n`,
`k EXISTS`, `k CONTAINS 's'` and range conditions (several keys, one- or two-sided, mixed with the
others; `block.height` itself under `EXISTS` and ranges) — `BlockerIndexer.Search` returns exactly
the heights of the accepted blocks whose event map (indexed BeginBlock/EndBlock attributes plus
`block.height`) satisfies `Query.Matches`, and returns them in strictly ASCENDING order (the
code's final `sort.Slice`), each once.
Excluded by `CleanQueryB`, as for the tx index: `EXISTS` on an undotted key, two bounds of one side
on a key or both bounds on a key with several values in one block, non-canonical decimals,
numbers beyond int64 and `k > MaxInt64`; specific to the block index: `block.height = n` (the
shortcut: `block_search_by_height`, `block_height_shortcut_fails`) and string conditions on
`block.height` (known finding `string-operand-on-block-height`); floats, TIME, DATE. No separator
exclusions are needed here: the keys are tuples. -/
theorem block_search_exact_clean (bs : List Block) (hd : BlockIndex.DistinctHeights bs)
    (q : Query) (hq : BlockIndex.CleanQueryB bs q) :
    ∃ hs, BlockIndex.search (run H {} bs).bdb q = .heights hs ∧ hs.Pairwise (· < ·) ∧
      ∀ x, x ∈ hs ↔ ∃ b ∈ bs, BlockIndex.acceptable b = true ∧ b.height = x ∧
        «matches» q (evOf (BlockIndex.attrsB b)) = .ok true := by
  rw [show (run H {} bs).bdb = BlockIndex.indexed bs from BlockIndex.run_bdb H {} bs]
  obtain ⟨L, eL, nL, mL⟩ := loops_exact (bs.filter BlockIndex.acceptable) BlockIndex.attrsB (·.height)
    (fun b hb b' hb' => hd b (List.mem_filter.mp hb).1 b' (List.mem_filter.mp hb').1
      (List.mem_filter.mp hb).2 (List.mem_filter.mp hb').2)
    q hq.nonempty (fun b hb => hq.fits hb) (fun _ _ => True) (fun _ _ _ _ _ => trivial)
    BlockIndex.scanStep BlockIndex.heightsOfScan (fun W => .rows (BlockIndex.rangeRows (BlockIndex.indexed bs) W))
    (fun c => BlockIndex.condRows (BlockIndex.indexed bs) c)
    (fun W _ => BlockIndex.block_range_scan bs W)
    (fun c hcq => by
      simpa only [and_true] using BlockIndex.block_cond_scan bs c (hq.conds c (List.mem_filter.mp hcq).1)
        (by simpa using (List.mem_filter.mp hcq).2))
  refine ⟨BlockIndex.sortNat (L.filter (BlockIndex.has (BlockIndex.indexed bs))), ?_,
    BlockIndex.sortNat_sorted _ (nL.filter _), fun x => ?_⟩
  · rw [BlockIndex.search_eq_loops _ q (conditionsOK_of_class q fun c hcq => (hq.conds c hcq).1) hq.noHeight, eL]
  · -- the final `Has` filter drops nothing: a matching block is an accepted block of this height
    rw [(BlockIndex.sorts.perm _).mem_iff, List.mem_filter, mL, and_iff_left_of_imp]
    · simp only [List.mem_filter, and_assoc]
    · rintro ⟨b, hb, hx, _⟩
      exact (BlockIndex.has_indexed bs x).mpr ⟨b, (List.mem_filter.mp hb).1, (List.mem_filter.mp hb).2, hx⟩

/-- the hypotheses of `block_search_exact_clean` are satisfiable: three committed blocks, indexed
in the order 10, 9, 11, the last one refused by the block index; the query
`a.n >= 5 AND block.height <= 10` (values 105 and 5: different digit counts) returns the heights
in ascending order -/
example :
    let an : Str := [97, 46, 110]
    let ev : Str → Event := fun v => { type := [97], attrs := [{ key := [110], value := v, index := true }] }
    let bad : Event := { type := [98, 108, 111, 99, 107], attrs := [{ key := [104, 101, 105, 103, 104, 116], value := [49], index := false }] }
    let b10 : Block := { height := 10, beginEvents := [ev [49, 48, 53]], endEvents := [], txs := [] }
    let b9 : Block := { height := 9, beginEvents := [], endEvents := [ev [53]], txs := [] }
    let b11 : Block := { height := 11, beginEvents := [ev [55], bad], endEvents := [], txs := [] }
    let bs := [b10, b9, b11]
    let q : Query := [{ key := an, op := .ge, operand := .int 5 },
                      { key := BlockIndex.blockHeightKey, op := .le, operand := .int 10 }]
    BlockIndex.DistinctHeights bs ∧ BlockIndex.CleanQueryB bs q ∧
      BlockIndex.acceptable b11 = false ∧
      BlockIndex.search (run (fun x => x) {} bs).bdb q = .heights [9, 10] := by
  intro an ev bad b10 b9 b11 bs q
  refine ⟨by unfold BlockIndex.DistinctHeights; decide, ?_, by decide, by decide⟩
  have hrc : rangeConds q = q := by decide
  have hcanon : ∀ b ∈ bs, BlockIndex.acceptable b = true → ∀ k ∈ [an, BlockIndex.blockHeightKey],
      ∀ v ∈ valuesOf (BlockIndex.attrsB b) k,
      (v == dec (digitsVal v) && decide (digitsVal v ≤ maxInt64)) = true := by decide
  refine ⟨by decide, ?_, ?_, ?_, ?_, ?_⟩
  · intro c hc
    simp only [q, List.mem_cons, List.not_mem_nil, or_false] at hc
    rcases hc with rfl | rfl
    · exact ⟨(CondView.range _ _ 5 rfl (by decide) (by intro h; cases h)).toClass,
        fun h => absurd h (by decide)⟩
    · exact ⟨(CondView.range _ _ 10 rfl (by decide) (by intro h; cases h)).toClass,
        fun _ => Or.inr rfl⟩
  · intro k; rw [hrc]
    exact Nat.le_trans (length_filter_key_le q isLower k) (by decide)
  · intro k; rw [hrc]
    exact Nat.le_trans (length_filter_key_le q isUpper k) (by decide)
  · intro c hc b hb ha n hn v hv
    simp only [q, List.mem_cons, List.not_mem_nil, or_false] at hc
    rcases hc with rfl | rfl
    · exact canon_of_check (hcanon b hb ha _ (by simp) v hv)
    · exact canon_of_check (hcanon b hb ha _ (by simp) v hv)
  · -- no key has two range conditions
    intro k h2
    rw [hrc] at h2
    have hne : an ≠ BlockIndex.blockHeightKey := by decide
    by_cases h1 : an = k
    · have : ¬ BlockIndex.blockHeightKey = k := fun e => hne (h1.trans e.symm)
      simp [q, h1, this] at h2
    · by_cases h3 : BlockIndex.blockHeightKey = k <;> simp [q, h1, h3] at h2

end service

end Tmv.Props.C19
