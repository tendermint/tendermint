import Tmv.Lemmas.NetLift
import Tmv.Lemmas.ChainRun
import Tmv.Lemmas.NetCommit
import Tmv.Model.Validate
import Tmv.Lemmas.Agreement
import Tmv.Lemmas.ListFacts
import Tmv.Lemmas.NetApply
/-! # C01 — agreement: correct nodes never commit different blocks at one height

Theorems about the network model `Tmv.Net` (Tmv/Model/Net.lean): every correct validator runs the
node model `Tmv.Cons.step` (Tmv/Model/Cons.lean — `consensus/state.go`, `types/vote_set.go`,
`consensus/types/height_vote_set.go`, the signer; tied to the real `consensus.State` statement by
statement by the C02 stream and, composed, by the c01 stream); the network is the log of every
signed message ever sent. `Reachable nc s` is the inductive closure of `NetStep` from the initial
state: deliver ANY logged message to ANY correct node through any peer (so duplication, reordering,
delay, loss and partitions are all free), hand any block body / any majority claim to any node, fire
any timeout a node has scheduled, and let a faulty validator append ANY message carrying its own
sender id, and anybody append messages whose signature does not verify. A verifying message of a
correct validator enters the log only as an output of that validator's `step` (ideal signatures).

All statements are for every number of validators, every power assignment, every faulty set, every
proposer table, every validity predicate and every reachable state — i.e. every schedule and every
behaviour of the faulty validators. Of the one-height statements `agreement` alone assumes that the faulty set holds less than
one third of the power; the all-heights statements assume it per height (`Bounded`).

Limits (stated, not hidden): the theorems up to `agreement` are for one height (heights are composed in the
section "All heights" through `Tmv.Chain`); block validity is the parameter `valid` (C06); signatures
ideal; the reactor's gossip is replaced by the log (safety does not depend on what is gossiped).
NOT assumed: an order in which a node hears its own messages — `NetStep.own` hands a node ANY of its
queued own messages at any later time (the C02 node theorems are stated for the FIFO schedule
`Tmv.Cons.step`; here the per-item invariants behind them are re-used item by item). -/
namespace Tmv.Props.C01
open Tmv.Cons Tmv.Net Tmv.VoteLog

/-- **quorum_intersection**: two vote sets each holding more than two thirds of the power share a
validator outside any set holding less than one third. -/
theorem quorum_intersection (P : Powers) (p q f : Nat → Bool)
    (hp : 3 * P.wt p > 2 * P.total) (hq : 3 * P.wt q > 2 * P.total)
    (hf : 3 * P.wt f < P.total) :
    ∃ v, v < P.n ∧ p v = true ∧ q v = true ∧ f v = false :=
  Tmv.VoteLog.quorum_intersection P p q f hp hq hf

/-- **the lift**: in every reachable state the verified votes of the log satisfy the four
per-correct-validator log invariants of `Tmv.VoteLog.Behaved` (votes in round order; one precommit
per round; a block precommit is preceded in the log by a polka for it; a prevote against an earlier
block precommit is preceded in the log by a polka for something else in a round in between) —
whatever the faulty validators (any set, any power) put into the log. -/
theorem log_behaved (nc : NetCfg) (s : Net) (hr : Reachable nc s) :
    Behaved nc.powers nc.faulty (voteLog s.log) :=
  (Inv.reachable hr).good.behaved

/-- a verifying vote of a correct validator in the log was signed by that validator's node
(nothing else puts it there) -/
theorem correct_votes_are_signed (nc : NetCfg) (s : Net) (hr : Reachable nc s) (p : Nat) (hp : nc.correct p)
    (m : VoteMsg) (hm : m ∈ voteLog s.log) (hs : m.sender = p) :
    ∃ t, (t == VType.precommit) = m.isPrecommit ∧ Output.signVote t m.round m.value ∈ (s.nodes p).out :=
  (Inv.reachable hr).mine p hp m hm hs

/-- a correct validator never equivocates on the wire: two verifying votes of one type and round
under its id carry the same value (C02's `one_per_step`, lifted to the log) -/
theorem correct_never_equivocates (nc : NetCfg) (s : Net) (hr : Reachable nc s) (p : Nat) (hp : nc.correct p)
    (m m' : VoteMsg) (hm : m ∈ voteLog s.log) (hm' : m' ∈ voteLog s.log) (hs : m.sender = p) (hs' : m'.sender = p)
    (ht : m.isPrecommit = m'.isPrecommit) (hround : m.round = m'.round) : m.value = m'.value := by
  have inv := Inv.reachable hr
  obtain ⟨t, e, h1⟩ := inv.mine p hp m hm hs
  obtain ⟨t', e', h2⟩ := inv.mine p hp m' hm' hs'
  have htt : t = t' := by
    rw [← e, ← e'] at ht
    cases t <;> cases t' <;> first | rfl | cases ht
  subst htt
  rw [hround] at h1
  exact (inv.node p hp).g.vote_uniq h1 h2

/-- inside the network the hypothesis of the C02 theorems holds: every timeout a correct node has
scheduled (the only ones that can fire) is for a round the node has reached -/
theorem scheduled_timeouts_reached (nc : NetCfg) (s : Net) (hr : Reachable nc s) (p : Nat) (hp : nc.correct p)
    (r : Nat) (st : Step) (h : Output.schedule r st ∈ (s.nodes p).out) : r ≤ (s.nodes p).round :=
  ((Inv.reachable hr).node p hp).n.sched r st h

/-- **decision_backed**: every block a correct node has decided passed `ValidateBlock` at that node
and is backed by precommits for exactly that block, in one round, that are in the log and come from
validators holding more than two thirds of the voting power. (No hypothesis on the faulty set.) -/
theorem decision_backed (nc : NetCfg) (s : Net) (hr : Reachable nc s) (p : Nat) (hp : nc.correct p) (b : Nat)
    (hd : s.decided p = some b) :
    nc.valid b = true ∧ ∃ r, decidable nc.powers (voteLog s.log) r b := by
  have hw := ((Inv.reachable hr).node p hp).w
  unfold Net.decided at hd
  cases hdec : (s.nodes p).decided with
  | none => rw [hdec] at hd; cases hd
  | some br =>
    obtain ⟨b', r⟩ := br
    rw [hdec] at hd
    cases hd
    obtain ⟨hv, hq⟩ := hw.d b' r hdec
    -- the weight is positive, so some validator satisfies `EL … r`, which says `0 ≤ r`
    obtain ⟨v, _, hv'⟩ := wtUpTo_pos _ _ _ (Nat.pos_of_ne_zero fun h0 => by rw [h0] at hq; omega)
    have hr0 : 0 ≤ r := by
      unfold EL at hv'
      exact of_decide_eq_true (Bool.and_eq_true_iff.1 hv').1
    refine ⟨hv, r.toNat, (quorum_wt_iff nc p _).1 ?_⟩
    rw [← Int.toNat_of_nonneg hr0, EL_nat] at hq
    exact hq

/-- every node state in a reachable network state is reached from the initial node state by items -/
theorem nodes_reach (nc : NetCfg) (s : Net) (hr : Reachable nc s) (p : Nat) : NodeReach (nc.node p) (s.nodes p) := by
  induction hr with
  | init => exact NodeReach.init
  | step _ hs ih =>
    have feed : ∀ (s0 : Net) (q : Nat) (it : Item), NodeReach (nc.node p) (s0.nodes p) →
        NodeReach (nc.node p) ((s0.feed nc q it).nodes p) := by
      intro s0 q it h0
      show NodeReach _ (upd s0.nodes q _ p)
      unfold upd
      by_cases e : p = q
      · subst e; simp only [if_true]; exact NodeReach.item it h0
      · simp only [e, if_false]; exact h0
    cases hs with
    | byz m hm => exact ih
    | _ => exact feed _ _ _ ih

/-- **the stored commit verifies**: the commit a node that has decided STORES — `VoteSet.MakeCommit`
of the precommits of its commit round: a validator is flagged "commit" iff the vote in its canonical
slot is for the majority block (`Tmv.Net.seenCommit`) — flags validators holding more than two thirds
of the power, i.e. the tally of `ValidatorSet.VerifyCommit` accepts it. Holds for every reachable
state and needs nothing of the faulty set: equivocators whose first stored vote was for another value
are moved to the majority block when the quorum is first reached (the copy loop of
`addVerifiedVote`), or recorded under it afterwards. -/
theorem stored_commit_verifies (nc : NetCfg) (s : Net) (hr : Reachable nc s) (p : Nat) (b : Nat) (r : Int)
    (hd : (s.nodes p).decided = some (b, r)) :
    ∃ flags, seenCommit (nc.node p) (s.nodes p) = some flags ∧ commitVerifies (nc.node p) flags = true :=
  Tmv.Net.stored_commit_verifies (nc.node p) (s.nodes p) (nodes_reach nc s hr p) b r hd

/-! ### block validity instantiated with the C06 model of `ValidateBlock` -/

/-- the validity predicate of the consensus model instantiated with the model of
`BlockExecutor.ValidateBlock` (state/validation.go, Tmv/Model/Validate.lean — the C06 model, whose
`validate_iff_spec` says exactly which blocks pass) against the state `st` the nodes hold at this
height; `blk` decodes a block id (hash + part-set header) into the block -/
def validFrom (env : Validate.Env) (st : Validate.State) (blk : Nat → ProtoSize.Block) : Nat → Bool :=
  fun b => match Validate.validateBlock env st (blk b) with
    | .ok _ => true
    | .error _ => false

/-- **decision_backed, literally**: when block validity is `validateBlock` against the node's state,
every block a correct node decides PASSED FULL VALIDATION AGAINST THAT STATE (`validateBlock env st
(blk b) = ok`) and is backed by precommits for exactly it, in one round, in the log, from more than two
thirds of the power. -/
theorem decision_passed_validation (nc : NetCfg) (env : Validate.Env) (st : Validate.State)
    (blk : Nat → ProtoSize.Block) (hv : nc.valid = validFrom env st blk)
    (s : Net) (hr : Reachable nc s) (p : Nat) (hp : nc.correct p) (b : Nat) (hd : s.decided p = some b) :
    Validate.validateBlock env st (blk b) = .ok () ∧ ∃ r, decidable nc.powers (voteLog s.log) r b := by
  obtain ⟨h1, h2⟩ := decision_backed nc s hr p hp b hd
  refine ⟨?_, h2⟩
  rw [hv] at h1
  unfold validFrom at h1
  cases hvb : Validate.validateBlock env st (blk b) with
  | ok u => cases u; rfl
  | error e => rw [hvb] at h1; cases h1

/-- **agreement**: while the faulty validators hold less than one third of the voting power, no two
correct nodes ever decide different blocks — in every reachable state, i.e. for every delivery
order, delay, duplication, loss, partition and every behaviour of the faulty validators. -/
theorem agreement (nc : NetCfg) (hf : 3 * nc.powers.wt nc.faulty < nc.powers.total)
    (s : Net) (hr : Reachable nc s) (p q : Nat) (hp : nc.correct p) (hq : nc.correct q) (b b' : Nat)
    (h1 : s.decided p = some b) (h2 : s.decided q = some b') : b = b' := by
  obtain ⟨_, r, d1⟩ := decision_backed nc s hr p hp b h1
  obtain ⟨_, r', d2⟩ := decision_backed nc s hr q hq b' h2
  exact decidable_unique nc.powers nc.faulty _ (log_behaved nc s hr) hf d1 d2

/-! ### All heights (the composition; model `Tmv.Chain`, Tmv/Model/Chain.lean)

One network per height. A node makes moves at height `h` only after it has committed at every height
below, and runs height `h` under the configuration `C.net S` of the state `S` IT holds — genesis with
its own committed blocks applied by the (deterministic, C06) transition `C.apply`; nothing in the
model makes two nodes hold the same state. The faulty validators of every height are given per
height. `Bounded C W` is the per-height hypothesis made explicit: at every height a correct node has
entered, the faulty validators of THAT height hold less than one third of the power of the validator
set of THAT height (as determined by the state the node holds there). -/

theorem agree1 : Chain.Agree1 :=
  fun nc hf s hr p q hp hq b b' h1 h2 => agreement nc hf s hr p q hp hq b b' h1 h2

/-- correct nodes hold the same replicated state at every height they have entered (so the same
validator set, proposer table and validity predicate: the hypothesis "all correct nodes enter height h
with the same state" of the one-height theorems is a consequence, not an assumption) -/
theorem same_state_all_heights {σ : Type} (C : Chain.ChainCfg σ) (W : Chain.World) (hr : Chain.WReachable C W)
    (hb : Chain.Bounded C W) (h p q : Nat) (hp : W.good C p h) (hq : W.good C q h)
    (ep : W.entered p h) (eq : W.entered q h) : W.st C p h = W.st C q h :=
  Chain.same_state agree1 C W hr hb h p q hp hq ep eq

/-- **agreement_all_heights**: provided less than one third of the power OF EACH HEIGHT'S validator
set is faulty (`Bounded`), no two correct nodes ever decide different blocks at ANY height — in every
reachable world, i.e. every schedule within and across heights (nodes may be at different heights)
and every behaviour of each height's faulty validators. -/
theorem agreement_all_heights {σ : Type} (C : Chain.ChainCfg σ) (W : Chain.World) (hr : Chain.WReachable C W)
    (hb : Chain.Bounded C W) (h p q : Nat) (hp : W.good C p h) (hq : W.good C q h) (b b' : Nat)
    (h1 : W.decided p h = some b) (h2 : W.decided q h = some b') : b = b' :=
  Chain.agreement_all_heights agree1 C W hr hb h p q hp hq b b' h1 h2

/-- every height's network is a reachable state of the one-height model under the common
configuration — so `log_behaved`, `decision_backed`, `decision_passed_validation` apply to every height -/
theorem every_height_reachable {σ : Type} (C : Chain.ChainCfg σ) (W : Chain.World) (hr : Chain.WReachable C W)
    (hb : Chain.Bounded C W) (h p : Nat) (hp : W.good C p h) (ep : W.entered p h) :
    Reachable (C.netAt (W.st C p h) h) (W.nets h) :=
  Chain.height_reachable agree1 C W hr hb h p hp ep

/-! ### The composition instantiated with the C06 models of `ValidateBlock` / `ApplyBlock` -/

/-- what the application answers for a block on a state (validator updates, parameter updates,
results, app hash) — a function: the application is deterministic -/
structure AppModel where
  changed : Validate.State → ProtoSize.Block → Bool
  nvals : Validate.State → ProtoSize.Block → Option Validate.ValSet
  params : Validate.State → ProtoSize.Block → Option Validate.ParamUpdate
  results : Validate.State → ProtoSize.Block → List Validate.TxResult
  appHash : Validate.State → ProtoSize.Block → Bytes

/-- the chain whose replicated state is the C06 `State`: block validity at a height is
`validateBlock` against the state the node holds; the next state is `applyBlock` (= `validateBlock`,
`updateState` on the application's answers, app hash) of the committed block; the validator set and the
powers of a height are `State.vals`; the proposer table and the node's own block come from the state
through `prop` / `own` (C08 / `CreateProposalBlock`) -/
def c06Chain (env : Validate.Env) (incr : Validate.ValSet → Validate.ValSet) (app : AppModel)
    (blk : Nat → ProtoSize.Block) (bid : Nat → ProtoSize.BlockID)
    (prop : Validate.State → Nat → Nat) (own : Validate.State → Nat → Nat)
    (genesis : Validate.State) (faulty : Nat → Nat → Bool) (checkHRS : Bool) : Chain.ChainCfg Validate.State where
  genesis := genesis
  apply := fun S b =>
    match Validate.applyBlock env incr S (blk b) (bid b) (app.changed S (blk b)) (app.nvals S (blk b))
        (app.params S (blk b)) (app.results S (blk b)) (app.appHash S (blk b)) with
    | .ok S' => S'
    | .error _ => S
  net := fun S =>
    { n := S.vals.length, power := fun v => ((S.vals.map (fun (x : Validate.Validator) => x.power))[v]?.getD 0).toNat,
      faulty := fun _ => false, proposer := prop S, valid := validFrom env S blk, ownBlock := own S,
      waitForTxs := false, needProofBlock := true, emptyInterval := false, checkHRS := checkHRS }
  faulty := faulty

/-- **all heights, with the C06 state machine**: every block a correct node commits at any height
passed `validateBlock` against the state that node holds at that height — which is the same state at
every correct node —, and no two correct nodes commit different blocks at any height. -/
theorem agreement_all_heights_c06 (env : Validate.Env) (incr : Validate.ValSet → Validate.ValSet) (app : AppModel)
    (blk : Nat → ProtoSize.Block) (bid : Nat → ProtoSize.BlockID)
    (prop own : Validate.State → Nat → Nat) (genesis : Validate.State) (faulty : Nat → Nat → Bool) (hrs : Bool)
    (W : Chain.World)
    (hr : Chain.WReachable (c06Chain env incr app blk bid prop own genesis faulty hrs) W)
    (hb : Chain.Bounded (c06Chain env incr app blk bid prop own genesis faulty hrs) W)
    (h p q : Nat) (hp : W.good (c06Chain env incr app blk bid prop own genesis faulty hrs) p h)
    (hq : W.good (c06Chain env incr app blk bid prop own genesis faulty hrs) q h) (b b' : Nat)
    (h1 : W.decided p h = some b) (h2 : W.decided q h = some b') :
    b = b' ∧
    W.st (c06Chain env incr app blk bid prop own genesis faulty hrs) p h =
      W.st (c06Chain env incr app blk bid prop own genesis faulty hrs) q h ∧
    Validate.validateBlock env (W.st (c06Chain env incr app blk bid prop own genesis faulty hrs) p h) (blk b) = .ok () := by
  have hJ := Chain.J.of_wreachable _ W hr
  have ep := hJ.entered_of_decided h1
  have eq := hJ.entered_of_decided h2
  refine ⟨agreement_all_heights _ W hr hb h p q hp hq b b' h1 h2,
    same_state_all_heights _ W hr hb h p q hp hq ep eq, ?_⟩
  have hreach := every_height_reachable _ W hr hb h p hp ep
  exact (decision_passed_validation _ env _ blk rfl _ hreach p (hp h (Nat.le_refl _)) b h1).1

/-! ### Non-vacuity: explicit traces of the network model -/

/-- running a list of ops through `Net.apply` with the FIFO schedule for own messages (an op that is
not a transition is skipped) -/
def runOps (nc : NetCfg) (s : Net) (ops : List Op) : Net :=
  ops.foldl (fun s op => (s.apply nc true op).getD s) s

/-- every applied op is a `NetStep`, or a `NetStep` followed by `own` steps; `restart` leaves the state as it is -/
theorem apply_reachable (nc : NetCfg) (s s' : Net) (d : Bool) (op : Op) (hr : Reachable nc s)
    (h : s.apply nc d op = some s') : Reachable nc s' := by
  cases hop : Chain.opNode op with
  | some p =>
    exact Chain.apply_node_keeps (R := Reachable nc)
      (fun hp _ _ ha hs => Reachable.step ha (hs.toNetStep hp)) hop h hr
  | none =>
    unfold Net.apply at h
    cases op with
    | byz m =>
      simp only at h; split at h <;> cases h
      exact Reachable.step hr (NetStep.byz s m ‹_›)
    | restart p =>
      simp only at h; split at h <;> cases h
      exact hr
    | _ => cases hop

theorem runOps_reachable (nc : NetCfg) (ops : List Op) (s : Net) (hr : Reachable nc s) :
    Reachable nc (runOps nc s ops) := by
  unfold runOps
  exact foldl_getD_keeps (fun s op s' hr h => apply_reachable nc s s' true op hr h) ops s hr

/-- 4 validators of power 1, those listed in `faulty` faulty, proposer of round k is validator k mod 4 -/
def exCfg (faulty : List Nat) : NetCfg where
  n := 4
  power := fun _ => 1
  faulty := fun v => faulty.contains v
  proposer := fun k => k % 4
  valid := fun _ => true
  ownBlock := fun p => p
  waitForTxs := false
  needProofBlock := true
  emptyInterval := false
  checkHRS := true

/-- round 0: validator 0 proposes its block 0; validators 0,1,2 receive proposal and block, prevote
and precommit it, and each receives the three prevotes and precommits: all three decide block 0.
(log: 0 = proposal, 1 = prevote of 0, 2 = prevote of 1, 3 = prevote of 2, 4.. = precommits) -/
def exHappy : List Op :=
  [.fire 0 0 .newHeight, .fire 1 0 .newHeight, .fire 2 0 .newHeight,
   .deliver 1 0 1, .block 1 0, .deliver 2 0 1, .block 2 0,
   .deliver 0 2 1, .deliver 0 3 1, .deliver 1 1 1, .deliver 1 3 1, .deliver 2 1 1, .deliver 2 2 1,
   .deliver 0 5 1, .deliver 0 6 1, .deliver 1 4 1, .deliver 1 6 1, .deliver 2 4 1, .deliver 2 5 1]

/-- the hypotheses of `agreement` hold of a real run: `exCfg [3]` has less than one third faulty
power, the state after `exHappy` is reachable, validators 0, 1, 2 are correct and all decided -/
example : 3 * (exCfg [3]).powers.wt (exCfg [3]).faulty < (exCfg [3]).powers.total ∧
    (exCfg [3]).correct 0 ∧ (exCfg [3]).correct 1 ∧ (exCfg [3]).correct 2 ∧
    (runOps (exCfg [3]) Net.init exHappy).decided 0 = some 0 ∧
    (runOps (exCfg [3]) Net.init exHappy).decided 1 = some 0 ∧
    (runOps (exCfg [3]) Net.init exHappy).decided 2 = some 0 := by decide

example : Reachable (exCfg [3]) (runOps (exCfg [3]) Net.init exHappy) :=
  runOps_reachable _ _ _ Reachable.init

/-- the dangerous schedule of the property text: validator 0 alone sees the round-0 polka for block 0
(the faulty validator 3 sends its prevote to 0 only) and locks it; 0 is then cut off while 1, 2 and
the faulty validator produce a polka and +2/3 precommits for the competing block 1 in round 1 and
decide it; after the partition heals, 0 prevotes its locked block, sees the round-1 polka, unlocks,
locks block 1 and decides block 1 as well. -/
def exLock : List Op :=
  [.fire 0 0 .newHeight, .fire 1 0 .newHeight, .fire 2 0 .newHeight, .deliver 1 0 1, .block 1 0,
   .fire 2 0 .propose, .byz ⟨3, .vote .prevote 0 (some 0), true⟩, .deliver 0 2 1, .deliver 0 4 3,
   .deliver 1 1 1, .deliver 1 3 2, .fire 1 0 .prevoteWait, .deliver 2 1 1, .deliver 2 2 1,
   .fire 2 0 .prevoteWait, .byz ⟨3, .vote .precommit 0 none, true⟩, .deliver 0 6 1, .deliver 0 7 2,
   .fire 0 0 .precommitWait, .deliver 1 7 2, .deliver 1 8 3, .fire 1 0 .precommitWait,
   .deliver 2 6 1, .deliver 2 8 3, .fire 2 0 .precommitWait, .deliver 2 9 1, .block 2 1,
   .byz ⟨3, .vote .prevote 1 (some 1), true⟩, .deliver 1 11 2, .deliver 1 12 3, .deliver 2 10 1,
   .deliver 2 12 3, .byz ⟨3, .vote .precommit 1 (some 1), true⟩, .deliver 1 14 2, .deliver 1 15 3,
   .deliver 2 13 1, .deliver 2 15 3]

def exHeal : List Op :=
  [.deliver 0 9 1, .block 0 1, .deliver 0 10 1, .deliver 0 11 2,
   .deliver 0 12 3, .deliver 0 13 1, .deliver 0 14 2]

set_option maxRecDepth 8000 in
/-- … during the partition two correct validators hold different locks (0 on block 0, 1 on block 1)
while 1 and 2 have decided block 1 … -/
example :
    let s := runOps (exCfg [3]) Net.init exLock
    (s.nodes 0).lockedBlock = some 0 ∧ (s.nodes 1).lockedBlock = some 1 ∧
    s.decided 0 = none ∧ s.decided 1 = some 1 ∧ s.decided 2 = some 1 := by decide

set_option maxRecDepth 8000 in
/-- … and after healing validator 0 has signed prevote(1, block 0) — its lock —, precommit(1, block 1),
and decided block 1 -/
example :
    let s := runOps (exCfg [3]) Net.init (exLock ++ exHeal)
    Output.signVote .precommit 0 (some 0) ∈ (s.nodes 0).out ∧
    Output.signVote .prevote 1 (some 0) ∈ (s.nodes 0).out ∧
    Output.signVote .precommit 1 (some 1) ∈ (s.nodes 0).out ∧
    s.decided 0 = some 1 ∧ s.decided 1 = some 1 ∧ s.decided 2 = some 1 := by decide

/-- validators 2 and 3 (half of the power) faulty: they show block 0 to validator 0 and, after nil
rounds, block 1 to validator 1 -/
def exSplit : List Op :=
  [.fire 0 0 .newHeight, .byz ⟨2, .vote .prevote 0 (some 0), true⟩,
   .byz ⟨3, .vote .prevote 0 (some 0), true⟩, .deliver 0 2 1, .deliver 0 3 1,
   .byz ⟨2, .vote .precommit 0 (some 0), true⟩, .byz ⟨3, .vote .precommit 0 (some 0), true⟩,
   .deliver 0 5 1, .deliver 0 6 1, .fire 1 0 .newHeight, .fire 1 0 .propose,
   .byz ⟨2, .vote .prevote 0 none, true⟩, .byz ⟨3, .vote .prevote 0 none, true⟩, .deliver 1 8 1,
   .deliver 1 9 1, .byz ⟨2, .vote .precommit 0 none, true⟩,
   .byz ⟨3, .vote .precommit 0 none, true⟩, .deliver 1 11 1, .deliver 1 12 1,
   .fire 1 0 .precommitWait, .byz ⟨2, .vote .prevote 1 (some 1), true⟩,
   .byz ⟨3, .vote .prevote 1 (some 1), true⟩, .deliver 1 15 1, .deliver 1 16 1,
   .byz ⟨2, .vote .precommit 1 (some 1), true⟩, .byz ⟨3, .vote .precommit 1 (some 1), true⟩,
   .deliver 1 18 1, .deliver 1 19 1]

/-- **the bound on the faulty power cannot be dropped** (and the model is not trivially safe): with
validators 2 and 3 of four equal validators faulty, a reachable state has the correct validators 0
and 1 decide different blocks. -/
theorem agreement_needs_less_than_one_third :
    ∃ s, Reachable (exCfg [2, 3]) s ∧ (exCfg [2, 3]).correct 0 ∧ (exCfg [2, 3]).correct 1 ∧
      s.decided 0 = some 0 ∧ s.decided 1 = some 1 :=
  ⟨runOps (exCfg [2, 3]) Net.init exSplit, runOps_reachable _ _ _ Reachable.init, by decide⟩

/-- ops with an explicit schedule for the node's own messages: `false` = the node handles the input
only, its own messages stay queued until `Op.own` ops hand them over -/
def runOpsD (nc : NetCfg) (s : Net) (ops : List (Op × Bool)) : Net :=
  ops.foldl (fun s od => (s.apply nc od.2 od.1).getD s) s

theorem runOpsD_reachable (nc : NetCfg) (ops : List (Op × Bool)) (s : Net) (hr : Reachable nc s) :
    Reachable nc (runOpsD nc s ops) := by
  unfold runOpsD
  exact foldl_getD_keeps (fun s od s' hr h => apply_reachable nc s s' od.2 od.1 hr h) ops s hr

/-- validator 0 proposes but hears its OWN proposal and block part only after the others' prevotes,
and its own prevote only after the others' precommits (its internal queue is served late) -/
def exOwnLate : List (Op × Bool) :=
  [(.fire 0 0 .newHeight, false), (.fire 1 0 .newHeight, true), (.fire 2 0 .newHeight, true),
   (.deliver 1 0 1, true), (.block 1 0, true), (.deliver 2 0 1, true), (.block 2 0, true),
   (.deliver 0 1 1, false), (.deliver 0 2 1, false), (.own 0 0, true), (.own 0 0, true),
   (.deliver 1 2 1, true), (.deliver 2 1 1, true), (.deliver 1 3 1, true), (.deliver 2 3 1, true),
   (.deliver 0 4 1, false), (.deliver 0 5 1, false), (.own 0 0, true), (.own 0 0, true),
   (.deliver 1 5 1, true), (.deliver 1 6 1, true), (.deliver 2 4 1, true), (.deliver 2 6 1, true)]

/-- … and all three correct validators still decide block 0 (the model's schedule for own messages is
free: `agreement` does not rest on a FIFO internal queue) -/
example :
    let s := runOpsD (exCfg [3]) Net.init exOwnLate
    s.decided 0 = some 0 ∧ s.decided 1 = some 0 ∧ s.decided 2 = some 0 := by decide

/-! ### Non-vacuity of the composition: a two-height run with a changing validator set -/

/-- state = the list of committed block ids; validator powers (1,1,1,1 then 2,1,1,1), proposer rotation
and the nodes' own blocks depend on the height through the state; validator 3 is faulty at every height -/
def exChain : Chain.ChainCfg (List Nat) where
  genesis := []
  apply := fun S b => S ++ [b]
  net := fun S =>
    { n := 4, power := fun v => if S.length = 0 then 1 else if v = 0 then 2 else 1,
      faulty := fun _ => false, proposer := fun k => (k + S.length) % 4, valid := fun _ => true,
      ownBlock := fun p => 10 * S.length + p, waitForTxs := false, needProofBlock := true,
      emptyInterval := false, checkHRS := true }
  faulty := fun _ v => v == 3

/-- height 0: validator 0 proposes block 0; 0 and 1 decide it and move on to height 1 (proposer 1,
block 11) while 2 has not yet heard the height-0 precommits — its height-1 start is refused; then 2
finishes height 0, joins height 1, and all three decide block 11 -/
def exTwoHeights : List (Nat × Op) :=
  [(0, .fire 0 0 .newHeight), (0, .fire 1 0 .newHeight), (0, .fire 2 0 .newHeight),
   (0, .deliver 1 0 1), (0, .block 1 0), (0, .deliver 2 0 1), (0, .block 2 0),
   (0, .deliver 0 2 1), (0, .deliver 0 3 1), (0, .deliver 1 1 1), (0, .deliver 1 3 1),
   (0, .deliver 2 1 1), (0, .deliver 2 2 1),
   (0, .deliver 0 5 1), (0, .deliver 0 6 1), (0, .deliver 1 4 1), (0, .deliver 1 6 1),
   (1, .fire 1 0 .newHeight), (1, .fire 0 0 .newHeight), (1, .fire 2 0 .newHeight),
   (1, .deliver 0 0 1), (1, .block 0 11),
   (0, .deliver 2 4 1), (0, .deliver 2 5 1),
   (1, .fire 2 0 .newHeight), (1, .deliver 2 0 1), (1, .block 2 11),
   (1, .deliver 0 1 1), (1, .deliver 0 3 1), (1, .deliver 1 2 1), (1, .deliver 1 3 1),
   (1, .deliver 2 1 1), (1, .deliver 2 2 1),
   (1, .deliver 0 5 1), (1, .deliver 0 6 1), (1, .deliver 1 4 1), (1, .deliver 1 6 1),
   (1, .deliver 2 4 1), (1, .deliver 2 5 1)]

example : Chain.WReachable exChain (Chain.World.init.run exChain exTwoHeights) :=
  Chain.run_reachable _ _ _ Chain.WReachable.init

set_option maxRecDepth 16000 in
/-- the hypotheses of `agreement_all_heights` hold of this run at both heights (correct, entered,
per-height bound: 1 of 4 at height 0, 1 of 5 at height 1) and all three validators committed block 0
and then block 11, holding the same state `[0, 11]` -/
example :
    let W := Chain.World.init.run exChain exTwoHeights
    (∀ p, p < 3 → W.good exChain p 1 ∧ W.entered p 2 ∧ W.decided p 0 = some 0 ∧ W.decided p 1 = some 11 ∧
      W.st exChain p 2 = [0, 11] ∧ exChain.bound (W.st exChain p 0) 0 ∧ exChain.bound (W.st exChain p 1) 1) := by
  decide

set_option maxRecDepth 16000 in
/-- a node cannot move at a height before it has committed the one below: after the first 19 ops
validator 2 is still at height 0 and its height-1 start is not a transition -/
example :
    let W := Chain.World.init.run exChain (exTwoHeights.take 19)
    W.decided 2 0 = none ∧ W.applyOp exChain 1 true (.fire 2 0 .newHeight) = none ∧
    (W.applyOp exChain 1 true (.fire 0 0 .newHeight)).isSome = true := by decide

end Tmv.Props.C01
