import Tmv.Lemmas.CommitDecode
/-! # C07 — A commit is accepted only with enough distinct valid signatures for that block
`sigOK key signBytes sig` is an arbitrary predicate (nothing is assumed
about ed25519); `SignBytes` is the record `CanonicalizeVote` builds. All theorems are for every
validator set with non-negative powers (`NonNeg`; the code panics when the total exceeds
`MaxTotalVotingPower`, which the model has as the `.panicTotal` verdict), every commit (any flags,
addresses, timestamps, signatures, order and length) and every trust fraction (any two uint64).
Vocabulary (defined in `Tmv/Lemmas/CommitVerify.lean`): `sumPower vs` total power, `pickedPower vs js`
power at the positions `js`, `expectSB chainID c ts` the canonical-vote record of commit `c` for a
slot with timestamp `ts`, `GoodPick … (j, i)` = validator `j` has a qualifying signature in slot `i`,
`AllValid` = every non-absent slot verifies under the validator of its position, `fbSum vs sigs 0`
= power of the for-block slots. -/
namespace Tmv.Props.C07
open Tmv Tmv.CommitVerify

variable {σ : Type} (sigOK : Nat → SignBytes → σ → Bool)

/-- `VerifyCommit` accepts only if the commit is for the given height and block id and there are
distinct positions of the validator set whose slots are flagged for-the-block and carry a signature
valid under that validator's key over exactly (chain id, height, round, block id, slot timestamp),
with `3 · power > 2 · total`. -/
theorem verifyCommit_sound (vs : List Validator) (chainID : String) (blockID : BlockID) (height : Int)
    (c : Commit σ) (hnn : NonNeg vs)
    (h : verifyCommit sigOK vs chainID blockID height c = .ok) :
    c.height = height ∧ c.blockID = blockID ∧ vs.length = c.sigs.length ∧
    sumPower vs ≤ maxTotalVotingPower ∧
    ∃ picks : List Nat, picks.Nodup ∧
      (∀ i ∈ picks, GoodPick sigOK vs chainID c false (i, i)) ∧
      3 * pickedPower vs picks > 2 * sumPower vs :=
  let ⟨a, b, d, e, q⟩ := idx_accepted hnn (verifyCommit_eq .. ▸ h)
  let ⟨picks, hnd, hg, hp⟩ := q.goodPicks
  ⟨a, b, d, e, picks, hnd, hg, by omega⟩

/-- `VerifyCommitLight` accepts only under the same condition (it stops at the first crossing, so
the witnesses are the for-block slots it verified up to there). -/
theorem light_sound (vs : List Validator) (chainID : String) (blockID : BlockID) (height : Int)
    (c : Commit σ) (hnn : NonNeg vs)
    (h : verifyCommitLight sigOK vs chainID blockID height c = .ok) :
    c.height = height ∧ c.blockID = blockID ∧ vs.length = c.sigs.length ∧
    sumPower vs ≤ maxTotalVotingPower ∧
    ∃ picks : List Nat, picks.Nodup ∧
      (∀ i ∈ picks, GoodPick sigOK vs chainID c false (i, i)) ∧
      3 * pickedPower vs picks > 2 * sumPower vs :=
  let ⟨a, b, d, e, q⟩ := idx_accepted hnn (verifyCommitLight_eq .. ▸ h)
  let ⟨picks, hnd, hg, hp⟩ := q.goodPicks
  ⟨a, b, d, e, picks, hnd, hg, by omega⟩

/-- `VerifyCommitLightTrusting` accepts only if there are distinct members of the given set
(looked up by the slot's address), each with a for-block slot carrying a signature valid under the
member's key over exactly this commit's (chain id, height, round, block id, slot timestamp), whose
power is strictly more than `num/den` of the set's total: `power · den > total · num` for the
caller's uint64 `num`, `den` as mathematical integers. -/
theorem trusting_sound (vs : List Validator) (chainID : String) (c : Commit σ) (num den : Nat)
    (hnn : NonNeg vs)
    (h : verifyCommitLightTrusting sigOK vs chainID c num den = .ok) :
    0 < den ∧ sumPower vs ≤ maxTotalVotingPower ∧
    ∃ picks : List (Nat × Nat), (picks.map Prod.fst).Nodup ∧
      (∀ p ∈ picks, GoodPick sigOK vs chainID c true p) ∧
      pickedPower vs (picks.map Prod.fst) * den > sumPower vs * num :=
  let ⟨a, b, st, hta, hp⟩ := trusting_accepted hnn h
  ⟨a, b, st.1, hta.nodup, fun p hp => (hta.counted p hp).goodPick, hta.tally ▸ hp⟩


/-- The full and the early-exit variant return the SAME verdict (same error, same tally) on every
commit all of whose non-absent signatures are valid. -/
theorem full_light_same (vs : List Validator) (chainID : String) (blockID : BlockID) (height : Int)
    (c : Commit σ) (hnn : NonNeg vs) (hall : AllValid sigOK vs chainID c) :
    verifyCommit sigOK vs chainID blockID height c =
      verifyCommitLight sigOK vs chainID blockID height c := by
  rw [verifyCommit_eq, verifyCommitLight_eq]
  cases hn : idxNeeded vs blockID height c with
  | error r => rfl
  | ok n =>
    obtain ⟨⟨hlen, _, _, hT⟩, rfl⟩ := (idxNeeded_ok_iff vs blockID height c hnn n).mp hn
    have hn0 := (needed_two_thirds (sumPower_nonneg hnn) hT).2
    rw [run, run,
      verdict_allValid sigOK vs chainID c _ hall hlen hnn hT _ false true (fun _ h => by rw [h]; decide)
        (fun _ => id) (Or.inl rfl) hn0,
      verdict_allValid sigOK vs chainID c _ hall hlen hnn hT _ true false (fun _ => id)
        (fun s h e => h (by rw [e]; decide)) (Or.inr rfl) hn0]

/-- Repeated signers (trusting variant): if a for-block slot names a member that an earlier
for-block slot already named, then either the verdict was already decided by the slots before the
repeat (and it is that verdict, which is not "not enough"), or those slots fell through and the
verdict is the double-vote error at the repeat. The repeat itself never adds power. -/
theorem repeat_signer (vs : List Validator) (chainID : String) (c : Commit σ) (num den : Nat)
    (pre post : List (CommitSig σ)) (s1 s2 : CommitSig σ) (j : Nat) (v1 v2 : Validator)
    (hs : c.sigs = pre ++ s2 :: post) (h1 : s1 ∈ pre)
    (hf1 : s1.flag = flagCommit) (hf2 : s2.flag = flagCommit)
    (ha1 : findByAddr vs s1.addr 0 = some (j, v1)) (ha2 : findByAddr vs s2.addr 0 = some (j, v2)) :
    (verifyCommitLightTrusting sigOK vs chainID c num den =
        verifyCommitLightTrusting sigOK vs chainID { c with sigs := pre } num den ∧
      ∀ g n, verifyCommitLightTrusting sigOK vs chainID { c with sigs := pre } num den ≠ .notEnough g n)
    ∨ (∃ g n first, verifyCommitLightTrusting sigOK vs chainID { c with sigs := pre } num den = .notEnough g n ∧
        verifyCommitLightTrusting sigOK vs chainID c num den = .doubleVote first pre.length) := by
  rw [trusting_eq, trusting_eq]
  cases hn : trustNeeded vs num den with
  | error r =>
    have := trustNeeded_error hn
    exact Or.inl ⟨rfl, fun g n e => by subst e; simp [Res.early] at this⟩
  | ok needed =>
    -- the loop over `pre` is that of the shorter commit: a slot's check does not look at `sigs`
    have hpre : tallyLoop sigOK chainID c (addrP vs) needed pre 0 ([], 0) =
        tallyLoop sigOK chainID { c with sigs := pre } (addrP vs) needed pre 0 ([], 0) := rfl
    simp only [run, tally]
    rw [hs, tallyLoop, loopM_append, ← tallyLoop, hpre]
    cases hp : tallyLoop sigOK chainID { c with sigs := pre } (addrP vs) needed pre 0 ([], 0) with
    | error e =>
      refine Or.inl ⟨rfl, fun g n hh => ?_⟩
      obtain ⟨_, _, _, _, he⟩ := tallyLoop_error hp
      obtain rfl : e = .notEnough g n := hh
      cases he with
      | bad _ hc => rcases checkSlot_error_cases sigOK chainID _ hc with h | h | h <;> cases h
    | ok st =>
      obtain ⟨i, hi⟩ := List.getElem?_of_mem h1
      obtain ⟨first, hfirst⟩ := Option.isSome_iff_exists.mp
        ((tallyLoop_ok_slot (c := { c with sigs := pre }) hp hi ((addrP_look vs hf1 i).trans ha1)).2 hf1)
      refine Or.inr ⟨st.2, needed, first, rfl, ?_⟩
      dsimp only [Except.bind]
      rw [tallyLoop, loopM, slotStep, addrP_look vs hf2, ha2]
      dsimp only
      rw [hfirst, Nat.zero_add]
      rfl


/-- the clause of the property: acceptance agrees -/
theorem full_light_agree (vs : List Validator) (chainID : String) (blockID : BlockID) (height : Int)
    (c : Commit σ) (hnn : NonNeg vs) (hall : AllValid sigOK vs chainID c) :
    verifyCommit sigOK vs chainID blockID height c = .ok ↔
      verifyCommitLight sigOK vs chainID blockID height c = .ok := by
  rw [full_light_same sigOK vs chainID blockID height c hnn hall]

/-- a commit with a repeated signer is accepted only if the slots before the repeat already suffice -/
theorem repeat_signer_rejected (vs : List Validator) (chainID : String) (c : Commit σ) (num den : Nat)
    (pre post : List (CommitSig σ)) (s1 s2 : CommitSig σ) (j : Nat) (v1 v2 : Validator)
    (hs : c.sigs = pre ++ s2 :: post) (h1 : s1 ∈ pre)
    (hf1 : s1.flag = flagCommit) (hf2 : s2.flag = flagCommit)
    (ha1 : findByAddr vs s1.addr 0 = some (j, v1)) (ha2 : findByAddr vs s2.addr 0 = some (j, v2))
    (h : verifyCommitLightTrusting sigOK vs chainID c num den = .ok) :
    verifyCommitLightTrusting sigOK vs chainID { c with sigs := pre } num den = .ok := by
  rcases repeat_signer sigOK vs chainID c num den pre post s1 s2 j v1 v2 hs h1 hf1 hf2 ha1 ha2 with
    ⟨e, _⟩ | ⟨g, n, first, _, e⟩
  · rw [← e]; exact h
  · rw [e] at h; cases h

/-- threshold arithmetic, 2/3: for every total the code can hold, the int64 expression
`total * 2 / 3` is exact, i.e. `got > needed ⇔ 3·got > 2·total`. -/
theorem threshold_exact_two_thirds (T got : Int) (h0 : 0 ≤ T) (hT : T ≤ maxTotalVotingPower) :
    got > div64 (wrap64 (T * 2)) 3 ↔ 3 * got > 2 * T := by
  rw [(needed_two_thirds h0 hT).1]; omega

/-- threshold arithmetic, trust level: for uint64 parts that pass the guard and a product that
passes `safeMul`, `got > total*num/den ⇔ got·den > total·num`. -/
theorem threshold_exact_fraction (T got : Int) (num den : Nat) (h0 : 0 ≤ T)
    (hn : (num : Int) ≤ maxInt64) (hd : (den : Int) ≤ maxInt64) (hd0 : den ≠ 0)
    (hov : (safeMul T (toInt64 num)).2 = false) :
    got > div64 (safeMul T (toInt64 num)).1 (toInt64 den) ↔ got * den > T * num := by
  have e1 : toInt64 num = (num : Int) := wrap64_of_nonneg (Int.natCast_nonneg _) hn
  have e2 : toInt64 den = (den : Int) := wrap64_of_nonneg (Int.natCast_nonneg _) hd
  rw [e1] at hov ⊢; rw [e2]
  obtain ⟨hm, hmax⟩ := safeMul_spec h0 (by omega : (0 : Int) ≤ num) hov
  have hx0 : 0 ≤ T * (num : Int) := Int.mul_nonneg h0 (by omega)
  have hdpos : (0 : Int) < den := by omega
  rw [hm, (div64_nonneg hx0 hmax hdpos).1]
  exact Int.ediv_lt_iff_lt_mul hdpos

/-- a trust level with a part above MaxInt64 is refused before any arithmetic -/
theorem trusting_rejects_oversized_fraction (vs : List Validator) (chainID : String) (c : Commit σ)
    (num den : Nat) (hd : den ≠ 0) (h : (num : Int) > maxInt64 ∨ (den : Int) > maxInt64) :
    verifyCommitLightTrusting sigOK vs chainID c num den = .fractionRange := by
  unfold verifyCommitLightTrusting; simp only [if_neg hd, if_pos h]

/-- nil, absent and wrongly-signed slots never count (index-based variants): if no slot is at the
same time flagged for-the-block and validly signed by the validator of its position, both reject,
whatever else the commit contains. -/
theorem nil_absent_never_count (vs : List Validator) (chainID : String) (blockID : BlockID)
    (height : Int) (c : Commit σ) (hnn : NonNeg vs)
    (hbad : ∀ (i : Nat) (v : Validator) (s : CommitSig σ), vs[i]? = some v → c.sigs[i]? = some s →
      s.flag = flagCommit → sigOK v.key (expectSB chainID c s.ts) s.sig = false) :
    verifyCommit sigOK vs chainID blockID height c ≠ .ok ∧
    verifyCommitLight sigOK vs chainID blockID height c ≠ .ok := by
  have key : Quorum sigOK vs chainID c false 2 3 → False := fun q => by
    obtain ⟨p, hp⟩ := q.some hnn
    obtain ⟨v, s, hv, hs, hf, _, hok⟩ := hp.goodPick
    rw [hbad p.2 v s (hp.diag ▸ hv) hs hf] at hok; cases hok
  exact ⟨fun h => key (idx_accepted hnn (verifyCommit_eq .. ▸ h)).2.2.2.2,
    fun h => key (idx_accepted hnn (verifyCommitLight_eq .. ▸ h)).2.2.2.2⟩

/-- nil, absent, unknown-signer and wrongly-signed slots never count (trusting variant): if no
for-block slot carries the address of a member together with a signature valid under that
member's key, the commit is rejected at every trust level — also at `0/den`. -/
theorem nil_absent_unknown_never_count (vs : List Validator) (chainID : String) (c : Commit σ)
    (num den : Nat) (hnn : NonNeg vs)
    (hbad : ∀ (i : Nat) (s : CommitSig σ), c.sigs[i]? = some s → s.flag = flagCommit →
      ∀ (j : Nat) (v : Validator), vs[j]? = some v → s.addr = v.addr →
        sigOK v.key (expectSB chainID c s.ts) s.sig = false) :
    verifyCommitLightTrusting sigOK vs chainID c num den ≠ .ok := by
  intro h
  obtain ⟨p, hp⟩ := (trusting_accepted hnn h).2.2.some hnn
  obtain ⟨v, s, hv, hs, hf, ha, hok⟩ := hp.goodPick
  rw [hbad p.2 s hs hf p.1 v hv (ha rfl)] at hok; cases hok

/-- for a commit of a non-nil block the record a counted signature verifies against names exactly
that block id, and it is not the record of a nil vote -/
theorem counted_record_names_block (chainID : String) (c : Commit σ) (ts : Int)
    (hz : c.blockID.isZero = false) :
    (expectSB chainID c ts).blockID = some c.blockID ∧
    expectSB chainID c ts ≠ { expectSB chainID c ts with blockID := none } := by
  have : (expectSB chainID c ts).blockID = some c.blockID := by simp [expectSB, canonBlockID, hz]
  refine ⟨this, ?_⟩
  intro h
  have h2 := congrArg SignBytes.blockID h
  rw [this] at h2; cases h2


/-- Exactness of `VerifyCommit` on commits whose non-absent signatures are all valid: for a
commit of the right size, height and block id it accepts if and only if the for-block slots carry
strictly more than two thirds of the total power. -/
theorem verifyCommit_exact (vs : List Validator) (chainID : String) (c : Commit σ)
    (hnn : NonNeg vs) (hmax : sumPower vs ≤ maxTotalVotingPower)
    (hlen : vs.length = c.sigs.length) (hall : AllValid sigOK vs chainID c) :
    verifyCommit sigOK vs chainID c.blockID c.height c = .ok ↔
      3 * fbSum vs c.sigs 0 > 2 * sumPower vs := by
  have hn0 := (needed_two_thirds (sumPower_nonneg hnn) hmax).2
  rw [verifyCommit_eq, (idxNeeded_ok_iff vs _ _ c hnn _).mpr ⟨⟨hlen, rfl, rfl, hmax⟩, rfl⟩, run,
    verdict_allValid sigOK vs chainID c _ hall hlen hnn hmax _ false true (fun _ h => by rw [h]; decide)
      (fun _ => id) (Or.inl rfl) hn0]
  by_cases hgt : fbSum vs c.sigs 0 > sumPower vs * 2 / 3
  · rw [if_pos hgt]; exact ⟨fun _ => (by omega), fun _ => rfl⟩
  · rw [if_neg hgt]; exact ⟨nofun, fun h => (by omega)⟩

/-- Unconditionally (no assumption on the signatures): whatever the full variant accepts, the
early-exit variant accepts. -/
theorem full_implies_light (vs : List Validator) (chainID : String) (blockID : BlockID) (height : Int)
    (c : Commit σ) (hnn : NonNeg vs)
    (h : verifyCommit sigOK vs chainID blockID height c = .ok) :
    verifyCommitLight sigOK vs chainID blockID height c = .ok := by
  -- the full loop fell through, so every non-absent signature is valid
  have hall : AllValid sigOK vs chainID c := by
    have h' := h
    rw [verifyCommit_eq] at h'
    cases hn : idxNeeded vs blockID height c with
    | error r => rw [hn] at h'; exact absurd (h' ▸ idxNeeded_error hn) Res.not_early_ok
    | ok n =>
      rw [hn, run, tally] at h'
      cases hl : tallyLoop sigOK chainID c (fullP vs) n c.sigs 0 ([], 0) with
      | error e =>
        rw [hl] at h'
        obtain ⟨_, _, _, _, he⟩ := tallyLoop_error hl
        obtain rfl : e = .ok := h'
        cases he with
        | bad _ hc => exact absurd rfl (checkSlot_error_ne_ok sigOK chainID c hc)
        | cross _ _ _ _ hstop => cases hstop
      | ok st =>
        intro i v s hv hs hf
        exact (checkSlot_ok_iff sigOK chainID c).mp (tallyLoop_ok_slot hl hs (idxP_look vs hf hv)).1
  rw [← full_light_same sigOK vs chainID blockID height c hnn hall]; exact h

/-! ### non-vacuity: a concrete instance on which the hypotheses hold and the verdicts differ -/

/-- toy scheme: key `k` signs the record by writing `k`, a code for the block and the height -/
def exSigOK (k : Nat) (sb : SignBytes) (s : Nat) : Bool :=
  s == k + (if sb.blockID.isSome then 100 else 200) + 1000 * sb.height.toNat

def exVals : List Validator := [⟨[1], 1, 10⟩, ⟨[2], 2, 3⟩, ⟨[3], 3, 1⟩]
def exBid : BlockID := ⟨List.replicate 32 7, 1, List.replicate 32 9⟩
/-- validator 0 signs the block, validator 1 signs nil, validator 2 is absent: 10 of 14 -/
def exCommit : Commit Nat :=
  { height := 5, round := 0, blockID := exBid,
    sigs := [⟨2, [1], 0, 5101⟩, ⟨3, [2], 0, 5202⟩, ⟨1, [], 0, 0⟩] }
/-- validator 0's slot repeated -/
def exRepeat : Commit Nat :=
  { exCommit with sigs := [⟨2, [1], 0, 5101⟩, ⟨2, [1], 0, 5101⟩, ⟨1, [], 0, 0⟩] }

example : NonNeg exVals := by
  intro v hv; simp [exVals] at hv; rcases hv with rfl | rfl | rfl <;> decide

example : verifyCommit exSigOK exVals "A" exBid 5 exCommit = .ok := by decide
example : verifyCommitLight exSigOK exVals "A" exBid 5 exCommit = .ok := by decide
example : verifyCommitLightTrusting exSigOK exVals "A" exCommit 2 3 = .ok := by decide
/-- 10 of 14 is not strictly more than 5/7 -/
example : verifyCommitLightTrusting exSigOK exVals "A" exCommit 5 7 = .notEnough 10 10 := by decide
example : verifyCommitLightTrusting exSigOK exVals "A" exCommit 18446744073709551615 1 = .fractionRange := by decide
/-- the nil vote's power never counts: the same commit against a set where validator 0 has 9 -/
example : verifyCommit exSigOK [⟨[1], 1, 9⟩, ⟨[2], 2, 4⟩, ⟨[3], 3, 1⟩] "A" exBid 5 exCommit
    = .notEnough 9 9 := by decide
/-- hypotheses of `repeat_signer` hold for `exRepeat` at level 5/7 and the verdict is the double vote -/
example : exRepeat.sigs = [⟨2, [1], 0, 5101⟩] ++ ⟨2, [1], 0, 5101⟩ :: [⟨1, [], 0, 0⟩] ∧
    findByAddr exVals [1] 0 = some (0, ⟨[1], 1, 10⟩) ∧
    verifyCommitLightTrusting exSigOK exVals "A" exRepeat 5 7 = .doubleVote 0 1 :=
  ⟨rfl, by decide, by decide⟩
/-- hypotheses of `full_light_same` / `verifyCommit_exact` -/
example : AllValid exSigOK exVals "A" exCommit := by
  intro i v s hv hs hf
  match i with
  | 0 => simp [exVals, exCommit] at hv hs; subst hv; subst hs; exact ⟨_, rfl, by decide⟩
  | 1 => simp [exVals, exCommit] at hv hs; subst hv; subst hs; exact ⟨_, rfl, by decide⟩
  | 2 => simp [exVals, exCommit] at hv hs; subst hv; subst hs; exact absurd rfl hf
  | n + 3 => simp [exVals] at hv
/-- hypotheses of `threshold_exact_fraction` -/
example : (safeMul 14 (toInt64 5)).2 = false ∧ ((5 : Nat) : Int) ≤ maxInt64 := by decide
/-- hypothesis of `nil_absent_never_count`: a commit whose only for-block slot is signed for
another height -/
example : verifyCommit exSigOK exVals "A" exBid 5
    { exCommit with sigs := [⟨2, [1], 0, 6101⟩, ⟨3, [2], 0, 5202⟩, ⟨1, [], 0, 0⟩] } = .wrongSig 0 := by
  decide


section Glue
variable {σ : Type} (sigOK : Nat → SignBytes → σ → Bool) (sigLen : σ → Nat)

/-! ## The decoding / ValidateBasic glue -/

/-- A decoded validator set needs no well-formedness hypothesis: whatever `ValidatorSetFromProto`
returns (for any wire message, any claimed total) is non-empty, has non-negative powers, addresses
of address size, and a total that is the sum of its powers within `MaxTotalVotingPower`. -/
theorem decoded_set_wellformed (w : WireValSet) (vs : List Validator) (h : valSetFromProto w = .ok vs) :
    vs = w.validators ∧ vs ≠ [] ∧ NonNeg vs ∧ (∀ v ∈ vs, v.addr.length = addressSize) ∧
    totalVotingPower vs = some (sumPower vs) ∧ sumPower vs ≤ maxTotalVotingPower ∧
    ∀ t, valSetFromProto { w with total := t } = .ok vs :=
  let ⟨a, b, c, d, e, f⟩ := valSetFromProto_ok h
  ⟨a, b, c, d, e, f, fun t => (valSetFromProto_ignores_wire_total w t).trans h⟩

/-- Soundness for decoded input, with NO extra hypothesis: a set that came out of
`ValidatorSetFromProto` and a commit that `VerifyCommit` accepts against it satisfy the soundness
statement. (The commit needs no validation for soundness: see the table below for what
`ValidateBasic` adds.) -/
theorem decoded_full_sound (w : WireValSet) (vs : List Validator) (chainID : String) (blockID : BlockID)
    (height : Int) (c : Commit σ) (hd : valSetFromProto w = .ok vs)
    (h : verifyCommit sigOK vs chainID blockID height c = .ok) :
    c.height = height ∧ c.blockID = blockID ∧ vs.length = c.sigs.length ∧
    ∃ picks : List Nat, picks.Nodup ∧
      (∀ i ∈ picks, GoodPick sigOK vs chainID c false (i, i)) ∧
      3 * pickedPower vs picks > 2 * sumPower vs :=
  let ⟨a, b, c', _, d⟩ := verifyCommit_sound sigOK vs chainID blockID height c (valSetFromProto_ok hd).2.2.1 h
  ⟨a, b, c', d⟩

theorem decoded_light_sound (w : WireValSet) (vs : List Validator) (chainID : String) (blockID : BlockID)
    (height : Int) (c : Commit σ) (hd : valSetFromProto w = .ok vs)
    (h : verifyCommitLight sigOK vs chainID blockID height c = .ok) :
    c.height = height ∧ c.blockID = blockID ∧ vs.length = c.sigs.length ∧
    ∃ picks : List Nat, picks.Nodup ∧
      (∀ i ∈ picks, GoodPick sigOK vs chainID c false (i, i)) ∧
      3 * pickedPower vs picks > 2 * sumPower vs :=
  let ⟨a, b, c', _, d⟩ := light_sound sigOK vs chainID blockID height c (valSetFromProto_ok hd).2.2.1 h
  ⟨a, b, c', d⟩

theorem decoded_trusting_sound (w : WireValSet) (vs : List Validator) (chainID : String)
    (c : Commit σ) (num den : Nat) (hd : valSetFromProto w = .ok vs)
    (h : verifyCommitLightTrusting sigOK vs chainID c num den = .ok) :
    0 < den ∧
    ∃ picks : List (Nat × Nat), (picks.map Prod.fst).Nodup ∧
      (∀ p ∈ picks, GoodPick sigOK vs chainID c true p) ∧
      pickedPower vs (picks.map Prod.fst) * den > sumPower vs * num :=
  let ⟨a, _, d⟩ := trusting_sound sigOK vs chainID c num den (valSetFromProto_ok hd).2.2.1 h
  ⟨a, d⟩

/-- What `CommitFromProto` guarantees: the commit is the wire commit, its block id is valid, height
and round are non-negative, from height 1 on it names a non-nil block and has slots, every slot has
a known flag, absent slots carry no address, no signature and the zero time, all other slots an
address of address size and a signature of 1..MaxSignatureSize bytes. -/
theorem decoded_commit_wellformed (w c : Commit σ) (h : commitFromProto sigLen w = .ok c) :
    c = w ∧ CommitWF sigLen c ∧ commitValidateBasic sigLen c = none :=
  commitFromProto_ok sigLen h

/-- absent slots of a validated commit carry no address, no signature, no time -/
theorem absent_slots_carry_nothing (c : Commit σ) (hb : commitValidateBasic sigLen c = none)
    (h1 : 1 ≤ c.height) (s : CommitSig σ) (hs : s ∈ c.sigs) (ha : s.flag = flagAbsent) :
    s.addr = [] ∧ sigLen s.sig = 0 ∧ s.ts = zeroTime := by
  unfold commitValidateBasic at hb
  have h0 : ¬ c.height < 0 := by omega
  have h1' : c.height ≥ 1 := h1
  by_cases hr : c.round < 0
  · simp [h0, hr] at hb
  simp only [h0, hr, if_false, h1', if_true] at hb
  cases hz : c.blockID.isZero
  · by_cases he : c.sigs.length = 0
    · simp [hz, he] at hb
    · simp only [hz, he, if_false, Bool.false_eq_true, Option.map_eq_none_iff] at hb
      obtain ⟨_, hab, _⟩ := (firstSigErr_none sigLen).mp hb s hs
      obtain ⟨a, b, c'⟩ := hab ha
      exact ⟨a, c', b⟩
  · simp [hz] at hb

/-- After `CommitFromProto` (or `ValidateBasic` + a valid block id) none of the three entry points
can hit one of the code's panics on the commit (unknown flag, invalid block id, index out of
range): the only remaining panic is the set's total. -/
theorem decoded_commit_never_panics (vs : List Validator) (chainID : String) (blockID : BlockID)
    (height : Int) (c : Commit σ) (num den : Nat) (hwf : CommitWF sigLen c) :
    ¬ (verifyCommit sigOK vs chainID blockID height c).isPanic ∧
    ¬ (verifyCommitLight sigOK vs chainID blockID height c).isPanic ∧
    ¬ (verifyCommitLightTrusting sigOK vs chainID c num den).isPanic := by
  obtain ⟨hb, _, _, _, hs⟩ := hwf
  have hk : ∀ s ∈ c.sigs, s.flag = flagAbsent ∨ s.flag = flagCommit ∨ s.flag = flagNil :=
    fun s hs' => (hs s hs').1
  rw [verifyCommit_eq, verifyCommitLight_eq, trusting_eq]
  exact ⟨run_not_panic (fun _ => idxNeeded_error) hk hb, run_not_panic (fun _ => idxNeeded_error) hk hb,
    run_not_panic (fun _ => trustNeeded_error) hk hb⟩

/-- A commit without slots is rejected by every entry point (without `ValidateBasic`). -/
theorem empty_commit_rejected (vs : List Validator) (chainID : String) (blockID : BlockID)
    (height : Int) (c : Commit σ) (num den : Nat) (hnn : NonNeg vs) (he : c.sigs = []) :
    verifyCommit sigOK vs chainID blockID height c ≠ .ok ∧
    verifyCommitLight sigOK vs chainID blockID height c ≠ .ok ∧
    verifyCommitLightTrusting sigOK vs chainID c num den ≠ .ok := by
  obtain ⟨a, b⟩ := nil_absent_never_count sigOK vs chainID blockID height c hnn
    (by intro i v s _ hs; simp [he] at hs)
  exact ⟨a, b, nil_absent_unknown_never_count sigOK vs chainID c num den hnn
    (by intro i s hs; simp [he] at hs)⟩

/-- A commit whose block id fails `BlockID.ValidateBasic` (a hash of a wrong length) is never
accepted by the verification functions themselves: they panic at the first for-block slot or
find no power. -/
theorem invalid_blockID_never_accepted (vs : List Validator) (chainID : String) (blockID : BlockID)
    (height : Int) (c : Commit σ) (num den : Nat) (hnn : NonNeg vs)
    (hb : c.blockID.validBasic = false) :
    verifyCommit sigOK vs chainID blockID height c ≠ .ok ∧
    verifyCommitLight sigOK vs chainID blockID height c ≠ .ok ∧
    verifyCommitLightTrusting sigOK vs chainID c num den ≠ .ok := by
  -- acceptance needs a counted slot, and a counted slot passed `VoteSignBytes`
  have key : ∀ {byAddr num den}, Quorum sigOK vs chainID c byAddr num den → False := fun q => by
    obtain ⟨p, hp⟩ := q.some hnn
    rw [hp.validBasic] at hb; cases hb
  exact ⟨fun h => key (idx_accepted hnn (verifyCommit_eq .. ▸ h)).2.2.2.2,
    fun h => key (idx_accepted hnn (verifyCommitLight_eq .. ▸ h)).2.2.2.2,
    fun h => key (trusting_accepted hnn h).2.2⟩

end Glue

/-! ### What only `ValidateBasic` rejects: a table of witnesses
Each row is a concrete commit (three validators of power 10, 3, 1 with 20-byte addresses, toy
signature scheme `exSigOK`) that `Commit.ValidateBasic` refuses and that the verification functions
themselves accept, or handle differently from each other. Together with `empty_commit_rejected` and
`invalid_blockID_never_accepted` (rejected by verification itself, for all inputs) and
`decoded_commit_never_panics` this is the division of labour between the two layers. -/

def tAddr (n : UInt8) : Bytes := List.replicate 20 n
def tVals : List Validator := [⟨tAddr 1, 1, 10⟩, ⟨tAddr 2, 2, 3⟩, ⟨tAddr 3, 3, 1⟩]
/-- signature byte length of the toy tokens: token 0 is the empty signature -/
def tSigLen (s : Nat) : Nat := if s = 0 then 0 else 64
/-- the well-formed commit: validator 0 for the block, validator 1 for nil, validator 2 absent;
`third` replaces the last slot, `first` the first -/
def tCommit (first third : CommitSig Nat) : Commit Nat :=
  { height := 5, round := 0, blockID := exBid, sigs := [first, ⟨3, tAddr 2, 7, 5202⟩, third] }
def tFirst : CommitSig Nat := ⟨2, tAddr 1, 7, 5101⟩
def tAbsent : CommitSig Nat := ⟨1, [], zeroTime, 0⟩

/-- the base row: valid for `ValidateBasic`, `CommitFromProto` and all three entry points -/
theorem table_wellformed :
    commitValidateBasic tSigLen (tCommit tFirst tAbsent) = none ∧
    (commitFromProto tSigLen (tCommit tFirst tAbsent)).isOk = true ∧
    verifyCommit exSigOK tVals "A" exBid 5 (tCommit tFirst tAbsent) = .ok ∧
    verifyCommitLight exSigOK tVals "A" exBid 5 (tCommit tFirst tAbsent) = .ok ∧
    verifyCommitLightTrusting exSigOK tVals "A" (tCommit tFirst tAbsent) 2 3 = .ok := by decide

/-- an absent slot that carries a signature, an address or a timestamp: only `ValidateBasic`
objects; all three entry points ignore the slot and accept -/
theorem table_absent_slot_with_content :
    (∀ third ∈ [(⟨1, [], zeroTime, 77⟩ : CommitSig Nat), ⟨1, tAddr 3, zeroTime, 0⟩, ⟨1, [], 7, 0⟩],
      commitValidateBasic tSigLen (tCommit tFirst third) ≠ none ∧
      verifyCommit exSigOK tVals "A" exBid 5 (tCommit tFirst third) = .ok ∧
      verifyCommitLight exSigOK tVals "A" exBid 5 (tCommit tFirst third) = .ok ∧
      verifyCommitLightTrusting exSigOK tVals "A" (tCommit tFirst third) 2 3 = .ok) ∧
    commitValidateBasic tSigLen (tCommit tFirst ⟨1, [], zeroTime, 77⟩) = some (.sig .absentSig) ∧
    commitValidateBasic tSigLen (tCommit tFirst ⟨1, tAddr 3, zeroTime, 0⟩) = some (.sig .absentAddr) ∧
    commitValidateBasic tSigLen (tCommit tFirst ⟨1, [], 7, 0⟩) = some (.sig .absentTime) := by decide

/-- an unknown BlockIDFlag: `ValidateBasic` rejects, `VerifyCommit` panics, the two light variants
skip the slot and accept -/
theorem table_unknown_flag :
    commitValidateBasic tSigLen (tCommit tFirst ⟨4, tAddr 3, 7, 5103⟩) = some (.sig .unknownFlag) ∧
    verifyCommit exSigOK tVals "A" exBid 5 (tCommit tFirst ⟨4, tAddr 3, 7, 5103⟩) = .panicFlag ∧
    verifyCommitLight exSigOK tVals "A" exBid 5 (tCommit tFirst ⟨4, tAddr 3, 7, 5103⟩) = .ok ∧
    verifyCommitLightTrusting exSigOK tVals "A" (tCommit tFirst ⟨4, tAddr 3, 7, 5103⟩) 2 3 = .ok := by decide

/-- a signing slot whose address has the wrong size (or is simply not the validator's): the
index-based variants never look at the address and accept; the trusting variant does not find the
member and the slot does not count -/
theorem table_wrong_address :
    commitValidateBasic tSigLen (tCommit ⟨2, [1], 7, 5101⟩ tAbsent) = some (.sig .addrSize) ∧
    verifyCommit exSigOK tVals "A" exBid 5 (tCommit ⟨2, [1], 7, 5101⟩ tAbsent) = .ok ∧
    verifyCommitLight exSigOK tVals "A" exBid 5 (tCommit ⟨2, [1], 7, 5101⟩ tAbsent) = .ok ∧
    verifyCommitLightTrusting exSigOK tVals "A" (tCommit ⟨2, [1], 7, 5101⟩ tAbsent) 2 3 = .notEnough 0 9 ∧
    -- a well-sized address of ANOTHER validator: still accepted by position
    verifyCommit exSigOK tVals "A" exBid 5 (tCommit ⟨2, tAddr 3, 7, 5101⟩ tAbsent) = .ok ∧
    verifyCommitLightTrusting exSigOK tVals "A" (tCommit ⟨2, tAddr 3, 7, 5101⟩ tAbsent) 2 3 = .wrongSig 0 := by
  decide

/-- signature length (missing / above MaxSignatureSize) is checked by `ValidateBasic` only; the
verification functions leave it to the signature scheme (`sigOK`) -/
theorem table_signature_length :
    commitValidateBasic (fun _ => 65) (tCommit tFirst tAbsent) = some (.sig .sigTooBig) ∧
    commitValidateBasic (fun _ => 0) (tCommit tFirst tAbsent) = some (.sig .sigMissing) ∧
    verifyCommit exSigOK tVals "A" exBid 5 (tCommit tFirst tAbsent) = .ok := by decide

def tNeg : Commit Nat :=
  { height := -1, round := -1, blockID := exBid,
    sigs := [⟨2, tAddr 1, 7, 101⟩, ⟨3, tAddr 2, 7, 202⟩, tAbsent] }
def tNilBlock : Commit Nat :=
  { height := 5, round := 0, blockID := BlockID.zero,
    sigs := [⟨2, tAddr 1, 7, 5201⟩, ⟨3, tAddr 2, 7, 5202⟩, tAbsent] }

/-- negative height or round, and a nil block id from height 1 on: only `ValidateBasic` objects; a
commit "for the nil block" whose slots are flagged for-the-block and signed over nil verifies -/
theorem table_height_round_nilblock :
    commitValidateBasic tSigLen tNeg = some .negHeight ∧
    commitValidateBasic tSigLen { tNeg with height := 0 } = some .negRound ∧
    verifyCommit exSigOK tVals "A" exBid (-1) tNeg = .ok ∧
    verifyCommitLightTrusting exSigOK tVals "A" tNeg 2 3 = .ok ∧
    commitValidateBasic tSigLen tNilBlock = some .nilBlock ∧
    verifyCommit exSigOK tVals "A" BlockID.zero 5 tNilBlock = .ok ∧
    verifyCommitLight exSigOK tVals "A" BlockID.zero 5 tNilBlock = .ok ∧
    verifyCommitLightTrusting exSigOK tVals "A" tNilBlock 2 3 = .ok := by decide

/-- a commit without slots fails `ValidateBasic` from height 1 on (and every entry point:
`empty_commit_rejected`); a block id of the shape hash-empty / part-set-header-non-zero is valid,
not nil and not complete -/
theorem table_no_signatures_and_blockid_shapes :
    commitValidateBasic tSigLen ({ height := 5, round := 0, blockID := exBid, sigs := [] } : Commit Nat)
      = some .noSigs ∧
    (let b : BlockID := ⟨[], 1, List.replicate 32 9⟩
     b.validBasic = true ∧ b.isZero = false ∧ b.isComplete = false ∧ canonBlockID b = some b) ∧
    exBid.isComplete = true ∧ BlockID.zero.isComplete = false ∧
    (⟨[1, 2, 3], 1, []⟩ : BlockID).validBasic = false := by decide

/-- `IsComplete` is strictly stronger than "valid and not nil" -/
theorem isComplete_implies_valid_nonzero (b : BlockID) (h : b.isComplete = true) :
    b.validBasic = true ∧ b.isZero = false := by
  unfold BlockID.isComplete at h
  simp only [Bool.and_eq_true, beq_iff_eq, decide_eq_true_eq] at h
  obtain ⟨h1, _, h3⟩ := h
  unfold BlockID.validBasic validHash BlockID.isZero
  simp [h1, h3]


section Relations
variable {σ : Type} (sigOK : Nat → SignBytes → σ → Bool)

/-- Relation light ⇒ trusting: on a set whose addresses are pairwise distinct, a commit whose
for-block slots carry the address of the validator of their position and that `VerifyCommitLight`
accepts is accepted by `VerifyCommitLightTrusting` with the same set at trust level 2/3. Both
hypotheses are needed: `light_not_trusting_duplicate_address`, `table_wrong_address`. -/
theorem light_implies_trusting_two_thirds (vs : List Validator) (chainID : String) (blockID : BlockID)
    (height : Int) (c : Commit σ) (hnn : NonNeg vs) (hd : (vs.map (·.addr)).Nodup)
    (hc : AddrConsistent vs c)
    (h : verifyCommitLight sigOK vs chainID blockID height c = .ok) :
    verifyCommitLightTrusting sigOK vs chainID c 2 3 = .ok := by
  rw [verifyCommitLight_eq] at h
  cases hn : idxNeeded vs blockID height c with
  | error r => rw [hn] at h; exact absurd (h ▸ idxNeeded_error hn) Res.not_early_ok
  | ok n =>
    obtain ⟨⟨hlen, _, _, hmax⟩, rfl⟩ := (idxNeeded_ok_iff vs blockID height c hnn n).mp hn
    have hb := maxTotal_bound
    have h0 := sumPower_nonneg hnn
    rw [trusting_eq, (trustNeeded_ok vs hnn 2 3 _).mpr
      ⟨⟨by decide, hmax, by decide, by decide, by unfold maxInt64 at *; omega⟩, rfl⟩, run,
      tally_addr_eq_idx sigOK vs chainID c _ hd hc (by omega)]
    rw [hn] at h
    exact h

/-- with duplicate addresses in the set the implication fails: the second of two validators sharing
an address signs (10 of 11); the light variant accepts by position, the trusting variant resolves
the address to the first validator and rejects the signature -/
theorem light_not_trusting_duplicate_address :
    let vs : List Validator := [⟨[9], 1, 1⟩, ⟨[9], 2, 10⟩]
    let c : Commit Nat := { height := 5, round := 0, blockID := exBid, sigs := [⟨1, [], 0, 0⟩, ⟨2, [9], 0, 5102⟩] }
    NonNeg vs ∧ AddrConsistent vs c ∧
    verifyCommitLight exSigOK vs "A" exBid 5 c = .ok ∧
    verifyCommitLightTrusting exSigOK vs "A" c 2 3 = .wrongSig 1 := by
  refine ⟨?_, ?_, by decide, by decide⟩
  · intro v hv; simp at hv; rcases hv with rfl | rfl <;> decide
  · intro i v s hv hs hf
    match i with
    | 0 => simp at hv hs; subst hs; exact absurd hf (by decide)
    | 1 => simp at hv hs; subst hv; subst hs; rfl
    | n + 2 => simp at hv

/-- a trusted set that shares no address with the commit's slots never accepts it, at any level -/
theorem trusting_disjoint_set_rejects (tv : List Validator) (chainID : String) (c : Commit σ)
    (num den : Nat) (hnn : NonNeg tv)
    (hdis : ∀ s ∈ c.sigs, ∀ v ∈ tv, s.addr ≠ v.addr) :
    verifyCommitLightTrusting sigOK tv chainID c num den ≠ .ok := by
  apply nil_absent_unknown_never_count sigOK tv chainID c num den hnn
  intro i s hs _ j v hv ha
  exact absurd ha (hdis s (List.mem_of_getElem? hs) v (List.mem_of_getElem? hv))


/-- The quorum-intersection form (the light client's argument): if `VerifyCommitLightTrusting` accepts
against the TRUSTED set `tv` at level `num/den`, then for every group `F` of positions of `tv` whose
power is at most `num/den` of `tv`'s total (e.g. the faulty members, at most the trust level by
assumption) some counted signer — a distinct trusted member with a qualifying signature in the
commit — lies outside `F`. -/
theorem trusting_counted_signer_outside (tv : List Validator) (chainID : String) (c : Commit σ)
    (num den : Nat) (hnn : NonNeg tv)
    (h : verifyCommitLightTrusting sigOK tv chainID c num den = .ok)
    (F : List Nat) (hF : pickedPower tv F * den ≤ sumPower tv * num) :
    ∃ p : Nat × Nat, p.1 ∉ F ∧ GoodPick sigOK tv chainID c true p :=
  let ⟨p, hp, hc⟩ := (trusting_accepted hnn h).2.2.outside hnn F hF
  ⟨p, hp, hc.goodPick⟩

/-- the same for the two-thirds variants: a group of positions holding at most two thirds of the
power cannot contain all counted signers -/
theorem light_counted_signer_outside (vs : List Validator) (chainID : String) (blockID : BlockID)
    (height : Int) (c : Commit σ) (hnn : NonNeg vs)
    (h : verifyCommitLight sigOK vs chainID blockID height c = .ok)
    (F : List Nat) (hF : 3 * pickedPower vs F ≤ 2 * sumPower vs) :
    ∃ i : Nat, i ∉ F ∧ GoodPick sigOK vs chainID c false (i, i) := by
  obtain ⟨p, hp, hc⟩ := (idx_accepted hnn (verifyCommitLight_eq .. ▸ h)).2.2.2.2.outside hnn F (by omega)
  exact ⟨p.1, hp, by rw [show (p.1, p.1) = p from Prod.ext rfl hc.diag]; exact hc.goodPick⟩

end Relations
end Tmv.Props.C07
