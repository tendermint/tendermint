import Tmv.Lemmas.BlockSyncHandover
import Tmv.Lemmas.BlockSyncLive
import Tmv.Model.BlockSyncV2
import Tmv.Model.BlockSyncV1
import Tmv.Model.BlockSyncV2Sched
/-! # C13 — Block sync applies only the canonical chain, whatever peers send
Property theorems about the model `Tmv.BlockSync` of blockchain/v0 (pool.go, reactor.go
`poolRoutine`), `VerifyCommitLight`/`VerifyCommit`, `validateBlock` and the hand-over
(`reconstructLastCommit` → `CommitToVoteSet`). `sigOK` is an arbitrary signature predicate;
voting powers are natural numbers (as in every `ValidatorSet`), validator sets change along the
chain as `updateState` prescribes (updates of block `h` are in force at `h + 2`). Runs are arbitrary lists of
`Op` (what peers send, in any order, and every scheduling of the requester transitions). -/
namespace Tmv.Props.C13
open Tmv Tmv.BlockSync
variable (sigOK : Nat → SignBytes → Nat → Bool)

/-- a genesis state with two validators (powers 7 and 3) for the concrete witnesses -/
def witnessSt0 : St := ⟨1, 0, BlockId.zero, [⟨1, 0, 7⟩, ⟨2, 1, 3⟩], [⟨1, 0, 7⟩, ⟨2, 1, 3⟩], []⟩

/-- the store is a chain grown from `st0`: every saved block came with a commit carrying valid
signatures of more than 2/3 of the validator set the state prescribed for its height, for exactly
its id (hash + part-set header), and passed `validateBlock` on the state it was applied to -/
inductive StoreOK (st0 : St) : List (Block × Commit) → St → Prop
  | nil : StoreOK st0 [] st0
  | cons {rest : List (Block × Commit)} {st : St} {b : Block} {c : Commit} :
      StoreOK st0 rest st → Quorum sigOK st.vals b.id b.height c → validate sigOK st b = .ok () →
      StoreOK st0 ((b, c) :: rest) (applyBlock st b)

/-- every elementary change keeps the invariant: only `Step.advance`, whose check passed, adds an entry -/
theorem StoreOK.step {st0 : St} {n n' : Node} (hs : Step sigOK n n') (h : StoreOK sigOK st0 n.store n.st) :
    StoreOK sigOK st0 n'.store n'.st := by
  rcases hs.frame with ⟨e1, e2⟩ | ⟨first, second, _, hok, e1, e2, _⟩ <;> rw [e1, e2]
  · exact h
  · exact .cons h (checkPair_ok sigOK hok).1 (checkPair_ok sigOK hok).2

/-- **saved_is_canonical.** Whatever peers send and in whatever order things happen, every block
the syncing node has saved and executed was covered — hash and part-set header — by a commit with
valid signatures of more than two thirds of the validator set its own state prescribed for that
height, and passed `validateBlock`; the seen commit stored with it is that commit. -/
theorem saved_is_canonical (st0 : St) (ops : List Op) :
    StoreOK sigOK st0 ((Node.new st0).run sigOK ops).store ((Node.new st0).run sigOK ops).st :=
  (run_path sigOK (Node.new st0) ops).inv (P := fun n => StoreOK sigOK st0 n.store n.st)
    (fun _ _ h => StoreOK.step sigOK h) .nil

theorem stored_entry_justified {st0 : St} {l : List (Block × Commit)} {st : St}
    (h : StoreOK sigOK st0 l st) (b : Block) (c : Commit) (hm : (b, c) ∈ l) :
    ∃ st', Quorum sigOK st'.vals b.id b.height c ∧ validate sigOK st' b = .ok () := by
  induction h with
  | nil => cases hm
  | cons hprev hq hv ih =>
    rcases List.mem_cons.mp hm with heq | hin
    · cases heq
      exact ⟨_, hq, hv⟩
    · exact ih hin

/-- **liar_dropped_and_retried (dropping).** When the check of the pair (first, second) fails,
each peer that had delivered one of the two blocks is afterwards in neither the pool nor the
switch's peer set, and if it was connected it has been stopped for error. -/
theorem liar_dropped (n n' : Node) (e : PErr) (p1 p2 : Option Nat)
    (h : n.processStep sigOK = (n', .failed e p1 p2)) (id : Nat)
    (hid : p1 = some id ∨ p2 = some id) :
    n'.pool.peer? id = none ∧ id ∉ n'.connected ∧ (id ∈ n.connected → id ∈ n'.stopped) := by
  obtain ⟨first, second, _, rfl, rfl, rfl⟩ := processStep_failed sigOK h
  obtain ⟨d1, g1⟩ := redoStop_drops n first.height
  obtain ⟨d2, g2⟩ := redoStop_drops (n.redoStop first.height).1 second.height
  rcases hid with h1 | h2
  · exact (g1 id h1).later d2
  · exact (g2 id h2).earlier d1 d2

/-- **liar_dropped_and_retried (retrying).** After a failed check the requester of the first block
still names the dropped peer and has a redo signal pending; the retry timer returns it to the
picking state (where the dropped peer, being out of the pool, cannot be picked), and so does the
redo signal itself whenever the one-slot redo channel was free before. -/
theorem liar_retried (n n' : Node) (e : PErr) (p1 p2 : Option Nat) (first second : Block)
    (hpk : n.pool.peekTwo = (some first, some second))
    (h : n.processStep sigOK = (n', .failed e p1 p2))
    (r : Requester) (hr : n.pool.req? first.height = some r) (id : Nat) (hp : r.peer = some id) :
    p1 = some id ∧
    ∃ r', n'.pool.req? first.height = some r' ∧ r'.peer = some id ∧ r'.redo.isSome ∧
      (n'.pool.rtimeout first.height).1.req? first.height = some { r' with peer := none, block := none } ∧
      (r.redo = none → (n'.pool.rstep first.height).1.req? first.height = some ⟨none, none, none⟩) := by
  obtain ⟨f, s, hpk', rfl, rfl, _⟩ := processStep_failed sigOK h
  rw [hpk] at hpk'
  cases hpk'
  -- the first `redoStop` drops `id` and marks the requester; the second keeps the mark
  have e1 : n.redoStop first.height = (n.dropPeer id, some id) := by
    rw [redoStop_eq, hr]; simp only [Option.bind_some, hp]
  have a1 : (n.dropPeer id).pool.req? first.height = some (redoMark id r) := by
    rw [dropPeer_req?, hr]; rfl
  obtain ⟨k1, s1, x1⟩ := redoMark_keeps id r
  obtain ⟨r2, a2, k2⟩ := redoStop_keeps (n.dropPeer id) second.height first.height _ a1
  rw [e1]
  generalize ((n.dropPeer id).redoStop second.height).1.pool = p2 at a2 ⊢
  have hpeer : r2.peer = some id := by rw [k2.1, k1.1, hp]
  have hredo : r2.redo.isSome := by
    cases hx : (redoMark id r).redo with
    | none => have := s1 hp; rw [hx] at this; cases this
    | some x => rw [k2.2.2 x hx]; rfl
  exact ⟨rfl, r2, a2, hpeer, hredo, rtimeout_resets p2 _ r2 a2 (by rw [hpeer]; rfl),
    fun hnone => rstep_resets p2 _ r2 id a2 hpeer (k2.2.2 id (x1 hp hnone))⟩

/-- the redo signal CAN be lost (one-slot channel written without blocking, stale entries are
not drained by the retry timer): after this run the requester for height 1 waits for peer 2, which
is gone, until its 30 s timer fires -/
theorem redo_signal_can_be_lost :
    let n := (Node.new witnessSt0).run (fun _ _ _ => true)
      [.connect 1, .connect 2, .status 1 1 3, .status 2 1 3, .mkreq, .pick 1 1, .disconnect 1,
       .rtimeout 1, .pick 1 2, .disconnect 2, .rstep 1]
    n.pool.req? 1 = some ⟨some 2, none, none⟩ ∧ n.pool.peer? 2 = none := by decide

/-- The progress step: once the two blocks in
front are the honest ones (they pass the check on the node's state) the iteration saves the first
with the second's commit as seen commit, executes it and moves on by one height — for an arbitrary
node state. -/
theorem honest_pair_progress (n : Node) (first second : Block)
    (hpk : n.pool.peekTwo = (some first, some second))
    (hok : checkPair sigOK n.st first second = .ok ()) :
    ∃ n', n.processStep sigOK = (n', .saved) ∧ n'.store = (first, second.lastCommit) :: n.store ∧
      n'.st = applyBlock n.st first ∧ n'.pool.height = n.pool.height + 1 :=
  processStep_saved sigOK n hpk hok

/-! ### resource counters -/

/-- **numPending_is_waiting_requesters.** Over every history — any operations, any length — the
pool's `numPending` (which gates `makeRequestersRoutine` at `maxPendingRequests`) equals the number
of requesters that have no block yet; in particular it never exceeds the number of requesters, so
the gate can only close when 600 requesters exist. A drifting counter would stop the creation of
requesters for good. -/
theorem numPending_is_waiting_requesters (st0 : St) (ops : List Op) :
    ((Node.new st0).run sigOK ops).pool.numPending =
        waiting ((Node.new st0).run sigOK ops).pool.requesters ∧
      ((Node.new st0).run sigOK ops).pool.numPending ≤
        ((Node.new st0).run sigOK ops).pool.requesters.length := by
  have h := pend_run sigOK (Node.new st0) ops (pend_new st0)
  exact ⟨h, h ▸ waiting_le _⟩

/-! ### reaching the tip -/

/-- **reaches_tip_with_one_honest.** Fair-retry hypothesis, stated as the shape of the schedule
(`fairRun`): the run is ANY sequence of segments of arbitrary operations — whatever lying peers
send (wrong blocks, forged/padded commits, wrong heights, stale status, silence → timeouts), in
any order and with any scheduling of the requester transitions, restarts included — and after each
segment, while the tip is not reached, one fair-retry round for the two heights in front happens
uninterrupted: the honest peer `w` (re)connects and reports its range, the two requesters exist,
their retry timers fire (so whatever peer they were assigned to, removed or silent, is given up),
both are re-assigned to `w`, which has the heights, `w` answers both requests, and the processing
loop runs. Hypotheses on the world (`HonestChain`): the chain `w` serves passes the node's check
pair by pair, its blocks decode, and validators never gave +2/3 to two different blocks of one
height (`noFork`). Then, from a fresh node, after `tip - initial height` such rounds (fewer if the
liars happen to help) the node is on the canonical chain at height ≥ `tip`: its state is the one
after executing every block below `initialHeight + k` (`canonSt`); there is no clause on the store: what is
stored is `saved_is_canonical`. The induction is over the rounds of the schedule (`fairRun_reaches`);
bad peers need no measure because each round gives up the previous assignments wholesale. -/
theorem reaches_tip_with_one_honest (st0 : St) (h0 : st0.lastHeight = 0) (hih : 0 < st0.initialHeight)
    (chain : Int → Block) (tip : Int) (w : Nat) (base : Int)
    (hc : HonestChain sigOK st0 chain st0.initialHeight tip) (hb0 : 0 ≤ base)
    (hbs : base ≤ st0.initialHeight) (segs : List (List Op))
    (hlen : tip - st0.initialHeight ≤ segs.length) :
    ∃ k : Nat, tip ≤ st0.initialHeight + k ∧
      (fairRun sigOK w base tip chain segs (Node.new st0)).st = canonSt st0 chain st0.initialHeight k ∧
      (fairRun sigOK w base tip chain segs (Node.new st0)).pool.height = st0.initialHeight + k ∧
      ∃ ops, fairRun sigOK w base tip chain segs (Node.new st0) = (Node.new st0).run sigOK ops := by
  have hwf : WF (Node.new st0) := wf_new st0 ⟨hih, h0 ▸ Int.le_refl 0⟩
  have hcan : Canon st0 chain st0.initialHeight 0 (Node.new st0) :=
    ⟨rfl, by simp [Node.new, Pool.new, startHeight, h0]⟩
  obtain ⟨k, hk, htip⟩ := fairRun_reaches sigOK st0 chain st0.initialHeight tip w base hc hb0 hbs
    segs (Node.new st0) 0 hwf (pend_new st0) hcan (by simpa using hlen)
  exact ⟨k, htip, hk.1, hk.2, fairRun_is_run sigOK w base tip chain segs (Node.new st0)⟩

/-! ### blockchain/v2 processor -/

/-- what the v2 processor maintains: the store is a justified chain ending in the context's
state, or the processor has panicked in `applyBlock` right after saving a block that has the
quorum but fails `validateBlock` (v2 saves before it validates) -/
def V2Inv (st0 : St) (p : V2.Pc) : Prop :=
  StoreOK sigOK st0 p.store p.st ∨
    (p.dead = true ∧ ∃ b c rest, p.store = (b, c) :: rest ∧ StoreOK sigOK st0 rest p.st ∧
      Quorum sigOK p.st.vals b.id b.height c ∧ validate sigOK p.st b ≠ .ok ())

theorem v2_handle_inv (st0 : St) (p : V2.Pc) (e : V2.Ev)
    (h : StoreOK sigOK st0 p.store p.st) : V2Inv sigOK st0 (p.handle sigOK e).1 := by
  cases e with
  | scFinished => simp only [V2.Pc.handle]; split <;> exact Or.inl h
  | peerError id => exact Or.inl h
  | blockReceived id b =>
    cases b with
    | none => exact Or.inl h
    | some b =>
      simp only [V2.Pc.handle]
      split
      · split <;> exact Or.inl h
      · exact Or.inl h
  | processBlock =>
    simp only [V2.Pc.handle]
    cases p.get? (p.st.lastHeight + 1) with
    | none => simp only; split <;> exact Or.inl h
    | some fi =>
      cases p.get? (p.st.lastHeight + 2) with
      | none => simp only; split <;> exact Or.inl h
      | some se =>
        simp only
        cases hv : verifyCommitLight sigOK p.st.vals fi.block.id fi.block.height se.block.lastCommit with
        | error e => simp only [V2.Pc.purge]; split <;> exact Or.inl h
        | ok u =>
          have hq := verifyCommitLight_quorum sigOK _ _ _ _ hv
          simp only
          cases hval : validate sigOK p.st fi.block with
          | error e => exact Or.inr ⟨rfl, _, _, _, rfl, h, hq, by rw [hval]; nofun⟩
          | ok u2 => exact Or.inl (.cons h hq hval)

/-- **saved_is_canonical for blockchain/v2.** Whatever events the scheduler feeds the processor
(any blocks from any peers, peer errors, in any order): every block in the store came with a
commit carrying valid signatures of more than 2/3 of the validator set the processor's state
prescribed for its height, for exactly its id; every block that was EXECUTED passed
`validateBlock`. The only stored-but-not-validated block is the last one of a processor that
has panicked on it (see `v2_saves_before_validating`). -/
theorem v2_saved_is_canonical (st0 : St) (es : List V2.Ev) :
    V2Inv sigOK st0 ((V2.Pc.new st0).run sigOK es) :=
  List.foldlRecOn es (motive := V2Inv sigOK st0) _ (Or.inl .nil) fun p hp e _ => by
    unfold V2.Pc.step
    split
    · exact hp
    · rename_i hd
      rcases hp with h | ⟨hdead, _⟩
      · exact v2_handle_inv sigOK st0 p e h
      · exact absurd hdead hd

/-! ### blockchain/v1 reactor (FSM + processBlock) -/

/-- what v1 maintains: the store is a justified chain ending in the reactor's state, or the
reactor has panicked in `ApplyBlock` right after saving a block that has the quorum but fails
`validateBlock` (v1, like v2, saves before it validates) -/
def V1Inv (st0 : St) (n : V1.Node) : Prop :=
  StoreOK sigOK st0 n.store n.st ∨
    (n.fsm.dead = true ∧ ∃ b c rest, n.store = (b, c) :: rest ∧ StoreOK sigOK st0 rest n.st ∧
      Quorum sigOK n.st.vals b.id b.height c ∧ validate sigOK n.st b ≠ .ok ())

theorem v1_process_inv (st0 : St) (n : V1.Node) (h : StoreOK sigOK st0 n.store n.st) :
    V1Inv sigOK st0 (n.processOnce sigOK).1 := by
  unfold V1.Node.processOnce
  split; · exact Or.inl h
  cases n.fsm.pool.blockAt n.fsm.pool.height with
  | none => exact Or.inl h
  | some f1 =>
    cases n.fsm.pool.blockAt (n.fsm.pool.height + 1) with
    | none => exact Or.inl h
    | some f2 =>
      simp only
      cases hv : verifyCommitLight sigOK n.st.vals f1.1.id f1.1.height f2.1.lastCommit with
      | error e => exact Or.inl h
      | ok u =>
        have hq := verifyCommitLight_quorum sigOK _ _ _ _ hv
        simp only
        cases hval : validate sigOK n.st f1.1 with
        | error e => exact Or.inr ⟨rfl, _, _, _, rfl, h, hq, by rw [hval]; nofun⟩
        | ok u2 => exact Or.inl (.cons h hq hval)

/-- **saved_is_canonical for blockchain/v1.** Whatever events reach the FSM (status and block
responses from any peers, removals, timeouts, request batches with any assignment of peers) and
whenever the processing loop runs: every stored block came with a commit carrying valid
signatures of more than 2/3 of the validator set the reactor's state prescribed for its height,
for exactly its id; every EXECUTED block passed `validateBlock`. The only stored-but-not-validated
block is the last one of a reactor that has panicked on it (`v1_saves_before_validating`). -/
theorem v1_saved_is_canonical (st0 : St) (ops : List V1.Op) :
    V1Inv sigOK st0 ((V1.Node.new st0).run sigOK ops) :=
  List.foldlRecOn ops (motive := V1Inv sigOK st0) _ (Or.inl .nil) fun n hn op _ => by
    cases op with
    | ev e =>
      simp only [V1.Node.apply, V1.Node.event]
      split
      · exact hn
      · rename_i hd
        rcases hn with h | ⟨hdead, _⟩
        · exact Or.inl h
        · exact absurd hdead hd
    | process =>
      rcases hn with h | ⟨hdead, hrest⟩
      · exact v1_process_inv sigOK st0 n h
      · simp only [V1.Node.apply, V1.Node.processOnce, hdead, if_true]
        exact Or.inr ⟨hdead, hrest⟩

/-! ### blockchain/v2 scheduler -/

/-- `removePeer` leaves no request assigned to the peer: no pending and no received entry names it
any more -/
theorem sched_removePeer_clears (s : V2S.Sched) (id : Nat) (q : V2S.Peer)
    (hq : s.peer? id = some q) (hr : q.state ≠ .removed) :
    (∀ e ∈ (s.removePeer id).pending, e.2.1 ≠ id) ∧ (∀ e ∈ (s.removePeer id).received, e.2 ≠ id) := by
  -- both maps are filtered by the peer, and nothing later in `removePeer` touches them
  unfold V2S.Sched.removePeer
  simp only [hq, hr, if_false]
  exact ⟨fun e he => by simpa using (List.mem_filter.mp he).2,
    fun e he => by simpa using (List.mem_filter.mp he).2⟩

/-- v2 scheduler run of the known findings: honest peer 1 and liar 2 serve heights 1..3; each
theorem below appends the processor's report of a verification failure naming both -/
def schedWitness : List V2S.Ev :=
  [.addNewPeer 1, .statusResponse 1 1 3, .addNewPeer 2, .statusResponse 2 1 3,
   .trySchedule (-900), .trySchedule (-899)]

/-- both are Removed, nothing is pending, and the scheduler says FINISHED (known finding
`v2.scheduler.finished-when-no-ready-peer-remains`) -/
theorem sched_finishes_without_ready_peer :
    (((V2S.Sched.new 1).run schedWitness).handle (.processError 1 2)).2 = .finished ∧
    (((V2S.Sched.new 1).run schedWitness).handle (.processError 1 2)).1.pending = [] := by decide

/-- the honest peer reconnects and reports again: it stays Removed and nothing can be scheduled
(known finding `v2.scheduler.removed-peer-never-readmitted`) -/
theorem sched_removed_peer_never_readmitted :
    let s := (((V2S.Sched.new 1).run schedWitness).handle (.processError 1 2)).1.run
      [.addNewPeer 1, .statusResponse 1 1 3]
    (s.peer? 1).map (·.state) = some .removed ∧ (s.handle (.trySchedule (-800))).2 = .noOp ∧
      s.height = 1 := by decide

/-- non-vacuity: without the failure the two requests went to peers 1 and 2 -/
example : ((V2S.Sched.new 1).run schedWitness).pending = [(1, 1, -900), (2, 2, -899)] := by decide

/-! ### hand-over -/

/-- past genesis the newest stored block is the state's last block and its seen commit has the quorum
of the state's `LastValidators`, so `reconstructLastCommit` succeeds exactly when that commit is fully
checked -/
theorem tip_reconstruct {st0 : St} (h0 : st0.lastHeight = 0) {l : List (Block × Commit)} {st : St}
    (h : StoreOK sigOK st0 l st) (hpos : st.lastHeight > 0) :
    ∃ b c rest, l = (b, c) :: rest ∧ b.height = st.lastHeight ∧
      Quorum sigOK st.lastVals b.id b.height c ∧
      (reconstruct sigOK st l = .ok ↔ FullyChecked sigOK c st.lastVals c.sigs) := by
  cases h with
  | nil => omega
  | cons hprev hq hv => exact ⟨_, _, _, rfl, rfl, hq, reconstruct_ok_iff sigOK _ _ _ _ rfl hq⟩

/-- **handover_clean_partial.** If every non-absent entry of the seen commit stored for the last
synced block is a verifying signature with the right validator address — which block sync does
NOT check beyond the first +2/3, see `handover_clean_fails` — then switching to consensus does not
panic: the seen commit is found, `CommitToVoteSet` accepts every vote and the vote set has +2/3.
(The seen commit being present and carrying the quorum is proved, not assumed.) -/
theorem handover_clean_partial (st0 : St) (h0 : st0.lastHeight = 0)
    (ops : List Op)
    (hfull : ∀ b c rest, ((Node.new st0).run sigOK ops).store = (b, c) :: rest →
      FullyChecked sigOK c ((Node.new st0).run sigOK ops).st.lastVals c.sigs) :
    ((Node.new st0).run sigOK ops).handover sigOK = .notCaughtUp ∨
      ((Node.new st0).run sigOK ops).handover sigOK = .ok := by
  have hs := saved_is_canonical sigOK st0 ops
  generalize (Node.new st0).run sigOK ops = n at *
  unfold Node.handover
  split
  · exact Or.inl rfl
  · right
    split
    · rename_i hpos
      obtain ⟨b, c, rest, hl, _, _, hiff⟩ := tip_reconstruct sigOK h0 hs hpos
      exact hiff.mpr (hfull b c rest hl)
    · rfl

/-- **handover_clean_iff.** Exact delimitation of the known finding. For every reachable node that
is caught up with at least one block synced, the hand-over (`SwitchToConsensus` →
`reconstructLastCommit`) returns without panic IF AND ONLY IF the seen commit stored for the last
synced block — the `LastCommit` of the block a peer served one height above — passes the FULL
`VerifyCommit` against the state's `LastValidators` and every non-absent entry carries the
address of the validator at its index. Block sync has established the light quorum only; the
rest is what a lying peer controls. The same holds for a restart (`consensus.NewState`). -/
theorem handover_clean_iff (st0 : St) (h0 : st0.lastHeight = 0) (ops : List Op)
    (hpos : ((Node.new st0).run sigOK ops).st.lastHeight > 0) :
    ∃ b c rest, ((Node.new st0).run sigOK ops).store = (b, c) :: rest ∧
      b.height = ((Node.new st0).run sigOK ops).st.lastHeight ∧
      (let n := (Node.new st0).run sigOK ops
       let clean := verifyCommit sigOK n.st.lastVals b.id b.height c = .ok () ∧
          AddrMatch n.st.lastVals c.sigs
       (n.pool.isCaughtUp = true → (n.handover sigOK = .ok ↔ clean)) ∧
       ((n.restart sigOK).2 = .ok ↔ clean)) := by
  have hs := saved_is_canonical sigOK st0 ops
  generalize (Node.new st0).run sigOK ops = n at *
  obtain ⟨b, c, rest, hl, hh, hq, hiff⟩ := tip_reconstruct sigOK h0 hs hpos
  refine ⟨b, c, rest, hl, hh, ?_⟩
  have key : reconstruct sigOK n.st n.store = .ok ↔
      (verifyCommit sigOK n.st.lastVals b.id b.height c = .ok () ∧ AddrMatch n.st.lastVals c.sigs) := by
    rw [hiff, fullyChecked_iff sigOK c _ _ hq.1, verifyCommit_iff_of_quorum sigOK _ _ _ _ hq]
  exact ⟨fun hcu => by rw [handover_caughtUp sigOK hcu, if_pos hpos]; exact key,
    by rw [(restart_cases sigOK n).1, if_pos hpos]; exact key⟩

/-! concrete run (`witnessOps`): validators of power 7 and 3; the peer serves block 1 and a block 2
whose LastCommit has validator 0's valid signature (7 > 2/3 of 10) followed by a signature `tail`
that each theorem chooses (garbage, a foreign address, absent) -/
def witnessSigOK : Nat → SignBytes → Nat → Bool := fun _ _ s => s == 1
def witnessSt : St := witnessSt0
def witnessB1 : Block := ⟨1, ⟨11, 12⟩, BlockId.zero, ⟨0, 0, BlockId.zero, []⟩, false, none, false⟩
def witnessB2 (tail : CSig) : Block :=
  ⟨2, ⟨21, 22⟩, ⟨11, 12⟩, ⟨1, 0, ⟨11, 12⟩, [⟨.commit, 1, 0, 1⟩, tail]⟩, false, none, false⟩
def witnessOps (tail : CSig) : List Op :=
  [.connect 5, .status 5 1 2, .mkreq, .mkreq, .pick 1 5, .pick 2 5,
   .block 5 witnessB1, .block 5 (witnessB2 tail), .process]

/-- **handover_clean_fails.** The full-strength clause "everything stored on the way (including the
last seen commit) lets consensus start without error" is false of the model (and of the code:
replays/C13-oracle-94590220ae7d651a.json, C13-oracle-2d72e2d48f382e25.json): after a run in which
every step was accepted, `reconstructLastCommit` panics on a garbage signature, resp. on a valid
signature with a foreign validator address, placed after the first +2/3 of the tip's commit. -/
theorem handover_clean_fails :
    ¬ ∀ (sigOK : Nat → SignBytes → Nat → Bool) (st0 : St) (ops : List Op),
        st0.lastHeight = 0 →
        ((Node.new st0).run sigOK ops).handover sigOK = .notCaughtUp ∨
          ((Node.new st0).run sigOK ops).handover sigOK = .ok := by
  intro h
  have := h witnessSigOK witnessSt (witnessOps ⟨.commit, 2, 0, 0⟩) rfl
  revert this
  decide

theorem handover_panics_on_garbage_signature :
    ((Node.new witnessSt).run witnessSigOK (witnessOps ⟨.commit, 2, 0, 0⟩)).handover witnessSigOK
      = .panicSig := by decide

theorem handover_panics_on_foreign_address :
    ((Node.new witnessSt).run witnessSigOK (witnessOps ⟨.commit, 99, 0, 1⟩)).handover witnessSigOK
      = .panicAddr := by decide

/-- non-vacuity of `honest_pair_progress`: a reachable node in which two delivered
blocks pass the check -/
def witnessNode : Node :=
  (Node.new witnessSt).run witnessSigOK ((witnessOps ⟨.commit, 2, 0, 1⟩).dropLast)
example :
    witnessNode.pool.peekTwo = (some witnessB1, some (witnessB2 ⟨.commit, 2, 0, 1⟩)) ∧
      checkPair witnessSigOK witnessNode.st witnessB1 (witnessB2 ⟨.commit, 2, 0, 1⟩) = .ok () :=
  ⟨by decide, rfl⟩

/-- non-vacuity of `liar_dropped` / `liar_retried`: a run whose last step fails and drops peer 5 -/
example :
    let n := (Node.new witnessSt).run witnessSigOK
      [.connect 5, .status 5 1 2, .mkreq, .mkreq, .pick 1 5, .pick 2 5, .block 5 witnessB1,
       .block 5 (witnessB2 ⟨.commit, 2, 0, 1⟩ |> fun b => { b with lastCommit := { b.lastCommit with blockId := ⟨7, 7⟩ } })]
    (n.processStep witnessSigOK).2 = .failed (.verify .blockId) (some 5) (some 5) := by decide

/-! ### known findings of v2 and v1 as concrete runs -/

/-- v2 saves before it validates: validators 0 (power 7 of 10) signed block 1 although its AppHash
is wrong; the processor stores it, `applyBlock` fails, the processor panics — the store is one
block ahead of the state (known finding `v2.saved.block-fails-validation`) -/
theorem v2_saves_before_validating :
    let bad : Block := { witnessB1 with flawed := true }
    let p := (V2.Pc.new witnessSt).run witnessSigOK
      [.blockReceived 5 (some bad), .blockReceived 5 (some (witnessB2 ⟨.absent, 0, 0, 0⟩)), .processBlock]
    p.dead = true ∧ p.store = [(bad, (witnessB2 ⟨.absent, 0, 0, 0⟩).lastCommit)] ∧ p.st = witnessSt := by
  decide

/-- the same two blocks without the flaw are processed (non-vacuity of `v2_saved_is_canonical`) -/
example :
    ((V2.Pc.new witnessSt).run witnessSigOK
      [.blockReceived 5 (some witnessB1), .blockReceived 5 (some (witnessB2 ⟨.absent, 0, 0, 0⟩)),
       .processBlock]).st.lastHeight = 1 := by decide

/-! v1 witnesses (validators of power 7 and 3, one peer `5` serving heights 1..3) -/

def v1Tries : Int → Nat := fun _ => 5
def v1Serve (b1 b2 : Block) : List V1.Op :=
  [.ev .start, .ev (.statusResponse 5 1 3), .ev (.makeRequests 64 v1Tries),
   .ev (.blockResponse 5 b1), .ev (.blockResponse 5 b2), .process]

/-- v1 saves before it validates (known finding `v1.saved.block-fails-validation`) -/
theorem v1_saves_before_validating :
    ((V1.Node.new witnessSt).run witnessSigOK
        (v1Serve { witnessB1 with flawed := true } (witnessB2 ⟨.absent, 0, 0, 0⟩))).fsm.dead = true ∧
    ((V1.Node.new witnessSt).run witnessSigOK
        (v1Serve { witnessB1 with flawed := true } (witnessB2 ⟨.absent, 0, 0, 0⟩))).store.length = 1 ∧
    ((V1.Node.new witnessSt).run witnessSigOK
        (v1Serve { witnessB1 with flawed := true } (witnessB2 ⟨.absent, 0, 0, 0⟩))).st = witnessSt := by
  decide

/-- non-vacuity: the honest pair is processed and the pool moves on -/
example : ((V1.Node.new witnessSt).run witnessSigOK
    (v1Serve witnessB1 (witnessB2 ⟨.absent, 0, 0, 0⟩))).fsm.pool.height = 2 := by decide

/-- when the last peer is removed `nextRequestHeight` falls to 1, below the pool's height (known
finding `v1.pool.nextRequestHeight-falls-below-pool-height`) -/
theorem v1_next_request_height_reset :
    let n := (V1.Node.new witnessSt).run witnessSigOK
      (v1Serve witnessB1 (witnessB2 ⟨.absent, 0, 0, 0⟩) ++ [.ev (.peerRemove 5)])
    n.fsm.pool.height = 2 ∧ n.fsm.pool.nextRequestHeight = 1 ∧ n.fsm.state = .waitForPeer := by
  decide

/-- a failed verification whose two peers were the only ones makes the FSM finish and switch to
consensus with nothing synced (known finding
`v1.fsm.switches-to-consensus-when-failed-verification-removes-last-peers`) -/
theorem v1_finishes_after_failed_verification :
    let bad : Block := { witnessB2 ⟨.absent, 0, 0, 0⟩ with
      lastCommit := ⟨1, 0, ⟨7, 7⟩, [⟨.commit, 1, 0, 1⟩, ⟨.absent, 0, 0, 0⟩]⟩ }
    let n := (V1.Node.new witnessSt).run witnessSigOK (v1Serve witnessB1 bad)
    n.fsm.state = .finished ∧ n.fsm.switched = true ∧ n.store = [] ∧ n.fsm.peerErrors = [5, 5] := by
  decide

def witnessSt10 : St := { witnessSt with initialHeight := 10 }
def witnessB10 : Block := { witnessB1 with height := 10 }
def witnessB11 : Block :=
  { (witnessB2 ⟨.absent, 0, 0, 0⟩) with
    height := 11, lastCommit := ⟨10, 0, ⟨11, 12⟩, [⟨.commit, 1, 0, 1⟩, ⟨.absent, 0, 0, 0⟩]⟩ }

/-- v2 with genesis `initial_height` 10: the chain's first two blocks (valid, with quorum) are
queued and `processBlock` does nothing, because `height()` is `LastBlockHeight = 0` (known finding
`v2.processor.stalls-when-initial-height-above-1`) -/
theorem v2_stalls_above_initial_height_1 :
    (validate witnessSigOK witnessSt10 witnessB10 = Except.ok () ∧
      verifyCommitLight witnessSigOK witnessSt10.vals witnessB10.id witnessB10.height
        witnessB11.lastCommit = Except.ok ()) ∧
    ((((V2.Pc.new witnessSt10).handle witnessSigOK (.blockReceived 5 (some witnessB10))).1.handle
        witnessSigOK (.blockReceived 5 (some witnessB11))).1.handle witnessSigOK .processBlock).2
      = V2.Out.noOp :=
  ⟨⟨rfl, rfl⟩, by decide⟩

/-- non-vacuity of `handover_clean_partial`: the same run with an honest tail hands over -/
example : ((Node.new witnessSt).run witnessSigOK (witnessOps ⟨.commit, 2, 0, 1⟩)).handover witnessSigOK
    = .ok := by decide

end Tmv.Props.C13
