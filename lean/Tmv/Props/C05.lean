import Tmv.Lemmas.PipelinePlan
import Tmv.Lemmas.MempoolLock
/-! # C05 — The application sees each block exactly once, in order, even across crashes
Quantification: every chain `c` (block contents opaque), every sequence of node operations `ops` —
(re)starts and `finalizeCommit`s, each optionally killed after an arbitrary number `k` of
persistent effects (so: crash at every write / application call / fail point, crash again while
recovering, any number of times), and restores of the application from an older snapshot
(`Op.rollback j`). The model is `Tmv/Model/Pipeline.lean` (pipeline + handshake). Further down: the
incarnation plan of the node stream is sound for that model (`plan_sound`), and the mempool's lock
discipline keeps new-transaction checks out of the commit window (`Tmv/Model/MempoolLock.lean`). -/
namespace Tmv.Props.C05
open Tmv.Pipeline

/-- system invariant: the disk is one that crashes and snapshot restores of the application can
leave; a vote of the height in progress is only signed when the WAL can replay it; the first
block is stored only after the genesis state was saved; a node that is up is fully synced, its WAL
holds the marker of its height, and it is live -/
def SInv (c : Chain) (s : Sys) : Prop :=
  Inv c s.disk ∧ WInv c s.disk ∧ GenOK s.disk ∧
    (s.up = true → (∃ n, Good c s.disk n) ∧ s.disk.walEnd = s.disk.stateH ∧ s.live = true ∧
      s.disk.genesisSaved = true)

theorem genesis_inv (c : Chain) : SInv c genesis := by
  have hd : DInv c genesis.disk 0 0 0 none :=
    { stateH := rfl, stateHash := rfl, storeH := rfl
      app := { height := rfl, hash := rfl, pending := rfl, run := rfl }
      pr := ⟨Nat.zero_le _, Nat.le_refl 0, Nat.le_refl 0⟩ }
  have hw : WInv c genesis.disk := ⟨.inl (Nat.le_refl 0), fun _ => rfl⟩
  exact ⟨⟨0, .inl ⟨0, Nat.le_refl 0, .inl hd⟩⟩, hw, by simp [genesis, GenOK], by simp [genesis]⟩

theorem crashed_inv {c : Chain} {d : Disk} {es : List Eff} (h1 : PrefAll (CrashOK c) d es)
    (h2 : PrefAll (WInv c) d es) (h3 : PrefAll GenOK d es) (k : Nat) :
    SInv c ⟨crash (applyEffs d (es.take k)), false, false⟩ :=
  ⟨h1.take k, winv_crash (h2.take k), genOK_crash (h3.take k), by simp⟩

theorem up_inv {c : Chain} {d : Disk} {m : Nat} (hg : Good c d m) (hw : WInv c d) (hgs : d.genesisSaved = true)
    (hwal : d.walEnd = d.stateH) (up : Bool) : SInv c ⟨d, up, true⟩ :=
  ⟨hg.inv, hw, fun _ => hgs, fun _ => ⟨⟨m, hg⟩, hwal, rfl, hgs⟩⟩

theorem step_inv (c : Chain) (s : Sys) (op : Op) (h : SInv c s) : SInv c (stepSys c s op) := by
  obtain ⟨hinv, hwinv, hgen, hupc⟩ := h
  cases op with
  | start k =>
    have hs := start_run hinv hgen
    obtain ⟨⟨hwp, hwi⟩, hlive⟩ := start_winv hinv hgen hwinv
    cases k with
    | none =>
      obtain ⟨m, hg⟩ := hs.good
      simp only [stepSys, runProg, hs.ok, hlive]
      exact up_inv hg hwi hs.gs hs.marker _
    | some k =>
      simp only [stepSys, runProg]
      exact crashed_inv hs.crashes hwp hs.gen k
  | commit k =>
    simp only [stepSys]
    by_cases hu : s.up = true ∧ s.live = true
    · obtain ⟨⟨n, hg⟩, hw, _, hgs⟩ := hupc hu.1
      obtain ⟨es, hes, hrun, hwr⟩ := finalize_run hg hw hwinv hgs
      simp only [hu, and_self, if_true, hes]
      cases k with
      | none => exact up_inv hrun.2 hwr.2.1 (applyEffs_gs hgs) (hwr.2.2.trans hrun.2.stateH.symm) _
      | some k => exact crashed_inv hrun.1 hwr.1 (PrefAll.gs hgs) k
    · simp only [hu, if_false]
      exact ⟨hinv, hwinv, hgen, hupc⟩
  | rollback j =>
    simp only [stepSys]
    split
    · rename_i hg
      exact ⟨hinv.restore j hg.1 hg.2, hwinv, hgen, by simp⟩
    · exact ⟨hinv, hwinv, hgen, by simp⟩

theorem run_inv (c : Chain) (s : Sys) (ops : List Op) (h : SInv c s) : SInv c (runSys c s ops) := by
  induction ops generalizing s with
  | nil => exact h
  | cons op ops ih => exact ih _ (step_inv c s op h)

/-- every disk reachable from the fresh node by starts, commits, crashes at arbitrary points and
restores of the application from older snapshots of itself -/
theorem reachable_inv (c : Chain) (ops : List Op) : SInv c (runSys c genesis ops) :=
  run_inv c genesis ops (genesis_inv c)

/-! ## the journal -/

/-- **journal_wellformed.** After any history of commits, crashes at any effect, recoveries
(themselves crashing at any effect) and restores of the application from older snapshots (any
number of blocks behind), the application's call journal is accepted by the grammar `jrun`:
InitChain only while the application reports height 0; then for consecutive heights (the first one
being the genesis InitialHeight) Begin, the block's transactions in block order, End, Commit; an
execution may be abandoned only by a process death; Begin is only ever issued for the height after
the one the application reports (no committed block executed again, none skipped). The automaton
ends at exactly the height the application reports. -/
theorem journal_wellformed (c : Chain) (ops : List Op) :
    let s := runSys c genesis ops
    journalWF c s.disk.app.journal = true ∧
      jrun c ⟨0, none⟩ s.disk.app.journal = some ⟨s.disk.app.height, none⟩ := by
  have hj := (reachable_inv c ops).1.journal
  exact ⟨by simp [journalWF, hj], hj⟩

/-- what the application reports, read off a journal without the grammar: the header height of
the last committed execution, or the snapshot it was last restored from; second component: the
header height of the last Begin -/
def repStep (r : Nat × Nat) : Call → Nat × Nat
  | .begin h => (r.1, h)
  | .commit => (r.2, r.2)
  | .restored h => (h, r.2)
  | _ => r

def reportedAfter (l : List Call) : Nat := (l.foldl repStep (0, 0)).1

/-- grammar states against the journal read-off -/
def JI (c : Chain) (s : JState) (r : Nat × Nat) : Prop :=
  s.committed = r.1 ∧ ∀ p, s.opn = some p → p.h = r.2 ∧ (p.ended = true → p.txs = c p.h)

theorem jstep_rep {c : Chain} {s s' : JState} {r : Nat × Nat} {k : Call} (hj : JI c s r)
    (h : jstep c s k = some s') : JI c s' (repStep r k) := by
  obtain ⟨cm, o⟩ := s
  obtain ⟨hc, ho⟩ := hj
  -- every clause of `jstep` is `if guard then some update else none`: `h` reads `guard ∧ update = s'`
  cases k <;> cases o <;>
    simp only [jstep, Option.ite_none_right_eq_some, Option.some.injEq, reduceCtorEq, and_false, false_and] at h
  case initChain.none => exact h.2 ▸ ⟨hc, ho⟩
  case begin.none => exact h.2 ▸ ⟨hc, fun p hp => by cases hp; exact ⟨rfl, nofun⟩⟩
  case deliver.some tx p =>
    exact h.2 ▸ ⟨hc, fun q hq => by cases hq; exact ⟨(ho p rfl).1, fun e => by simp [h.1.1] at e⟩⟩
  case endBlock.some hh p => exact h.2 ▸ ⟨hc, fun q hq => by cases hq; exact ⟨(ho p rfl).1, fun _ => h.1.2.2⟩⟩
  case commit.some p => exact h.2 ▸ ⟨(ho p rfl).1, nofun⟩
  case restored.none | restored.some => exact h ▸ ⟨rfl, nofun⟩
  case restart.none | restart.some => exact h ▸ ⟨hc, nofun⟩

theorem jrun_rep {c : Chain} {s s' : JState} {r : Nat × Nat} {l : List Call} (hj : JI c s r)
    (h : jrun c s l = some s') : JI c s' (l.foldl repStep r) := by
  induction l generalizing s r with
  | nil => simp [jrun] at h; subst h; exact hj
  | cons k ks ih =>
    simp only [jrun] at h
    cases hk : jstep c s k with
    | none => simp [hk] at h
    | some s1 =>
      rw [hk] at h
      exact ih (jstep_rep hj hk) h

theorem jrun_split {c : Chain} {pre post : List Call} {k : Call} {s : JState}
    (h : jrun c ⟨0, none⟩ (pre ++ k :: post) = some s) :
    ∃ s1 s2, jrun c ⟨0, none⟩ pre = some s1 ∧ jstep c s1 k = some s2 ∧
      JI c s1 (pre.foldl repStep (0, 0)) := by
  rw [jrun_append] at h
  cases h1 : jrun c ⟨0, none⟩ pre with
  | none => simp [h1] at h
  | some s1 =>
    simp only [h1, Option.bind_some, jrun] at h
    cases h2 : jstep c s1 k with
    | none => simp [h2] at h
    | some s2 =>
      exact ⟨s1, s2, rfl, h2, jrun_rep (s := ⟨0, none⟩) ⟨rfl, by intro p hp; simp at hp⟩ h1⟩

/-- this and the next two hold of every journal the grammar accepts, whatever produced it (the plan's
journals included) -/
theorem accepted_initChain {c : Chain} {pre post : List Call} {s : JState}
    (h : jrun c ⟨0, none⟩ (pre ++ .initChain :: post) = some s) : reportedAfter pre = 0 := by
  obtain ⟨s1, s2, _, h2, h3⟩ := jrun_split h
  simp only [jstep, Option.ite_none_right_eq_some] at h2
  exact h3.1.symm.trans h2.1.1

theorem accepted_begin {c : Chain} {pre post : List Call} {s : JState} {h : Nat}
    (hj : jrun c ⟨0, none⟩ (pre ++ .begin h :: post) = some s) : h = nxt c (reportedAfter pre) := by
  obtain ⟨s1, s2, _, h2, h3⟩ := jrun_split hj
  simp only [jstep, Option.ite_none_right_eq_some] at h2
  exact h2.1.1.trans (congrArg _ h3.1)

theorem accepted_commit {c : Chain} {pre post : List Call} {s : JState}
    (hj : jrun c ⟨0, none⟩ (pre ++ .commit :: post) = some s) :
    ∃ s1 h, jrun c ⟨0, none⟩ pre = some s1 ∧ s1.opn = some ⟨h, c h, true⟩ := by
  obtain ⟨⟨cm, _ | ⟨ph, ptxs, pe⟩⟩, s2, h1, h2, h3⟩ := jrun_split hj <;>
    simp only [jstep, Option.ite_none_right_eq_some, reduceCtorEq] at h2
  obtain rfl : pe = true := h2.1
  obtain rfl : ptxs = c ph := (h3.2 _ rfl).2 rfl
  exact ⟨_, ph, h1, rfl⟩

/-- **initchain_only_at_zero.** Whenever InitChain appears in the journal, the application was
reporting height 0 at that point (it had committed nothing, or had been restored to an empty
snapshot) — for every history. -/
theorem initchain_only_at_zero (c : Chain) (ops : List Op) (pre post : List Call)
    (h : (runSys c genesis ops).disk.app.journal = pre ++ .initChain :: post) :
    reportedAfter pre = 0 :=
  accepted_initChain (h ▸ (journal_wellformed c ops).2)

/-- **begin_is_next_height** (exactly once, in order). Every BeginBlock in the journal is for the height right after the
one the application was reporting (its last commit or the snapshot it was restored from; the
genesis InitialHeight when it reported 0): a committed block is never executed again on top of
itself and no height is skipped — for every history. -/
theorem begin_is_next_height (c : Chain) (ops : List Op) (pre post : List Call) (h : Nat)
    (hj : (runSys c genesis ops).disk.app.journal = pre ++ .begin h :: post) :
    h = nxt c (reportedAfter pre) :=
  accepted_begin (hj ▸ (journal_wellformed c ops).2)

/-- every Commit in the journal closes a complete execution: the open execution at that point is
Begin h, all of block h's txs in block order, End h. -/
theorem commit_closes_full_block (c : Chain) (ops : List Op) (pre post : List Call)
    (hj : (runSys c genesis ops).disk.app.journal = pre ++ .commit :: post) :
    ∃ s1 h, jrun c ⟨0, none⟩ pre = some s1 ∧ s1.opn = some ⟨h, c h, true⟩ :=
  accepted_commit (hj ▸ (journal_wellformed c ops).2)

/-! ## recovery -/

/-- **handshake_total.** On every reachable disk — after crashes anywhere and with the
application restored arbitrarily far behind — the case analysis of `ReplayBlocks` ends in a
non-error, non-panic branch. -/
theorem handshake_total (c : Chain) (ops : List Op) :
    (handshake c (runSys c genesis ops).disk).outcome = .ok :=
  (handshake_run (reachable_inv c ops).1 (reachable_inv c ops).2.2.1).1.ok

/-- **recovery_agrees.** After any history, a restart that runs to completion leaves the node up
with application height = block store height = state height, the application's hash equal to the
state's app hash, and the node live (it can decide the next height: what it may have signed there
is replayable). -/
theorem recovery_agrees (c : Chain) (ops : List Op) :
    let s' := stepSys c (runSys c genesis ops) (.start none)
    s'.up = true ∧ s'.live = true ∧ s'.disk.app.height = s'.disk.storeH ∧
      s'.disk.storeH = s'.disk.stateH ∧ s'.disk.app.hash = s'.disk.stateHash := by
  have hi := reachable_inv c ops
  have hs := start_run hi.1 hi.2.2.1
  obtain ⟨m, hg⟩ := hs.good
  have hlive := (start_winv hi.1 hi.2.2.1 hi.2.1).2
  simp only [stepSys, runProg, hs.ok]
  exact ⟨by simp, by simpa using hlive, hg.synced⟩

/-- **recovery_progress.** A node that is up (after any history) is live and can decide the next
height: `finalizeCommit` is enabled (the block validates against the saved state), and run to
completion it leaves the node up, live, synced, one block further. -/
theorem recovery_progress (c : Chain) (ops : List Op) (hup : (runSys c genesis ops).up = true) :
    let s := runSys c genesis ops
    let s' := stepSys c s (.commit none)
    s.live = true ∧ (finalizeEffs c s.disk (nxt c s.disk.stateH)).isSome ∧ s'.up = true ∧ s'.live = true ∧
      s'.disk.stateH = nxt c s.disk.stateH ∧ s'.disk.app.height = s'.disk.stateH ∧
      s'.disk.storeH = s'.disk.stateH ∧ s'.disk.app.hash = s'.disk.stateHash := by
  have hi := reachable_inv c ops
  obtain ⟨⟨n, hg⟩, hw, hl, hgs⟩ := hi.2.2.2 hup
  obtain ⟨es, hes, hrun, _⟩ := finalize_run hg hw hi.2.1 hgs
  have hgood := hrun.2
  simp only [stepSys, hup, hl, and_self, if_true, hes, runProg]
  exact ⟨trivial, by simp, trivial, trivial, by rw [hgood.stateH, hg.stateH, nxt_ht], by rw [hgood.synced.1, hgood.synced.2.1],
    hgood.synced.2⟩

/-- the WAL side of progress: whenever this validator has signed a vote in the height after the
store, the WAL holds the #ENDHEIGHT marker that makes that vote replayable — after any history
(this is what the repaired `catchupReplay` maintains). -/
theorem signed_vote_is_replayable (c : Chain) (ops : List Op) :
    let d := (runSys c genesis ops).disk
    d.pvH = nxt c d.storeH → d.walEnd = d.storeH :=
  (reachable_inv c ops).2.1.2

/-- the three persisted cursors after any history: the store is at the state or exactly one block
ahead (the genesis InitialHeight counts as the block after 0), the application never ahead of the
store -/
theorem cursors_within_one (c : Chain) (ops : List Op) :
    let d := (runSys c genesis ops).disk
    (d.storeH = d.stateH ∨ d.storeH = nxt c d.stateH) ∧ d.app.height ≤ d.storeH := by
  obtain ⟨k, st, a, h, hst, ha, _⟩ := inv_iff.1 (reachable_inv c ops).1
  refine ⟨?_, by rw [h.app.height, h.storeH]; exact ht_le c ha⟩
  rw [h.storeH, h.stateH, nxt_ht]
  exact hst.imp (congrArg _) (congrArg _)

/-! ## non-vacuity: a chain with InitialHeight 5; crashes before the first commit (three
InitChains), a crash on the FIRST block after it was saved, a crash inside the second block's commit
after the application committed (mock replay), a crash at the very start of a recovery, the
application restored two blocks back (both replayed by the handshake), a node that is up at the end -/

def exChain : Chain := { ihPred := 4, txs := fun h => if h = 5 then [1, 2] else [3] }
def exOps : List Op :=
  [.start (some 1), .start none, .commit (some 3), .start none, .commit (some 9), .start (some 0), .start none,
   .rollback 2, .start none]

example : (runSys exChain genesis exOps).up = true := by decide
example : (runSys exChain genesis exOps).disk.app.journal =
    [.initChain, .restart, .initChain, .restart] ++ .initChain ::
      [.begin 5, .deliver 1, .deliver 2, .endBlock 5, .commit, .begin 6, .deliver 3, .endBlock 6, .commit,
       .restart, .restart, .restored 0, .initChain, .begin 5, .deliver 1, .deliver 2, .endBlock 5, .commit,
       .begin 6, .deliver 3, .endBlock 6, .commit] := by decide
example : (runSys exChain genesis exOps).disk.app.journal =
    [.initChain, .restart, .initChain, .restart, .initChain, .begin 5, .deliver 1, .deliver 2, .endBlock 5, .commit,
     .begin 6, .deliver 3, .endBlock 6, .commit, .restart, .restart, .restored 0, .initChain]
      ++ .begin 5 :: [.deliver 1, .deliver 2, .endBlock 5, .commit, .begin 6, .deliver 3, .endBlock 6, .commit] := by decide
example : (handshake exChain (runSys exChain genesis (exOps.take 5)).disk).branch = .lastMock := by decide
example : (handshake exChain (runSys exChain genesis (exOps.take 3)).disk).branch = .lastReal := by decide
example : (handshake exChain (runSys exChain genesis (exOps.take 8)).disk).branch = .replayNoMutate := by decide
example : (runSys exChain genesis (exOps.take 3)).disk.storeH = 5 ∧ (runSys exChain genesis (exOps.take 3)).disk.stateH = 0 := by decide

/-! ## the incarnation plan of the node stream keeps the pipeline invariant (`Inv` and `GenOK`; `WInv` is not
carried through the plan's `pvSign` items, and no theorem makes the plan's disks `runSys` disks) -/

/-- **plan_sound.** For every chain, every target, and EVERY sequence of fail indices (`none` = an
incarnation without FAIL_TEST_INDEX), the disk the incarnation plan predicts after all
incarnations — fail points at the code's call sites, own votes replayed / refused / stale, the
clean stop at the target — is one the pipeline invariant covers: its journal is accepted by the
grammar and ends at the height the application reports, and a further restart completes with the
three cursors and the app hash in agreement. The per-incarnation predictions the node stream
compares with the real node are therefore disks of the kind the pipeline theorems are about. -/
theorem plan_sound (c : Chain) (exitH mh : Nat) (fs : List (Option Nat)) :
    let d := runIncs c exitH mh fs genesis.disk
    journalWF c d.app.journal = true ∧
      jrun c ⟨0, none⟩ d.app.journal = some ⟨d.app.height, none⟩ ∧
      (handshake c d).outcome = .ok ∧
      (let s' := stepSys c ⟨d, false, false⟩ (.start none)
       s'.up = true ∧ s'.disk.app.height = s'.disk.storeH ∧ s'.disk.storeH = s'.disk.stateH ∧
         s'.disk.app.hash = s'.disk.stateHash) := by
  have hi := runIncs_sound (c := c) exitH mh fs genesis.disk (genesis_inv c).1 (genesis_inv c).2.2.1
  have hs := start_run hi.1 hi.2
  obtain ⟨m, hg⟩ := hs.good
  refine ⟨by simp [journalWF, hi.1.journal], hi.1.journal, hs.ok, ?_⟩
  simp only [stepSys, runProg, hs.ok]
  exact ⟨by simp, hg.synced⟩

/-- each incarnation's reported post-handshake disk is synced (what the node stream compares as
`post`), whatever state the previous incarnations left -/
theorem plan_post_synced (c : Chain) (exitH mh : Nat) (fs : List (Option Nat)) (f : Option Nat) (post : Disk)
    (hp : (incarnation c (runIncs c exitH mh fs genesis.disk) f exitH mh).2.1 = some post) :
    post.app.height = post.storeH ∧ post.storeH = post.stateH ∧ post.app.hash = post.stateHash := by
  have hi := runIncs_sound (c := c) exitH mh fs genesis.disk (genesis_inv c).1 (genesis_inv c).2.2.1
  obtain ⟨m, hg⟩ := (incarnation_sound hi.1 hi.2 f exitH mh).2.2 post hp
  exact hg.synced

/-- the plan is exercised: three kills (first block's commit, a vote fail point, during recovery) then a clean run to the target -/
example : (runIncs exChain 8 4 [some 7, some 0, some 2, none] genesis.disk).app.height = 7 := by decide

/-! ## pruning (the application's RetainHeight): the theorems above range over chains with any
`retain` function — `finalizeCommit` prunes the block store and then the state store, a crash may
fall between the two. What they assume about restores is the guard of `Op.rollback`. -/

/-- an application that asks to retain only the block just committed -/
def prChain : Chain := { txs := fun h => [h], retain := fun h => h }
def prOps : List Op := [.start none, .commit none, .commit none, .commit none]

/-- pruned to the last block: base = state-store horizon = 3 -/
example : (runSys prChain genesis prOps).disk.storeBase = 3 ∧ (runSys prChain genesis prOps).disk.statesBase = 3 := by decide
/-- a crash between PruneBlocks and PruneStates (block store pruned, state store not yet), then recovery and progress -/
example : let s := runSys prChain genesis [.start none, .commit none, .commit none, .commit (some 11), .start none]
    s.up = true ∧ s.disk.stateH = 3 ∧ s.disk.storeBase = 3 ∧ s.disk.statesBase = 2 := by decide
example : let s := runSys prChain genesis [.start none, .commit none, .commit none, .commit (some 11), .start none, .commit none]
    s.up = true ∧ s.disk.stateH = 4 ∧ s.disk.storeBase = 4 ∧ s.disk.statesBase = 4 := by decide

/-- **too_old_snapshot_refused** (instance): an application restored from a snapshot below the
block store's base - 1 is refused with ErrAppBlockHeightTooLow; nothing is sent to it. -/
theorem too_old_snapshot_refused :
    let d := (runSys prChain genesis prOps).disk
    let r := handshake prChain { d with app := d.app.restore 2 }
    r.outcome = .errAppTooLow ∧ r.effs = [] := by decide

/-- **replay_at_base_panics** (`handshake_total` fails without the second half of the rollback
guard): `ReplayBlocks` accepts an application exactly one block below the block store's base
("can be 1 behind since we replay the next") but replaying the block at the base needs the
validator set of base - 1, which `PruneStates(base, retainHeight)` has removed: the node panics
"could not find validator set" on every start. Known finding. -/
theorem replay_at_base_panics :
    let d := (runSys prChain genesis prOps).disk
    let d' := { d with app := d.app.restore 1 }
    ¬ (0 < d'.app.height ∧ d'.app.height < d'.storeBase - 1) ∧ d'.storeBase ≤ nxt prChain d'.app.height ∧
      (handshake prChain d').outcome = .panicValsPruned := by decide

/-- `handshake_total` is partial in this sense: it holds for every history whose restores keep the
application at or above the state store's pruning horizon (the guard of `Op.rollback` in
`stepSys`); the unguarded statement is refuted by `replay_at_base_panics`. -/
theorem handshake_total_partial (c : Chain) (ops : List Op) :
    (handshake c (runSys c genesis ops).disk).outcome = .ok := handshake_total c ops

/-! ## mempool: no new-transaction check in the commit window -/
section Mempool
open Tmv.MempoolLock

/-- **no_check_in_commit_window** (main statement, general ABCI connection). Mempool v0 with
`BlockExecutor.Commit` over a connection on which a `CheckTxAsync` call may block for any time
(holding the read lock) and is then answered while blocking (local client) or returns with the
request queued and is answered at any later time (socket / gRPC clients; the recheck requests of
`Update` likewise): for every pool size and every interleaving, from the moment the commit
request is on the consensus connection until the last recheck request of that block has been
issued, no `CheckTx` of a new transaction is in flight — neither blocking nor queued-unanswered —
and none can start. -/
theorem no_check_in_commit_window (p : Nat) (evs : List Ev) (s : MS)
    (h : run .v0g { pool := p } evs = some s) (hw : inCommitWindow s = true) :
    checkInFlightG s = false ∧ ∀ i, (step .v0g s (.prelude i)).isNone := by
  have hi : IG s := run_invariant IG.step (IG.init p) h
  have hwr := hi.cw (window_holds hw)
  have hr := hi.wr hwr
  have hcnt : gateCount s.chk = 0 := by rw [← hi.cnt, hr]
  refine ⟨?_, ?_⟩
  · simp only [checkInFlightG, List.any_eq_false]
    intro x hx
    have h1 := any_gate_of_count s.chk hcnt
    simp only [List.any_eq_false] at h1
    have h2 := hi.cq hw x hx
    have h3 := h1 x hx
    simp only [Bool.or_eq_true, not_or]
    exact ⟨h3, by simpa using h2⟩
  · intro i
    simp [MempoolLock.step, hwr]

/-- the local-client discipline is one schedule of the general one: every `v0` run is a `v0g` run,
so the main statement specialises to it (corollary; `no_check_in_commit_window_v0` below restates
it with the window extended to outstanding rechecks, of which the local client has none). -/
theorem no_check_in_commit_window_local (p : Nat) (evs : List Ev) (s : MS)
    (h : run .v0 { pool := p } evs = some s) (hw : inCommitWindow s = true) :
    checkInFlightG s = false ∧ ∀ i, (step .v0 s (.prelude i)).isNone := by
  have hg := (v0_run_in_v0g (s := { pool := p }) ⟨by simp, rfl⟩ h).1
  obtain ⟨h1, h2⟩ := no_check_in_commit_window p evs s hg hw
  refine ⟨h1, fun i => ?_⟩
  have := h2 i
  simpa [MempoolLock.step] using this

/-- the general window is reachable with a check that returned unanswered before the commit
started: the flush waits for it -/
example : ∃ s, run .v0g {} [.spawnCheck 1, .prelude 1, .retCheck 1, .spawnCommit, .lockCommit] = some s
    ∧ step .v0g s .relFlush = none ∧ checkInFlightG s = true := ⟨_, rfl, by decide, by decide⟩
example : ∃ s, run .v0g { pool := 2 }
    [.spawnCheck 1, .prelude 1, .retCheck 1, .spawnCommit, .lockCommit, .relCheck 1, .relFlush, .relCommit, .retRecheck] = some s
    ∧ inCommitWindow s = true ∧ s.rechecks = [0] := ⟨_, rfl, by decide, by decide⟩

/-- **no_check_in_commit_window_v0.** Mempool v0 with `BlockExecutor.Commit`: for every pool size and
every interleaving of checker and committer steps, from the moment the commit request is on the
consensus connection until the last recheck of that block has been forwarded, no `CheckTx` of a new
transaction is on the mempool connection and none can start. -/
theorem no_check_in_commit_window_v0 (p : Nat) (evs : List Ev) (s : MS)
    (h : run .v0 { pool := p } evs = some s) : windowClean .v0 s := by
  intro hw
  have hre : s.rechecks = [] := (v0_run_in_v0g (s := { pool := p }) ⟨by simp, rfl⟩ h).2.2
  have hw' : inCommitWindow s = true := by simpa [inWindow, inCommitWindow, hre] using hw
  obtain ⟨h1, h2⟩ := no_check_in_commit_window_local p evs s h hw'
  refine ⟨?_, h2⟩
  simp only [checkInFlight, checkInFlightG, List.any_eq_false, Bool.or_eq_true, not_or] at h1 ⊢
  exact fun x hx => (h1 x hx).1

/-- **no_check_in_commit_window_v0_async.** Mempool v0 over an asynchronous ABCI connection
(`CheckTxAsync` returns when the request is queued; answers come later, in order; `FlushSync`
returns when everything queued before it is answered): for every pool size — the empty pool
included — and every interleaving, while app Commit is requested no `CheckTx` of a new transaction
is unanswered on the connection and none can start; and at all times no new check is queued in
front of a recheck (the connection being FIFO, the rechecks of a block are answered before any
check started after its commit). This is what `FlushAppConn` under the mempool lock buys. -/
theorem no_check_in_commit_window_v0_async (p : Nat) (evs : List Ev) (s : MS)
    (h : run .v0a { pool := p } evs = some s) :
    windowClean .v0a s ∧ noCheckBeforeRecheck s.queue = true := by
  have hi : IA s := run_invariant IA.step (IA.init p) h
  refine ⟨?_, hi.ord⟩
  intro hw
  have hc : s.cpc = .commitGate := by
    -- no recheck is outstanding, so the window is the committer's position; it is never at a
    -- recheck gate on this connection
    simp only [inWindow, hi.re, List.isEmpty_nil, Bool.not_true, Bool.or_false] at hw
    cases hcp : s.cpc with
    | commitGate => rfl
    | recheckGate a b => exact absurd hcp (hi.nrg a b)
    | _ => rw [hcp] at hw; cases hw
  have hwr := hi.cw (by simp [hc, holds])
  have hq := hi.cq hc
  refine ⟨?_, ?_⟩
  · simp only [checkInFlight, List.any_eq_false]
    intro x hx hg
    have := hi.fl x hx (by simpa using hg)
    simp [hq] at this
  · intro i
    simp [MempoolLock.step, hwr]

/-- the window is reachable on the asynchronous connection with an EMPTY pool after a rejected
check was answered (so the flush cannot be skipped on `Size() == 0`): here the commit is
requested on a drained connection -/
example : ∃ s, run .v0a {} [.spawnCheck 9, .prelude 9, .spawnCommit, .lockCommit, .relCheck 9, .relFlush] = some s
    ∧ s.cpc = .commitGate ∧ s.pool = 0 ∧ s.queue = [] := ⟨_, rfl, by decide, by decide, by decide⟩

/-- and the flush really waits: with the check unanswered the commit request is not enabled -/
example : ∃ s, run .v0a {} [.spawnCheck 9, .prelude 9, .spawnCommit, .lockCommit] = some s
    ∧ step .v0a s .relFlush = none ∧ checkInFlight s = true := ⟨_, rfl, by decide, by decide⟩

/-- v1 violates the same statement: a `CheckTx` that has passed its read-locked prelude is on the
connection (in flight, holding no lock) when the committer requests app Commit. -/
theorem check_in_commit_window_v1 :
    ∃ evs s, run .v1 {} evs = some s ∧ ¬ windowClean .v1 s := by
  refine ⟨[.spawnCheck 1, .prelude 1, .spawnCommit, .lockCommit, .relFlush, .relockCommit], _, rfl, ?_⟩
  intro h
  have := (h (by decide)).1
  revert this
  decide

/-- v1, second way: `Update` only spawns the rechecks; after the committer has unlocked, a new
`CheckTx` starts while the rechecks of the committed block are still outstanding. -/
theorem check_before_recheck_done_v1 :
    ∃ evs s i, run .v1 { pool := 1 } evs = some s ∧ inWindow s = true ∧ (step .v1 s (.prelude i)).isSome := by
  refine ⟨[.spawnCommit, .lockCommit, .relFlush, .relockCommit, .relCommit, .spawnCheck 1], _, 1, rfl, ?_, ?_⟩ <;> decide

/-- what v1 does guarantee (`no_check_in_commit_window_v1_partial`): while the commit request is
outstanding the committer holds the exclusive lock, so no new `CheckTx` can *pass its prelude*;
checks already past the prelude, and checks started after the unlock but before the rechecks are
done, are not excluded (the two witnesses above). -/
theorem no_check_in_commit_window_v1_partial (p : Nat) (evs : List Ev) (s : MS)
    (h : run .v1 { pool := p } evs = some s) (hc : s.cpc = .commitGate) :
    ∀ i, (step .v1 s (.prelude i)).isNone := by
  have hi : I1 s := run_invariant (I1.step (.inl rfl)) (s := { pool := p }) ⟨by simp⟩ h
  intro i
  simp [MempoolLock.step, hi.cw hc]

/-- **v1 over the asynchronous FIFO connection** — what holds: while the commit request is
outstanding no new `CheckTx` can pass its prelude, and a pending `FlushSync` is not answered while a
request queued before it is unanswered (so checks queued BEFORE the flush are answered before the
commit is requested). -/
theorem no_check_in_commit_window_v1_async_partial (p : Nat) (evs : List Ev) (s : MS)
    (h : run .v1a { pool := p } evs = some s) :
    (s.cpc = .commitGate → ∀ i, (step .v1a s (.prelude i)).isNone) ∧
      (s.cpc = .flushGate → 0 < s.flushAfter → step .v1a s .relFlush = none) := by
  have hi : I1 s := run_invariant (I1.step (.inr rfl)) (s := { pool := p }) ⟨by simp⟩ h
  refine ⟨fun hc i => ?_, fun hc hf => ?_⟩
  · simp [MempoolLock.step, hi.cw hc]
  · have : s.flushAfter ≠ 0 := by omega
    simp [MempoolLock.step, hc, this]

/-- … and what does not (known finding, same root as for the local client): `FlushAppConn` gives
the lock up while it waits, a `CheckTx` that passes its prelude then is queued behind the flush and
is in flight when the commit is requested. -/
theorem check_in_commit_window_v1_async :
    ∃ evs s, run .v1a {} evs = some s ∧ s.cpc = .commitGate ∧ checkInFlight s = true := by
  refine ⟨[.spawnCheck 1, .prelude 1, .spawnCommit, .lockCommit, .spawnCheck 2, .prelude 2, .relCheck 1, .relFlush,
    .relockCommit], _, rfl, ?_, ?_⟩ <;> decide

/-- the hypothesis of the partial statement is reachable with a check in flight -/
example : ∃ s, run .v1 {} [.spawnCheck 1, .prelude 1, .spawnCommit, .lockCommit, .relFlush, .relockCommit] = some s
    ∧ s.cpc = .commitGate ∧ checkInFlight s = true := ⟨_, rfl, by decide, by decide⟩

/-- the v0 window is reachable and non-trivial: a checker is blocked while rechecks are issued -/
example : ∃ s, run .v0 { pool := 2 } [.spawnCheck 1, .spawnCommit, .lockCommit, .relFlush, .relCommit] = some s
    ∧ inWindow s = true ∧ kpc s 1 = some .wantR := ⟨_, rfl, by decide, by decide⟩

end Mempool

end Tmv.Props.C05
