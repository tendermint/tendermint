import Tmv.Lemmas.SecretFrames
import Tmv.Model.Sts
/-! # C16 — Peer links are mutually authenticated and tamper-evident

Data phase (`Model/SecretFrames.lean`): the AEAD of a direction is a pair of arbitrary functions
`enc`/`dec`. What is assumed about them is stated in each theorem:
* `Correct enc dec`  — `dec n (enc n m) = some m`;
* `LenOK enc`        — a sealed frame is `aeadSizeOverhead` bytes longer than its plaintext;
* authenticity is NOT assumed: the tamper theorems conclude "claim ∨ an explicit `Forgery`", i.e.
  a ciphertext that opens under a counter under which the sender never produced it.
`junk` is the stale content of the pooled frame buffers (arbitrary).

Handshake (`Model/Sts.lean`): symbolic; transcript-hash injectivity, ideal signatures and an ideal
AEAD for the auth frame are built into the term algebra — cryptographic strength is a hypothesis,
not a result. -/
namespace Tmv.Props.C16
open Tmv Tmv.SecretFrames

section frames
variable (enc : Nat → Bytes → Bytes) (dec : Nat → Bytes → Option Bytes) (junk : Nat → Bytes)

/-- Round trip, all write sizes and all read sizes: after any sequence of `Write` calls (fewer
than 2^64 bytes past counter `c`, so no overflow) on a working conn, every schedule of `Read`
sizes returns only data or — once everything has been handed out — `io.EOF`; the bytes handed
out are a prefix of the bytes written, in order; an `io.EOF` is seen only after ALL bytes were
handed out; and with positive read sizes and more reads than bytes everything arrives. -/
theorem stream_roundtrip (hc : Correct enc dec) (hl : LenOK enc) (c : Nat) (ws : List Bytes)
    (rs : List Nat) (hroom : c + ws.flatten.length ≤ maxU64) :
    let sent := (writeAll enc junk c (ws.map (·, true))).2
    let res := (runReads dec ⟨[], c, wireOf sent⟩ rs).1
    okBytes res <+: ws.flatten ∧
    (∀ r ∈ res, isOk r = true ∨ r = .error .eof) ∧
    (.error .eof ∈ res → okBytes res = ws.flatten) ∧
    ((∀ k ∈ rs, 0 < k) → ws.flatten.length < rs.length → okBytes res = ws.flatten) := by
  have hcnt := allChunks_count ws
  have hwa := writeAll_ok enc junk ws c (by omega)
  simp only [hwa]
  have hon : Hon enc junk ⟨[], c, wireOf (sealFrom enc junk c (ws.flatMap chunks))⟩
      (ws.flatMap chunks) [] :=
    ⟨by simp, allChunks_bounds ws, by simp only []; omega⟩
  obtain ⟨rs1, rs2, res1, s1, rfl, hrun, hok, hlen, hpre, hbd⟩ :=
    honest_run enc dec junk hc hl [] rs _ _ hon
  simp only [List.nil_append, allChunks_flatten] at hpre hbd
  rw [runReads_append, hrun]
  simp only []
  cases rs2 with
  | nil =>
    simp only [runReads, List.append_nil]
    refine ⟨hpre, fun r hr => Or.inl (hok r hr), ?_, ?_⟩
    · intro hmem; have := hok _ hmem; simp [isOk] at this
    · intro hpos hlt
      have h1 := hlen (fun k hk => hpos k (by simpa using hk))
      have h2 := hpre.length_le
      omega
  | cons k ks =>
    obtain ⟨he, rfl⟩ := hbd nofun
    rw [run_eof]
    simp only [okBytes_append, okBytes_eofs, List.append_nil]
    refine ⟨by rw [he]; exact List.prefix_refl _, ?_, fun _ => he, fun _ _ => he⟩
    intro r hr
    rcases List.mem_append.mp hr with h1 | h1
    · exact Or.inl (hok r h1)
    · right; obtain ⟨_, _, rfl⟩ := List.mem_map.mp h1; rfl

/-- A nonce is never used twice: over ANY sequence of `Write` calls (any data, working or failing
conn, including calls that panic), the frames handed to the conn carry strictly increasing
counters, each sealed under the counter it is listed with, all below the final counter, which
never exceeds `MaxUint64` — the counter never wraps and `MaxUint64` itself is never put on the
wire. -/
theorem nonce_never_reused (c : Nat) (hc : c ≤ maxU64) (calls : List (Bytes × Bool)) :
    let r := writeAll enc junk c calls
    List.Pairwise (· < ·) (r.2.map (·.1)) ∧
    (∀ x ∈ r.2, c ≤ x.1 ∧ x.1 < r.1 ∧ ∃ m, x.2 = enc x.1 m) ∧
    c ≤ r.1 ∧ r.1 ≤ maxU64 := by
  have h := writeAll_nonces enc junk calls c hc
  exact ⟨h.1.1, h.1.2, h.2.1, h.2.2⟩

/-- At `MaxUint64` `Write` panics before anything reaches the conn, and the counter stays. -/
theorem nonce_overflow_panics (data : Bytes) (hd : data ≠ []) (ok : Bool) :
    let r := write enc junk maxU64 data ok
    r.outcome = .panic ∧ r.frames = [] ∧ r.nonce = maxU64 := by
  have hpos : 0 < data.length := List.length_pos_iff.mpr hd
  unfold write
  cases hlen : data.length with
  | zero => omega
  | succ f => simp [writeLoop, hlen, incrNonce]

/-- the reader's side of the same guard: a frame that opens at `MaxUint64` is not delivered -/
theorem recv_overflow_panics (s : RState) (k : Nat) (hb : s.buf = []) (hn : s.nonce = maxU64) :
    ∀ b, (SecretFrames.read dec s k).2 ≠ .ok b := by
  intro b h
  rcases read_cases dec s k hb with ⟨s', e, hr, _⟩ | ⟨frame, hlen, hd⟩
  · rw [hr] at h; cases h
  · rw [read_panic dec s k hb hlen frame hd hn] at h; cases h

/-- the 12-byte nonces of distinct counters below 2^64 are distinct -/
theorem nonceBytes_injective (a b : Nat) (ha : a ≤ maxU64) (hb : b ≤ maxU64)
    (h : nonceBytes a = nonceBytes b) : a = b := by
  have := congrArg Digits.val (List.append_cancel_left h)
  rw [le64_eq, le64_eq, Digits.val_le, Digits.val_le] at this
  simp only [maxU64] at ha hb
  omega

/-- Never altered, never out of order — whatever is on the wire. The sender sealed the chunks
`cs` from counter `c`; the reader starts at `c` and is fed an ARBITRARY byte string (any edit,
reordering, replay, removal, truncation or fabrication of the ciphertext), and reads with an
arbitrary schedule, through and past any number of errors. Then everything it is ever handed is
a prefix of what was written — or a forgery is exhibited. -/
theorem tamper_never_alters (hc : Correct enc dec) (c : Nat) (cs : List Bytes)
    (hb : ∀ ch ∈ cs, ch.length ≤ dataMaxSize) (wire : Bytes) (rs : List Nat) :
    okBytes (runReads dec ⟨[], c, wire⟩ rs).1 <+: cs.flatten ∨
      Nonempty (Forgery dec (sealFrom enc junk c cs)) := by
  by_cases hno : Nonempty (Forgery dec (sealFrom enc junk c cs))
  · exact Or.inr hno
  left
  have h0 : Pfx c cs [] ⟨[], c, wire⟩ := ⟨0, by omega, rfl, by simp⟩
  obtain ⟨i, hi, _, hd⟩ := pfx_run enc dec junk hc c cs hb hno rs [] _ h0
  simp only [List.nil_append] at hd
  have h1 : okBytes (runReads dec ⟨[], c, wire⟩ rs).1 <+: (cs.take i).flatten := ⟨_, hd⟩
  have h2 : (cs.take i).flatten <+: cs.flatten := by
    refine ⟨(cs.drop i).flatten, ?_⟩
    rw [← List.flatten_append, List.take_append_drop]
  exact List.IsPrefix.trans h1 h2

/-- Tamper evidence at the first affected frame. The sender sealed `pre ++ post` from counter
`c`; the wire carries the frames of `pre` untouched and then `rest`, whose first block is NOT
what the sender sealed under the counter the reader will be at (a modified frame, another frame
— reordered, replayed, or the successor of a removed one —, a short block, or nothing). Then for
every read schedule: either the schedule ends inside `pre` (all reads succeed, prefix of `pre`),
or the schedule splits as `rs1 ++ k :: rs2` where the reads of `rs1` all succeed and hand out
exactly the bytes of `pre`, and the next `Read` fails with `io.EOF`, `io.ErrUnexpectedEOF` or the
decryption error — or a forgery is exhibited. -/
theorem tamper_detected (hc : Correct enc dec) (hl : LenOK enc) (c : Nat) (pre post : List Bytes)
    (rest : Bytes) (hb : ∀ ch ∈ pre, 0 < ch.length ∧ ch.length ≤ dataMaxSize)
    (hroom : c + pre.length ≤ maxU64)
    (haff : (c + pre.length, rest.take sealedFrameSize) ∉ sealFrom enc junk c (pre ++ post))
    (rs : List Nat) :
    ((∀ r ∈ (runReads dec ⟨[], c, wireOf (sealFrom enc junk c pre) ++ rest⟩ rs).1, isOk r = true) ∧
      okBytes (runReads dec ⟨[], c, wireOf (sealFrom enc junk c pre) ++ rest⟩ rs).1 <+: pre.flatten) ∨
    (∃ rs1 k rs2 res1 s1, rs = rs1 ++ k :: rs2 ∧
      runReads dec ⟨[], c, wireOf (sealFrom enc junk c pre) ++ rest⟩ rs1 = (res1, s1) ∧
      (∀ r ∈ res1, isOk r = true) ∧ okBytes res1 = pre.flatten ∧
      ∃ e, (SecretFrames.read dec s1 k).2 = .error e ∧ (e = .eof ∨ e = .ueof ∨ e = .decrypt)) ∨
    Nonempty (Forgery dec (sealFrom enc junk c (pre ++ post))) := by
  have hon : Hon enc junk ⟨[], c, wireOf (sealFrom enc junk c pre) ++ rest⟩ pre rest :=
    ⟨rfl, hb, hroom⟩
  obtain ⟨rs1, rs2, res1, s1, hsplit, hrun, hok, _, hpre, hbd⟩ :=
    honest_run enc dec junk hc hl rest rs _ _ hon
  simp only [List.nil_append] at hpre hbd
  cases rs2 with
  | nil =>
    left
    rw [hsplit, List.append_nil, hrun]
    exact ⟨hok, hpre⟩
  | cons k ks =>
    obtain ⟨he, hs1⟩ := hbd nofun
    rcases boundary_fails dec (sealFrom enc junk c (pre ++ post)) (c + pre.length) rest k haff with
      ⟨e, h1, h2⟩ | hf
    · right; left
      exact ⟨rs1, k, ks, res1, s1, hsplit, hrun, hok, he, e, by rw [hs1]; exact h1, h2⟩
    · right; right; exact hf

/-- …and the failure is reached: with positive read sizes and more reads than `pre` has bytes,
the schedule does run into the failing `Read` (second or third alternative above). -/
theorem tamper_detected_reached (hc : Correct enc dec) (hl : LenOK enc) (c : Nat)
    (pre post : List Bytes) (rest : Bytes)
    (hb : ∀ ch ∈ pre, 0 < ch.length ∧ ch.length ≤ dataMaxSize) (hroom : c + pre.length ≤ maxU64)
    (haff : (c + pre.length, rest.take sealedFrameSize) ∉ sealFrom enc junk c (pre ++ post))
    (rs : List Nat) (hpos : ∀ k ∈ rs, 0 < k) (hlong : pre.flatten.length < rs.length) :
    (∃ r ∈ (runReads dec ⟨[], c, wireOf (sealFrom enc junk c pre) ++ rest⟩ rs).1, isOk r = false) ∨
    Nonempty (Forgery dec (sealFrom enc junk c (pre ++ post))) := by
  have hon : Hon enc junk ⟨[], c, wireOf (sealFrom enc junk c pre) ++ rest⟩ pre rest :=
    ⟨rfl, hb, hroom⟩
  obtain ⟨rs1, rs2, res1, s1, hsplit, hrun, hok, hlen, hpre, hbd⟩ :=
    honest_run enc dec junk hc hl rest rs _ _ hon
  simp only [List.nil_append] at hpre hbd
  have hl1 := hlen (fun k hk => hpos k (by rw [hsplit]; simp [hk]))
  have hshort := hpre.length_le
  cases rs2 with
  | nil => simp only [List.append_nil] at hsplit; subst hsplit; omega
  | cons k ks =>
    obtain ⟨_, hs1⟩ := hbd nofun
    rcases boundary_fails dec (sealFrom enc junk c (pre ++ post)) (c + pre.length) rest k haff with
      ⟨e, h1, _⟩ | hf
    · left
      subst hsplit
      rw [runReads_append, hrun]
      simp only [runReads_cons]
      refine ⟨(SecretFrames.read dec s1 k).2, by simp, ?_⟩
      rw [hs1, h1]; rfl
    · exact Or.inr hf

/-- `Write` on a working conn with room below `MaxUint64`: everything is reported written, the
frames are the sealed chunks under consecutive counters. -/
theorem write_complete (c : Nat) (data : Bytes) (hroom : c + data.length ≤ maxU64) :
    write enc junk c data true =
      ⟨c + (chunks data).length, sealFrom enc junk c (chunks data), data.length, .ok⟩ := by
  have hcnt : (chunks data).length ≤ data.length := by simpa using allChunks_count [data]
  exact write_ok enc junk c data (by omega)

/-- `Write` on a failing conn: nothing is on the wire, `n = 0`, and the counter has moved past
the sealed frame (the frame's counter is burnt, not reused). -/
theorem write_conn_error (c : Nat) (data : Bytes) (hd : data ≠ []) (hc : c < maxU64) :
    let r := write enc junk c data false
    r.outcome = .connErr ∧ r.frames = [] ∧ r.n = 0 ∧ r.nonce = c + 1 := by
  have hpos : 0 < data.length := List.length_pos_iff.mpr hd
  unfold write
  cases hlen : data.length with
  | zero => omega
  | succ f => simp [writeLoop, hlen, incrNonce_some _ hc]

/-- edit class "truncation": a block shorter than a sealed frame (or absent) is never what the
sender sealed -/
theorem truncated_block_is_affected (hl : LenOK enc) (c n : Nat) (all : List Bytes)
    (hb : ∀ ch ∈ all, ch.length ≤ dataMaxSize) (rest : Bytes) (hshort : rest.length < sealedFrameSize) :
    (n, rest.take sealedFrameSize) ∉ sealFrom enc junk c all := by
  intro hmem
  obtain ⟨i, hi, _, he⟩ := (mem_sealFrom enc junk all c _ _).mp hmem
  have h1 := congrArg List.length he
  rw [hl, mkFrame_length _ _ (hb _ (List.getElem_mem hi))] at h1
  simp only [List.length_take] at h1
  have : totalFrameSize + aeadSizeOverhead = sealedFrameSize := rfl
  omega

/-- edit classes "change", "reordering", "replay", "removal": the block at the reader's position
`j` is not byte-for-byte the frame the sender sealed as number `j` -/
theorem changed_block_is_affected (c j : Nat) (all : List Bytes) (hj : j < all.length) (rest : Bytes)
    (hne : rest.take sealedFrameSize ≠ enc (c + j) (mkFrame all[j] (junk (c + j)))) :
    (c + j, rest.take sealedFrameSize) ∉ sealFrom enc junk c all := by
  intro hmem
  obtain ⟨i, hi, h1, he⟩ := (mem_sealFrom enc junk all c _ _).mp hmem
  have : i = j := by omega
  subst this
  exact hne he

/-! Non-vacuity: a toy AEAD (append 16 copies of the counter's low byte; open checks them)
satisfies `Correct` and `LenOK`. -/
def toyEnc (n : Nat) (m : Bytes) : Bytes := m ++ List.replicate 16 (UInt8.ofNat n)
def toyDec (n : Nat) (c : Bytes) : Option Bytes :=
  if c.drop (c.length - 16) = List.replicate 16 (UInt8.ofNat n) then some (c.take (c.length - 16)) else none

example : Correct toyEnc toyDec ∧ LenOK toyEnc := by
  refine ⟨?_, ?_⟩
  · intro n m; simp [toyEnc, toyDec]
  · intro n m; simp [toyEnc]; decide

/-- the hypothesis of `tamper_detected` is satisfiable: a stream cut after its first frame -/
example : (3 + [[1]].length, ([] : Bytes).take sealedFrameSize) ∉
    sealFrom toyEnc (fun _ => []) 3 ([[1]] ++ [[2, 2]]) :=
  truncated_block_is_affected toyEnc (fun _ => []) (by intro n m; simp [toyEnc]; decide) 3 _ _
    (by intro ch h; simp at h; rcases h with rfl | rfl <;> decide) [] (by decide)

end frames

/-! ## Handshake (symbolic) -/
section sts
open Tmv.Sts
variable (lt : Point → Point → Bool)

theorem sortP_pair (a b x y : Point) (h : sortP lt a b = sortP lt x y) :
    (a = x ∧ b = y) ∨ (a = y ∧ b = x) := by
  unfold sortP at h
  split at h <;> split at h <;> simp only [Prod.mk.injEq] at h
  · exact Or.inl h
  · exact Or.inr h
  · exact Or.inr ⟨h.2, h.1⟩
  · exact Or.inl ⟨h.2, h.1⟩

/-- every signature the adversary can put into a deliverable frame is one it owns or one an
honest session of the trace made over that session's challenge -/
theorem deliverable_sig (T : List Session) (env : Sealed) (h : Deliverable lt T env) (σ : Sig)
    (hs : env.payload.sig = some σ) : SigKnown lt T σ := by
  rcases h with ⟨s, hsT, hout⟩ | ⟨_, hk⟩
  · unfold Session.authOut at hout
    split at hout
    · rename_i c k hc _
      have := Option.some.inj hout
      subst this
      simp only [Option.some.injEq] at hs
      subst hs
      exact Or.inr ⟨s, hsT, c, hc, rfl⟩
    · cases hout
  · exact hk σ hs

theorem finish_ok (s : Session) (env : Sealed) (k : Key) (h : s.finish lt (some env) = .ok k) :
    ∃ c, s.chal lt = some c ∧ s.recvKey lt = some env.k ∧ env.payload.key = k ∧ (∀ i, k ≠ .other i) ∧
      env.payload.sig = some ⟨k, c⟩ := by
  unfold Session.finish at h
  split at h
  · rename_i c rk hc hrk
    simp only at h
    split at h
    · cases h
    · rename_i hk
      split at h
      · cases h
      · rename_i hno
        split at h
        · rename_i hsig
          obtain rfl : env.payload.key = k := by simpa using h
          exact ⟨c, hc, by rw [hrk, Decidable.not_not.mp hk], rfl, hno, hsig⟩
        · cases h
  · cases h

/-- `auth_binds_identity_symbolic` (partial: symbolic crypto; and see `reflection_accepted`).
If an honest session `s` completes with an HONEST remote key `p` on a frame the adversary could
deliver, then either `p` is `s`'s own key and the signature is `s`'s own (reflection — the link
is then refused by `transport.upgrade`, see `upgrade_excludes_reflection`), or an honest session
`s'` of `p` exists in the trace that ran over the SAME ephemeral exchange: `s` received `s'`'s
ephemeral and `s'` received `s`'s. Substituted ephemerals, signatures replayed from other
sessions and small-order points therefore never yield an honest identity. Assumes: free term
algebra (transcript injectivity, ideal signatures), fresh ephemerals (`hfresh`). -/
theorem auth_binds_identity_symbolic (T : List Session)
    (hfresh : ∀ s1 ∈ T, ∀ s2 ∈ T, s1.eph = s2.eph → s1 = s2)
    (s : Session) (hs : s ∈ T) (env : Sealed) (hd : Deliverable lt T env) (p : Nat)
    (hacc : s.finish lt (some env) = .ok (.honest p)) :
    (p = s.owner) ∨
    ∃ s' ∈ T, s'.owner = p ∧ s.rem = .honest s'.eph ∧ s'.rem = .honest s.eph := by
  obtain ⟨c, hc, _, _, _, hsig⟩ := finish_ok lt s env _ hacc
  rcases deliverable_sig lt T env hd _ hsig with hadv | ⟨s', hs'T, c', hc', hσ⟩
  · exact absurd rfl (hadv p)
  · simp only [Sig.mk.injEq, Key.honest.injEq] at hσ
    obtain ⟨hown, rfl⟩ := hσ
    -- both challenges are over the same sorted ephemeral pair
    obtain ⟨d1, _, rfl⟩ := Option.map_eq_some_iff.mp hc
    obtain ⟨d2, _, hcc⟩ := Option.map_eq_some_iff.mp hc'
    simp only [Chal.mk.injEq] at hcc
    have hpair : sortP lt s.loc s.rem = sortP lt s'.loc s'.rem :=
      (Prod.ext hcc.1 hcc.2.1).symm
    rcases sortP_pair lt _ _ _ _ hpair with ⟨h1, _⟩ | ⟨h1, h2⟩
    · left
      obtain rfl := hfresh s hs s' hs'T (Point.honest.inj h1)
      exact hown
    · right
      exact ⟨s', hs'T, hown.symm, h2, h1.symm⟩

/-- The reflection is real (witness; replayed on the real code by the stream's `reflect-sig`
script, known finding `secretconn.handshake.reflected-own-signature`): a party that runs the DH
with its own ephemeral can open the node's auth frame and send the node's own key and signature
back; the node completes with its OWN key as remote key although the counterparty does not hold
it. -/
theorem reflection_accepted :
    let s : Session := ⟨0, 10, .adv 5⟩
    let lt0 : Point → Point → Bool := fun _ _ => true
    ∃ env, Deliverable lt0 [s] env ∧ s.finish lt0 (some env) = .ok (.honest s.owner) := by
  refine ⟨⟨⟨.ha 10 5, false⟩, ⟨.honest 0, some ⟨.honest 0, ⟨.honest 10, .adv 5, .ha 10 5⟩⟩⟩⟩, ?_, ?_⟩
  · right
    refine ⟨trivial, ?_⟩
    intro σ hσ
    right
    refine ⟨_, List.mem_singleton.mpr rfl, ⟨.honest 10, .adv 5, .ha 10 5⟩, by decide, ?_⟩
    simp only [Option.some.injEq] at hσ
    exact hσ.symm
  · decide

/-- The full-strength clause at the level of `MakeSecretConnection`: an accepted honest identity
always has a matching honest session over the same ephemeral exchange. -/
def AuthFull : Prop :=
  ∀ (lt : Point → Point → Bool) (T : List Session),
    (∀ s1 ∈ T, ∀ s2 ∈ T, s1.eph = s2.eph → s1 = s2) →
    ∀ s ∈ T, ∀ env, Deliverable lt T env → ∀ p, s.finish lt (some env) = .ok (.honest p) →
      ∃ s' ∈ T, s'.owner = p ∧ s.rem = .honest s'.eph ∧ s'.rem = .honest s.eph

/-- It is false of the model (and of the code: known finding
`secretconn.handshake.reflected-own-signature`): the reflected own signature is accepted. -/
theorem auth_binds_identity_fails : ¬ AuthFull := by
  intro h
  obtain ⟨env, hd, hacc⟩ := reflection_accepted
  have := h (fun _ _ => true) [⟨0, 10, .adv 5⟩] (by simp) ⟨0, 10, .adv 5⟩ (by simp) env hd 0 hacc
  obtain ⟨s', _, _, h1, _⟩ := this
  cases h1

/-- What holds: for every accepted honest identity OTHER than the node's own the matching
session exists (the hypothesis the proof forces is `p ≠ s.owner`; `transport.upgrade` enforces
it, see `upgrade_auth`). -/
theorem auth_binds_identity_partial (lt : Point → Point → Bool) (T : List Session)
    (hfresh : ∀ s1 ∈ T, ∀ s2 ∈ T, s1.eph = s2.eph → s1 = s2)
    (s : Session) (hs : s ∈ T) (env : Sealed) (hd : Deliverable lt T env) (p : Nat)
    (hacc : s.finish lt (some env) = .ok (.honest p)) (hself : p ≠ s.owner) :
    ∃ s' ∈ T, s'.owner = p ∧ s.rem = .honest s'.eph ∧ s'.rem = .honest s.eph := by
  rcases auth_binds_identity_symbolic lt T hfresh s hs env hd p hacc with h | h
  · exact absurd h hself
  · exact h

/-! ### Several sessions of one process: freshness as part of the run -/

theorem mkRunFrom_eph : ∀ (specs : List (Nat × Point)) (i : Nat),
    (mkRunFrom i specs).map (·.eph) = List.range' i specs.length := by
  intro specs
  induction specs with
  | nil => intro i; simp [mkRunFrom]
  | cons x xs ih => intro i; obtain ⟨o, r⟩ := x; simp [mkRunFrom, ih, List.range'_succ]

/-- Freshness as part of the run: in a run where every started handshake draws the next scalar
(`mkRun`), all honest ephemerals are distinct — the hypothesis of the theorems below is exactly
what the stream checks on the cleartext first messages (`eph=distinct`). -/
theorem mkRun_ephDistinct (specs : List (Nat × Point)) : EphDistinct (mkRun specs) := by
  unfold EphDistinct mkRun
  rw [mkRunFrom_eph]
  exact List.nodup_range'

theorem nodup_map_index {α β : Type} (f : α → β) : ∀ (l : List α), (l.map f).Nodup →
    ∀ (i j : Nat) (a b : α), l[i]? = some a → l[j]? = some b → f a = f b → i = j := by
  intro l hn i j a b hi hj hf
  have hlt : i < (l.map f).length := by
    rw [List.length_map]; exact (List.getElem?_eq_some_iff.mp hi).1
  refine (List.getElem?_inj hlt hn).mp ?_
  rw [List.getElem?_map, List.getElem?_map, hi, hj, Option.map_some, Option.map_some, hf]

theorem ephDistinct_fresh (T : List Session) (hd : EphDistinct T) :
    ∀ s1 ∈ T, ∀ s2 ∈ T, s1.eph = s2.eph → s1 = s2 := by
  intro s1 h1 s2 h2 he
  obtain ⟨i, hi⟩ := List.getElem?_of_mem h1
  obtain ⟨j, hj⟩ := List.getElem?_of_mem h2
  have := nodup_map_index (fun x : Session => x.eph) T hd i j s1 s2 hi hj he
  subst this
  rw [hi] at hj; exact Option.some.inj hj

/-- `auth_binds_identity_partial` over a run whose ephemerals are observed distinct. -/
theorem auth_binds_identity_run (lt : Point → Point → Bool) (T : List Session) (hd : EphDistinct T)
    (s : Session) (hs : s ∈ T) (env : Sealed) (hdel : Deliverable lt T env) (p : Nat)
    (hacc : s.finish lt (some env) = .ok (.honest p)) (hself : p ≠ s.owner) :
    ∃ s' ∈ T, s'.owner = p ∧ s.rem = .honest s'.eph ∧ s'.rem = .honest s.eph :=
  auth_binds_identity_partial lt T (ephDistinct_fresh T hd) s hs env hdel p hacc hself

/-- Injective agreement (no replay across sessions): with distinct ephemerals, two different
sessions of the run (indices `i ≠ j`) are never served by one and the same peer session — a
recorded peer half authenticates at most the one session it was run with. -/
theorem injective_agreement (T : List Session) (hd : EphDistinct T) (i j i' j' : Nat)
    (si sj pi pj : Session) (hi : T[i]? = some si) (hj : T[j]? = some sj)
    (hi' : T[i']? = some pi) (hj' : T[j']? = some pj) (hij : i ≠ j)
    (hmi : pi.rem = .honest si.eph) (hmj : pj.rem = .honest sj.eph) : i' ≠ j' := by
  intro h
  subst h
  rw [hi'] at hj'
  have := Option.some.inj hj'
  subst this
  rw [hmi] at hmj
  exact hij (nodup_map_index (fun x : Session => x.eph) T hd i j si sj hi hj (Point.honest.inj hmj))

/-- A handshake whose (fresh) ephemeral no honest session ever received accepts no foreign honest
identity, whatever recorded or fabricated frame it is handed: replaying the remote side of an
earlier session into a later session of the same node fails. -/
theorem replay_into_fresh_session_fails (lt : Point → Point → Bool) (T : List Session)
    (hd : EphDistinct T) (s : Session) (hs : s ∈ T)
    (hunseen : ∀ y ∈ T, y.rem ≠ .honest s.eph)
    (env : Sealed) (hdel : Deliverable lt T env) (p : Nat) (hself : p ≠ s.owner) :
    s.finish lt (some env) ≠ .ok (.honest p) := by
  intro hacc
  obtain ⟨s', hs', _, _, h2⟩ := auth_binds_identity_run lt T hd s hs env hdel p hacc hself
  exact hunseen s' hs' h2

/-- The freshness hypothesis is necessary (this is the behaviour of an implementation that
recycles ephemeral key pairs between handshakes): in a run where session 2 of node 0 shows the
ephemeral of its session 0 again, the recorded peer half of session 0 is accepted by session 2
— one peer session serves two sessions, with no key held by the replaying party. -/
theorem eph_reuse_allows_replay :
    let T : List Session := [⟨0, 5, .honest 6⟩, ⟨1, 6, .honest 5⟩, ⟨0, 5, .honest 6⟩]
    let lt0 : Point → Point → Bool := fun x y => match x, y with
      | .honest i, .honest j => i < j | _, _ => false
    ¬ EphDistinct T ∧
    ∃ x s env, T[1]? = some x ∧ T[2]? = some s ∧ x.authOut lt0 = some env ∧
      Deliverable lt0 T env ∧ s.finish lt0 (some env) = .ok (.honest 1) := by
  refine ⟨by decide, ⟨1, 6, .honest 5⟩, ⟨0, 5, .honest 6⟩, _, rfl, rfl, rfl, ?_, by decide⟩
  exact Or.inl ⟨⟨1, 6, .honest 5⟩, by simp, rfl⟩

/-- substituted ephemeral: whatever the adversary then delivers, no foreign honest identity -/
theorem substituted_ephemeral_fails (T : List Session)
    (hfresh : ∀ s1 ∈ T, ∀ s2 ∈ T, s1.eph = s2.eph → s1 = s2)
    (s : Session) (hs : s ∈ T) (a : Nat) (hrem : s.rem = .adv a) (env : Sealed)
    (hd : Deliverable lt T env) (p : Nat) (hacc : s.finish lt (some env) = .ok (.honest p)) :
    p = s.owner := by
  rcases auth_binds_identity_symbolic lt T hfresh s hs env hd p hacc with h | ⟨s', _, _, h1, _⟩
  · exact h
  · rw [hrem] at h1; cases h1

/-- small-order point: the handshake stops, whatever is delivered -/
theorem low_order_fails (s : Session) (k : Nat) (hrem : s.rem = .lowOrder k) (inp : Option Sealed) :
    s.finish lt inp = .lowOrder := by
  simp [Session.finish, Session.chal, Session.recvKey, hrem, dh]

/-- a key of another type is refused even with a valid signature -/
theorem wrong_key_type_fails (s : Session) (env : Sealed) (i : Nat) (hk : env.payload.key = .other i) :
    ∀ k, s.finish lt (some env) ≠ .ok k := by
  intro k h
  obtain ⟨_, _, _, rfl, hno, _⟩ := finish_ok lt s env k h
  exact hno i hk

/-- Two honest sessions that received each other's ephemerals (with a byte order that is total
and asymmetric on distinct encodings) compute the same challenge, and each one's send key is the
other's receive key; within a session the two direction keys differ — so equal counters in the
two directions never meet under one key. -/
theorem handshake_keys_agree (hsym : ∀ x y : Point, x ≠ y → lt y x = !lt x y)
    (a b : Session) (hne : a.eph ≠ b.eph) (ha : a.rem = .honest b.eph) (hb : b.rem = .honest a.eph) :
    a.chal lt = b.chal lt ∧ (a.chal lt).isSome ∧ a.sendKey lt = b.recvKey lt ∧
      a.recvKey lt = b.sendKey lt ∧ a.sendKey lt ≠ a.recvKey lt := by
  have hpne : (Point.honest a.eph) ≠ .honest b.eph := by
    intro h; exact hne (Point.honest.inj h)
  have hs := hsym _ _ hpne
  have hsort : sortP lt (.honest b.eph) (.honest a.eph) = sortP lt (.honest a.eph) (.honest b.eph) := by
    unfold sortP
    cases h : lt (.honest a.eph) (.honest b.eph) <;> simp [h, hs]
  have hmin : min b.eph a.eph = min a.eph b.eph := Nat.min_comm _ _
  have hmax : max b.eph a.eph = max a.eph b.eph := Nat.max_comm _ _
  simp only [Session.chal, Session.sendKey, Session.recvKey, Session.locIsLeast, Session.loc, ha, hb, dh,
    Option.map_some, hsort, hmin, hmax, Option.isSome_some, Option.some.injEq, AeadKey.mk.injEq,
    true_and, ne_eq]
  unfold sortP
  cases h : lt (.honest a.eph) (.honest b.eph) <;> simp [hpne, hpne.symm]

/-- Handshake and data phase together: two honest sessions that received each other's ephemerals
end up with matching direction keys, so whatever one end writes (any write sizes, from any
counter `c` — the auth frame used counter 0 — with room below 2^64) the other end reads back
(any read sizes) as a prefix, then all of it, then `io.EOF`; for an AEAD family `E k`/`D k` that
is correct and 16-byte expanding under every key. -/
theorem link_roundtrip (lt : Point → Point → Bool) (hsym : ∀ x y : Point, x ≠ y → lt y x = !lt x y)
    (E : AeadKey → Nat → Bytes → Bytes) (D : AeadKey → Nat → Bytes → Option Bytes)
    (hc : ∀ k, Correct (E k) (D k)) (hl : ∀ k, LenOK (E k)) (junk : Nat → Bytes)
    (a b : Session) (hne : a.eph ≠ b.eph) (ha : a.rem = .honest b.eph) (hb : b.rem = .honest a.eph)
    (c : Nat) (ws : List Bytes) (rs : List Nat) (hroom : c + ws.flatten.length ≤ maxU64) :
    ∃ ks kr, a.sendKey lt = some ks ∧ b.recvKey lt = some kr ∧
      let sent := (writeAll (E ks) junk c (ws.map (·, true))).2
      let res := (runReads (D kr) ⟨[], c, wireOf sent⟩ rs).1
      okBytes res <+: ws.flatten ∧ (∀ r ∈ res, isOk r = true ∨ r = .error .eof) ∧
      (.error .eof ∈ res → okBytes res = ws.flatten) ∧
      ((∀ k ∈ rs, 0 < k) → ws.flatten.length < rs.length → okBytes res = ws.flatten) := by
  obtain ⟨_, _, hk, _, _⟩ := handshake_keys_agree lt hsym a b hne ha hb
  have hsome : ∃ ks, a.sendKey lt = some ks := by
    simp [Session.sendKey, ha, dh]
  obtain ⟨ks, hks⟩ := hsome
  refine ⟨ks, ks, hks, by rw [← hk]; exact hks, ?_⟩
  exact stream_roundtrip (E ks) (D ks) junk (hc ks) (hl ks) c ws rs hroom

/-! ### `transport.upgrade`: direction, dialed ID, self-reported ID -/

/-- An admitted peer's presented identity is the address of the key that completed the
handshake: `upgrade` admits a link only if the self-reported NodeInfo ID is that key's ID, in
BOTH directions; when the link was dialed, only if the dialed address carries an ID and it is
that key's ID (an ID-less dialed address admits nobody); and never the node's own key. -/
theorem admitted_identity (own conn nodeInfo : Key) (d : Dialed)
    (h : upgradeD own d conn nodeInfo = .ok) :
    nodeInfo = conn ∧ conn ≠ own ∧ (∀ id, d = .outbound id → id = some conn) := by
  have key : ∀ (pre : Bool), (if pre = true then UpVerdict.dialedMismatch
        else if conn ≠ nodeInfo then .nodeInfoMismatch else if own = nodeInfo then .self else .ok) = .ok →
      pre = false ∧ nodeInfo = conn ∧ conn ≠ own := by
    intro pre hp
    cases pre with
    | true => simp at hp
    | false =>
      by_cases h2 : conn = nodeInfo
      · by_cases h3 : own = nodeInfo
        · simp [h2, h3] at hp
        · exact ⟨rfl, h2.symm, by rw [h2]; exact fun e => h3 e.symm⟩
      · simp [h2] at hp
  cases d with
  | inbound =>
    obtain ⟨_, h2, h3⟩ := key false (by simpa [upgradeD] using h)
    exact ⟨h2, h3, fun id hd => by cases hd⟩
  | outbound id =>
    obtain ⟨h1, h2, h3⟩ := key (decide (id ≠ some conn)) (by simpa [upgradeD] using h)
    refine ⟨h2, h3, ?_⟩
    intro id' hd
    cases hd
    simpa using h1

/-- completeness: a rule-following peer (NodeInfo ID = its key's ID, dialed under that ID or
accepted) that is not the node itself is admitted -/
theorem honest_peer_admitted (own conn : Key) (hne : own ≠ conn) :
    upgradeD own .inbound conn conn = .ok ∧ upgradeD own (.outbound (some conn)) conn conn = .ok := by
  simp [upgradeD, hne]

/-- in the ID-bearing / inbound cases `upgradeD` is `upgrade` -/
theorem upgradeD_eq_upgrade (own conn nodeInfo : Key) (dialed : Option Key) :
    upgrade own dialed conn nodeInfo =
      upgradeD own (match dialed with | none => .inbound | some k => .outbound (some k)) conn nodeInfo := by
  cases dialed with
  | none => simp [upgrade, upgradeD]
  | some k =>
    by_cases h : k = conn
    · subst h; simp [upgrade, upgradeD]
    · have h' : ¬ (some k = some conn) := fun e => h (Option.some.inj e)
      simp [upgrade, upgradeD, h, h']

/-- `transport.upgrade` accepts only if the authenticated key is the dialed one (when dialing),
equals the self-reported one and is not the node's own: the reflected link is refused. -/
theorem upgrade_excludes_reflection (own conn nodeInfo : Key) (dialed : Option Key)
    (h : upgrade own dialed conn nodeInfo = .ok) :
    conn ≠ own ∧ conn = nodeInfo ∧ (∀ d, dialed = some d → conn = d) := by
  rw [upgradeD_eq_upgrade] at h
  obtain ⟨h1, h2, h3⟩ := admitted_identity own conn nodeInfo _ h
  refine ⟨h2, h1.symm, fun d hd => ?_⟩
  subst hd
  exact (Option.some.inj (h3 _ rfl)).symm

/-- Mutual authentication at the transport level: a session that completes with an honest key
which then passes `upgrade`'s checks has a matching honest session of that key over the same
ephemeral exchange (the reflection alternative is gone). -/
theorem upgrade_auth (T : List Session)
    (hfresh : ∀ s1 ∈ T, ∀ s2 ∈ T, s1.eph = s2.eph → s1 = s2)
    (s : Session) (hs : s ∈ T) (env : Sealed) (hd : Deliverable lt T env) (p : Nat)
    (hacc : s.finish lt (some env) = .ok (.honest p)) (dialed : Option Key) (nodeInfo : Key)
    (hup : upgrade (.honest s.owner) dialed (.honest p) nodeInfo = .ok) :
    ∃ s' ∈ T, s'.owner = p ∧ s.rem = .honest s'.eph ∧ s'.rem = .honest s.eph := by
  rcases auth_binds_identity_symbolic lt T hfresh s hs env hd p hacc with h | h
  · have := (upgrade_excludes_reflection _ _ _ _ hup).1
    exact absurd (by rw [h]) this
  · exact h

/-- non-vacuity: an undisturbed pair completes, each with the other's key -/
example :
    let a : Session := ⟨0, 10, .honest 11⟩
    let b : Session := ⟨1, 11, .honest 10⟩
    let lt0 : Point → Point → Bool := fun x y => match x, y with
      | .honest i, .honest j => i < j | _, _ => false
    a.finish lt0 (b.authOut lt0) = .ok (.honest 1) ∧ b.finish lt0 (a.authOut lt0) = .ok (.honest 0) := by
  decide

/-- the hypotheses of `auth_binds_identity_symbolic` are satisfiable by an undisturbed pair (fresh
ephemerals, the peer's own frame is deliverable, the session accepts) -/
example :
    let a : Session := ⟨0, 10, .honest 11⟩
    let b : Session := ⟨1, 11, .honest 10⟩
    let lt0 : Point → Point → Bool := fun x y => match x, y with
      | .honest i, .honest j => i < j | _, _ => false
    (∀ s1 ∈ [a, b], ∀ s2 ∈ [a, b], s1.eph = s2.eph → s1 = s2) ∧
    (∃ env, b.authOut lt0 = some env ∧ Deliverable lt0 [a, b] env ∧
      a.finish lt0 (some env) = .ok (.honest 1)) := by
  refine ⟨by decide, ?_⟩
  refine ⟨_, rfl, Or.inl ⟨⟨1, 11, .honest 10⟩, by simp, rfl⟩, by decide⟩

end sts
end Tmv.Props.C16
