import Tmv.Lemmas.ConsChain
import Tmv.Lemmas.ConsJust
import Tmv.Lemmas.ConsLock2
import Tmv.Lemmas.ConsGuard
import Tmv.Lemmas.ConsHeld
import Tmv.Lemmas.ConsMoves
import Tmv.Lemmas.CommitGlue
import Tmv.Lemmas.ConsCommit
import Tmv.Lemmas.ConsSched
/-! # C02 — a correct validator never equivocates and every vote it casts is justified

Theorems about the node model `Tmv.Cons` (Tmv/Model/Cons.lean), which follows
`consensus/state.go`, `types/vote_set.go`, `consensus/types/height_vote_set.go` and the signer's
`privval/file.go` statement by statement and is compared with the real code on every run.

All statements quantify over EVERY input list `is` (proposals, block arrivals, votes from any
validator through any peer — including what only a >1/3 coalition can produce —, majority claims,
timeouts, txs-available) and every configuration (number of validators, powers, proposer schedule,
block validity, own index). `run c .init is` is the node after the whole list; since `is` is
arbitrary, each statement holds after every prefix, i.e. at every moment of every history.

`NoFutureTimeout c s is` says that no timeout in `is` names a round the node has not reached when it
is delivered. The real ticker only fires timeouts the node scheduled, and it schedules them for rounds
it is in (`scheduleTimeout` is called with `cs.Round` or the round being entered), so this is what
"timeouts delivered to one validator" can be. `handleTimeout` itself would act on a timeout of a
future round (`enterPrevote(height, round)` signs with `cs.Round` before the deferred round update):
`state_machine_alone_needs_reached_round` below exhibits the double prevote this produces when the
signer signs anything — with the FilePV signer `one_per_step` needs no such hypothesis. -/
namespace Tmv.Props.C02
open Tmv.Cons

/-- **one_per_step** (second line of defence, `privval/file.go` CheckHRS + same-HRS comparison):
for every configuration whose signer is a FilePV and EVERY input list — no hypothesis at all, not
even on timeouts — the node never releases two different votes of one type for one round, nor two
different proposals for one round. -/
theorem one_per_step (c : Cfg) (hc : c.checkHRS = true) (is : List Input) :
    (∀ t r b b', Output.signVote t r b ∈ (run c .init is).out →
        Output.signVote t r b' ∈ (run c .init is).out → b = b') ∧
    (∀ r b pol b' pol', Output.signProposal r b pol ∈ (run c .init is).out →
        Output.signProposal r b' pol' ∈ (run c .init is).out → b = b' ∧ pol = pol') := by
  have h : SInv (run c .init is).out (run c .init is).lss := run_inv hc is SInv.nil
  constructor
  · intro t r b b' h₁ h₂
    have := h.uniq _ h₁ _ h₂ r t.code (.vote b) (.vote b') rfl rfl
    cases this; rfl
  · intro r b pol b' pol' h₁ h₂
    have := h.uniq _ h₁ _ h₂ r 1 (.prop b pol) (.prop b' pol') rfl rfl
    cases this; exact ⟨rfl, rfl⟩

/-- **one_per_step_by_guards** (first line of defence, the step guards at the top of every `enterX`):
for EVERY configuration — whatever the signer does, including one that signs anything — and every
input list in which no timeout names a round the node has not reached, the node signs at most one
proposal, one prevote and one precommit per round. (`state_machine_alone_needs_reached_round` shows
that for this line of defence the hypothesis on timeouts cannot be dropped.) -/
theorem one_per_step_by_guards (c : Cfg) (is : List Input) (hnf : NoFutureTimeout c .init is) :
    (∀ t r b b', Output.signVote t r b ∈ (run c .init is).out →
        Output.signVote t r b' ∈ (run c .init is).out → b = b') ∧
    (∀ r b pol b' pol', Output.signProposal r b pol ∈ (run c .init is).out →
        Output.signProposal r b' pol' ∈ (run c .init is).out → b = b' ∧ pol = pol') := by
  have h : G (run c .init is) := run_G is hnf init_G
  constructor
  · exact fun t r b b' h₁ h₂ => h.vote_uniq h₁ h₂
  · intro r b pol b' pol' h₁ h₂
    have := h.uniq _ h₁ _ h₂ Step.propose.rank rfl rfl rfl
    cases this; exact ⟨rfl, rfl⟩

/-- **precommit_justified**: every precommit for a block `b` the node signs in round `r` is backed
by its round-`r` prevote set: that set has recorded a +2/3 majority for exactly `b` (the first majority
of a round is never replaced — `Tmv.Cons.Stable`), and the prevotes it holds for `b` carry more than
two thirds of the total power (`3·sum > 2·total`). Any signer (FilePV or one that signs anything). -/
theorem precommit_justified (c : Cfg) (is : List Input) (hnf : NoFutureTimeout c .init is) :
    ∀ r b, Output.signVote .precommit r (some b) ∈ (run c .init is).out →
      ∃ vs, (run c .init is).votes.prevotes (r : Int) = some vs ∧ vs.maj23 = some (some b) ∧
        2 * c.total < 3 * vs.blockSum (some b) := by
  intro r b h
  have hm : maj23Of ((run c .init is).votes.prevotes (r : Int)) = some (some b) :=
    run_J is hnf (by intro r b h; simp [NodeState.init] at h) r b h
  have hq : QH c (run c .init is).votes := run_Q is (QH.init c)
  cases hv : (run c .init is).votes.prevotes (r : Int) with
  | none => rw [hv] at hm; simp [maj23Of] at hm
  | some vs =>
    rw [hv] at hm
    have hm' : vs.maj23 = some (some b) := by simpa [maj23Of] using hm
    exact ⟨vs, rfl, hm', (quorum_iff c _).1 (hq.getVoteSet (t := .prevote) hv _ hm')⟩

/-- **prevote_respects_lock**: if the node signed a precommit for block `b` in round `r` and a
prevote for anything else (`nil` included) in a later round `r'`, then a +2/3 prevote majority for a
single value other than `b` (nil included) is recorded for some round `r''` with `r < r'' ≤ r'`.
(Signed votes carry non-decreasing rounds — theorem `votes_in_reached_rounds` below — so "a prevote of a
later round" is a later prevote; and because the statement holds after every prefix of the inputs,
the majority is recorded no later than the input during which the prevote was signed.) -/
theorem prevote_respects_lock (c : Cfg) (is : List Input) (hnf : NoFutureTimeout c .init is) :
    ∀ r b r' x, Output.signVote .precommit r (some b) ∈ (run c .init is).out →
      Output.signVote .prevote r' x ∈ (run c .init is).out → r < r' → x ≠ some b →
      ∃ (r'' : Nat) (y : Bid), r < r'' ∧ r'' ≤ r' ∧ y ≠ some b ∧
        maj23Of ((run c .init is).votes.prevotes (r'' : Int)) = some y := by
  intro r b r' x h1 h2 h3 h4
  obtain ⟨r'', y, a, b', c', d⟩ := (run_AT is hnf init_A init_T).2.p r b r' x h1 h2 h3 h4
  exact ⟨r'', y, by omega, b', c', d⟩

/-- **locked_until_polka**: after signing a precommit for `b` in round `r` the node is still locked
on `b` (with `LockedRound ≥ r`), unless a +2/3 prevote majority for something else is recorded for a
round in `(r, Round]` — the two unlock rules of `addVote` / `enterPrecommit`. -/
theorem locked_until_polka (c : Cfg) (is : List Input) (hnf : NoFutureTimeout c .init is) :
    ∀ r b, Output.signVote .precommit r (some b) ∈ (run c .init is).out →
      ((run c .init is).lockedBlock = some b ∧ (r : Int) ≤ (run c .init is).lockedRound) ∨
      ∃ (r'' : Nat) (y : Bid), r < r'' ∧ r'' ≤ (run c .init is).round ∧ y ≠ some b ∧
        maj23Of ((run c .init is).votes.prevotes (r'' : Int)) = some y := by
  intro r b h
  rcases (run_AT is hnf init_A init_T).2.k r b h with hl | ⟨r'', y, a, b', c', d⟩
  · exact Or.inl hl
  · exact Or.inr ⟨r'', y, by omega, b', c', d⟩

/-- signed votes are for rounds the node has reached -/
theorem votes_in_reached_rounds (c : Cfg) (is : List Input) (hnf : NoFutureTimeout c .init is) :
    ∀ t r x, Output.signVote t r x ∈ (run c .init is).out → r ≤ (run c .init is).round :=
  (run_AT is hnf init_A init_T).2.a4

/-- **lock_monotone** (state form, EVERY input list, no hypothesis): `LockedRound` never exceeds the
round the node is in, and equals it only from the precommit step on (it is set to the current round by
`enterPrecommit` and to -1 by the unlock rules; nothing else writes it). -/
theorem lock_monotone (c : Cfg) (is : List Input) :
    (run c .init is).lockedRound ≤ ((run c .init is).round : Int) ∧
    ((run c .init is).lockedRound = ((run c .init is).round : Int) → 6 ≤ (run c .init is).step.rank) :=
  run_invariant (P := A) (fun _ i => step_A i) is init_A

/-- **precommit_backed_by_delivered_prevotes**: when the node has signed a precommit for block `b` in
round `r`, more than two thirds of the total power — counted over DISTINCT validators `v` — is carried
by validators whose well-formed round-`r` prevote for `b` (index `v`, address of `v`, intact signature
by `v`'s key) is among the inputs delivered so far, or, for the node itself, is a prevote it signed.
(Holds after every prefix of the inputs, hence "delivered before the precommit was signed", up to the
input during which it was signed.) `wtUpTo power p n` is the total power of the validators `< n`
satisfying `p`. -/
theorem precommit_backed_by_delivered_prevotes (c : Cfg) (is : List Input) (hnf : NoFutureTimeout c .init is) :
    ∀ r b, Output.signVote .precommit r (some b) ∈ (run c .init is).out →
      2 * c.total < 3 * Tmv.VoteLog.wtUpTo c.power
        (fun v => deliveredBy is .prevote (r : Int) (some b) v ||
                  ownVote c (run c .init is).out .prevote (r : Int) (some b) v) c.n := by
  intro r b h
  have hd : D c ([] ++ is) (run c .init is) := run_D is init_D
  simp only [List.nil_append] at hd
  exact maj23_weight (run_Q is (QH.init c)) hd.ms (t := .prevote)
    (run_J is hnf (by intro r b h; simp [NodeState.init] at h) r b h)

/-- **precommit_holds_block**: a block the node precommits was delivered to it complete (a
`blockComplete b` input) or is the block it creates itself as proposer. Every input list, no
hypothesis. (`Tmv.Cons.enterPrecommit_locks_what_it_precommits` is the local form: the step that emits
the precommit leaves the node locked on exactly `b` in exactly that round, and `b` was its locked block
or its complete proposal block when `enterPrecommit` began.) -/
theorem precommit_holds_block (c : Cfg) (is : List Input) :
    ∀ r b, Output.signVote .precommit r (some b) ∈ (run c .init is).out →
      Input.blockComplete b ∈ is ∨ b = c.ownBlock := by
  have h : H c ([] ++ is) (run c .init is) := run_H is init_H
  simp only [List.nil_append] at h
  exact h.pc

/-- **lock_moves** (relational form of lock_monotone, one `step` from any reachable state): across
the handling of one input — a timeout only for a round reached — (Round, LockedRound, LockedBlock)
changes only by a sequence of: the round advancing; `LockedRound := Round, LockedBlock := b` where the
prevotes of that round have a recorded +2/3 majority for `b` (the lock / re-lock of `enterPrecommit`);
`LockedRound := -1, LockedBlock := nil` where a +2/3 prevote majority for something other than the
locked block is recorded for a round in `(LockedRound, Round]` (the unlock rules of `addVote` and
`enterPrecommit`). Majorities are read off the vote sets after the step; they are never replaced. -/
theorem lock_moves (c : Cfg) (is : List Input) (i : Input) (hi : i.notFuture (run c .init is)) :
    LockMoves (step c (run c .init is) i).votes
      ((run c .init is).round, (run c .init is).lockedRound, (run c .init is).lockedBlock)
      ((step c (run c .init is) i).round, (step c (run c .init is) i).lockedRound,
       (step c (run c .init is) i).lockedBlock) :=
  (step_rel i hi (lock_monotone c is)).2

/-- **scheduled_timeouts_suffice**: the hypothesis `NoFutureTimeout` follows from the input discipline
of a faithful ticker — every delivered timeout was scheduled by the node before (`schedule r st` is
among its outputs at that point) or is a round-0 timeout (the start-of-height timeout is scheduled
outside the state machine): the node only ever schedules timeouts for rounds it has reached. -/
theorem scheduled_timeouts_suffice (c : Cfg) (is : List Input) (h : TimeoutsWereScheduled c .init is) :
    NoFutureTimeout c .init is :=
  scheduled_noFuture is init_S h

/-- the lock rule for histories with a faithful ticker -/
theorem prevote_respects_lock_scheduled (c : Cfg) (is : List Input) (h : TimeoutsWereScheduled c .init is) :
    ∀ r b r' x, Output.signVote .precommit r (some b) ∈ (run c .init is).out →
      Output.signVote .prevote r' x ∈ (run c .init is).out → r < r' → x ≠ some b →
      ∃ (r'' : Nat) (y : Bid), r < r'' ∧ r'' ≤ r' ∧ y ≠ some b ∧
        maj23Of ((run c .init is).votes.prevotes (r'' : Int)) = some y :=
  prevote_respects_lock c is (scheduled_timeouts_suffice c is h)

/-- **makeCommit_sound** (`types.VoteSet.MakeCommit`, every input list, no hypothesis): whenever the
precommit set of a round `r` has a recorded +2/3 majority for block `b`, `makeCommit` yields a commit for
`b` with one flag per validator such that
* a slot is flagged "commit" exactly if its canonical vote is for `b` (same block id: a vote for another
  id — other hash or other part-set header — is marked absent), and "nil" exactly if it is a nil vote;
  empty slots and votes for other blocks are never flagged,
* every slot flagged "commit" holds a well-formed precommit `(r, b)` of that validator that was delivered
  to the node (own index, own address, intact signature by its own key) or that the node signed itself,
* the flagged slots carry more than two thirds of the total power. -/
theorem makeCommit_sound (c : Cfg) (is : List Input) (r b : Nat) (vs : VoteSet)
    (hv : (run c .init is).votes.precommits (r : Int) = some vs) (hm : vs.maj23 = some (some b)) :
    ∃ flags, vs.makeCommit c.n = some (some b, flags) ∧ flags.length = c.n ∧
      (∀ i, i < c.n → (flags.getD i .absent = .commit ↔ alookup vs.votes i = some (some b))) ∧
      (∀ i, i < c.n → (flags.getD i .absent = .nil ↔ alookup vs.votes i = some none)) ∧
      (∀ i, i < c.n → flags.getD i .absent = .commit →
        (deliveredBy is .precommit (r : Int) (some b) i ||
         ownVote c (run c .init is).out .precommit (r : Int) (some b) i) = true) ∧
      2 * c.total < 3 * commitPower c flags := by
  have hd : D c ([] ++ is) (run c .init is) := run_D is init_D
  simp only [List.nil_append] at hd
  have hcs : Tmv.Net.CSh (run c .init is).votes := run_CS is Tmv.Net.CSh.init
  have hq : QH c (run c .init is).votes := run_Q is (QH.init c)
  have hg : (run c .init is).votes.getVoteSet (r : Int) .precommit = some vs := hv
  exact VoteSet.makeCommit_sound c _ vs b hm (hd.ms.getVoteSet hg) (hd.vd.getVoteSet hg)
    (hcs.getVoteSet hg) (hq.getVoteSet hg)

/-- the set `MakeCommit` is called on when a node decides, the precommits of its commit round, meets the
hypothesis of `makeCommit_sound` -/
theorem decided_has_majority (c : Cfg) (is : List Input) (b : Nat) (r : Int)
    (hd : (run c .init is).decided = some (b, r)) :
    (run c .init is).commitRound = r ∧ maj23Of ((run c .init is).votes.precommits r) = some (some b) :=
  run_PostD is (Tmv.Net.PostD.of_none rfl) b r hd

/-- **stored_commit_passes_verifyCommit** (C02 → C07): when the node has decided block `b` in round `r`,
the commit `MakeCommit` builds from the precommits of that round — concretised as a `types.Commit` by any
`Glue` (chain id, height, concrete block ids, addresses, and the timestamp and signature stored with each
validator's precommit) — is accepted by the `VerifyCommit` model of Tmv/Model/CommitVerify.lean against
the node's validator set for exactly `b`'s block id, provided
* the total power respects `MaxTotalVotingPower` and `b`'s block id is well-formed and non-zero,
* ideal signatures: the signature stored with a well-formed precommit that was delivered to the node (or
  that it signed itself) verifies under that validator's key over the canonical sign bytes of that vote. -/
theorem stored_commit_passes_verifyCommit {σ : Type} (g : Glue σ)
    (sigOK : Nat → Tmv.CommitVerify.SignBytes → σ → Bool) (c : Cfg) (is : List Input) (b r : Nat)
    (hd : (run c .init is).decided = some (b, (r : Int)))
    (hmax : (c.total : Int) ≤ Tmv.CommitVerify.maxTotalVotingPower)
    (hvb : (g.bidOf b).validBasic = true) (hnz : (g.bidOf b).isZero = false)
    (hsig : ∀ i bid, (deliveredBy is .precommit (r : Int) bid i ||
        ownVote c (run c .init is).out .precommit (r : Int) bid i) = true →
      sigOK i (g.signBytes r bid i) (g.sigOf i r bid) = true) :
    ∃ vs flags, (run c .init is).votes.precommits (r : Int) = some vs ∧
      vs.makeCommit c.n = some (some b, flags) ∧
      Tmv.CommitVerify.verifyCommit sigOK (g.vals c) g.chainID (g.bidOf b) g.height
        (g.commit c r b vs flags) = .ok := by
  obtain ⟨_, hmaj⟩ := decided_has_majority c is b r hd
  cases hv : (run c .init is).votes.precommits (r : Int) with
  | none => rw [hv] at hmaj; simp [maj23Of] at hmaj
  | some vs =>
    rw [hv] at hmaj
    have hm : vs.maj23 = some (some b) := by simpa [maj23Of] using hmaj
    obtain ⟨flags, hmk, hlen, hc, hn, _, hp⟩ := makeCommit_sound c is r b vs hv hm
    refine ⟨vs, flags, rfl, hmk, ?_⟩
    have hd : D c ([] ++ is) (run c .init is) := run_D is init_D
    simp only [List.nil_append] at hd
    have hvd := hd.vd.getVoteSet (t := .precommit) hv
    apply Glue.verifyCommit_ok g sigOK c r b vs flags hlen hc hn hp hmax hvb hnz
    intro i hi bid hvote _
    have := (hvd i bid hvote).2
    exact hsig i bid (by simpa [Ev] using this)

/-! ### Non-vacuity and a witness -/

/-- 4 validators of power 1, we are validator `self`; validator 0 is the proposer of round 0 -/
def exCfg (hrs : Bool) (self : Nat) : Cfg where
  n := 4
  power := fun _ => 1
  self := some self
  proposer := fun k => k % 4
  valid := fun _ => true
  ownBlock := 0
  waitForTxs := false
  needProofBlock := true
  emptyInterval := false
  checkHRS := hrs

def exPv (r : Nat) (b : Bid) (v : Nat) : Input := .vote ⟨.prevote, r, b, v, true, v, v⟩ 1
def exPc (r : Nat) (b : Bid) (v : Nat) : Input := .vote ⟨.precommit, r, b, v, true, v, v⟩ 1

/-- propose and prevote block 0, see the polka, precommit and lock; nil precommits of the others and
the precommit timeout lead to round 1, where the propose timeout makes the node prevote again -/
def exLock : List Input :=
  [.timeout 0 .newHeight, exPv 0 (some 0) 1, exPv 0 (some 0) 2,
   exPc 0 none 1, exPc 0 none 2, exPc 0 none 3, .timeout 0 .precommitWait, .timeout 1 .propose]

instance (s : NodeState) (i : Input) : Decidable (i.notFuture s) := by
  cases i <;> unfold Input.notFuture <;> infer_instance

instance instDecNoFuture (c : Cfg) : (s : NodeState) → (is : List Input) → Decidable (NoFutureTimeout c s is)
  | _, [] => isTrue trivial
  | s, i :: is => by
    unfold NoFutureTimeout
    have := instDecNoFuture c (step c s i) is
    infer_instance

instance instDecTWS (c : Cfg) : (s : NodeState) → (is : List Input) → Decidable (TimeoutsWereScheduled c s is)
  | _, [] => isTrue trivial
  | s, i :: is => by
    unfold TimeoutsWereScheduled
    have := instDecTWS c (step c s i) is
    cases i <;> infer_instance

/-- the lock history below is one a faithful ticker produces -/
example : TimeoutsWereScheduled (exCfg true 0) .init exLock := by decide

/-- the hypotheses of `precommit_justified` / `prevote_respects_lock` hold of a history in which the
node does sign a block precommit, gets locked, and prevotes its locked block in the next round -/
example : NoFutureTimeout (exCfg true 0) .init exLock ∧
    Output.signVote .precommit 0 (some 0) ∈ (run (exCfg true 0) .init exLock).out ∧
    Output.signVote .prevote 1 (some 0) ∈ (run (exCfg true 0) .init exLock).out ∧
    (run (exCfg true 0) .init exLock).lockedBlock = some 0 := by decide

/-- … and of one where a nil polka in round 1 releases the lock, after which the node prevotes nil in
round 2 (the conclusion of `prevote_respects_lock` is then witnessed by round 1) -/
example :
    let is := exLock ++ [exPv 1 none 1, exPv 1 none 2, exPv 1 none 3, exPc 1 none 1, exPc 1 none 2,
      .timeout 1 .precommitWait, .timeout 2 .propose]
    NoFutureTimeout (exCfg true 0) .init is ∧
    (run (exCfg true 0) .init is).lockedBlock = none ∧
    Output.signVote .prevote 2 none ∈ (run (exCfg true 0) .init is).out := by decide

/-- a history in which the node (proposer of round 0) decides its own block in round 0 -/
def exDecide : List Input :=
  [.timeout 0 .newHeight, exPv 0 (some 0) 1, exPv 0 (some 0) 2, exPc 0 (some 0) 1, exPc 0 (some 0) 2]

/-- the hypothesis of `stored_commit_passes_verifyCommit` (and, through `decided_has_majority`, those of
`makeCommit_sound`) is met by it … -/
example : (run (exCfg true 0) .init exDecide).decided = some (0, 0) := by decide

def exSB (r : Nat) (bid : Bid) : Tmv.CommitVerify.SignBytes :=
  ⟨Tmv.CommitVerify.precommitType, 1, r, bid.map (fun b => ⟨List.replicate 32 (UInt8.ofNat b), 1, List.replicate 32 0⟩), 0, "c"⟩

/-- … and by an ideal-signature instantiation of the glue (a signature is the pair (key, sign bytes)) -/
def exGlue : Glue (Nat × Tmv.CommitVerify.SignBytes) where
  chainID := "c"
  height := 1
  bidOf := fun b => ⟨List.replicate 32 (UInt8.ofNat b), 1, List.replicate 32 0⟩
  addrOf := fun i => [UInt8.ofNat i]
  tsOf := fun _ => 0
  sigOf := fun i r bid => (i, exSB r bid)

example : (exGlue.bidOf 0).validBasic = true ∧ (exGlue.bidOf 0).isZero = false ∧
    ((exCfg true 0).total : Int) ≤ Tmv.CommitVerify.maxTotalVotingPower ∧
    ∀ i r bid, (fun k sb (sg : Nat × Tmv.CommitVerify.SignBytes) => decide (sg = (k, sb))) i
      (exGlue.signBytes r bid i) (exGlue.sigOf i r bid) = true := by
  refine ⟨by decide, by decide, by decide, ?_⟩
  intro i r bid
  simp [Glue.signBytes, exGlue, exSB]

/-- the history of the witness below: validator 1 (not the proposer) prevotes nil at the propose
timeout, then receives the proposal and its block, then a timeout naming round 1 — which it has not
reached and never scheduled — arrives -/
def exFuture : List Input :=
  [.timeout 0 .newHeight, .timeout 0 .propose, .proposal ⟨0, 1, -1, 0⟩, .blockComplete 1, .timeout 1 .propose]

/-- **witness**: the step guards of `enterPrevote` alone do not stop a second, different prevote in
round 0 when a timeout for a round not yet reached is delivered and the signer signs anything
(`checkHRS = false`): `enterPrevote(h, 1)` passes its guard and `signVote` stamps `cs.Round = 0`. -/
theorem state_machine_alone_needs_reached_round :
    Output.signVote .prevote 0 none ∈ (run (exCfg false 1) .init exFuture).out ∧
    Output.signVote .prevote 0 (some 1) ∈ (run (exCfg false 1) .init exFuture).out ∧
    ¬ NoFutureTimeout (exCfg false 1) .init exFuture := by decide

/-- … while the FilePV signer refuses the second one on the very same inputs (cf. `one_per_step`) -/
example : Output.signVote .prevote 0 (some 1) ∉ (run (exCfg true 1) .init exFuture).out := by decide

end Tmv.Props.C02
