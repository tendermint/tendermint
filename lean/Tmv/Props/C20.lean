import Tmv.Lemmas.LightRpcAux
import Tmv.Lemmas.InsertSort
import Tmv.Lemmas.MerkleComplete
import Tmv.Lemmas.MerkleRootInj
/-! # C20 — the verifying RPC client relays an answer iff it matches light-verified headers

About the model `Tmv.LightRpc` of /repo light/rpc/client.go (as repaired by
the `fix:` commits listed in known-findings.json). `H` is an arbitrary hash function of fixed output
length `L > 0`; soundness theorems conclude "the committed fields are the honest ones ∨ an explicit
collision of `H`". The light client is the `LC` of the model: `lc.at? h` is the light block of
height `h` the (honest) providers serve — that the real light client only ever trusts such blocks
is property C09, not proved here. What an accepted answer went through is stated per response kind in
Lemmas/LightRpc and Lemmas/LightRpcAux (`verifyBlock_ok`, `verifyTx_ok`, `verifyBlockchainInfo_ok`, …). -/
namespace Tmv.Props.C20
open Tmv Tmv.Merkle Tmv.LightRpc Tmv.TxProof
variable (H : Bytes → Bytes)

/-! ## Block / BlockByHash -/

/-- what an honest full node holds under the verified header of light block `t` -/
structure HonestBlock (t : LightBlock) (hb : Block) : Prop where
  header : hb.header = t.header
  data : t.header.dataHash = txsHash H hb.txs
  commit : t.header.lastCommitHash = commitHash H hb.lastCommitSigs
  evidence : t.header.evidenceHash = evidenceHash H hb.evidence

/-- the chain the providers serve is well formed: the block served for height `k` is labelled `k`
and carries a validators hash (both are checked by the light client before it trusts a block) -/
structure ChainOK (lc : LC) : Prop where
  vh : ∀ k t, lc.at? k = some t → t.header.validatorsHash ≠ []
  height : ∀ k t, lc.at? k = some t → t.header.height = k

/-- **Soundness (Block, BlockByHash), with the collisions located.** As `relay_sound_block`; every
alternative is a collision between two different strings hashed in this run — nodes of the answer's
header tree vs nodes of the verified header's tree; the answer's transactions and the nodes of its
data tree vs the honest block's; likewise for the last-commit signatures and the evidence. -/
theorem relay_sound_block_traced (L : Nat) (hL : 0 < L) (hlen : ∀ x, (H x).length = L)
    (lc lc' : LC) (hok : ChainOK lc) (req : BlockReq) (res : ResultBlock)
    (hacc : verifyBlock H lc req res = (.ok, lc')) :
    ∃ b t, res.block = some b ∧ lc.at? b.header.height = some t ∧
      res.blockID.hash = t.header.hash H ∧
      (b.header.fields = t.header.fields ∨
        CollisionIn H (rootPre H b.header.fields.length b.header.fields)
          (rootPre H t.header.fields.length t.header.fields)) ∧
      (b.header.fields = t.header.fields → ∀ hb, HonestBlock H t hb →
        (b.txs = hb.txs ∨ CollisionIn H (b.txs ++ rootPre H (b.txs.map H).length (b.txs.map H))
            (hb.txs ++ rootPre H (hb.txs.map H).length (hb.txs.map H))) ∧
        (b.lastCommitSigs = hb.lastCommitSigs ∨
          CollisionIn H (rootPre H b.lastCommitSigs.length b.lastCommitSigs)
            (rootPre H hb.lastCommitSigs.length hb.lastCommitSigs)) ∧
        (b.evidence = hb.evidence ∨
          CollisionIn H (rootPre H b.evidence.length b.evidence) (rootPre H hb.evidence.length hb.evidence))) := by
  obtain ⟨b, t, hb, hvb, hid, _, hat, _, hhash⟩ := verifyBlock_ok H hacc
  have hroots := Header.root_fields_of_hash_eq H L hL hlen (hok.vh _ _ hat) hhash
  refine ⟨b, t, hb, hat, hid.trans hhash, root_inj_traced H L hlen _ _ hroots, ?_⟩
  intro hf hbk hh
  obtain ⟨d, c, e⟩ := block_roots_eq H L hlen hvb hf hh.data hh.commit hh.evidence
  exact ⟨txsHash_inj_traced H L hlen _ _ d, root_inj_traced H L hlen _ _ c, root_inj_traced H L hlen _ _ e⟩

/-- **Soundness (Block, BlockByHash).** A relayed block answer names a height the providers have;
its `BlockID.Hash` is the verified header's hash, its encoded header fields are the verified
header's, and its transactions, last-commit signatures and evidence are exactly those of the honest
block under that header — or a collision of `H` is exhibited. (`BlockID.PartSetHeader` and
`LastCommit.{Height,Round,BlockID}` are not claimed: see `relay_sound_block_partSetHeader_fails`.) -/
theorem relay_sound_block (L : Nat) (hL : 0 < L) (hlen : ∀ x, (H x).length = L)
    (lc lc' : LC) (hok : ChainOK lc) (req : BlockReq) (res : ResultBlock)
    (hacc : verifyBlock H lc req res = (.ok, lc')) :
    ∃ b t, res.block = some b ∧ lc.at? b.header.height = some t ∧ lc'.chain = lc.chain ∧
      res.blockID.hash = t.header.hash H ∧ req.matches res b = true ∧
      ((b.header.fields = t.header.fields ∧
        ∀ hb, HonestBlock H t hb →
          b.txs = hb.txs ∧ b.lastCommitSigs = hb.lastCommitSigs ∧ b.evidence = hb.evidence)
       ∨ Nonempty (Collision H)) := by
  obtain ⟨b, t, hb, hat, hid, hfields, hcontent⟩ :=
    relay_sound_block_traced H L hL hlen lc lc' hok req res hacc
  obtain ⟨b', _, hb', _, _, hm, _, hchain, _⟩ := verifyBlock_ok H hacc
  obtain rfl : b = b' := Option.some.inj (hb.symm.trans hb')
  refine ⟨b, t, hb, hat, hchain, hid, hm, ?_⟩
  by_cases hno : Nonempty (Collision H)
  · exact Or.inr hno
  have nc : ∀ {as bs : List Bytes}, ¬ CollisionIn H as bs := fun hc => hno (hc.toCollision H)
  have hf := hfields.resolve_right nc
  refine Or.inl ⟨hf, fun hbk hh => ?_⟩
  obtain ⟨h1, h2, h3⟩ := hcontent hf hbk hh
  exact ⟨h1.resolve_right nc, h2.resolve_right nc, h3.resolve_right nc⟩

/-- … and since the 14 hashed byte strings determine the header (for wire-sized fields), the relayed
header IS the verified header. -/
theorem relay_sound_block_header (L : Nat) (hL : 0 < L) (hlen : ∀ x, (H x).length = L)
    (lc lc' : LC) (hok : ChainOK lc) (req : BlockReq) (res : ResultBlock)
    (hacc : verifyBlock H lc req res = (.ok, lc')) :
    ∃ b t, res.block = some b ∧ lc.at? b.header.height = some t ∧
      (b.header.WF → t.header.WF → b.header = t.header ∨ Nonempty (Collision H)) := by
  obtain ⟨b, t, h1, h2, _, _, _, h5⟩ := relay_sound_block H L hL hlen lc lc' hok req res hacc
  refine ⟨b, t, h1, h2, ?_⟩
  intro w1 w2
  rcases h5 with ⟨hf, _⟩ | hc
  · left; exact Header.fields_inj _ _ w1 w2 hf
  · right; exact hc

/-- **Completeness (Block, BlockByHash).** The honest answer for a height the providers have — the
block under the verified header, with the `BlockID` whose hash is the header's, both passing their
`ValidateBasic` — is relayed. -/
theorem relay_complete_block (lc : LC) (hok : ChainOK lc) (k : Int) (t : LightBlock)
    (hat : lc.at? k = some t) (hb : Block) (hh : HonestBlock H t hb)
    (hvalid : hb.header.validateBasic = true)
    (hcommit : hb.lastCommitNil = false ∧ hb.lastCommitOK = true ∧ hb.evidenceOK = true)
    (bid : BlockID) (hbid : bid.hash = t.header.hash H) (hbidv : bid.validateBasic = true)
    (req : BlockReq) (hreq : req = .height none ∨ req = .height (some k) ∨ req = .hash bid.hash) :
    ∃ lc', verifyBlock H lc req { blockID := bid, block := some hb } = (.ok, lc') := by
  have hheight : hb.header.height = k := by rw [hh.header]; exact hok.height _ _ hat
  obtain ⟨lc1, hupd⟩ := updateTo_some_complete lc k t hat
  have hvb : hb.validateBasic H = true := by
    simp only [Block.validateBasic, Bool.and_eq_true, decide_eq_true_eq]
    obtain ⟨h1, h2, h3⟩ := hcommit
    refine ⟨⟨⟨⟨⟨⟨hvalid, by simp [h1]⟩, h2⟩, ?_⟩, ?_⟩, h3⟩, ?_⟩
    · rw [hh.header]; exact hh.commit
    · rw [hh.header]; exact hh.data
    · rw [hh.header]; exact hh.evidence
  have hm : req.matches { blockID := bid, block := some hb } hb = true := by
    rcases hreq with rfl | rfl | rfl <;> simp [BlockReq.matches, hheight]
  refine ⟨lc1, ?_⟩
  unfold verifyBlock
  simp only [hbidv, hvb, hm, Bool.not_true, Bool.false_eq_true, if_false, hheight, hupd]
  simp [hbid, hh.header]

/-! ## Tx (with inclusion proof) -/

/-- **Soundness (Tx), with the collision located.** As `relay_sound_tx`, but the alternative to "the
transaction is in the block" is a collision between two DIFFERENT strings that were actually hashed in
this run: on the answer's side the transaction, the leaf preimage `0x00‖H(tx)` and the inner nodes
of the claimed path; on the chain's side the block's transactions and the nodes of its data tree.
(For a fixed-length `H` "some collision exists" holds by counting; a collision inside these
linearly many listed inputs does not.) -/
theorem relay_sound_tx_traced (L : Nat) (hL : 0 < L) (hlen : ∀ x, (H x).length = L)
    (lc lc' : LC) (reqHash : Bytes) (res : ResultTx)
    (hacc : verifyTx H lc reqHash res = (.ok, lc')) :
    ∃ t, lc.at? res.height = some t ∧ res.proof.rootHash = t.header.dataHash ∧
      res.tx = res.proof.data ∧ H res.tx = reqHash ∧
      (∀ txs, t.header.dataHash = txsHash H txs →
        res.tx ∈ txs ∨
          CollisionIn H
            (res.tx :: (0 :: H res.tx) ::
              pathPre H res.proof.proof.total.toNat res.proof.proof.index.toNat res.proof.proof.total.toNat
                (leafHash H (H res.tx)) res.proof.proof.aunts)
            (txs ++ rootPre H (txs.map H).length (txs.map H))) := by
  obtain ⟨_, t, hat, _, hval, htx, hh, _⟩ := verifyTx_ok H hacc
  refine ⟨t, hat, (validate_ok H hval).1.symm, htx.symm, hh, fun txs htxs => ?_⟩
  rw [htxs] at hval
  rw [← htx]
  exact validate_mem_traced H L hlen txs res.proof hval

/-- **Soundness (Tx with proof).** A relayed transaction answer names a height the providers have;
the proof's root is that header's `DataHash`; the returned bytes are the proven bytes, hash to the
requested hash, and the answer is labelled with it; and the transaction is one of the transactions
of the block under that header — or a collision is exhibited. (`Index` and `TxResult` are not
claimed: see `tx_index_not_bound`.) -/
theorem relay_sound_tx (L : Nat) (hL : 0 < L) (hlen : ∀ x, (H x).length = L)
    (lc lc' : LC) (reqHash : Bytes) (res : ResultTx)
    (hacc : verifyTx H lc reqHash res = (.ok, lc')) :
    ∃ t, lc.at? res.height = some t ∧ lc'.chain = lc.chain ∧
      res.proof.rootHash = t.header.dataHash ∧ res.tx = res.proof.data ∧
      res.hash = reqHash ∧ H res.tx = reqHash ∧
      (∀ txs, t.header.dataHash = txsHash H txs → res.tx ∈ txs ∨ Nonempty (Collision H)) := by
  obtain ⟨t, hat, hroot, htx, hh, hmem⟩ := relay_sound_tx_traced H L hL hlen lc lc' reqHash res hacc
  obtain ⟨_, _, _, hchain, _, _, _, hl⟩ := verifyTx_ok H hacc
  exact ⟨t, hat, hchain, hroot, htx, hl, hh,
    fun txs htxs => (hmem txs htxs).imp_right (CollisionIn.toCollision H)⟩

/-- **Completeness (Tx with proof).** The answer an honest node builds (`Txs.Proof(i)`, the bytes, their
hash, any index label and result) for a block whose header the providers have is relayed. -/
theorem relay_complete_tx (L : Nat) (hL : 0 < L) (hlen : ∀ x, (H x).length = L)
    (lc : LC) (k : Int) (hk : 0 < k) (t : LightBlock) (hat : lc.at? k = some t)
    (txs : List Bytes) (hd : t.header.dataHash = txsHash H txs) (i : Nat) (hi : i < txs.length)
    (idx : Nat) (code : Nat) (data : Bytes) :
    ∃ lc', verifyTx H lc (H txs[i])
      { hash := H txs[i], height := k, index := idx, tx := txs[i], resultCode := code,
        resultData := data, proof := proofFor H txs i } = (.ok, lc') := by
  obtain ⟨lc1, hupd⟩ := updateTo_some_complete lc k t hat
  have hv := proofFor_validates H txs i hi
  refine ⟨lc1, ?_⟩
  unfold verifyTx
  have hk' : ¬ k ≤ 0 := by omega
  simp only [hk', if_false, hupd, hd, hv]
  have hdata : (proofFor H txs i).data = txs[i] := by
    simp [proofFor, List.getD_eq_getElem?_getD, hi]
  simp [hdata]

/-- **Soundness (TxSearch with proofs).** In a relayed answer every listed transaction is non-nil,
names a height the providers have, carries a proof whose root is that header's `DataHash`, its bytes
are the proven bytes and hash to its hash label, and it is one of the transactions of the block
under that header — or a collision is exhibited. (Which transactions are listed, `TotalCount`, the
`Index` labels and the results are bound by no header.) -/
theorem relay_sound_txSearch (L : Nat) (hL : 0 < L) (hlen : ∀ x, (H x).length = L) :
    ∀ (results : List (Option ResultTx)) (lc lc' : LC), verifyTxSearch H lc results = (.ok, lc') →
      lc'.chain = lc.chain ∧
      ∀ x ∈ results, ∃ res t, x = some res ∧ lc.at? res.height = some t ∧
        res.proof.rootHash = t.header.dataHash ∧ res.tx = res.proof.data ∧ H res.tx = res.hash ∧
        (∀ txs, t.header.dataHash = txsHash H txs → res.tx ∈ txs ∨ Nonempty (Collision H)) := by
  intro results
  induction results with
  | nil => intro lc lc' h; simp [verifyTxSearch] at h; subst h; simp
  | cons x rest ih =>
    intro lc lc' hacc
    obtain ⟨res, t, lc1, rfl, _, hat, hchain, hval, htx, hh, hrest⟩ := verifyTxSearch_cons_ok H hacc
    obtain ⟨hc2, hall⟩ := ih lc1 lc' hrest
    refine ⟨hc2.trans hchain, ?_⟩
    intro y hy
    rcases List.mem_cons.mp hy with rfl | hy
    · refine ⟨res, t, rfl, hat, (validate_ok H hval).1.symm, htx.symm, hh, fun txs htxs => ?_⟩
      rw [htxs] at hval
      rw [← htx]
      exact (validate_mem_traced H L hlen txs res.proof hval).imp_right (CollisionIn.toCollision H)
    · obtain ⟨r', t', e1, e2, e3⟩ := hall y hy
      exact ⟨r', t', e1, by rw [← at?_of_chain_eq lc lc1 hchain]; exact e2, e3⟩

/-- **Completeness (TxSearch with proofs).** What an honest node's `TxSearch` returns — for each hit the
transaction, its hash and `Txs.Proof(index)` of the block at its height — is relayed, whatever the
hits, their order and the light client's store. -/
theorem relay_complete_txSearch (L : Nat) (hL : 0 < L) (hlen : ∀ x, (H x).length = L)
    (txsAt : Int → List Bytes) :
    ∀ (hits : List Hit) (lc : LC),
      (∀ h ∈ hits, 0 < h.height ∧ h.index < (txsAt h.height).length ∧
        ∃ t, lc.at? h.height = some t ∧ t.header.dataHash = txsHash H (txsAt h.height)) →
      ∃ lc', verifyTxSearch H lc (hits.map fun h => some
        { hash := H ((txsAt h.height).getD h.index []), height := h.height, index := h.index,
          tx := (txsAt h.height).getD h.index [], resultCode := 0, resultData := [],
          proof := proofFor H (txsAt h.height) h.index }) = (.ok, lc') := by
  intro hits
  induction hits with
  | nil => intro lc _; exact ⟨lc, rfl⟩
  | cons h rest ih =>
    intro lc hall
    obtain ⟨hpos, hi, t, hat, hd⟩ := hall h (by simp)
    obtain ⟨lc1, hupd⟩ := updateTo_some_complete lc _ t hat
    obtain ⟨hchain, _, _⟩ := updateTo_ok lc lc1 _ t hupd
    have hrest : ∀ h' ∈ rest, 0 < h'.height ∧ h'.index < (txsAt h'.height).length ∧
        ∃ t, lc1.at? h'.height = some t ∧ t.header.dataHash = txsHash H (txsAt h'.height) := by
      intro h' hh'
      obtain ⟨a, b, t', c, d⟩ := hall h' (by simp [hh'])
      exact ⟨a, b, t', by rw [at?_of_chain_eq lc lc1 hchain]; exact c, d⟩
    obtain ⟨lc2, h2⟩ := ih lc1 hrest
    refine ⟨lc2, ?_⟩
    have hv := proofFor_validates H (txsAt h.height) h.index hi
    have hk : ¬ h.height ≤ 0 := by omega
    simp only [List.map_cons, verifyTxSearch, hk, if_false, hupd, hd, hv]
    have hdata : (proofFor H (txsAt h.height) h.index).data = (txsAt h.height).getD h.index [] := by
      simp [proofFor]
    simp only [hdata, ne_eq, not_true_eq_false, or_self, if_false]
    exact h2

/-- the full statement one would want for the `Index` label of a transaction answer -/
def TxBindsIndex : Prop :=
  ∀ (H : Bytes → Bytes) (lc lc' : LC) (reqHash : Bytes) (res : ResultTx),
    verifyTx H lc reqHash res = (.ok, lc') → (res.index : Int) = res.proof.proof.index

/-! ## BlockResults -/

/-- **Soundness (BlockResults).** A relayed answer is labelled with the requested height `h`, the
providers have height `h+1`, and the (deterministic part of the) DeliverTx results are exactly those
whose root the header `h+1` carries as `LastResultsHash` — or a collision is exhibited. Events, logs,
validator and parameter updates are bound by no header and not claimed. -/
theorem relay_sound_blockResults (L : Nat) (hlen : ∀ x, (H x).length = L)
    (lc lc' : LC) (h resHeight : Int) (rs : List TxResult)
    (hacc : verifyBlockResults H lc h resHeight rs = (.ok, lc')) :
    resHeight = h ∧ 0 < h ∧ ∃ t, lc.at? (h + 1) = some t ∧ lc'.chain = lc.chain ∧
      resultsHash H rs = t.header.lastResultsHash ∧
      (∀ rs', t.header.lastResultsHash = resultsHash H rs' →
        (∀ r ∈ rs, r.WF) → (∀ r ∈ rs', r.WF) → rs = rs' ∨ Nonempty (Collision H)) := by
  obtain ⟨hpos, hlab, t, hat, hchain, hhash⟩ := verifyBlockResults_ok H hacc
  refine ⟨hlab, hpos, t, hat, hchain, hhash, fun rs' hrs' hw hw' => ?_⟩
  rw [hrs'] at hhash
  exact (root_inj H L hlen _ _ hhash).imp_left (map_enc_inj rs rs' hw hw')

/-- **Completeness (BlockResults).** The honest results of block `h`, labelled `h`, are relayed as soon
as the providers have block `h+1` (whose `LastResultsHash` is their root, by `updateState`). -/
theorem relay_complete_blockResults (lc : LC) (h : Int) (hpos : 0 < h) (t : LightBlock)
    (hat : lc.at? (h + 1) = some t) (rs : List TxResult)
    (hr : t.header.lastResultsHash = resultsHash H rs) :
    ∃ lc', verifyBlockResults H lc h h rs = (.ok, lc') := by
  obtain ⟨lc1, hupd⟩ := updateTo_some_complete lc (h + 1) t hat
  refine ⟨lc1, ?_⟩
  unfold verifyBlockResults
  have : ¬ h ≤ 0 := by omega
  simp [this, hupd, hr]

/-! ## ConsensusParams -/

/-- **Soundness (ConsensusParams).** A relayed answer passes `ValidateConsensusParams`, names a height
the providers have, and its hashed part (Block.MaxBytes, Block.MaxGas) encodes like that of the
parameters committed by that header's `ConsensusHash` — or a collision. The other parameters are
bound by no header. -/
theorem relay_sound_params (lc lc' : LC) (req : Option Int) (blockHeight : Int) (p : Params)
    (hacc : verifyParams H lc req blockHeight p = (.ok, lc')) :
    p.validate = true ∧ (∀ k, req = some k → blockHeight = k) ∧
    ∃ t, lc.at? blockHeight = some t ∧ lc'.chain = lc.chain ∧
      p.hash H = t.header.consensusHash ∧
      (∀ p' : Params, t.header.consensusHash = p'.hash H →
        I64 p.maxBytes → I64 p.maxGas → I64 p'.maxBytes → I64 p'.maxGas →
        (p.maxBytes = p'.maxBytes ∧ p.maxGas = p'.maxGas) ∨ Nonempty (Collision H)) := by
  obtain ⟨hv, hreq, t, hat, hchain, hhash⟩ := verifyParams_ok H hacc
  refine ⟨hv, hreq, t, hat, hchain, hhash, fun p' hp' b1 g1 b2 g2 => ?_⟩
  rw [hp'] at hhash
  unfold Params.hash at hhash
  -- the two hashed strings differ (a collision) or parse to the same two numbers
  by_cases hx : fVarint 0x08 (u64 p.maxBytes) ++ fVarint 0x10 (u64 p.maxGas) =
      fVarint 0x08 (u64 p'.maxBytes) ++ fVarint 0x10 (u64 p'.maxGas)
  · obtain ⟨e1, e2⟩ := fVarint2_inj _ _ (by decide) _ _ _ _ (u64_lt _ b1) (u64_lt _ g1) (u64_lt _ b2)
      (u64_lt _ g2) hx
    exact Or.inl ⟨u64_inj _ _ b1 b2 e1, u64_inj _ _ g1 g2 e2⟩
  · exact Or.inr ⟨⟨_, _, hx, hhash⟩⟩

/-- **Completeness (ConsensusParams).** Valid parameters whose hash the header carries are relayed. -/
theorem relay_complete_params (lc : LC) (k : Int) (hk : 0 < k) (t : LightBlock)
    (hat : lc.at? k = some t) (p : Params) (hv : p.validate = true)
    (hh : t.header.consensusHash = p.hash H) (req : Option Int) (hreq : req = none ∨ req = some k) :
    ∃ lc', verifyParams H lc req k p = (.ok, lc') := by
  obtain ⟨lc1, hupd⟩ := updateTo_some_complete lc k t hat
  refine ⟨lc1, ?_⟩
  unfold verifyParams
  have : ¬ k ≤ 0 := by omega
  rcases hreq with rfl | rfl <;> simp [hv, this, hupd, hh]

/-! ## BlockchainInfo -/

/-- **Soundness (BlockchainInfo).** In a relayed answer every block meta is non-nil, names a height the
providers have, its header hashes to the verified header's hash (so its encoded fields are the
verified ones, or a collision is exhibited) and its `BlockID.Hash` is that hash. `BlockSize`,
`NumTxs`, `LastHeight` are bound by no header; for `BlockID.PartSetHeader` see
`relay_sound_blockchainInfo_partSetHeader_fails`. -/
theorem relay_sound_blockchainInfo (L : Nat) (hL : 0 < L) (hlen : ∀ x, (H x).length = L)
    (lc lc' : LC) (hok : ChainOK lc) (minH maxH : Int) (metas : List (Option BlockMeta))
    (hacc : verifyBlockchainInfo H lc minH maxH metas = (.ok, lc')) :
    lc'.chain = lc.chain ∧
    ∀ x ∈ metas, ∃ m t, x = some m ∧ lc.at? m.header.height = some t ∧
      m.header.hash H = t.header.hash H ∧ m.blockID.hash = t.header.hash H ∧
      InRange minH maxH m.header.height ∧
      (m.header.fields = t.header.fields ∨ Nonempty (Collision H)) := by
  obtain ⟨hchk, lcA, hA, hv⟩ := verifyBlockchainInfo_ok H hacc
  obtain ⟨hc, hall⟩ := verifyMetas_sound H metas lcA lc' hv
  refine ⟨hc.trans hA, fun x hx => ?_⟩
  obtain ⟨m, t, e1, e2, e3⟩ := hall x hx
  obtain ⟨m', e1', hvb, hr⟩ := (checkMetas_eq_none H minH maxH metas).mp hchk x hx
  obtain rfl : m = m' := Option.some.inj (e1.symm.trans e1')
  rw [at?_of_chain_eq lc lcA hA] at e2
  simp only [BlockMeta.validateBasic, Bool.and_eq_true, decide_eq_true_eq] at hvb
  exact ⟨m, t, e1, e2, e3, hvb.2.trans e3, hr,
    root_inj H L hlen _ _ (Header.root_fields_of_hash_eq H L hL hlen (hok.vh _ _ e2) e3)⟩

/-- **Completeness (BlockchainInfo).** An answer all of whose metas carry the header of the block the
providers have at that height, inside the requested range, with the `BlockID` whose hash is the
header's, is relayed — whatever
the number and order of the listed heights and whatever the light client had stored before. -/
theorem relay_complete_blockchainInfo (lc : LC) (minH maxH : Int) (metas : List (Option BlockMeta))
    (hall : ∀ x ∈ metas, ∃ m t, x = some m ∧ lc.at? m.header.height = some t ∧ m.header = t.header ∧
      m.blockID.hash = t.header.hash H ∧ m.blockID.validateBasic = true ∧
      InRange minH maxH m.header.height) :
    ∃ lc', verifyBlockchainInfo H lc minH maxH metas = (.ok, lc') := by
  have hany : checkMetas H minH maxH metas = none := by
    refine (checkMetas_eq_none H minH maxH metas).mpr fun x hx => ?_
    obtain ⟨m, t, e1, _, e3, e4, e5, e6⟩ := hall x hx
    exact ⟨m, e1, by simp [BlockMeta.validateBasic, e5, e4, e3], e6⟩
  have hall' : ∀ x ∈ metas, ∃ m t, x = some m ∧ lc.at? m.header.height = some t ∧ m.header = t.header := by
    intro x hx
    obtain ⟨m, t, e1, e2, e3, _⟩ := hall x hx
    exact ⟨m, t, e1, e2, e3⟩
  unfold verifyBlockchainInfo
  simp only [hany]
  cases hl : metas.getLast? with
  | none => exact verifyMetas_complete H lc metas hall' lc rfl
  | some o =>
    cases o with
    | none => exact verifyMetas_complete H lc metas hall' lc rfl
    | some m =>
      obtain ⟨m', t, e1, e2, _⟩ := hall _ (List.mem_of_getLast? hl)
      obtain rfl := Option.some.inj e1
      obtain ⟨lc1, hupd⟩ := updateTo_some_complete lc _ t e2
      simp only [hupd]
      exact verifyMetas_complete H lc metas hall' lc1 (updateTo_ok lc lc1 _ t hupd).1

/-! ## ABCIQuery (value proofs through the default proof runtime) -/

/-- store names and keys of an application state are non-empty (the client refuses an empty key, the
path regexp an empty store name) -/
def StoresNE (stores : List (Bytes × Store)) : Prop :=
  ∀ s ∈ stores, s.1 ≠ [] ∧ ∀ kv ∈ s.2, kv.1 ≠ []

/-- what `VerifyValue` establishes, for ANY number of proof operators, against a two-level
application state: the named store exists and either holds exactly the claimed pair, or — the one
way out — it holds under that key a value of hash length and the answer contains keyless operators
(whose computed root was passed off as that value). -/
theorem verifyValue_sound (L : Nat) (hL64 : L < 2 ^ 64) (hlen : ∀ x, (H x).length = L)
    (ops : List ProofOp) (hne : ops ≠ []) (stores : List (Bytes × Store)) (s' k' v : Bytes)
    (hwf : StoresWF stores) (hnem : StoresNE stores) (hsl : s'.length < 2 ^ 64) (hkl : k'.length < 2 ^ 64)
    (hver : verifyValue H ops (appHashOf H stores) [s', k'] v = true) :
    (∃ kvs, (s', kvs) ∈ stores ∧
      ((k', v) ∈ kvs ∨ ∃ v'', (k', v'') ∈ kvs ∧ v''.length = L ∧ ∃ o ∈ ops, o.key = []))
      ∨ Nonempty (Collision H) := by
  by_cases hno : Nonempty (Collision H)
  · exact Or.inr hno
  left
  have hpath : ∀ k ∈ [s', k'], k.length < 2 ^ 64 := by simp [hsl, hkl]
  obtain ⟨_, hr⟩ := (verifyValue_eq_true H).mp hver
  -- the last operator proves a store in the application tree, the one before it a pair in that store
  obtain ⟨pre, on, rfl⟩ := (List.eq_nil_or_concat ops).resolve_left hne
  rw [List.concat_eq_append] at hr
  obtain ⟨sn, hsn, hp⟩ := (runOps_level H L hL64 hlen (storeRoot H) stores
    (fun s hs => ⟨(hnem s hs).1, (hwf s hs).1⟩) hpath hr).resolve_right hno
  have hpne : pre ≠ [] := by rintro rfl; simp [runOps] at hp
  obtain ⟨pre2, om, rfl⟩ := (List.eq_nil_or_concat pre).resolve_left hpne
  rw [List.concat_eq_append] at hp
  obtain ⟨kv, hkv, hp2⟩ := (runOps_level H L hL64 hlen id sn.2
    (fun x hx => ⟨(hnem sn hsn).2 x hx, (hwf sn hsn).2 x hx⟩) hpath hp).resolve_right hno
  -- both keys of the path are used up: the operators before these two are keyless
  have hkeys := runOps_keys H _ _ _ _ _ hp2
  simp only [List.nil_append, List.cons_append, List.cons.injEq, List.nil_eq, List.reverse_eq_nil_iff,
    List.map_eq_nil_iff] at hkeys
  obtain ⟨rfl, rfl, hnokey⟩ := hkeys
  refine ⟨sn.2, hsn, ?_⟩
  -- none before them ⇒ the proven value is `v`; some ⇒ it is a root they computed
  cases pre2 with
  | nil =>
    rw [runOps] at hp2
    obtain rfl : v = kv.2 := (Prod.mk.inj (Option.some.inj hp2)).2
    exact Or.inl hkv
  | cons o1 rest1 =>
    refine Or.inr ⟨kv.2, hkv, runOps_out_len H L hlen (by simp) hp2, o1, by simp, ?_⟩
    simpa using List.filter_eq_nil_iff.mp hnokey o1 (by simp)

/-- **Soundness (ABCIQuery), any number of proof operators.** A relayed answer has code 0, a value, a
non-empty key, names a height whose successor the providers have, and — against any application
state (named stores of key/value pairs, names and keys non-empty) whose `AppHash` that successor
header carries — the store named in the path EXISTS and EITHER holds exactly the returned
(key, value) (path and key read through the key-path round trip), OR the answer contains a keyless
operator and the store holds under that key a value that has the length of a hash (the keyless
operators' computed root was passed off as that value: `abci_keyless_operator_accepted`), or a
collision is exhibited. Nothing else can happen, for any number and arrangement of operators. -/
theorem relay_sound_abci (L : Nat) (hL : 0 < L) (hL64 : L < 2 ^ 64) (hlen : ∀ x, (H x).length = L)
    (lc lc' : LC) (store : Option Bytes) (r : ABCIResp)
    (hacc : verifyABCI H lc store r = (.ok, lc')) :
    r.code = 0 ∧ ∃ t v st s' k', lc.at? (r.height + 1) = some t ∧ lc'.chain = lc.chain ∧
      r.value = some v ∧ store = some st ∧ keyRoundTrip st = some s' ∧ keyRoundTrip r.key = some k' ∧
      (∀ stores, t.header.appHash = appHashOf H stores → StoresWF stores → StoresNE stores →
        s'.length < 2 ^ 64 → k'.length < 2 ^ 64 →
        (∃ kvs, (s', kvs) ∈ stores ∧
          ((k', v) ∈ kvs ∨ ∃ v'', (k', v'') ∈ kvs ∧ v''.length = L ∧ ∃ o ∈ r.ops, o.key = []))
        ∨ Nonempty (Collision H)) := by
  obtain ⟨hc, _, hops, _, t, v, st, s', k', hat, hchain, h3, h4, h5, h6, hver⟩ := verifyABCI_ok H hacc
  refine ⟨hc, t, v, st, s', k', hat, hchain, h3, h4, h5, h6, ?_⟩
  intro stores happ hwf hnem hsl hkl
  rw [happ] at hver
  exact verifyValue_sound H L hL64 hlen r.ops hops stores s' k' v hwf hnem hsl hkl hver

/-- … in particular: if no value of the application has the length of a hash, or the answer has no
keyless operator, the returned pair IS in a store of the application. -/
theorem relay_sound_abci_no_hash_values (L : Nat) (hL : 0 < L) (hL64 : L < 2 ^ 64) (hlen : ∀ x, (H x).length = L)
    (lc lc' : LC) (store : Option Bytes) (r : ABCIResp)
    (hacc : verifyABCI H lc store r = (.ok, lc')) :
    ∃ t v s' k', lc.at? (r.height + 1) = some t ∧ r.value = some v ∧ keyRoundTrip r.key = some k' ∧
      (∀ stores, t.header.appHash = appHashOf H stores → StoresWF stores → StoresNE stores →
        s'.length < 2 ^ 64 → k'.length < 2 ^ 64 →
        ((∀ s ∈ stores, ∀ kv ∈ s.2, kv.2.length ≠ L) ∨ (∀ o ∈ r.ops, o.key ≠ [])) →
        (∃ kvs, (s', kvs) ∈ stores ∧ (k', v) ∈ kvs) ∨ Nonempty (Collision H)) := by
  obtain ⟨_, t, v, st, s', k', h1, _, h3, _, _, h6, hall⟩ := relay_sound_abci H L hL hL64 hlen lc lc' store r hacc
  refine ⟨t, v, s', k', h1, h3, h6, ?_⟩
  intro stores happ hwf hnem hsl hkl hex
  rcases hall stores happ hwf hnem hsl hkl with ⟨kvs, hmem, hor⟩ | hc
  · rcases hor with h | ⟨v'', hv'', hl, o, ho, hk⟩
    · left; exact ⟨kvs, hmem, h⟩
    · exfalso
      rcases hex with h | h
      · exact h (s', kvs) hmem (k', v'') hv'' hl
      · exact h o ho hk
  · right; exact hc

/-- the two operators an honest application returns for pair `i` of store `j` -/
def honestOps (stores : List (Bytes × Store)) (j i : Nat) : List ProofOp :=
  let st := stores.getD j ([], [])
  let kv := st.2.getD i ([], [])
  [ { typeOK := true, key := kv.1, dataOK := true, proof := proofOf H (storeLeaves H st.2) i },
    { typeOK := true, key := st.1, dataOK := true, proof := proofOf H (appLeaves H stores) j } ]

/-- **Known finding (keyless operators), witness in the model.** The second case of `relay_sound_abci`
is reachable: against a state whose store `s` holds `k ↦ (a 32-byte value)`, the answer
`k ↦ [9]` carrying a keyless one-leaf `ValueOp` in front of the genuine two operators is relayed,
although `(k, [9])` is not in the store. (Replayed on the real client with SHA-256, see
known-findings.json `lightrpc.ABCIQuery.accepts-value-not-in-state.keyless-operator`.) -/
theorem abci_keyless_operator_accepted :
    let stores : List (Bytes × Store) := [([115], [([107], Wit.z32)])]
    let evil : ProofOp := ProofOp.mk true [] true (Proof.mk 1 0 Wit.z32 [])
    (verifyABCI Wit.H0 { chain := [Wit.lb, Wit.lb], stored := [1] } (some [115])
      { code := 0, key := [107], value := some [9], height := 1, opsNil := false,
        ops := evil :: honestOps Wit.H0 stores 0 0 }).1 = .ok ∧
    Wit.lb.header.appHash = appHashOf Wit.H0 stores ∧
    ¬ ∃ kvs, ([115], kvs) ∈ stores ∧ (([107] : Bytes), ([9] : Bytes)) ∈ kvs := by
  refine ⟨by decide, ?_, ?_⟩
  · exact (Wit.root_H0 _).symm
  · rintro ⟨kvs, h1, h2⟩
    simp at h1
    subst h1
    simp at h2
    revert h2
    decide

/-- **Completeness (ABCIQuery).** The value proof an honest application builds for a pair of one of
its stores — at a height whose successor header (carrying that state's `AppHash`) the providers
have — is relayed, PROVIDED store name and key survive the key-path round trip
(`keyRoundTrip x = some x`: false exactly for texts starting with `x:`, see
`abci_x_colon_key_rejected`) and are non-empty, and the operators pass `ProofFromProto`'s
`ValidateBasic`. -/
theorem relay_complete_abci (lc : LC) (h : Int) (hpos : 0 < h) (t : LightBlock)
    (hat : lc.at? (h + 1) = some t) (stores : List (Bytes × Store))
    (happ : t.header.appHash = appHashOf H stores) (j i : Nat) (hj : j < stores.length)
    (hi : i < (stores[j]).2.length)
    (hkne : ((stores[j]).2[i]).1 ≠ []) (hsne : (stores[j]).1 ≠ [])
    (hkrt : keyRoundTrip ((stores[j]).2[i]).1 = some ((stores[j]).2[i]).1)
    (hsrt : keyRoundTrip (stores[j]).1 = some (stores[j]).1)
    (hdec : ∀ o ∈ honestOps H stores j i, o.decodes = true) :
    ∃ lc', verifyABCI H lc (some (stores[j]).1)
      { code := 0, key := ((stores[j]).2[i]).1, value := some ((stores[j]).2[i]).2, height := h,
        opsNil := false, ops := honestOps H stores j i } = (.ok, lc') := by
  obtain ⟨lc1, hupd⟩ := updateTo_some_complete lc (h + 1) t hat
  refine ⟨lc1, ?_⟩
  have hops : honestOps H stores j i =
      [ { typeOK := true, key := ((stores[j]).2[i]).1, dataOK := true, proof := proofOf H (storeLeaves H (stores[j]).2) i },
        { typeOK := true, key := (stores[j]).1, dataOK := true, proof := proofOf H (appLeaves H stores) j } ] := by
    simp [honestOps, List.getD_eq_getElem?_getD, hj, hi]
  -- the pair's operator computes the store's root, the store's operator the application hash
  have hr1 := runOp_proofOf H (storeLeaves H (stores[j]).2) i (by simpa [storeLeaves] using hi)
    ((stores[j]).2[i]).1 ((stores[j]).2[i]).2 (by simp [storeLeaves]) true true
  have hr2 := runOp_proofOf H (appLeaves H stores) j (by simpa [appLeaves] using hj)
    (stores[j]).1 (storeRoot H (stores[j]).2) (by simp [appLeaves]) true true
  have hrun : runOps H (honestOps H stores j i) [(stores[j]).1, ((stores[j]).2[i]).1] ((stores[j]).2[i]).2 =
      some ([], appHashOf H stores) :=
    hops ▸ (runOps_cons_keyed H _ [(stores[j]).1] hkne hr1).trans (runOps_cons_keyed H _ [] hsne hr2)
  have hvv := (verifyValue_eq_true H).mpr ⟨hdec, happ ▸ hrun⟩
  have hh : ¬ h ≤ 0 := by omega
  have hne : honestOps H stores j i ≠ [] := by rw [hops]; simp
  unfold verifyABCI
  simp [hkne, hne, hh, hupd, hsrt, hkrt, hvv]

/-- **Known finding (glue).** A store name or key that does not survive the key-path round trip
(`KeyPath.String` URL-encodes, `KeyPathToKeys` reads parts starting with `x:` as hex) is never
relayed with a value — not even the honest answer. -/
theorem abci_x_colon_key_rejected (lc : LC) (st : Bytes) (r : ABCIResp) (v : Bytes)
    (hv : r.value = some v) (hbad : keyRoundTrip st = none ∨ keyRoundTrip r.key = none) :
    (verifyABCI H lc (some st) r).1 ≠ .ok := by
  intro hok
  obtain ⟨_, _, _, _, _, _, _, _, _, _, _, _, hst, hs, hk, _⟩ :=
    verifyABCI_ok H (lc' := (verifyABCI H lc (some st) r).2) (Prod.ext hok rfl)
  cases hst
  rcases hbad with h | h
  · rw [h] at hs; cases hs
  · rw [h] at hk; cases hk

/-- e.g. the key `x:zz` (and `x:ab` is read back as the single byte 0xab) -/
example : keyRoundTrip [0x78, 0x3a, 0x7a, 0x7a] = none ∧
    keyRoundTrip [0x78, 0x3a, 0x61, 0x62] = some [0xab] := by decide

/-! ## Commit, Validators: answered from the light client alone -/

/-- **Soundness (Commit).** What `Commit` returns is a light block the providers serve, of the requested
height when one was requested; the backend is never consulted (the model has no backend input). -/
theorem relay_sound_commit (lc lc' : LC) (req : Option Int) (v : Verdict) (r : Option LightBlock)
    (h : commit lc req = ((v, r), lc')) :
    (v = .ok ↔ r.isSome) ∧
    ∀ l, r = some l → (∃ k, lc.at? k = some l) ∧ (∀ k, req = some k → lc.at? k = some l) := by
  unfold commit at h
  split at h
  · simp at h; obtain ⟨⟨h1, h2⟩, _⟩ := h; subst h1; subst h2; simp
  · rename_i l lc1 hupd
    simp at h; obtain ⟨⟨h1, h2⟩, _⟩ := h; subst h1; subst h2
    obtain ⟨_, hex, hat⟩ := updateTo_ok lc lc1 _ l hupd
    refine ⟨by simp, ?_⟩
    intro l' hl'
    simp at hl'; subst hl'
    exact ⟨hex, hat⟩

/-- **Completeness (Commit with a height).** A height the providers have is answered. -/
theorem relay_complete_commit (lc : LC) (k : Int) (l : LightBlock) (hat : lc.at? k = some l) :
    ∃ lc', commit lc (some k) = ((.ok, some l), lc') := by
  obtain ⟨lc1, hupd⟩ := updateTo_some_complete lc k l hat
  exact ⟨lc1, by unfold commit; rw [hupd]⟩

/-- **Soundness (Validators).** The relayed page is a contiguous slice of the validator set of a light
block the providers serve (of the requested height when one was requested), with that block's height
and the set's size as `Total`. -/
theorem relay_sound_validators (lc lc' : LC) (req page perPage : Option Int) (r : ResultValidators)
    (h : validators lc req page perPage = ((.ok, some r), lc')) :
    ∃ l, (∃ k, lc.at? k = some l) ∧ (∀ k, req = some k → lc.at? k = some l) ∧
      r.height = l.header.height ∧ r.total = l.vals.length ∧ r.count = r.vals.length ∧
      (∃ s n, r.vals = (l.vals.drop s).take n) ∧ ∀ v ∈ r.vals, v ∈ l.vals := by
  unfold validators at h
  split at h
  · simp at h
  · rename_i l lc1 hupd
    obtain ⟨_, hex, hat⟩ := updateTo_ok lc lc1 _ l hupd
    simp only at h
    split at h
    · simp at h
    · simp only [Prod.mk.injEq, Option.some.injEq, true_and] at h
      obtain ⟨hr, _⟩ := h
      subst hr
      refine ⟨l, hex, hat, rfl, rfl, rfl, ⟨_, _, rfl⟩, ?_⟩
      intro v hv
      exact List.mem_of_mem_drop (List.mem_of_mem_take hv)

/-- **Completeness (Validators).** For a height the providers have, the first page (no `page`
parameter, any `per_page`) is answered. -/
theorem relay_complete_validators (lc : LC) (k : Int) (l : LightBlock) (hat : lc.at? k = some l)
    (perPage : Option Int) :
    ∃ r lc', validators lc (some k) none perPage = ((.ok, some r), lc') := by
  obtain ⟨lc1, hupd⟩ := updateTo_some_complete lc k l hat
  unfold validators
  rw [hupd]
  simp [validatePage]

/-! ### a concrete one-block chain (used for the witnesses and the non-vacuity examples) -/
namespace Wit
theorem chainOK : ChainOK lc0 where
  vh := by intro k t h; rw [(at_inv k t h).2]; decide
  height := by intro k t h; obtain ⟨e1, e2⟩ := at_inv k t h; rw [e1, e2]; rfl

theorem honest : HonestBlock H0 lb blk where
  header := rfl
  data := (root_H0 _).symm
  commit := (root_H0 _).symm
  evidence := (root_H0 _).symm

/-- the honest answer with a falsified `PartSetHeader` (7 parts, no hash; the commit signs 1 part) -/
def badBid : BlockID := { hash := z32, total := 7, psHash := [] }

theorem bad_accepted : ∃ lc', verifyBlock H0 lc0 (.height (some 1)) { blockID := badBid, block := some blk } = (.ok, lc') :=
  relay_complete_block H0 lc0 chainOK 1 lb at_one blk honest (by decide) ⟨rfl, rfl, rfl⟩ badBid
    (by rw [show lb.header = hdr from rfl, hdr_hash]; rfl) (by decide) _ (Or.inr (Or.inl rfl))

/-- the honest proven answer for the pair `k ↦ v` of store `s` (one store, one pair) at height 1 of a
two-block chain is relayed -/
theorem abci_accepted : ∃ lc', verifyABCI H0 { chain := [lb, lb], stored := [1] } (some [115])
    { code := 0, key := [107], value := some [118], height := 1, opsNil := false,
      ops := honestOps H0 [([115], [([107], [118])])] 0 0 } = (.ok, lc') := by
  have hat : LC.at? { chain := [lb, lb], stored := [1] } (1 + 1) = some lb := by
    simp [LC.at?]
  have hdec : ∀ o ∈ honestOps H0 [([115], [([107], [118])])] 0 0, o.decodes = true := by
    intro o ho
    simp only [honestOps, List.getD_cons_zero, List.mem_cons, List.not_mem_nil, or_false] at ho
    rcases ho with rfl | rfl <;> decide
  exact relay_complete_abci H0 _ 1 (by decide) lb hat [([115], [([107], [118])])] (root_H0 _).symm 0 0
    (by decide) (by decide) (by decide) (by decide) (by decide) (by decide) hdec

end Wit

/-- the full statement one would want for `BlockID.PartSetHeader` (the trusted commit signs it) -/
def BlockBindsPartSetHeader : Prop :=
  ∀ (H : Bytes → Bytes) (lc lc' : LC) (req : BlockReq) (res : ResultBlock), ChainOK lc →
    verifyBlock H lc req res = (.ok, lc') →
    ∃ b t, res.block = some b ∧ lc.at? b.header.height = some t ∧
      res.blockID.total = t.commitBlockID.total ∧ res.blockID.psHash = t.commitBlockID.psHash

/-- **Known finding.** `Block`/`BlockByHash` never look at `BlockID.PartSetHeader`: an answer with any
part-set header is relayed. -/
theorem relay_sound_block_partSetHeader_fails : ¬ BlockBindsPartSetHeader := by
  intro hall
  obtain ⟨lc', hacc⟩ := Wit.bad_accepted
  obtain ⟨b, t, hb, hat, htot, _⟩ := hall Wit.H0 Wit.lc0 lc' _ _ Wit.chainOK hacc
  simp only [Option.some.injEq] at hb
  subst hb
  have := (Wit.at_inv _ _ hat).2
  subst this
  revert htot
  decide

/-- **Known finding.** `Tx` relays the `Index` label unchecked: the honest answer relabelled with any
index is relayed. (A Merkle proof does not pin the position by itself — C10
`total_not_bound_by_verify` — so comparing with `Proof.Proof.Index` would not be a full repair.) -/
theorem tx_index_not_bound : ¬ TxBindsIndex := by
  intro hall
  have hd : Wit.lb.header.dataHash = txsHash Wit.H0 [[1]] := (Wit.root_H0 _).symm
  obtain ⟨lc', hacc⟩ := relay_complete_tx Wit.H0 32 (by decide) Wit.H0_len Wit.lc0 1 (by decide)
    Wit.lb Wit.at_one [[1]] hd 0 (by decide) 5 0 []
  have := hall Wit.H0 Wit.lc0 lc' _ _ hacc
  simp [proofFor, proofOf] at this

/-- the full statement one would want for the part-set header of a relayed block meta -/
def MetaBindsPartSetHeader : Prop :=
  ∀ (H : Bytes → Bytes) (lc lc' : LC) (minH maxH : Int) (metas : List (Option BlockMeta)), ChainOK lc →
    verifyBlockchainInfo H lc minH maxH metas = (.ok, lc') →
    ∀ m, some m ∈ metas → ∃ t, lc.at? m.header.height = some t ∧
      m.blockID.total = t.commitBlockID.total ∧ m.blockID.psHash = t.commitBlockID.psHash

/-- **Known finding.** `BlockchainInfo` never looks at `BlockMeta.BlockID.PartSetHeader`. -/
theorem relay_sound_blockchainInfo_partSetHeader_fails : ¬ MetaBindsPartSetHeader := by
  intro hall
  let m : BlockMeta := { blockID := Wit.badBid, blockSize := 0, header := Wit.hdr, numTxs := 0 }
  have hm : ∀ x ∈ [some m], ∃ m' t, x = some m' ∧ Wit.lc0.at? m'.header.height = some t ∧
      m'.header = t.header ∧ m'.blockID.hash = t.header.hash Wit.H0 ∧ m'.blockID.validateBasic = true ∧
      InRange 0 0 m'.header.height := by
    intro x hx
    simp only [List.mem_singleton] at hx
    subst hx
    exact ⟨m, Wit.lb, rfl, Wit.at_one, rfl, by rw [show Wit.lb.header = Wit.hdr from rfl, Wit.hdr_hash]; rfl, by decide, by unfold InRange; omega⟩
  obtain ⟨lc', hacc⟩ := relay_complete_blockchainInfo Wit.H0 Wit.lc0 0 0 [some m] hm
  obtain ⟨t, hat, htot, _⟩ := hall Wit.H0 Wit.lc0 lc' 0 0 _ Wit.chainOK hacc m (by simp)
  have := (Wit.at_inv _ _ hat).2
  subst this
  revert htot
  decide

/-! ## Request binding: the relayed answer is the answer to what the caller asked -/

/-- **Block / BlockByHash answer the request**: a relayed block is of the requested height, resp. has
the requested hash (with no height given, "latest" is whatever the node says: nothing to bind). -/
theorem relay_binds_request_block (L : Nat) (hL : 0 < L) (hlen : ∀ x, (H x).length = L)
    (lc lc' : LC) (hok : ChainOK lc) (req : BlockReq) (res : ResultBlock)
    (hacc : verifyBlock H lc req res = (.ok, lc')) :
    ∃ b, res.block = some b ∧ (∀ h, req = .height (some h) → b.header.height = h) ∧
      (∀ x, req = .hash x → res.blockID.hash = x ∧ b.header.hash H = x) := by
  obtain ⟨b, _, hb, _, hid, hm, _, _⟩ := verifyBlock_ok H hacc
  refine ⟨b, hb, ?_, ?_⟩
  · intro h hr; subst hr; simpa [BlockReq.matches] using hm
  · intro x hr; subst hr
    have e : res.blockID.hash = x := by simpa [BlockReq.matches] using hm
    exact ⟨e, by rw [← hid, e]⟩

/-- **ConsensusParams, BlockResults, Tx, Commit answer the request**: the height label is the
requested height; the transaction hashes to the requested hash; the commit is of the requested
height. (BlockchainInfo: `relay_sound_blockchainInfo` has the range.) -/
theorem relay_binds_request_others :
    (∀ (lc lc' : LC) (req : Option Int) (bh : Int) (p : Params),
        verifyParams H lc req bh p = (.ok, lc') → ∀ k, req = some k → bh = k) ∧
    (∀ (lc lc' : LC) (h rh : Int) (rs : List TxResult),
        verifyBlockResults H lc h rh rs = (.ok, lc') → rh = h) ∧
    (∀ (lc lc' : LC) (reqHash : Bytes) (res : ResultTx),
        verifyTx H lc reqHash res = (.ok, lc') → H res.tx = reqHash ∧ res.hash = reqHash) ∧
    (∀ (lc lc' : LC) (req : Option Int) (l : LightBlock) (v : Verdict),
        commit lc req = ((v, some l), lc') → ∀ k, req = some k → lc.at? k = some l) := by
  refine ⟨?_, ?_, ?_, ?_⟩
  · intro lc lc' req bh p h
    exact (verifyParams_ok H h).2.1
  · intro lc lc' h rh rs hacc
    exact (verifyBlockResults_ok H hacc).2.1
  · intro lc lc' reqHash res hacc
    obtain ⟨_, _, _, _, _, _, h1, h2⟩ := verifyTx_ok H hacc
    exact ⟨h1, h2⟩
  · intro lc lc' req l v h
    exact ((relay_sound_commit lc lc' req v (some l) h).2 l rfl).2

/-- the full statement one would want for proven application queries: the relayed answer is for the
key (`data`) and, when one was given, the height the caller asked for -/
def ABCIBindsRequest : Prop :=
  ∀ (H : Bytes → Bytes) (lc lc' : LC) (store : Option Bytes) (data : Bytes) (qh : Int) (r : ABCIResp),
    verifyABCI H lc store r = (.ok, lc') → r.key = data ∧ (0 < qh → r.height = qh)

/-- **Known finding.** `ABCIQueryWithOptions` never compares the answer's `Key` / `Height` with the
request's `data` / `opts.Height` (the model's `verifyABCI` does not even take them): a genuine proven
answer for another key or height is relayed. Not repaired: what `data` means and which height an
application reports are application conventions, not something a header commits to; the relayed
answer carries `Key` and `Height`, so the caller can compare. -/
theorem relay_binds_request_abci_fails : ¬ ABCIBindsRequest := by
  intro hall
  obtain ⟨lc', hacc⟩ := Wit.abci_accepted
  have := (hall Wit.H0 _ lc' _ [1, 2, 3] 7 _ hacc).1
  revert this
  decide

/-- every route the proxy registers is classified, and the verified / light-client ones are exactly
the response kinds the theorems above cover -/
theorem routes_classified :
    (∀ n ∈ routeNames, (routeClass n).isSome) ∧
    routeNames.filter (fun n => routeClass n = some .verified) =
      ["abci_query", "block", "block_by_hash", "block_results", "blockchain", "consensus_params", "tx",
       "tx_search"] ∧
    routeNames.filter (fun n => routeClass n = some .lightClient) = ["commit", "validators"] := by
  decide

/-! ## Latest-height requests (no height given) -/

/-- the light client's store after initialisation: non-empty, and every stored height is one the
providers serve -/
structure StoreOK (lc : LC) : Prop where
  nonempty : lc.stored ≠ []
  served : ∀ h ∈ lc.stored, ∃ b, lc.at? h = some b

/-- **Completeness (Commit without a height).** With the repaired
`updateLightClientIfNeededTo`, a latest-height request is always answered: by the providers' newest
block if it is newer than the latest trusted one, otherwise by the latest trusted block. -/
theorem relay_complete_latest (lc : LC) (hs : StoreOK lc) :
    ∃ l lc', commit lc none = ((.ok, some l), lc') ∧ ∃ k, lc.at? k = some l := by
  obtain ⟨l, lc', hupd⟩ := updateTo_none_complete lc hs.nonempty hs.served
  obtain ⟨_, hex, _⟩ := updateTo_ok lc lc' none l hupd
  exact ⟨l, lc', by unfold commit; rw [hupd], hex⟩

/-! ## Inclusion proofs served by a full node's RPC -/

/-- **served_proof_verifies.** What `rpc/core.Tx` attaches for transaction `i` of a block
(`block.Data.Txs.Proof(i)`) validates against that block's `DataHash` (`Data.Hash()`), for every
block and every position (from C10 completeness), and therefore the verifying client relays it
(`relay_complete_tx`). -/
theorem served_proof_verifies (L : Nat) (hL : 0 < L) (hlen : ∀ x, (H x).length = L)
    (txs : List Bytes) (i : Nat) (hi : i < txs.length) :
    validate H (txsHash H txs) (proofFor H txs i) = .ok () ∧ (proofFor H txs i).data = txs[i] := by
  refine ⟨proofFor_validates H txs i hi, ?_⟩
  simp [proofFor, List.getD_eq_getElem?_getD, hi]

/-- **Every proof `TxSearch` serves verifies against the data hash of the block it refers to**, for
every index result set, both orders, every page and page size: each result of the page is one of the
hits, and its proof is the one of the block AT THAT RESULT'S HEIGHT — it validates against that
block's `DataHash` and carries the transaction at (height, index). -/
theorem served_search_proofs_verify (L : Nat) (hL : 0 < L) (hlen : ∀ x, (H x).length = L)
    (txsAt : Int → List Bytes) (hits : List Hit) (order : String) (page perPage : Option Int)
    (total : Nat) (res : List (Hit × Option TxProof))
    (hidx : ∀ h ∈ hits, h.index < (txsAt h.height).length)
    (hres : txSearch H txsAt hits order true page perPage = .ok (total, res)) :
    ∀ r ∈ res, r.1 ∈ hits ∧ ∃ p, r.2 = some p ∧
      validate H (txsHash H (txsAt r.1.height)) p = .ok () ∧
      p.data = (txsAt r.1.height).getD r.1.index [] := by
  have hsorts (desc : Bool) : InsertionSort (hitBefore desc · · = true) (insertHit desc) (sortHits desc) :=
    ⟨fun _ => rfl, fun _ _ _ => rfl, rfl, fun _ _ => rfl⟩
  unfold txSearch at hres
  split at hres; · cases hres
  simp only at hres
  split at hres; · cases hres
  rename_i p hp
  simp only [Except.ok.injEq, Prod.mk.injEq] at hres
  obtain ⟨_, hmap⟩ := hres
  simp only [if_true] at hmap
  intro r hr
  rw [← hmap, List.mem_map] at hr
  obtain ⟨h, hmem, hr⟩ := hr
  have hin : h ∈ hits := ((hsorts _).perm _).subset (List.mem_of_mem_drop (List.mem_of_mem_take hmem))
  have hi := hidx h hin
  obtain ⟨hv, hd⟩ := served_proof_verifies H L hL hlen (txsAt h.height) h.index hi
  rw [← hr]
  refine ⟨hin, _, rfl, hv, ?_⟩
  rw [hd]; simp [List.getD_eq_getElem?_getD, hi]

/-! ## Non-vacuity: the hypotheses of the theorems above are satisfiable by a concrete chain -/

example : ChainOK Wit.lc0 ∧ StoreOK Wit.lc0 ∧ HonestBlock Wit.H0 Wit.lb Wit.blk ∧
    (∀ x, (Wit.H0 x).length = 32) := by
  refine ⟨Wit.chainOK, ⟨by decide, ?_⟩, Wit.honest, Wit.H0_len⟩
  intro h hh
  have : h = 1 := by simpa [Wit.lc0] using hh
  subst this
  exact ⟨_, Wit.at_one⟩

/-- an accepted block answer exists (so `relay_sound_block` is not vacuous) … -/
example : ∃ req res lc', verifyBlock Wit.H0 Wit.lc0 req res = (.ok, lc') :=
  let ⟨lc', h⟩ := Wit.bad_accepted; ⟨_, _, lc', h⟩

/-- … and a refused one -/
example : (verifyBlock Wit.H0 Wit.lc0 (.height none) { blockID := Wit.badBid, block := none }).1 = .errBlock := by
  decide

/-- the hypotheses of `relay_complete_abci` are satisfiable (one store `s` holding `k ↦ v`), so an
accepted proven query exists and `relay_sound_abci` is not vacuous -/
example : ∃ lc', verifyABCI Wit.H0 { chain := [Wit.lb, Wit.lb], stored := [1] } (some [115])
    { code := 0, key := [107], value := some [118], height := 1, opsNil := false,
      ops := honestOps Wit.H0 [([115], [([107], [118])])] 0 0 } = (.ok, lc') :=
  Wit.abci_accepted

/-- well-formed results / parameters exist -/
example : (TxResult.WF { code := 0, data := [1], gasWanted := 5, gasUsed := -1 }) ∧ I64 (-1) := by
  unfold TxResult.WF I64; simp

end Tmv.Props.C20
