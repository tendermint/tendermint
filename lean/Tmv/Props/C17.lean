import Tmv.Lemmas.MConn
import Tmv.Lemmas.PeerState
import Tmv.Model.ReactorMsgs
import Tmv.Props.C16
/-! # C17 — channel messages arrive intact and in order; bad peer input only drops the peer

Model: `Tmv.Model.MConn` (p2p/conn/connection.go) and `Tmv.Model.PeerMsgs` (consensus message
validation), `Tmv.Model.PeerState` (the peer-state handlers' index uses), `Tmv.Model.ReactorMsgs`
(the other reactors' receive decisions and arithmetic) and, for the composition with C16,
`Tmv.Model.SecretFrames`. Helper definitions live in `Tmv.Lemmas.MConn`. -/
namespace Tmv.Props.C17
open Tmv Tmv.MConn

/-! ## clause 1: exactly once, unmodified, in per-channel order -/

/-- Receiver side, ANY interleaving and ANY message sizes (empty messages included): let `wire` be
any sequence of packets such that, for every channel of the connection, its sub-sequence on that
channel is the packetisation (`maxSize`-byte packets, EOF flag on the last) of the message list
`msgs id`, every message within the channel's receive capacity, every frame within the frame
limit. Then the receive loop never stops and its `onReceive` log, restricted to a channel, is
exactly `msgs id` — each message once, unmodified, in order — and the buffers are empty again. -/
theorem exactly_once_in_order (mx : Nat) (hmx : 0 < mx) (r : Receiver) (lens : PacketMsg → Nat)
    (msgs : Nat → List Bytes) (wire : List PacketMsg)
    (hup : r.stopped = none)
    (hknown : ∀ p ∈ wire, lens p ≤ r.maxPacket ∧ 0 ≤ p.chId ∧ p.chId ≤ 255 ∧
      (r.chans.find? (·.id = p.chId.toNat)).isSome)
    (hstreams : ∀ id c, r.chans.find? (·.id = id) = some c →
      c.recving = [] ∧ proj id wire = (msgs id).flatMap (packetize mx) ∧
      ∀ m ∈ msgs id, m.length ≤ c.cap) :
    (recvAll r (msgFrames lens wire)).1.stopped = none ∧
    ∀ id c, r.chans.find? (·.id = id) = some c →
      delivered id (recvAll r (msgFrames lens wire)).2 = msgs id ∧
      ∃ c', (recvAll r (msgFrames lens wire)).1.chans.find? (·.id = id) = some c' ∧ c'.recving = [] := by
  have h := recv_streams mx hmx r lens msgs wire hup hknown fun id c hc =>
    ⟨(hstreams id c hc).1, ⟨[], (List.append_nil _).trans (hstreams id c hc).2.1⟩,
      (hstreams id c hc).2.2⟩
  exact ⟨h.1, fun id c hc => (h.2 id c hc).2 (hstreams id c hc).2.1⟩

/-- non-vacuity: two channels, messages of sizes 0, 3 (= 1.5 packets) and 2 interleaved on the wire -/
example :
    let r := Receiver.new 2 [⟨1, 0, 8⟩, ⟨2, 0, 8⟩]
    let wire : List PacketMsg := [⟨1, false, [1, 2]⟩, ⟨2, true, []⟩, ⟨1, true, [3]⟩, ⟨2, true, [7, 7]⟩]
    (recvAll r (msgFrames (fun _ => 0) wire)).2 = [(2, []), (1, [1, 2, 3]), (2, [7, 7])] ∧
    proj 1 wire = ([[1, 2, 3]] : List Bytes).flatMap (packetize 2) ∧
    proj 2 wire = ([[], [7, 7]] : List Bytes).flatMap (packetize 2) := by decide

/-- Sender side, ANY interleaving of `TrySend` calls (on any channels, any sizes, accepted or
refused) and `sendPacketMsg` steps with ANY channel pick: per channel, the packets put on the wire
so far followed by what the channel still owes is exactly the packetisation of the messages
accepted on that channel, in acceptance order. -/
theorem sender_streams (mx : Nat) (hmx : 0 < mx) (ds : List Desc) (hnd : (ds.map (·.id)).Nodup)
    (ops : List SOp) :
    ∀ c ∈ (runOps (Sender.new mx ds) {} ops).1.chans,
      proj c.id (runOps (Sender.new mx ds) {} ops).2.wire ++ rest mx c =
        (delivered c.id (runOps (Sender.new mx ds) {} ops).2.acc).flatMap (packetize mx) :=
  ((new_run mx ds hnd).steps hmx ops).streams

/-- `sendPacketMsg` reports "nothing to send" only when no channel owes anything (so an accepted
message — the empty one included — cannot be forgotten by the send routine). -/
theorem nothing_to_send_only_when_idle (s : Sender) (pick : Nat) (hn : (s.chans.map (·.id)).Nodup)
    (h : (sendPacketMsg s pick).2 = none) : idle s := by
  intro c hc
  rcases sendPacketMsg_spec s pick _ rfl (pending_nodup s hn) with ⟨_, hall⟩ | ⟨_, _, _, _, h1⟩
  · exact isSendPending_none _ c (hall _ (List.mem_map.mpr ⟨c, hc, rfl⟩))
  · rw [h1] at h
    cases h

/-- End to end: a connection with distinct byte channel ids; any interleaving of `TrySend`s and
send-routine steps with any picks; once the sender owes nothing, the receive loop fed with the
emitted packets (frame lengths = real encoded sizes) is still up and has delivered, per channel,
exactly the accepted messages in acceptance order — provided the accepted messages respect the
receiver's `RecvMessageCapacity` (otherwise the receiver is entitled to drop the connection). -/
theorem exactly_once_in_order_end_to_end (mx : Nat) (hmx : 0 < mx) (ds : List Desc)
    (hnd : (ds.map (·.id)).Nodup) (hbyte : ∀ d ∈ ds, d.id ≤ 255) (ops : List SOp)
    (hidle : idle (runOps (Sender.new mx ds) {} ops).1)
    (hcap : ∀ d ∈ ds, ∀ m ∈ delivered d.id (runOps (Sender.new mx ds) {} ops).2.acc,
      m.length ≤ d.fillDefaults.recvMessageCapacity) :
    (recvAll (Receiver.new mx ds) (msgFrames (fun p => packetSize p.chId.toNat p.eof p.data.length)
        (runOps (Sender.new mx ds) {} ops).2.wire)).1.stopped = none ∧
    ∀ d ∈ ds,
      delivered d.id (recvAll (Receiver.new mx ds) (msgFrames (fun p => packetSize p.chId.toNat p.eof p.data.length)
        (runOps (Sender.new mx ds) {} ops).2.wire)).2 =
      delivered d.id (runOps (Sender.new mx ds) {} ops).2.acc := by
  have h := ((new_run mx ds hnd).steps hmx ops).delivery hmx hbyte _ [] (List.append_nil _).symm hcap
  exact ⟨h.1, fun d hd => (h.2 d hd).2 hidle rfl⟩

/-- non-vacuity: the empty message on channel 200 is accepted first, channel 1 is served first
(the schedule that lost the message before the repair), the run ends idle -/
example :
    let ops := [SOp.send 200 [], .send 1 [5, 6, 7], .step 1, .step 1, .step 200, .step 0]
    let st := runOps (Sender.new 2 [⟨1, 2, 8⟩, ⟨200, 2, 8⟩]) {} ops
    st.2.acc = [(200, []), (1, [5, 6, 7])] ∧
    st.2.wire = [⟨1, false, [5, 6]⟩, ⟨1, true, [7]⟩, ⟨200, true, []⟩] ∧
    (∀ c ∈ st.1.chans, rest 2 c = []) := by decide

/-! ## clause 2: the receive buffers never exceed the configured capacity -/

/-- For ANY frame sequence (hostile ones included) every channel buffers at most its
`RecvMessageCapacity`, after every frame (the statement holds for every prefix, a prefix being a
frame sequence itself). -/
theorem recv_buffer_bounded (mx : Nat) (ds : List Desc) (frames : List Frame) :
    ∀ c ∈ (recvAll (Receiver.new mx ds) frames).1.chans, c.recving.length ≤ c.cap :=
  recvAll_bounded frames _ (new_bounded mx ds)

example : (recvAll (Receiver.new 4 [⟨1, 0, 3⟩])
    [⟨0, .msg ⟨1, false, [1, 2]⟩⟩, ⟨0, .msg ⟨1, false, [3, 4]⟩⟩]).1.stopped = some .overCapacity := by decide

/-! ## clause 3: oversized / unknown / undecodable input stops the connection, nothing delivered -/

/-- the hostile frame classes -/
def Hostile (r : Receiver) (f : Frame) : Prop :=
  f.len > r.maxPacket ∨ f.pkt = .bad ∨ f.pkt = .nosum ∨
  ∃ p, f.pkt = .msg p ∧
    (p.chId < 0 ∨ p.chId > 255 ∨ r.chans.find? (·.id = p.chId.toNat) = none ∨
      ∃ c, r.chans.find? (·.id = p.chId.toNat) = some c ∧ c.cap < c.recving.length + p.data.length)

/-- A frame that is oversized, undecodable, without a packet kind, for an unknown channel or over
the channel's capacity makes the loop stop with an error: nothing is delivered from it, no buffer
changes, and no later frame is ever processed or delivered. -/
theorem oversize_or_unknown_stops (r : Receiver) (f : Frame) (hup : r.stopped = none)
    (h : Hostile r f) :
    ∃ e, recvFrame r f = ({ r with stopped := some e }, .error e) ∧
      ∀ later, recvAll (recvFrame r f).1 later = ((recvFrame r f).1, []) := by
  have key : ∀ e, recvFrame r f = ({ r with stopped := some e }, .error e) →
      ∃ e, recvFrame r f = ({ r with stopped := some e }, .error e) ∧
        ∀ later, recvAll (recvFrame r f).1 later = ((recvFrame r f).1, []) := by
    intro e he
    refine ⟨e, he, ?_⟩
    intro later
    rw [he]
    exact recvAll_stopped later _ rfl
  by_cases hlen : f.len > r.maxPacket
  · exact key .tooBig (by simp [recvFrame, hup, hlen, Receiver.fail])
  · rcases h with h | h | h | ⟨p, hp, h⟩
    · exact absurd h hlen
    · exact key .undecodable (by simp [recvFrame, hup, hlen, h, Receiver.fail])
    · exact key .unknownType (by simp [recvFrame, hup, hlen, h, Receiver.fail])
    · by_cases hr : p.chId < 0 ∨ p.chId > 255
      · exact key .unknownChannel (by simp [recvFrame, hup, hlen, hp, hr, Receiver.fail])
      · rcases h with h | h | h | ⟨c, hc, hcap⟩
        · exact absurd (Or.inl h) hr
        · exact absurd (Or.inr h) hr
        · exact key .unknownChannel (by simp [recvFrame, hup, hlen, hp, hr, h, Receiver.fail])
        · exact key .overCapacity (by simp [recvFrame, hup, hlen, hp, hr, hc, recvPacketMsg, hcap, Receiver.fail])

/-- non-vacuity: channel id 257 (which a byte cast would alias to the known channel 1) is hostile -/
example : Hostile (Receiver.new 4 [⟨1, 0, 3⟩]) ⟨0, .msg ⟨257, true, [1]⟩⟩ :=
  Or.inr (Or.inr (Or.inr ⟨_, rfl, Or.inr (Or.inl (by decide))⟩))

/-- the raw length prefix: an overflowing varint, a length of 2^63-1 or more, or a length above the
frame limit stops the loop before any payload byte is interpreted -/
theorem bad_length_prefix_stops (r : Receiver) (bytes : Bytes) (pkt : Packet) (hup : r.stopped = none)
    (h : readUvarint bytes = .overflow ∨
      ∃ v rest, readUvarint bytes = .ok v rest ∧ v > r.maxPacket) :
    ∃ e r', recvRaw r bytes pkt = some (r', .error e) ∧ r'.chans = r.chans ∧ r'.stopped = some e := by
  unfold recvRaw
  rcases h with h | ⟨v, rest, h, hv⟩
  · exact ⟨.badVarint, { r with stopped := some .badVarint }, by simp [hup, h, Receiver.fail], rfl, rfl⟩
  · by_cases hb : v ≥ 2 ^ 63 - 1
    · exact ⟨.badLength, { r with stopped := some .badLength }, by simp [hup, h, hb, Receiver.fail], rfl, rfl⟩
    · exact ⟨.tooBig, { r with stopped := some .tooBig }, by simp [hup, h, hb, hv, Receiver.fail], rfl, rfl⟩

example : readUvarint (List.replicate 11 0xff) = .overflow := by decide

/-! ## clause 4 (partial): validated messages keep the handlers' index uses in range -/

open Tmv.PeerMsgs in
/-- A bit array that passed `BitArray.ValidateBasic` can be indexed (`SetIndex`/`GetIndex`) at ANY
non-negative index without leaving `Elems`. -/
theorem validated_setIndex_in_bounds (b : BitArr) (hv : BitArr.validateBasic (some b) = true)
    (i : Int) (hi : 0 ≤ i) : indexPanics (some b) i = false :=
  PeerState.indexPanics_consistent _ (PeerState.consistent_of_validateBasic _ hv) i hi

open Tmv.PeerMsgs in
/-- bit arrays the node allocates itself (`bits.NewBitArray`) are consistent -/
theorem newBitArray_valid (n : Int) : BitArr.validateBasic (newBitArray n) = true := by
  unfold newBitArray
  split
  · rfl
  · simp only [BitArr.validateBasic, Bool.and_eq_true, decide_eq_true_eq]
    omega

open Tmv.PeerMsgs in
/-- Every bit array that a message passing `ValidateBasic` installs in the peer state
(NewValidBlock.BlockParts → ProposalBlockParts, ProposalPOL.ProposalPOL, VoteSetBits.Votes via
Update) is consistent, hence the handlers' and the
gossip routines' `SetIndex` calls on it — with the non-negative indices they use: a validated
`HasVote.Index`, a uint32 part index, a validator index of one of the node's own votes — stay in
range. This speaks of the messages alone: the `PeerRoundState` transition functions and the
`Sub`/`Or`/`PickRandom` loops are the subject of `validated_handlers_in_bounds`. -/
theorem validated_message_arrays_indexable :
    (∀ m : NewValidBlock, m.valid = true → ∀ i : Int, 0 ≤ i → indexPanics m.parts i = false) ∧
    (∀ m : ProposalPOL, m.valid = true → ∀ i : Int, 0 ≤ i → indexPanics m.pol i = false) ∧
    (∀ m : VoteSetBits, m.valid = true → ∀ i : Int, 0 ≤ i → indexPanics m.votes i = false) ∧
    (∀ m : HasVote, m.valid = true → 0 ≤ m.index) := by
  have key : ∀ (b : Option BitArr), BitArr.validateBasic b = true → ∀ i : Int, 0 ≤ i →
      indexPanics b i = false := fun b hb =>
    PeerState.indexPanics_consistent b (PeerState.consistent_of_validateBasic b hb)
  exact ⟨fun m hm => key _ (PeerState.newValidBlock_valid m hm).1,
    fun m hm => key _ (PeerState.proposalPOL_valid m hm).1,
    fun m hm => key _ (PeerState.voteSetBits_valid m hm), PeerState.hasVote_index⟩

open Tmv.PeerMsgs in
/-- why the `Elems` check is needed: without it a NewValidBlock with `Bits = Total = 81` and one
element passes every other guard and index 70 leaves `Elems` (the pre-repair crash) -/
theorem short_elems_would_panic :
    indexPanics (some { bits := 81, elems := 1 }) 70 = true ∧
    BitArr.validateBasic (some { bits := 81, elems := 1 }) = false := by decide

open Tmv.PeerMsgs in
example : (NewValidBlock.valid ⟨1, 0, 81, 32, newBitArray 81⟩) = true := by decide

/-! ## clause 4: the consensus peer state under ANY sequence of validated messages -/

open Tmv.PeerMsgs Tmv.PeerState in
/-- `validated_handlers_in_bounds`: start from a fresh `PeerState`; apply, in ANY order and number,
the peer's messages that passed `ValidateBasic` (NewRoundStep, NewValidBlock, ProposalPOL, HasVote,
VoteSetBits, Proposal, BlockPart, Vote) and the calls of the node's own gossip routines
(`PickSendVote` on any of its vote sets or commits, the part-gossip and catch-up picks,
`InitProposalBlockParts`), for ANY node round state (height, round, validator count, last-commit
size, part count — bounded by `B`) and ANY index `PickRandom` may return. Then no modelled
`BitArray` index use leaves `Elems`, no `make` gets a negative length, `PickRandom` never reads
`Elems[-1]`, and every array of the peer state stays nil or consistent, non-empty and at most `B`
bits — where `B` is any bound above `MaxBlockPartsCount`, `MaxVotesCount` and the node's own sizes.
Not modelled: bit CONTENTS (no guard depends on them), the node's own vote sets / part sets
(assumed consistent), the other reactors. -/
theorem validated_handlers_in_bounds (B : Int) (hB1 : maxBlockPartsCount ≤ B) (hB2 : maxVotesCount ≤ B)
    (ops : List Op) (hadm : ∀ op ∈ ops, op.admissible B) :
    ∃ p, run {} ops = some p ∧ Inv B p :=
  run_ok B hB1 hB2 ops {} (inv_init B) hadm

open Tmv.PeerMsgs Tmv.PeerState in
/-- non-vacuity: a hostile-but-valid sequence (round-step, a proposal claiming 1601 parts, a
131-bit POL array, a has-vote with a huge index, a vote, gossip picks) runs through -/
example : (run {} [
    .newRoundStep ⟨1, 0, 1, -1⟩, .proposal 1 0 0 1601, .proposalPOL ⟨1, 0, newBitArray 131⟩,
    .hasVote ⟨1, 0, 1, 2147483647⟩, .vote 1 4 0 1 0 1 3,
    .pickSendVote ⟨1, 0, 2, 4, true⟩ (some 3), .gossipPart 1601 (some 1600), .catchupPart (some 7),
    .newRoundStep ⟨2, 0, 1, 0⟩]).isSome = true := by decide

open Tmv.PeerMsgs Tmv.PeerState in
/-- why `ProposalMessage.ValidateBasic` must bound the part count: `SetHasProposal` sizes the peer's
array with it (2^32-1 bits = 512 MB before the repair) -/
theorem proposal_total_sizes_peer_array :
    (setHasProposal { height := 1, round := 0 } 1 0 (-1) 4294967295).pbp =
      some { bits := 4294967295, elems := 67108864 } := by decide

open Tmv.PeerMsgs Tmv.PeerState in
/-- why a stored array must be non-empty: `PickRandom` on a non-nil array without elements reads
`Elems[-1]` (a validated VoteSetBits array may have size 0, it is never stored) -/
theorem empty_array_pickRandom_panics :
    pickRandomOk (some { bits := 0, elems := 0 }) = false ∧
    BitArr.validateBasic (some { bits := 0, elems := 0 }) = true := by decide

/-! ## clause 1, liveness of the send routine under a fair pick -/

/-- A channel that owes the wire something and is picked IS served: `sendPacketMsg` with
`pick = c.id` emits a packet of channel `c` (the choice rule cannot be bypassed by the
`isSendPending` pass). -/
theorem picked_pending_channel_is_served (s : Sender) (t : Trace) (h : SInv s t) (c : SChan)
    (hc : c ∈ s.chans) (hne : rest s.maxSize c ≠ []) :
    ∃ p, (sendPacketMsg s c.id).2 = some p ∧ p.chId = (c.id : Int) :=
  step_pick_serves s h.1 c hc hne

/-- `every accepted message is eventually on the wire`, with the hypothesis it needs: let `ops1`
be ANY history (TrySends, send-routine steps, any picks) and `c` a channel owing `n` packets after
it. Let `ops2` be ANY continuation — more TrySends on any channel, steps with any picks — in which
the send routine's choice falls on `c` at least `n` times (FAIRNESS, a hypothesis on the picks: the
code's rule, the least recentlySent/priority ratio, is treated in a model of its own by
`least_ratio_is_fair`, which no statement joins to this one). Then every message
accepted on `c` during `ops1` is completely on the wire after `ops2`: the channel's wire stream
starts with the packetisation of those messages, in acceptance order. Without the fairness
hypothesis the claim is false (a schedule that never picks `c` while other channels stay busy
starves it). -/
theorem fair_pick_transmits (mx : Nat) (hmx : 0 < mx) (ds : List Desc) (hnd : (ds.map (·.id)).Nodup)
    (ops1 ops2 : List SOp) (c : SChan)
    (hc : c ∈ (runOps (Sender.new mx ds) {} ops1).1.chans)
    (hfair : (rest mx c).length ≤ picksOf c.id ops2) :
    ∃ extra, proj c.id (runOps (runOps (Sender.new mx ds) {} ops1).1 (runOps (Sender.new mx ds) {} ops1).2 ops2).2.wire =
      (delivered c.id (runOps (Sender.new mx ds) {} ops1).2.acc).flatMap (packetize mx) ++ extra := by
  have hrun := (new_run mx ds hnd).steps hmx ops1
  generalize runOps (Sender.new mx ds) {} ops1 = st1 at *
  have hid : c.id ∈ ds.map (·.id) := hrun.chans ▸ List.mem_map.mpr ⟨c, hc, rfl⟩
  -- as many packets as `ops1` accepted on `c` are on the wire after `ops2` …
  have hlen := picked_packets_on_wire hmx c.id hid _ ops2 st1.1 st1.2 hrun (Nat.le_refl _) (by
    rw [← hrun.streams c hc, List.length_append]
    omega)
  -- … and they are the first ones, because the accepted log only grows
  obtain ⟨c2, _, _, hst⟩ := (hrun.steps hmx ops2).stream c.id hid
  obtain ⟨_, a, hgrow⟩ := runOps_grows ops2 st1.1 st1.2
  rw [congrArg Trace.acc hgrow, delivered_append, List.flatMap_append] at hst
  obtain ⟨extra, he⟩ := List.prefix_of_prefix_length_le ⟨_, hst.symm⟩ (List.prefix_append _ _) hlen
  exact ⟨extra, he.symm⟩

/-- non-vacuity: channel 2 owes 2 packets after `ops1`; in `ops2` channel 1 keeps receiving new
messages and is picked in between, channel 2 is picked twice: its message is out -/
example :
    let ds : List Desc := [⟨1, 4, 8⟩, ⟨2, 4, 8⟩]
    let st1 := runOps (Sender.new 2 ds) {} [.send 2 [9, 9, 9], .send 1 [1]]
    let ops2 := [SOp.step 1, .send 1 [2, 2, 2], .step 2, .step 1, .send 1 [3], .step 2, .step 1]
    (st1.1.chans.map fun c => (rest 2 c).length) = [1, 2] ∧ picksOf 2 ops2 = 2 ∧
    proj 2 (runOps st1.1 st1.2 ops2).2.wire = [(false, [9, 9]), (true, [9])] := by decide

/-! ## the other reactors: sizes, indices and height arithmetic a peer's message decides -/

open Tmv.ReactorMsgs in
/-- blockchain v0: a StatusResponse that passed `ValidateMsg` (any int64 base/height) keeps the
pool's height arithmetic inside int64: `maxPeerHeight` stays non-negative, `maxPeerHeight - 1`
(IsCaughtUp) does not underflow and `height + len(requesters)` (makeNextRequester) does not
overflow as long as the node's own height leaves room for `maxTotalRequesters` requesters. -/
theorem blockchain_status_arith_in_bounds (p : Pool) (base height : Int)
    (hv : (BcMsg.statusResponse base height).valid = true) (hh : inInt64 height)
    (hp0 : 0 ≤ p.maxPeerHeight) (hp1 : inInt64 p.maxPeerHeight)
    (hown : 0 ≤ p.height ∧ p.height + maxTotalRequesters ≤ int64Max) (hreq : p.requesters ≤ maxTotalRequesters) :
    0 ≤ (setPeerRange p height).maxPeerHeight ∧ inInt64 (setPeerRange p height).maxPeerHeight ∧
    inInt64 (caughtUpOperand (setPeerRange p height)) ∧ inInt64 (nextHeight (setPeerRange p height)) ∧
    0 ≤ base ∧ base ≤ height := by
  have hb : 0 ≤ base ∧ 0 ≤ height ∧ base ≤ height := by
    simp only [BcMsg.valid, Bool.ite_then_false] at hv
    omega
  have hmt : (maxTotalRequesters : Int) = 600 := by decide
  have hreq' : (p.requesters : Int) ≤ 600 := by rw [← hmt]; exact_mod_cast hreq
  unfold inInt64 int64Max at *
  unfold setPeerRange caughtUpOperand nextHeight
  by_cases c : height > p.maxPeerHeight
  · simp only [c, if_true]; omega
  · simp only [c, if_false]; omega

open Tmv.ReactorMsgs in
example : (BcMsg.statusResponse 0 int64Max).valid = true ∧ (BcMsg.statusResponse 5 4).valid = false := by decide

open Tmv.ReactorMsgs in
/-- statesync: a chunk that `chunkQueue.Add` stores has the snapshot's height and format and an
index below the snapshot's chunk count (any uint32 index, uint64 height in the message) -/
theorem statesync_chunk_index_in_bounds (s : Snapshot) (height format index : Nat)
    (h : chunkAccepted s height format index = true) :
    index < s.chunks ∧ height = s.height ∧ format = s.format := by
  simp only [chunkAccepted, Bool.ite_then_false] at h
  omega

open Tmv.ReactorMsgs in
example : chunkAccepted ⟨7, 1, 3⟩ 7 1 2 = true ∧ chunkAccepted ⟨7, 1, 3⟩ 7 1 4294967295 = false := by decide

open Tmv.ReactorMsgs in
/-- pex: the number of addresses one PexAddrs message can carry is bounded by the channel's
`RecvMessageCapacity` (= maxAddressSize * maxGetSelection, enforced by `recv_buffer_bounded`)
divided by the smallest encoded address -/
theorem pex_addrs_count_bounded (count minAddr msgLen : Nat) (hmin : 0 < minAddr)
    (henc : count * minAddr ≤ msgLen) (hcap : msgLen ≤ pexMaxMsgSize) :
    count ≤ pexMaxMsgSize / minAddr ∧ pexMaxMsgSize = 64000 := by
  refine ⟨?_, by decide⟩
  have : count * minAddr ≤ pexMaxMsgSize := Nat.le_trans henc hcap
  exact (Nat.le_div_iff_mul_le hmin).mpr this

open Tmv.ReactorMsgs in
/-- pex: a peer's third request inside one interval is refused (the first two are free by
construction of `receiveRequest`) -/
theorem pex_third_request_refused :
    (pexReceiveRequest 0).2 = true ∧ (pexReceiveRequest (pexReceiveRequest 0).1).2 = true ∧
    (pexReceiveRequest (pexReceiveRequest (pexReceiveRequest 0).1).1).2 = false := by decide

open Tmv.PeerMsgs Tmv.PeerState in
/-- `Sub` on arrays of different sizes, both ways (a 129-validator vote set against a 1-bit POL
array and the reverse), and why the loop bound must be the MINIMUM of the two word counts: bounded
by the receiver's words alone the loop reads `o.Elems` out of range as soon as the peer's array
is shorter than the node's (more than 64 validators) -/
theorem sub_loop_bound_must_be_min :
    (sub (newBitArray 129) (newBitArray 1)).isSome = true ∧
    (sub (newBitArray 1) (newBitArray 129)).isSome = true ∧
    subWith (fun _ _ ce => ce) (newBitArray 129) (newBitArray 1) = none ∧
    (subWith (fun _ _ ce => ce) (newBitArray 64) (newBitArray 1)).isSome = true := by decide

/-! ## the peer level: several peers delivering on one channel -/

/-- For ANY interleaving of the peers' deliveries on a shared channel, the messages the reactor is
handed as coming from peer `p` are exactly `p`'s messages, in order, each decoded from its own
bytes. All the content is in the model: `hubDeliver` IS "every arrival decoded by a function of its
own bytes", and the statement is that filtering by peer commutes with that map. (With one decode
target shared by all peers' receive routines delivery is not a function of the message's bytes and
the statement has no counterpart; the stream `peers` judges the real code with concurrent senders.) -/
theorem peers_do_not_mix {α : Type} (decode : Bytes → α) (arrivals : List (Nat × Bytes)) (p : Nat) :
    ((hubDeliver decode arrivals).filter (·.1 = p)).map (·.2) =
      ((arrivals.filter (·.1 = p)).map (·.2)).map decode := by
  -- `hubDeliver` keeps the peer of every arrival, so filtering by peer commutes with it
  rw [hubDeliver, List.filter_map, List.map_map, List.map_map]
  rfl

/-! ## the least-ratio choice of `sendPacketMsg`, in a model of its own (`PCh`, `schedStep`) -/

/-- `sendPacketMsg` chooses, among the channels with something to send, the first one with the
least `recentlySent / priority` (`pickLeast`) and then charges it the bytes written. This rule is
FAIR with a computable bound: a channel `c` that stays pending is chosen within
`waitBound c chans + 1` send steps — `waitBound` = Σ over the other channels `x` of
`c.recentlySent * x.prio / c.prio + 1 - x.recentlySent` — whatever the other channels have pending
(`s.1`, arbitrary per step) and however many bytes each packet takes (`s.2 ≥ 1`). "Chosen" is once;
`fair_pick_transmits` asks for as many choices as packets are owed, and nothing here iterates the
bound. Stated for one stats window: `updateStats` (every 2 s, `recentlySent *= 0.8` on all
channels, `decay`) is not a step and no statement covers it (it scales every ratio alike only up
to rounding: with `c = ⟨_, 3, 4⟩`, `x = ⟨_, 1, 1⟩` the term `owe c x` is 1 before and 2 after).
Model assumption: ratios compared exactly
(the code compares float32 quotients; the sender stream checks on every run that the real choice
is the model's `pickLeast`). -/
theorem least_ratio_is_fair (c : PCh) (steps : List ((Nat → Bool) × Nat)) (chans : List PCh)
    (hc : c ∈ chans) (hprio : ∀ x ∈ chans, 0 < x.prio)
    (hst : ∀ s ∈ steps, s.1 c.id = true ∧ 1 ≤ s.2)
    (hlong : waitBound c chans < steps.length) :
    some c.id ∈ picks chans steps := by
  by_cases h : some c.id ∈ picks chans steps
  · exact h
  · have := bounded_wait c steps chans hc hprio hst h
    omega

/-- what `pickLeast` returns is pending and no pending channel has a strictly smaller ratio -/
theorem pickLeast_is_least (pending : List PCh) (hp : ∀ x ∈ pending, 0 < x.prio) (d : PCh)
    (h : pickLeast pending = some d) : d ∈ pending ∧ ∀ x ∈ pending, ¬ better x d = true := by
  rcases pickLeast_spec pending hp with ⟨_, h0⟩ | ⟨d', h1, hd⟩
  · rw [h0] at h
    cases h
  · rw [h1] at h
    exact Option.some.inj h ▸ hd

/-- non-vacuity: channel 3 (priority 1, 40 bytes sent) against two busy channels of priority 5
and 10: bound 40*5/1+1-0 + 40*10/1+1-0 = 602 steps of one byte each; it is chosen at once when
the others have sent more in proportion -/
example :
    waitBound ⟨3, 1, 40⟩ [⟨1, 5, 0⟩, ⟨2, 10, 0⟩, ⟨3, 1, 40⟩] = 602 ∧
    pickLeast [⟨1, 5, 300⟩, ⟨2, 10, 500⟩, ⟨3, 1, 40⟩] = some ⟨3, 1, 40⟩ ∧
    pickLeast [⟨1, 5, 100⟩, ⟨2, 10, 200⟩, ⟨3, 1, 40⟩] = some ⟨1, 5, 100⟩ := by decide

/-! ## C16 × C17: an MConnection running over a SecretConnection -/

section secure_link
open Tmv.SecretFrames
variable (enc : Nat → Bytes → Bytes) (dec : Nat → Bytes → Option Bytes) (junk : Nat → Bytes)
variable (encF : PacketMsg → Bytes) (splitF : Bytes → Option (PacketMsg × Bytes))

/-- Messages sent on the channels of an MConnection that runs OVER a SecretConnection arrive in
order, unmodified, at most once — or a forgery of the AEAD is exhibited. The sending MConnection
(any interleaving of TrySends and send-routine steps, `ops`) writes the frames of its packets;
the SecretConnection seals those bytes in chunks `cs` from counter `c` (C16). The receiving side
reads, with ANY read schedule `rs`, from a network that delivers an ARBITRARY byte string `net`
(cut, edited, reordered, replayed — the attacker of C16's `tamper_never_alters`), parses the bytes
it was handed into frames and runs the receive loop. Then the loop is not stopped by anything it
was handed and, per channel, what it delivered is a PREFIX of the accepted messages. (What is
missing at the end is the link failing: C16's `tamper_detected` says the reader gets an error at
the first affected frame, which `recvRoutine` turns into `stopForError`.) -/
theorem secure_link_in_order_or_fails (hc : Correct enc dec) (hf : Framing encF splitF)
    (mx : Nat) (hmx : 0 < mx) (ds : List Desc) (hnd : (ds.map (·.id)).Nodup)
    (hbyte : ∀ d ∈ ds, d.id ≤ 255) (ops : List SOp)
    (hcap : ∀ d ∈ ds, ∀ m ∈ delivered d.id (runOps (Sender.new mx ds) {} ops).2.acc,
      m.length ≤ d.fillDefaults.recvMessageCapacity)
    (c : Nat) (cs : List Bytes)
    (hcs : cs.flatten = (runOps (Sender.new mx ds) {} ops).2.wire.flatMap encF)
    (hb : ∀ ch ∈ cs, ch.length ≤ dataMaxSize) (net : Bytes) (rs : List Nat) :
    (∃ frames, frames = parseFrames splitF ((okBytes (runReads dec ⟨[], c, net⟩ rs).1).length + 1)
        (okBytes (runReads dec ⟨[], c, net⟩ rs).1) ∧
      (recvAll (Receiver.new mx ds) (msgFrames (fun p => packetSize p.chId.toNat p.eof p.data.length) frames)).1.stopped = none ∧
      ∀ d ∈ ds, ∃ more,
        delivered d.id (runOps (Sender.new mx ds) {} ops).2.acc =
          delivered d.id (recvAll (Receiver.new mx ds) (msgFrames (fun p => packetSize p.chId.toNat p.eof p.data.length) frames)).2 ++ more) ∨
    Nonempty (Forgery dec (sealFrom enc junk c cs)) := by
  rcases Tmv.Props.C16.tamper_never_alters enc dec junk hc c cs hb net rs with hpre | hforge
  · left
    rw [hcs] at hpre
    obtain ⟨rest, hrest, _⟩ := parse_prefix encF splitF hf _ _ _ (Nat.lt_succ_self _) hpre
    have h := ((new_run mx ds hnd).steps hmx ops).delivery hmx hbyte _ rest hrest hcap
    exact ⟨_, rfl, h.1, fun d hd => (h.2 d hd).1⟩
  · exact Or.inr hforge

/-- …and exactly once when the link is undisturbed: the SecretConnection `Write`s `ws` carry the
MConnection's frames, the wire is what the sender sealed, the reader reads with positive sizes
until everything is out (C16 `stream_roundtrip`), the sender is idle: the receive loop delivered,
per channel, exactly the accepted messages in order. -/
theorem secure_link_exactly_once (hc : Correct enc dec) (hl : LenOK enc) (hf : Framing encF splitF)
    (mx : Nat) (hmx : 0 < mx) (ds : List Desc) (hnd : (ds.map (·.id)).Nodup)
    (hbyte : ∀ d ∈ ds, d.id ≤ 255) (ops : List SOp)
    (hidle : idle (runOps (Sender.new mx ds) {} ops).1)
    (hcap : ∀ d ∈ ds, ∀ m ∈ delivered d.id (runOps (Sender.new mx ds) {} ops).2.acc,
      m.length ≤ d.fillDefaults.recvMessageCapacity)
    (c : Nat) (ws : List Bytes)
    (hws : ws.flatten = (runOps (Sender.new mx ds) {} ops).2.wire.flatMap encF)
    (hroom : c + ws.flatten.length ≤ maxU64)
    (rs : List Nat) (hpos : ∀ k ∈ rs, 0 < k) (hlong : ws.flatten.length < rs.length) :
    let got := okBytes (runReads dec ⟨[], c, wireOf (writeAll enc junk c (ws.map (·, true))).2⟩ rs).1
    let frames := parseFrames splitF (got.length + 1) got
    (recvAll (Receiver.new mx ds) (msgFrames (fun p => packetSize p.chId.toNat p.eof p.data.length) frames)).1.stopped = none ∧
    ∀ d ∈ ds,
      delivered d.id (recvAll (Receiver.new mx ds) (msgFrames (fun p => packetSize p.chId.toNat p.eof p.data.length) frames)).2 =
        delivered d.id (runOps (Sender.new mx ds) {} ops).2.acc := by
  have h := (Tmv.Props.C16.stream_roundtrip enc dec junk hc hl c ws rs hroom).2.2.2 hpos hlong
  simp only at h ⊢
  rw [h, hws, parse_full encF splitF hf _ _ (Nat.lt_succ_self _)]
  exact exactly_once_in_order_end_to_end mx hmx ds hnd hbyte ops hidle hcap

end secure_link

/-- non-vacuity of the composition's hypotheses: a concrete frame codec satisfies `Framing`
(unary length prefix + payload), C16's toy AEAD satisfies `Correct`/`LenOK`, and two frames
written back to back parse back -/
example : Framing toyEncF toySplitF ∧
    Tmv.SecretFrames.Correct Tmv.Props.C16.toyEnc Tmv.Props.C16.toyDec ∧
    parseFrames toySplitF 3 (toyEncF ⟨1, false, [7, 8]⟩ ++ toyEncF ⟨2, true, []⟩) =
      [⟨1, false, [7, 8]⟩, ⟨2, true, []⟩] :=
  ⟨toy_framing, by intro n m; simp [Tmv.Props.C16.toyEnc, Tmv.Props.C16.toyDec], by decide⟩

/-! ## `Receive`'s decision in the remaining reactors: total, and when the peer is dropped -/

open Tmv.ReactorMsgs in
/-- every input of the evidence / mempool (v0, v1) / pex / blockchain-BlockResponse `Receive` —
undecodable bytes, a wrapper without a kind, or any decoded message in any modelled context —
yields exactly one of accept / ignore / stop / recovered-panic; bytes that do not give a message
always end in the connection's recover, never in the reactor's logic -/
theorem receive_decision_total (d : Decoded) (k : Decision) :
    (decodeGate d k = .accept ∨ decodeGate d k = .ignore ∨ decodeGate d k = .stop ∨
      decodeGate d k = .recovered) ∧
    (d ≠ .msg → decodeGate d k = .recovered) ∧ (d = .msg → decodeGate d k = k) := by
  cases d <;> cases k <;> simp [decodeGate]

open Tmv.ReactorMsgs in
/-- evidence: the peer is stopped iff some item does not convert, fails `ValidateBasic` or is
rejected by the pool as INVALID; an item the pool refuses for another reason (committed, pending)
never costs the peer its connection -/
theorem evidence_stop_iff (items : List EvItem) :
    evidenceDecide items = .stop ↔
      (.convErr ∈ items ∨ .vbErr ∈ items ∨ .addInvalid ∈ items) := by
  have e : ∀ a : EvItem, (items.any (· == a) = true) ↔ a ∈ items := by
    intro a; simp [List.any_eq_true]
  simp only [evidenceDecide, e]
  split
  · simp [*]
  split
  · simp [*]
  split
  · simp [*]
  split <;> simp [*]

open Tmv.ReactorMsgs in
/-- mempool v0/v1: no Txs message — empty, with oversized transactions, with a full pool, with
duplicates, however many — makes the reactor drop the peer -/
theorem mempool_never_stops (txs : List TxClass) :
    mempoolDecide txs ≠ .stop ∧ mempoolDecide txs ≠ .recovered ∧
    (mempoolDecide txs = .ignore ↔ txs = []) := by
  unfold mempoolDecide
  cases txs <;> simp

open Tmv.ReactorMsgs in
/-- pex: an address list is accepted only if every address converts, the list was asked for and
the sender's own address parses; a seed serves an inbound peer once and disconnects it -/
theorem pex_decisions (c : PexCtx) (conv srcOk : Bool) :
    (pexAddrsDecide c conv srcOk = .accept ↔ (conv = true ∧ c.solicited = true ∧ srcOk = true)) ∧
    (c.seedMode = true → c.peerOutbound = false → c.marker = 0 → (pexRequestDecide c).1 = .stop) ∧
    (c.seedMode = true → c.peerOutbound = false → c.marker ≠ 0 → (pexRequestDecide c).1 = .ignore) := by
  refine ⟨?_, ?_, ?_⟩
  · unfold pexAddrsDecide
    cases conv <;> cases srcOk <;> cases hs : c.solicited <;> simp [hs]
  · intro h1 h2 h3; simp [pexRequestDecide, h1, h2, h3]
  · intro h1 h2 h3; simp [pexRequestDecide, h1, h2, h3]

open Tmv.ReactorMsgs in
/-- blockchain: a BlockResponse whose block does not convert stops the sender, one that converts
does not -/
theorem blockResponse_stop_iff (ok : Bool) : blockResponseDecide ok = .stop ↔ ok = false := by
  cases ok <;> simp [blockResponseDecide]

/-! ## the accept path: a hostile handshake never takes the node down -/

open Tmv.ReactorMsgs in
/-- Every failure of the accept path that a remote peer can cause — at any stage: connection
filters, secret connection, NodeInfo exchange (garbled, oversized, truncated, missing), NodeInfo
validation, id checks, compatibility, even a panic inside the upgrade — reaches
`Switch.acceptRoutine` as `ErrRejected` or `ErrFilterTimeout`, for which the routine logs and
CONTINUES; it panics ("accept routine exited") only on errors no peer can cause (the resolver
failing on the remote address, the listener failing), and exits on `ErrTransportClosed`. -/
theorem peer_caused_accept_failure_never_panics (f : AcceptFailure) (h : f.peerCaused = true) :
    acceptRoutineOn (acceptErrOf f) = .continue ∧
    (acceptErrOf f = .rejected ∨ acceptErrOf f = .filterTimeout) := by
  cases f <;> simp_all [AcceptFailure.peerCaused, acceptErrOf, acceptRoutineOn]

open Tmv.ReactorMsgs in
/-- the routine panics exactly on the two local failures -/
theorem acceptRoutine_panics_iff (f : AcceptFailure) :
    acceptRoutineOn (acceptErrOf f) = .panic ↔ (f = .resolveIPs ∨ f = .listenerFails) := by
  cases f <;> simp [acceptErrOf, acceptRoutineOn]

/-! ## after hand-over: a send nobody will receive must be guarded -/

open Tmv.ReactorMsgs in
/-- A channel send guarded by the service's `IsRunning` never blocks forever, provided the consumer
lives as long as the service runs (the reactor's `poolRoutine` and the block pool): however many
messages a peer makes the reactor report — before, during or after the hand-over to consensus —
each report is sent, skipped, or waits for a consumer that exists. -/
theorem guarded_send_never_blocks_forever (running : Bool) (c : BChan)
    (hlive : running = true → c.consumer = true) (n : Nat) :
    SendRes.blockedForever ∉ chanSends true running n c := by
  have step : ∀ c : BChan, (running = true → c.consumer = true) →
      (chanSend true running c).2 ≠ .blockedForever ∧
      (chanSend true running c).1.consumer = c.consumer := by
    intro c hlive
    unfold chanSend
    cases running
    · exact ⟨nofun, rfl⟩
    · rw [if_neg (by simp), hlive rfl]
      split
      · exact ⟨nofun, rfl⟩
      · rw [if_pos rfl]
        exact ⟨nofun, hlive rfl⟩
  induction n generalizing c with
  | zero => exact List.not_mem_nil
  | succ k ih =>
    obtain ⟨h1, h2⟩ := step c hlive
    simp only [chanSends, List.mem_cons, not_or]
    exact ⟨h1.symm, ih _ (h2 ▸ hlive)⟩

open Tmv.ReactorMsgs in
/-- …and why the guard is needed: WITHOUT it, once the consumer is gone (fast sync handed over)
the send after the `cap`-th blocks forever — with the pool lock held. -/
theorem unguarded_send_blocks_after_cap (cap : Nat) (running : Bool) :
    (chanSend false running ⟨cap, cap, false⟩).2 = .blockedForever ∧
    (chanSends false false 4 ⟨3, 0, false⟩).getLast? = some .blockedForever ∧
    SendRes.blockedForever ∉ chanSends true false 4 ⟨3, 0, false⟩ := by
  refine ⟨by simp [chanSend], by decide, guarded_send_never_blocks_forever false _ (by simp) _⟩

end Tmv.Props.C17
