import Tmv.Lemmas.Validate
import Tmv.Lemmas.MerkleRootInjTraced
import Tmv.Props.C07
import Tmv.Model.ValidateFull
import Tmv.Props.C08
import Tmv.Props.C11
/-! # C06 — Block validation is exact and the state transition is a deterministic function
Hash functions, `VerifyCommit` (C07) and evidence admissibility (C11) are the fields of an arbitrary
`Env`, about which nothing is assumed; from section `Traced` on the environment is the concrete
one (the code's Merkle hashes, C07's `verifyCommit`, C08's validator update, C11's evidence check). -/
namespace Tmv.Props.C06
open Tmv Tmv.ProtoSize Tmv.Validate

/-- `Header.ValidateBasic` passes (well-formedness that is not an equality with the state) -/
def HeaderBasic (h : Header) : Prop :=
  h.versionBlock = blockProtocol ∧ h.chainID.length ≤ maxChainIDLen ∧ 0 < h.height ∧
  badBlockID h.lastBlockID = false ∧ badHash h.lastCommitHash = false ∧ badHash h.dataHash = false ∧
  badHash h.evidenceHash = false ∧ h.proposer.length = addressSize ∧ badHash h.valsHash = false ∧
  badHash h.nextValsHash = false ∧ badHash h.consensusHash = false ∧ badHash h.lastResultsHash = false

theorem headerGuards_ok_iff (h : Header) : (∀ p ∈ headerGuards h, p.1 = false) ↔ HeaderBasic h := by
  unfold HeaderBasic
  simp only [headerGuards, List.forall_mem_cons, List.not_mem_nil, false_imp_iff, implies_true,
    and_true, bne_eq_false_iff_eq, decide_eq_false_iff_not, Nat.not_lt, Bool.or_eq_false_iff,
    beq_eq_false_iff_ne, ne_eq, Int.not_lt]
  constructor
  · rintro ⟨b1, b2, b3, r⟩; exact ⟨b1, b2, by omega, r⟩
  · rintro ⟨b1, b2, b3, r⟩; exact ⟨b1, b2, ⟨by omega, by omega⟩, r⟩

theorem HeaderBasic.proposerLen {h : Header} (hb : HeaderBasic h) : h.proposer.length = addressSize :=
  hb.2.2.2.2.2.2.2.1

/-- the height the state expects -/
def HeightOK (st : State) (h : Int) : Prop :=
  (st.lastBlockHeight = 0 → h = st.initialHeight) ∧
  (st.lastBlockHeight > 0 → h = st.lastBlockHeight + 1) ∧ st.initialHeight ≤ h

/-- the last commit is the empty one for the first block, else a valid +2/3 commit of the
previous validator set for the previous block (C07's predicate) -/
def CommitOK (env : Env) (st : State) (h : Int) (c : Commit) : Prop :=
  if h = st.initialHeight then c.sigs = []
  else env.verifyCommit st.lastVals st.chainID st.lastBlockID (h - 1) c = none

/-- The reference predicate: the block is what a correct proposer builds from this state
(`makeHeader`: chain, version, previous block, validator / parameter / application / results
hashes, median or genesis time, content hashes) for SOME choice of the free inputs (height as the
state dictates, transactions, evidence, last commit, proposer), and those inputs are admissible. -/
def Spec (env : Env) (st : State) (b : Block) : Prop :=
  ∃ c, b.lastCommit = some c ∧
    b.header = makeHeader env st b.header.height b.txs c b.evidence b.header.proposer ∧
    HeaderBasic b.header ∧ badCommit c = false ∧ (∀ e ∈ b.evidence, e.basic = true) ∧
    HeightOK st b.header.height ∧ CommitOK env st b.header.height c ∧
    hasAddress st.vals b.header.proposer = true ∧
    (st.initialHeight < b.header.height → st.lastBlockTime < b.header.time) ∧
    evByteSize b.evidence ≤ st.params.evMaxBytes ∧ env.evAdmissible st b.evidence = true

/-- **Validation is exact**: a block is accepted for execution exactly when it equals the block
derived from the node's own state, up to the free inputs. -/
theorem validate_iff_spec (env : Env) (st : State) (b : Block) :
    validateBlock env st b = .ok () ↔ Spec env st b := by
  rw [validateBlock_ok_iff, headerGuards_ok_iff]
  unfold Spec HeightOK CommitOK
  rcases b with ⟨⟨vb, va, ch, h, t, lbid, lch, dh, vh, nvh, csh, ah, lrh, eh, pr⟩, txs, evs, lc⟩
  simp only [stateGuards, List.cons_append, List.nil_append, List.mem_cons,
    List.not_mem_nil, or_false, forall_eq_or_imp, forall_eq, makeHeader, Header.mk.injEq]
  simp only [bne_eq_false_iff_eq, Bool.or_eq_false_iff, Bool.and_eq_false_imp,
    decide_eq_false_iff_not, decide_eq_true_eq, Bool.not_eq_eq_eq_not, Bool.not_true,
    Bool.not_false, beq_iff_eq, Int.not_lt, List.any_eq_false]
  -- the guards are named after their error class, in the order `stateGuards` lists them; the
  -- clauses of the header equation (`e…`) come in the order of `Header`'s fields
  constructor
  · rintro ⟨hb, c, hc, gCBasic, gCHash, gData, gEvBasic, gEvHash,
      sVer, sChain, sH0, sH1, sLbid, sApp, sCons, sRes, sVals, sNVals, sSig0, sCommit, sPLen, sProp,
      sTAfter, sTMed, sTGen, sHInit, sEvSz, aEv⟩
    refine ⟨c, hc, ⟨sVer.2, sVer.1, sChain, trivial, ?_, sLbid, gCHash, gData, sVals, sNVals, sCons,
        sApp, sRes, gEvHash, trivial⟩,
      hb, gCBasic, ?_, ⟨sH0, sH1, sHInit⟩, ?_, sProp, sTAfter, sEvSz, aEv⟩
    · by_cases he : h = st.initialHeight
      · simp [he, sTGen he]
      · have : h > st.initialHeight := by omega
        simp [he, sTMed this]
    · intro e he; have := gEvBasic e he; simpa using this
    · by_cases he : h = st.initialHeight
      · simp [he] at sSig0 ⊢; exact sSig0
      · simp [he] at sCommit ⊢; exact sCommit
  · rintro ⟨c, hc,
      ⟨eVb, eVa, eChain, _, eTime, eLbid, eLch, eDh, eVh, eNvh, eCsh, eAh, eLrh, eEh, _⟩,
      hb, gCBasic, hev, ⟨h1, h2, h3⟩, hC, hP, hT, hS, hA⟩
    refine ⟨hb, c, hc, gCBasic, eLch, eDh, ?_, eEh, ⟨eVa, eVb⟩, eChain, h1, h2, eLbid, eAh, eCsh,
      eLrh, eVh, eNvh, ?_, ?_, hb.proposerLen, hP, hT, ?_, ?_, h3, hS, hA⟩
    · intro e he; simp [hev e he]
    · by_cases he : h = st.initialHeight
      · simp [he] at hC ⊢; exact hC
      · simp [he]
    · by_cases he : h = st.initialHeight
      · simp [he]
      · simp [he] at hC ⊢; exact hC
    · intro hgt
      have he : ¬ h = st.initialHeight := by omega
      simpa [he] using eTime
    · intro he
      simpa [he] using eTime

/-- What a correct proposer holds when it builds the block for height `h`: a well-formed state
(block protocol, chain id length, hashes of `tmhash.Size`), the height its state dictates, a last
commit that passes `ValidateBasic` and is the empty one (first block) or verifies against the
previous validator set (C07), its own address among the validators, evidence that passes
`ValidateBasic`, fits `Evidence.MaxBytes` and is admissible (C11). Transactions are arbitrary. -/
structure ProposerInput (env : Env) (st : State) (h : Int) (txs : List Bytes) (c : Commit)
    (evs : List Ev) (prop : Bytes) : Prop where
  vb : st.versionBlock = blockProtocol
  chain : st.chainID.length ≤ maxChainIDLen
  lbid : badBlockID st.lastBlockID = false
  hv : badHash (env.hVals st.vals) = false
  hnv : badHash (env.hVals st.nextVals) = false
  hp : badHash (env.hParams st.params) = false
  lrh : badHash st.lastResultsHash = false
  hc : badHash (env.hCommit c) = false
  hd : badHash (env.hData txs) = false
  he : badHash (env.hEv evs) = false
  hpos : 0 < h
  height : HeightOK st h
  commitBasic : badCommit c = false
  commit : CommitOK env st h c
  propLen : prop.length = addressSize
  propVal : hasAddress st.vals prop = true
  evBasic : ∀ e ∈ evs, e.basic = true
  evSize : evByteSize evs ≤ st.params.evMaxBytes
  evAdm : env.evAdmissible st evs = true

def totalPower (vs : ValSet) : Int := (vs.map (·.power)).sum

/-- The timestamps of the last commit as the property assumes them: the included votes stamped
at or before the last block time (they can only come from faulty validators) carry less than a
third of the previous set's power `P`, and the commit carries more than two thirds of it. -/
def TimesHonest (st : State) (c : Commit) : Prop :=
  let wt := weightedTimes c.sigs st.lastVals
  (∀ y ∈ wt, 0 ≤ y.2) ∧ 3 * lowWeight st.lastBlockTime wt < totalPower st.lastVals ∧
    2 * totalPower st.lastVals < 3 * totalWeight wt

/-- what the assumption gives in terms of the commit's own weight `T` and the early weight `F` -/
theorem timesHonest_half (st : State) (c : Commit) (h : TimesHonest st c) :
    2 * lowWeight st.lastBlockTime (weightedTimes c.sigs st.lastVals) + 1
      ≤ totalWeight (weightedTimes c.sigs st.lastVals) := by
  obtain ⟨_, h1, h2⟩ := h
  omega

/-- the time of the block a proposer builds above the initial height is the median time of the
last commit -/
theorem makeBlock_time (env : Env) (st : State) (h : Int) (txs : List Bytes) (c : Commit)
    (evs : List Ev) (prop : Bytes) (hlt : st.initialHeight < h) :
    (makeBlock env st h txs c evs prop).header.time = medianTime c st.lastVals := by
  have hne : ¬ h = st.initialHeight := by omega
  show (if (h == st.initialHeight) = true then st.lastBlockTime else medianTime c st.lastVals) = _
  simp only [beq_iff_eq, hne, if_false]

/-- For admissible proposer inputs the only clause of `Spec` left open is the block time: the
block validates iff (above the initial height) the median time of the last commit is later than
the last block time. -/
theorem makeBlock_valid_iff_time (env : Env) (st : State) (h : Int) (txs : List Bytes) (c : Commit)
    (evs : List Ev) (prop : Bytes) (hin : ProposerInput env st h txs c evs prop) :
    validateBlock env st (makeBlock env st h txs c evs prop) = .ok () ↔
      (st.initialHeight < h → st.lastBlockTime < medianTime c st.lastVals) := by
  rw [validate_iff_spec]
  constructor
  · rintro ⟨_, _, _, _, _, _, _, _, _, hT, _⟩ hlt
    rw [← makeBlock_time env st h txs c evs prop hlt]
    exact hT hlt
  · intro hcond
    refine ⟨c, rfl, rfl, ?_, hin.commitBasic, hin.evBasic, hin.height, hin.commit, hin.propVal, ?_,
      hin.evSize, hin.evAdm⟩
    · exact ⟨hin.vb, hin.chain, hin.hpos, hin.lbid, hin.hc, hin.hd, hin.he, hin.propLen, hin.hv,
        hin.hnv, hin.hp, hin.lrh⟩
    · intro hlt
      have hlt : st.initialHeight < h := hlt
      rw [makeBlock_time env st h txs c evs prop hlt]
      exact hcond hlt

/-- **A correct proposer's block is valid** — proved under `2F + 2 ≤ T` (early-stamped weight
`F`, commit weight `T`). The property's own assumption (`TimesHonest`) only yields `2F + 1 ≤ T`;
the gap `T = 2F + 1` is real, see `makeBlock_valid_fails`. -/
theorem makeBlock_valid_partial (env : Env) (st : State) (h : Int) (txs : List Bytes) (c : Commit)
    (evs : List Ev) (prop : Bytes) (hin : ProposerInput env st h txs c evs prop)
    (htime : st.initialHeight < h →
      (∀ y ∈ weightedTimes c.sigs st.lastVals, 0 ≤ y.2) ∧
      2 * lowWeight st.lastBlockTime (weightedTimes c.sigs st.lastVals) + 2
        ≤ totalWeight (weightedTimes c.sigs st.lastVals)) :
    validateBlock env st (makeBlock env st h txs c evs prop) = .ok () := by
  rw [makeBlock_valid_iff_time env st h txs c evs prop hin]
  intro hlt
  exact weightedMedian_gt _ _ (htime hlt).1 (htime hlt).2

theorem weightedTimes_pos (sigs : List CommitSig) (vs : ValSet) (hp : ∀ v ∈ vs, 0 < v.power) :
    ∀ y ∈ weightedTimes sigs vs, 0 < y.2 := by
  intro y hy
  unfold weightedTimes at hy
  rw [List.mem_filterMap] at hy
  obtain ⟨s, _, hs⟩ := hy
  split at hs
  · cases hs
  · split at hs
    · rename_i v hv
      simp only [Option.some.injEq] at hs
      subst hs
      exact hp v (List.mem_of_find?_eq_some hv)
    · cases hs

/-! ### the witness: 4 validators of power 1, a commit of 3, one early stamp -/

def wHash : Bytes := List.replicate 32 0
def wEnv : Env :=
  { hCommit := fun _ => wHash, hData := fun _ => wHash, hEv := fun _ => wHash, hVals := fun _ => wHash,
    hParams := fun _ => wHash, hResults := fun _ => wHash, verifyCommit := fun _ _ _ _ _ => none,
    evAdmissible := fun _ _ => true }
def wAddr (i : UInt8) : Bytes := List.replicate 20 i
def wVals : ValSet := [⟨wAddr 1, [1], 1, 0⟩, ⟨wAddr 2, [2], 1, 0⟩, ⟨wAddr 3, [3], 1, 0⟩, ⟨wAddr 4, [4], 1, 0⟩]
def wParams : Params :=
  { blockMaxBytes := 22020096, blockMaxGas := -1, timeIotaMs := 1000, evMaxAgeBlocks := 100000,
    evMaxAgeDur := 172800000000000, evMaxBytes := 1048576, pubKeyTypes := ["ed25519"], appVersion := 0 }
def wState : State :=
  { versionBlock := 11, versionApp := 0, chainID := [99], initialHeight := 1, lastBlockHeight := 1,
    lastBlockID := ⟨wHash, 1, wHash⟩, lastBlockTime := 1000, nextVals := wVals, vals := wVals,
    lastVals := wVals, lastHeightValsChanged := 1, params := wParams, lastHeightParamsChanged := 1,
    lastResultsHash := wHash, appHash := [] }
/-- validator 1 (a quarter of the power) stamps 995 < 1000; validators 2, 3 stamp later; 4 absent -/
def wCommit : Commit :=
  { height := 1, round := 0, blockID := ⟨wHash, 1, wHash⟩,
    sigs := [⟨2, wAddr 1, 995, [1]⟩, ⟨2, wAddr 2, 1010, [1]⟩, ⟨2, wAddr 3, 1011, [1]⟩, ⟨1, [], zeroTime, []⟩] }

/-- the example state, height 2, no transactions or evidence, validator 2 proposing, with any last
commit that passes `ValidateBasic` (the example environment's hashes are constant and its
`verifyCommit` accepts everything) -/
theorem wInput_of (c : Commit) (hb : badCommit c = false) :
    ProposerInput wEnv wState 2 [] c [] (wAddr 2) where
  vb := by decide
  chain := by decide
  lbid := by decide
  hv := by decide
  hnv := by decide
  hp := by decide
  lrh := by decide
  hc := (by decide : badHash wHash = false)
  hd := by decide
  he := by decide
  hpos := by decide
  height := by unfold HeightOK; decide
  commitBasic := hb
  commit := by unfold CommitOK; rw [if_neg (by decide)]; rfl
  propLen := by decide
  propVal := by decide
  evBasic := fun _ he => nomatch he
  evSize := by decide
  evAdm := by decide

theorem wInput : ProposerInput wEnv wState 2 [] wCommit [] (wAddr 2) := wInput_of wCommit (by decide)

theorem wTimes : TimesHonest wState wCommit :=
  ⟨fun y hy => Int.le_of_lt (weightedTimes_pos _ _ (by decide) y hy), by decide, by decide⟩

/-- **The full-strength clause is false of the code.** With the assumption exactly as the
property states it (less than a third of the power stamps early, the commit has more than two
thirds) a correct proposer's `MakeBlock` output is rejected by `validateBlock`:
`WeightedMedian` starts at `floor(T/2)` and stops at the first entry with `median <= weight`,
so for `T = 2F + 1` the early entries alone reach the threshold. -/
theorem makeBlock_valid_fails :
    ¬ (∀ (env : Env) (st : State) (h : Int) (txs : List Bytes) (c : Commit) (evs : List Ev)
        (prop : Bytes), ProposerInput env st h txs c evs prop →
        (st.initialHeight < h → TimesHonest st c) →
        validateBlock env st (makeBlock env st h txs c evs prop) = .ok ()) := by
  intro H
  have h1 := H wEnv wState 2 [] wCommit [] (wAddr 2) wInput (fun _ => wTimes)
  have h2 : validateBlock wEnv wState (makeBlock wEnv wState 2 [] wCommit [] (wAddr 2))
      = .error .timeNotAfter := by rfl
  rw [h2] at h1
  cases h1


/-- **Exactly when a correct proposer's block validates.** For proposer inputs admissible in
every other respect (`ProposerInput`) and a previous validator set with positive powers, the block
`MakeBlock` builds is accepted IF AND ONLY IF (above the initial height) the last commit's included
votes satisfy: `2F + 2 ≤ T`, where `F` is the voting power of the included votes stamped at or
before the last block time and `T` the power of all included votes — or nobody stamped that early
(`F = 0`; the degenerate third disjunct is a commit without any counted vote and a last block time
before year 1). Sufficient and necessary: `makeBlock_valid_partial` is the `⇐` half,
`makeBlock_valid_fails` an instance of `⇒` at `T = 2F + 1`. -/
theorem makeBlock_valid_iff (env : Env) (st : State) (h : Int) (txs : List Bytes) (c : Commit)
    (evs : List Ev) (prop : Bytes) (hin : ProposerInput env st h txs c evs prop)
    (hp : ∀ v ∈ st.lastVals, 0 < v.power) :
    validateBlock env st (makeBlock env st h txs c evs prop) = .ok () ↔
      (st.initialHeight < h →
        let wt := weightedTimes c.sigs st.lastVals
        2 * lowWeight st.lastBlockTime wt + 2 ≤ totalWeight wt ∨
        (lowWeight st.lastBlockTime wt = 0 ∧ wt ≠ []) ∨ (wt = [] ∧ st.lastBlockTime < zeroTime)) := by
  rw [makeBlock_valid_iff_time env st h txs c evs prop hin]
  exact forall_congr' fun _ => weightedMedian_gt_iff _ _ (weightedTimes_pos c.sigs st.lastVals hp)

/-- the block time a correct proposer computes lies between the earliest and latest correct
vote (`Validate.median_between_correct` on the commit's weighted times) -/
theorem blockTime_between_correct (c : Commit) (vs : ValSet) (lo hi : Time)
    (hp : ∀ v ∈ vs, 0 < v.power)
    (hcorrect : ∃ y ∈ weightedTimes c.sigs vs, lo ≤ y.1 ∧ y.1 ≤ hi)
    (hearly : 2 * lowWeight (lo - 1) (weightedTimes c.sigs vs) + 2 ≤ totalWeight (weightedTimes c.sigs vs)
      ∨ lowWeight (lo - 1) (weightedTimes c.sigs vs) = 0)
    (hlate : 2 * (totalWeight (weightedTimes c.sigs vs) - lowWeight hi (weightedTimes c.sigs vs))
      ≤ totalWeight (weightedTimes c.sigs vs) + 1) :
    lo ≤ medianTime c vs ∧ medianTime c vs ≤ hi :=
  median_between_correct _ lo hi (weightedTimes_pos c.sigs vs hp) hcorrect hearly hlate

/-- With the contents and the proposer fixed, the state determines the whole header: two
accepted blocks cannot differ in any other header field. -/
theorem header_determined (env : Env) (st : State) (b b' : Block) (hlbh : 0 ≤ st.lastBlockHeight)
    (hv : validateBlock env st b = .ok ()) (hv' : validateBlock env st b' = .ok ())
    (htx : b'.txs = b.txs) (hev : b'.evidence = b.evidence) (hlc : b'.lastCommit = b.lastCommit)
    (hp : b'.header.proposer = b.header.proposer) : b'.header = b.header := by
  rw [validate_iff_spec] at hv hv'
  obtain ⟨c, hc, hh, _, _, _, hH, _⟩ := hv
  obtain ⟨c', hc', hh', _, _, _, hH', _⟩ := hv'
  have hcc : c' = c := by rw [hlc, hc] at hc'; exact (Option.some.inj hc').symm
  have hheight : b'.header.height = b.header.height := by
    obtain ⟨a1, a2, _⟩ := hH
    obtain ⟨a1', a2', _⟩ := hH'
    by_cases h0 : st.lastBlockHeight = 0
    · rw [a1 h0, a1' h0]
    · have : st.lastBlockHeight > 0 := by omega
      rw [a2 this, a2' this]
  rw [hh', hh, htx, hev, hp, hcc, hheight]

/-- **Every single-field perturbation of the header is rejected**: change any header field other
than the (free) proposer of an accepted block, keep the contents, and the block is refused — no
hash assumption is needed, the node recomputes every field. -/
theorem single_field_rejected (env : Env) (st : State) (b b' : Block) (hlbh : 0 ≤ st.lastBlockHeight)
    (hv : validateBlock env st b = .ok ())
    (htx : b'.txs = b.txs) (hev : b'.evidence = b.evidence) (hlc : b'.lastCommit = b.lastCommit)
    (hp : b'.header.proposer = b.header.proposer) (hne : b'.header ≠ b.header) :
    validateBlock env st b' ≠ .ok () := by
  intro hv'
  exact hne (header_determined env st b b' hlbh hv hv' htx hev hlc hp)

/-- an accepted block's content hashes are the hashes of its contents -/
theorem valid_hashes (env : Env) (st : State) (b : Block) (hv : validateBlock env st b = .ok ()) :
    ∃ c, b.lastCommit = some c ∧ b.header.dataHash = env.hData b.txs ∧
      b.header.evidenceHash = env.hEv b.evidence ∧ b.header.lastCommitHash = env.hCommit c := by
  rw [validate_iff_spec] at hv
  obtain ⟨c, hc, hhd, _⟩ := hv
  refine ⟨c, hc, ?_, ?_, ?_⟩
  · have h1 := congrArg Header.dataHash hhd; simpa only [makeHeader] using h1
  · have h1 := congrArg Header.evidenceHash hhd; simpa only [makeHeader] using h1
  · have h1 := congrArg Header.lastCommitHash hhd; simpa only [makeHeader] using h1

theorem valid_hashes_eq (env : Env) (st : State) (b b' : Block)
    (hv : validateBlock env st b = .ok ()) (hv' : validateBlock env st b' = .ok ())
    (hh : b'.header = b.header) :
    ∃ c c', b.lastCommit = some c ∧ b'.lastCommit = some c' ∧ env.hData b'.txs = env.hData b.txs ∧
      env.hEv b'.evidence = env.hEv b.evidence ∧ env.hCommit c' = env.hCommit c := by
  obtain ⟨c, hc, d1, e1, l1⟩ := valid_hashes env st b hv
  obtain ⟨c', hc', d2, e2, l2⟩ := valid_hashes env st b' hv'
  rw [hh] at d2 e2 l2
  exact ⟨c, c', hc, hc', d2.symm.trans d1, e2.symm.trans e1, l2.symm.trans l1⟩

/-- **Every change of a content item under an unchanged header is rejected, or exhibits a
collision** of the hash that binds that item (distinct inputs, equal outputs). For the last commit
the binding hash is `Commit.Hash`, which covers the signatures only; round / height / block id of
a non-first commit are bound through `VerifyCommit` (C07). -/
theorem single_content_rejected (env : Env) (st : State) (b b' : Block)
    (hv : validateBlock env st b = .ok ()) (hh : b'.header = b.header) (hne : b' ≠ b) :
    validateBlock env st b' ≠ .ok () ∨
    (b'.txs ≠ b.txs ∧ env.hData b'.txs = env.hData b.txs) ∨
    (b'.evidence ≠ b.evidence ∧ env.hEv b'.evidence = env.hEv b.evidence) ∨
    (∃ c c', b.lastCommit = some c ∧ b'.lastCommit = some c' ∧ c' ≠ c ∧ env.hCommit c' = env.hCommit c) := by
  by_cases hv' : validateBlock env st b' = .ok ()
  · right
    obtain ⟨c, c', hc, hc', e1, e2, e3⟩ := valid_hashes_eq env st b b' hv hv' hh
    by_cases t : b'.txs = b.txs
    · by_cases e : b'.evidence = b.evidence
      · right; right
        refine ⟨c, c', hc, hc', ?_, e3⟩
        intro hcc
        apply hne
        rcases b with ⟨h0, t0, e0, l0⟩
        rcases b' with ⟨h1, t1, e1', l1⟩
        simp only at hh t e hc hc'
        subst hh t e hcc
        rw [hc, hc']
      · right; left; exact ⟨e, e2⟩
    · left; exact ⟨t, e1⟩
  · left; exact hv'

/-- the ranges Go's types impose on a commit (int64 height, int32 round, uint32 part count,
hashes of at most `tmhash.Size`) -/
def CommitRanges (c : Commit) : Prop :=
  (0 ≤ c.height ∧ c.height < 9223372036854775808) ∧ (0 ≤ c.round ∧ c.round < 2147483648) ∧
  (c.blockID.hash.length ≤ 32 ∧ c.blockID.psHash.length ≤ 32 ∧ c.blockID.total < 4294967296)

/-- **A correct proposer's block fits `Block.MaxBytes`, for every validator count**: whenever
`MaxDataBytes(MaxBytes, evidence size, |LastValidators|)` did not panic and the mempool returned
transactions within that budget, the marshalled block (all length prefixes included) is within
`MaxBytes`. Hypotheses: `MaxBytes ≤ MaxBlockSizeBytes` (`ValidateConsensusParams`); the commit has
at most one signature slot per previous validator, each passing `CommitSig.ValidateBasic`; the
header's fields are within `HeaderBounds` — application hash up to 182 bytes (header ≤ 619), far
beyond the `tmhash.Size` for which `MaxHeaderBytes` was computed. With 189 bytes the header is
still within `MaxHeaderBytes` but the claim is false: `size_fits_at_header_budget_fails`. -/
theorem size_fits (env : Env) (st : State) (h : Int) (txs : List Bytes) (c : Commit)
    (evs : List Ev) (prop : Bytes) (d : Int)
    (hM : st.params.blockMaxBytes ≤ maxBlockSizeBytes)
    (hbud : proposalDataBudget st (evByteSize evs) = some d)
    (hreap : (dataSize txs : Int) ≤ d)
    (hsigs : ∀ s ∈ c.sigs, badCommitSig s = false) (hn : c.sigs.length ≤ st.lastVals.length)
    (hr : CommitRanges c) (hb : HeaderBounds (makeHeader env st h txs c evs prop)) :
    (blockSize (makeBlock env st h txs c evs prop) : Int) ≤ st.params.blockMaxBytes := by
  apply blockSize_le (makeBlock env st h txs c evs prop) c rfl _ hM (headerSize_le _ hb)
    st.lastVals.length (commitSize_le c _ hsigs hn hr.1 hr.2.1 hr.2.2) d
  · exact hbud
  · exact hreap

/-- `Block.Size()` spelled out: four tags, four length prefixes, four payloads -/
theorem blockSize_eq (b : Block) (c : Commit) (hc : b.lastCommit = some c) :
    blockSize b = 4 + sov (headerSize b.header) + sov (dataSize b.txs) + sov (evListSize b.evidence)
      + sov (commitSize c) + headerSize b.header + dataSize b.txs + evListSize b.evidence
      + commitSize c := by
  unfold blockSize fMsg
  rw [hc]
  simp only
  omega

/-- **Exactly when the proposer's block fits**, with the mempool filling the data budget to the
last byte (`dataSize txs = d`): the block is within `MaxBytes` iff header + commit + the four
length prefixes stay within what `MaxDataBytes` set aside for them:
`MaxHeaderBytes + MaxCommitBytes(n) + MaxOverheadForBlock − 4`. The four prefixes take 5..14
bytes, `MaxOverheadForBlock − 4` allows 7. -/
theorem size_fits_exact (env : Env) (st : State) (h : Int) (txs : List Bytes) (c : Commit)
    (evs : List Ev) (prop : Bytes) (d : Int)
    (hbud : proposalDataBudget st (evByteSize evs) = some d) (hfull : (dataSize txs : Int) = d) :
    (blockSize (makeBlock env st h txs c evs prop) : Int) ≤ st.params.blockMaxBytes ↔
      ((sov (headerSize (makeHeader env st h txs c evs prop)) + sov (dataSize txs) + sov (evListSize evs)
        + sov (commitSize c) + headerSize (makeHeader env st h txs c evs prop) + commitSize c : Nat) : Int)
        ≤ 626 + (94 + 111 * (st.lastVals.length : Int)) + 7 := by
  rw [blockSize_eq (makeBlock env st h txs c evs prop) c rfl]
  obtain ⟨hd1, _⟩ := maxDataBytes_some hbud
  show ((4 + sov (headerSize (makeHeader env st h txs c evs prop)) + sov (dataSize txs) + sov (evListSize evs)
      + sov (commitSize c) + headerSize (makeHeader env st h txs c evs prop) + dataSize txs + evListSize evs
      + commitSize c : Nat) : Int) ≤ _ ↔ _
  unfold evByteSize at hd1
  omega

/-! ### the witness: every field at its maximum, header exactly `MaxHeaderBytes` -/

def xLBT : Time := -315619199000000100          -- 1960, nanoseconds 999999900
def xVals : ValSet := [⟨wAddr 1, [1], 1, 0⟩]
def xBID : BlockID := ⟨wHash, 268435456, wHash⟩
def xState : State :=
  { versionBlock := 11, versionApp := 9223372036854775808, chainID := List.replicate 50 122,
    initialHeight := 4611686018427387904, lastBlockHeight := 4611686018427387904, lastBlockID := xBID,
    lastBlockTime := xLBT, nextVals := xVals, vals := xVals, lastVals := xVals,
    lastHeightValsChanged := 4611686018427387904,
    params := { wParams with blockMaxBytes := 17226, evMaxBytes := 0 },
    lastHeightParamsChanged := 4611686018427387904, lastResultsHash := wHash,
    appHash := List.replicate 189 7 }
def xCommit : Commit :=
  { height := 4611686018427387904, round := 268435456, blockID := xBID,
    sigs := [⟨2, wAddr 1, xLBT + 50, List.replicate 64 1⟩] }
def xTxs : List Bytes := [List.replicate 16381 0]

theorem xHeader (txs : List Bytes) :
    headerSize (makeHeader wEnv xState 4611686018427387905 txs xCommit [] (wAddr 1)) = 626 := by
  have hm : medianTime xCommit xVals = xLBT + 50 := by decide
  simp only [headerSize, makeHeader, xState, wEnv, wHash, wAddr, xBID, blockIDSize,
    List.length_replicate, hm]
  decide

theorem xData : dataSize xTxs = 16384 := by
  rw [xTxs, dataSize, dataSize, List.length_replicate]
  decide

/-- **`size_fits` is false at the header budget.** With the header exactly `MaxHeaderBytes` = 626
bytes (a 189-byte application hash, every other field at the maximum its type allows) the block a
correct proposer builds from a mempool that fills `MaxDataBytes` exceeds `MaxBytes`: the four
length prefixes need 8 bytes here (up to 14 in general), `MaxOverheadForBlock` budgets 11 − 4 = 7. -/
theorem size_fits_at_header_budget_fails :
    ¬ (∀ (env : Env) (st : State) (h : Int) (txs : List Bytes) (c : Commit) (evs : List Ev)
        (prop : Bytes) (d : Int),
        st.params.blockMaxBytes ≤ maxBlockSizeBytes →
        proposalDataBudget st (evByteSize evs) = some d → (dataSize txs : Int) ≤ d →
        (∀ s ∈ c.sigs, badCommitSig s = false) → c.sigs.length ≤ st.lastVals.length →
        CommitRanges c → (headerSize (makeHeader env st h txs c evs prop) : Int) ≤ maxHeaderBytes →
        (blockSize (makeBlock env st h txs c evs prop) : Int) ≤ st.params.blockMaxBytes) := by
  intro H
  have hh := xHeader xTxs
  have hc : commitSize xCommit = 205 := by decide
  have h1 := H wEnv xState 4611686018427387905 xTxs xCommit [] (wAddr 1) 16384 (by decide) (by decide)
    (by rw [xData]; decide) (by decide) (by decide) (by unfold CommitRanges; decide)
    (by rw [hh]; decide)
  rw [blockSize_eq _ xCommit rfl] at h1
  have hd : dataSize (makeBlock wEnv xState 4611686018427387905 xTxs xCommit [] (wAddr 1)).txs = 16384 := xData
  have hhd : headerSize (makeBlock wEnv xState 4611686018427387905 xTxs xCommit [] (wAddr 1)).header = 626 := hh
  have he : evListSize (makeBlock wEnv xState 4611686018427387905 xTxs xCommit [] (wAddr 1)).evidence = 0 := rfl
  rw [hd, hhd, he, hc] at h1
  revert h1
  decide

/-- **The transition is a function of (state, block id, header, application results)**: two nodes
that feed equal inputs to `updateState` hold equal next states (so equal `State.Bytes()`); the
block hash is a function of the header alone. Trivial for a Lean function — the implementation's
determinism is what the replica comparison of the stream checks on every applied block. -/
theorem transition_deterministic (env : Env) (incr : ValSet → ValSet) (s1 s2 : State)
    (id1 id2 : BlockID) (h1 h2 : Int) (t1 t2 : Time) (ch1 ch2 : Bool) (nv1 nv2 : Option ValSet)
    (pu1 pu2 : Option ParamUpdate) (r1 r2 : List TxResult)
    (hs : s1 = s2) (hi : id1 = id2) (hh : h1 = h2) (ht : t1 = t2) (hc : ch1 = ch2) (hn : nv1 = nv2)
    (hp : pu1 = pu2) (hr : r1 = r2) :
    updateState env incr s1 id1 h1 t1 ch1 nv1 pu1 r1 = updateState env incr s2 id2 h2 t2 ch2 nv2 pu2 r2 := by
  subst hs hi hh ht hc hn hp hr; rfl


theorem updateState_eq (env : Env) (incr : ValSet → ValSet) (st st' : State) (bid : BlockID)
    (h : Int) (t : Time) (ch : Bool) (nv : Option ValSet) (pu : Option ParamUpdate)
    (rs : List TxResult) (hok : updateState env incr st bid h t ch nv pu rs = .ok st') :
    ∃ v va lhvc p lhpc, (if ch = true then nv else some st.nextVals) = some v ∧
      st' = { st with versionApp := va, lastBlockHeight := h, lastBlockID := bid, lastBlockTime := t,
                      nextVals := incr v, vals := st.nextVals, lastVals := st.vals,
                      lastHeightValsChanged := lhvc, params := p, lastHeightParamsChanged := lhpc,
                      lastResultsHash := env.hResults rs, appHash := [] } := by
  unfold updateState at hok
  cases hnv : (if ch = true then nv else some st.nextVals) with
  | none => rw [hnv] at hok; cases hok
  | some v =>
    rw [hnv] at hok
    cases pu with
    | none => exact ⟨v, _, _, _, _, rfl, (Except.ok.inj hok).symm⟩
    | some u =>
      simp only at hok
      by_cases hp : (!paramsValid (updateParams st.params u)) = true
      · rw [if_pos hp] at hok; cases hok
      · rw [if_neg hp] at hok
        exact ⟨v, _, _, _, _, rfl, (Except.ok.inj hok).symm⟩

/-- what an accepted transition leaves in the state: the block just applied becomes the last
block, the validator sets shift by one, chain id and initial height never change -/
theorem updateState_shape (env : Env) (incr : ValSet → ValSet) (st st' : State) (bid : BlockID)
    (h : Int) (t : Time) (ch : Bool) (nv : Option ValSet) (pu : Option ParamUpdate)
    (rs : List TxResult) (hok : updateState env incr st bid h t ch nv pu rs = .ok st') :
    st'.lastBlockHeight = h ∧ st'.lastBlockID = bid ∧ st'.lastBlockTime = t ∧
    st'.vals = st.nextVals ∧ st'.lastVals = st.vals ∧ st'.chainID = st.chainID ∧
    st'.initialHeight = st.initialHeight ∧ st'.lastResultsHash = env.hResults rs := by
  obtain ⟨_, _, _, _, _, _, rfl⟩ := updateState_eq env incr st st' bid h t ch nv pu rs hok
  exact ⟨rfl, rfl, rfl, rfl, rfl, rfl, rfl, rfl⟩

section Traced
open Tmv.Merkle

/-- every byte string passed to `H` while computing the three content hashes of a block (the
transactions themselves, then the nodes of the three Merkle trees) -/
def contentPre (H : Bytes → Bytes) (b : Block) : List Bytes :=
  b.txs ++ rootPre H b.txs.length (b.txs.map H)
    ++ rootPre H b.evidence.length (b.evidence.map (·.inner))
    ++ (match b.lastCommit with
        | some c => rootPre H c.sigs.length (c.sigs.map encCommitSig)
        | none => [])

/-- `content_bound_by_header` with a *traced* collision: the alternative to "same contents" is a
collision between a string hashed while hashing the contents of `b'` and one hashed while hashing
the contents of `b` — linearly many explicitly listed inputs, so the disjunct is not true by a
counting argument. -/
theorem content_bound_by_header_traced (H : Bytes → Bytes) (L : Nat) (hlen : ∀ x, (H x).length = L)
    (vc : ValSet → Bytes → BlockID → Int → Commit → Option String) (adm : State → List Ev → Bool)
    (st : State) (b b' : Block)
    (hv : validateBlock (concreteEnv H vc adm) st b = .ok ())
    (hv' : validateBlock (concreteEnv H vc adm) st b' = .ok ()) (hh : b'.header = b.header) :
    (b'.txs = b.txs ∧ b'.evidence.map (·.inner) = b.evidence.map (·.inner) ∧
      ∃ c c', b.lastCommit = some c ∧ b'.lastCommit = some c' ∧
        c'.sigs.map encCommitSig = c.sigs.map encCommitSig)
    ∨ CollisionIn H (contentPre H b') (contentPre H b) := by
  -- the three hashes of `concreteEnv` are Merkle roots by definition
  obtain ⟨c, c', hc, hc', hd, he, hl⟩ := valid_hashes_eq (concreteEnv H vc adm) st b b' hv hv' hh
  unfold contentPre
  rw [hc, hc']
  simp only
  rcases TxProof.txsHash_inj_traced H L hlen _ _ hd with t | t
  · rcases root_inj_traced H L hlen _ _ he with r2 | r2
    · rcases root_inj_traced H L hlen _ _ hl with r3 | r3
      · left; exact ⟨t, r2, c, c', rfl, rfl, r3⟩
      · right
        simp only [List.length_map] at r3
        exact r3.mono H (fun x hx => List.mem_append_right _ hx) (fun x hx => List.mem_append_right _ hx)
    · right
      simp only [List.length_map] at r2
      exact r2.mono H (fun x hx => List.mem_append_left _ (List.mem_append_right _ hx))
        (fun x hx => List.mem_append_left _ (List.mem_append_right _ hx))
  · right
    simp only [List.length_map] at t
    exact t.mono H (fun x hx => List.mem_append_left _ (List.mem_append_left _ hx))
      (fun x hx => List.mem_append_left _ (List.mem_append_left _ hx))

/-- **With the code's hash functions** (Merkle roots over a byte hash `H` of fixed output length,
nothing else assumed about `H`): two accepted blocks with the same header have the same
transactions, the same evidence bytes and the same marshalled commit signatures — or an explicit
collision of `H` is exhibited. So a changed transaction, evidence item or signature under an
unchanged header is rejected unless SHA-256 itself is broken. -/
theorem content_bound_by_header (H : Bytes → Bytes) (L : Nat) (hlen : ∀ x, (H x).length = L)
    (vc : ValSet → Bytes → BlockID → Int → Commit → Option String) (adm : State → List Ev → Bool)
    (st : State) (b b' : Block)
    (hv : validateBlock (concreteEnv H vc adm) st b = .ok ())
    (hv' : validateBlock (concreteEnv H vc adm) st b' = .ok ()) (hh : b'.header = b.header) :
    (b'.txs = b.txs ∧ b'.evidence.map (·.inner) = b.evidence.map (·.inner) ∧
      ∃ c c', b.lastCommit = some c ∧ b'.lastCommit = some c' ∧
        c'.sigs.map encCommitSig = c.sigs.map encCommitSig)
    ∨ Nonempty (Collision H) :=
  (content_bound_by_header_traced H L hlen vc adm st b b' hv hv' hh).imp_right (CollisionIn.toCollision H)

end Traced

section WithC07
open Tmv.CommitVerify (GoodPick pickedPower sumPower NonNeg)

theorem resClass_none {r : CommitVerify.Res} (h : resClass r = none) : r = .ok := by
  cases r <;> first | rfl | cases h

theorem toCVBlockID_inj {a b : BlockID} (h : toCVBlockID a = toCVBlockID b) : a = b := by
  cases a; cases b; simp [toCVBlockID] at h; simp [h]

/-- **Accepted ⇒ the last commit carries more than two thirds of valid signatures.** With the
last-commit clause of `validateBlock` being C07's model of `VerifyCommit` (`cvEnv`), a block above
the initial height is accepted only if its `LastCommit` is for the previous height and for the
node's `LastBlockID`, has one slot per member of `LastValidators`, and there are distinct positions
whose slots are flagged for-the-block and carry a signature that verifies under the key of the
validator AT THAT POSITION over exactly (chain id, height, round, block id, slot timestamp), with
`3 · power > 2 · total power` (C07 `verifyCommit_sound`). `sigOK` is an arbitrary predicate. -/
theorem accepted_commit_two_thirds (H : Bytes → Bytes)
    (sigOK : Nat → CommitVerify.SignBytes → Bytes → Bool) (adm : State → List Ev → Bool)
    (st : State) (b : Block) (hnn : ∀ v ∈ st.lastVals, 0 ≤ v.power)
    (hv : validateBlock (cvEnv H sigOK adm) st b = .ok ())
    (hne : b.header.height ≠ st.initialHeight) :
    ∃ c, b.lastCommit = some c ∧ c.height = b.header.height - 1 ∧ c.blockID = st.lastBlockID ∧
      st.lastVals.length = c.sigs.length ∧
      ∃ picks : List Nat, picks.Nodup ∧
        (∀ i ∈ picks, GoodPick sigOK (toCVVals st.lastVals) (chainStr st.chainID) (toCVCommit c) false (i, i)) ∧
        3 * pickedPower (toCVVals st.lastVals) picks > 2 * sumPower (toCVVals st.lastVals) := by
  rw [validate_iff_spec] at hv
  obtain ⟨c, hc, _, _, _, _, _, hC, _⟩ := hv
  unfold CommitOK at hC
  rw [if_neg hne] at hC
  obtain ⟨h1, h2, h3, _, picks, hnd, hg, hp⟩ :=
    Tmv.Props.C07.verifyCommit_sound sigOK _ _ _ _ _ (List.forall_mem_map.2 hnn) (resClass_none hC)
  refine ⟨c, hc, h1, toCVBlockID_inj h2, ?_, picks, hnd, hg, hp⟩
  simpa [toCVVals, toCVCommit] using h3

end WithC07

/-- the hash functions produce `tmhash.Size` bytes (true of SHA-256 and of its Merkle roots) -/
def HashLen (env : Env) : Prop :=
  (∀ c, badHash (env.hCommit c) = false) ∧ (∀ t, badHash (env.hData t) = false) ∧
  (∀ e, badHash (env.hEv e) = false) ∧ (∀ v, badHash (env.hVals v) = false) ∧
  (∀ p, badHash (env.hParams p) = false) ∧ (∀ r, badHash (env.hResults r) = false)

/-- what every state of a chain satisfies -/
def StateInv (st : State) : Prop :=
  st.versionBlock = blockProtocol ∧ st.chainID.length ≤ maxChainIDLen ∧ 1 ≤ st.initialHeight ∧
  (st.lastBlockHeight = 0 ∨ st.initialHeight ≤ st.lastBlockHeight) ∧
  badBlockID st.lastBlockID = false ∧ badHash st.lastResultsHash = false

/-- states reachable from a genesis document by applying blocks: ARBITRARY blocks (whatever
passes validation), block ids (well-formed), validator updates, parameter updates, transaction
results and app hashes -/
inductive Reachable (env : Env) (incr : ValSet → ValSet) : State → Prop
  | genesis (chainID : Bytes) (ih : Int) (t : Time) (vals nvals : ValSet) (p : Params) (a : Bytes)
      (hc : chainID.length ≤ maxChainIDLen) (hi : 1 ≤ ih) :
      Reachable env incr (genesisState chainID ih t vals nvals p a)
  | step (st st' : State) (b : Block) (bid : BlockID) (ch : Bool) (nv : Option ValSet)
      (pu : Option ParamUpdate) (rs : List TxResult) (a : Bytes)
      (hr : Reachable env incr st) (hb : badBlockID bid = false)
      (ha : applyBlock env incr st b bid ch nv pu rs a = .ok st') : Reachable env incr st'

theorem apply_inv (env : Env) (incr : ValSet → ValSet) (hl : HashLen env) (st st' : State) (b : Block)
    (bid : BlockID) (ch : Bool) (nv : Option ValSet) (pu : Option ParamUpdate) (rs : List TxResult)
    (a : Bytes) (hinv : StateInv st) (hb : badBlockID bid = false)
    (ha : applyBlock env incr st b bid ch nv pu rs a = .ok st') : StateInv st' := by
  unfold applyBlock at ha
  cases hv : validateBlock { env with evAdmissible := fun _ _ => true } st b with
  | error e => rw [hv] at ha; cases ha
  | ok u =>
    rw [hv] at ha
    simp only at ha
    cases hu : updateState env incr st bid b.header.height b.header.time ch nv pu rs with
    | error e => rw [hu] at ha; cases ha
    | ok s1 =>
      rw [hu] at ha
      obtain ⟨_, _, _, _, _, _, rfl⟩ := updateState_eq env incr st s1 bid _ _ ch nv pu rs hu
      obtain rfl := Except.ok.inj ha
      obtain ⟨c, _, _, _, _, _, ⟨_, _, h3⟩, _⟩ := (validate_iff_spec _ st b).mp (by cases u; exact hv)
      obtain ⟨i1, i2, i3, _, _, _⟩ := hinv
      exact ⟨i1, i2, i3, .inr h3, hb, hl.2.2.2.2.2 rs⟩

/-- **Every reachable state is one a proposer can build on** -/
theorem reachable_inv (env : Env) (incr : ValSet → ValSet) (hl : HashLen env) (st : State)
    (hr : Reachable env incr st) : StateInv st := by
  induction hr with
  | genesis chainID ih t vals nvals p a hc hi =>
    exact ⟨rfl, hc, hi, Or.inl rfl, by simp [genesisState, badBlockID, badHash], by simp [genesisState, badHash]⟩
  | step st st' b bid ch nv pu rs a _ hb ha ihs =>
    exact apply_inv env incr hl st st' b bid ch nv pu rs a ihs hb ha

/-- In every reachable state, for every transaction set, the block a correct proposer builds
(height as the state dictates, admissible evidence, a verified last commit, its own address)
validates — under the same `2F + 2 ≤ T` time hypothesis as `makeBlock_valid_partial`. -/
theorem makeBlock_valid_reachable_partial (env : Env) (incr : ValSet → ValSet) (hl : HashLen env)
    (st : State) (hr : Reachable env incr st) (txs : List Bytes) (c : Commit) (evs : List Ev)
    (prop : Bytes)
    (hcb : badCommit c = false)
    (hc : CommitOK env st (if st.lastBlockHeight = 0 then st.initialHeight else st.lastBlockHeight + 1) c)
    (hpl : prop.length = addressSize) (hpv : hasAddress st.vals prop = true)
    (heb : ∀ e ∈ evs, e.basic = true) (hes : evByteSize evs ≤ st.params.evMaxBytes)
    (hea : env.evAdmissible st evs = true)
    (htime : st.lastBlockHeight ≠ 0 →
      (∀ y ∈ weightedTimes c.sigs st.lastVals, 0 ≤ y.2) ∧
      2 * lowWeight st.lastBlockTime (weightedTimes c.sigs st.lastVals) + 2
        ≤ totalWeight (weightedTimes c.sigs st.lastVals)) :
    validateBlock env st (makeBlock env st
      (if st.lastBlockHeight = 0 then st.initialHeight else st.lastBlockHeight + 1) txs c evs prop) = .ok () := by
  obtain ⟨i1, i2, i3, i4, i5, i6⟩ := reachable_inv env incr hl st hr
  obtain ⟨l1, l2, l3, l4, l5, _⟩ := hl
  generalize hH : (if st.lastBlockHeight = 0 then st.initialHeight else st.lastBlockHeight + 1) = H
    at hc ⊢
  have hheight : HeightOK st H ∧ 0 < H ∧ (st.initialHeight < H → st.lastBlockHeight ≠ 0) := by
    subst hH
    by_cases h0 : st.lastBlockHeight = 0
    · simp only [h0, if_true]
      exact ⟨⟨fun _ => rfl, fun h => by omega, by omega⟩, by omega, fun h => by omega⟩
    · simp only [h0, if_false]
      exact ⟨⟨fun h => absurd h h0, fun _ => rfl, by omega⟩, by omega, fun _ => h0⟩
  apply makeBlock_valid_partial env st H txs c evs prop
  · exact { vb := i1, chain := i2, lbid := i5, hv := l4 _, hnv := l4 _, hp := l5 _, lrh := i6,
            hc := l1 _, hd := l2 _, he := l3 _, hpos := hheight.2.1, height := hheight.1,
            commitBasic := hcb, commit := hc, propLen := hpl, propVal := hpv, evBasic := heb,
            evSize := hes, evAdm := hea }
  · exact fun hlt => htime (hheight.2.2 hlt)

/-! ### the transition with C08's validator arithmetic inside -/

theorem natOfBytes_append (l : Bytes) (x : UInt8) : natOfBytes (l ++ [x]) = natOfBytes l * 256 + x.toNat := by
  simp [natOfBytes, List.foldl_append]

theorem natOfBytes_bytesOfNatF : ∀ (f n : Nat), n < f → natOfBytes (bytesOfNatF f n) = n := by
  intro f
  induction f with
  | zero => intro n h; omega
  | succ f ih =>
    intro n h
    unfold bytesOfNatF
    split
    · rename_i hn
      simp [natOfBytes, Nat.mod_eq_of_lt hn]
    · rename_i hn
      rw [natOfBytes_append, ih (n / 256) (by omega)]
      simp
      omega

theorem natOfBytes_bytesOfNat (n : Nat) : natOfBytes (bytesOfNat n) = n :=
  natOfBytes_bytesOfNatF (n + 1) n (by omega)

/-- going to C08's record and back loses nothing C08 looks at -/
theorem toVal_back (dir : List Validator) (v : ValSet.Val) : toVal (back dir v) = v := by
  unfold back
  split
  · rename_i d hd
    have := List.find?_some hd
    simp only [beq_iff_eq] at this
    simp [toVal, this]
  · simp [toVal, natOfBytes_bytesOfNat]

theorem map_toVal_back (dir : List Validator) (l : List ValSet.Val) : (l.map (back dir)).map toVal = l := by
  induction l with
  | nil => rfl
  | cons v r ih => simp only [List.map_cons, toVal_back, ih]

open Tmv.ValSet (Reach PBound sumPower)

/-- the validator part of a state, read in C08's terms, is reachable there: unique addresses,
positive powers, canonical order, `0 < total ≤ MaxTotalVotingPower`, priorities within
`3·MaxTotalVotingPower` (no int64 clamp or wrap is ever taken on such sets) -/
def VReach (st : State) : Prop := Reach (st.vals.map toVal) ∧ Reach (st.nextVals.map toVal)

/-- one step of C08's arithmetic (the update batch, if any, then one rotation) keeps a reachable set
reachable -/
theorem nextVSet_reach (cur ch nv : List ValSet.Val) (hr : Reach cur) (h : nextVSet cur ch = some nv) :
    Reach nv := by
  unfold nextVSet at h
  simp only at h
  split at h
  · cases h
  · rename_i hu
    split at h
    · cases h
    · rename_i s hi
      exact Option.some.inj h ▸ Tmv.Props.C08.reach_batch_rotate (s := ⟨cur, none⟩) hr ch hu hi

theorem updateStateV_ok (env : Env) (addrOf : Bytes → Bytes) (st st' : State) (bid : BlockID)
    (h : Int) (t : Time) (upd : List ValUpdate) (pu : Option ParamUpdate) (rs : List TxResult)
    (hok : updateStateV env addrOf st bid h t upd pu rs = .ok st') :
    ∃ nv, nextVals addrOf st.nextVals upd = some nv ∧
      updateState env (fun _ => nv) st bid h t (!upd.isEmpty) (some st.nextVals) pu rs = .ok st' := by
  unfold updateStateV at hok
  split at hok
  · cases hok
  · split at hok
    · cases hok
    · rename_i nv hnv
      exact ⟨nv, hnv, hok⟩

/-- **The transition with the validator arithmetic inside.** `applyBlockV` is a function of
(state, block, block id, application responses) — nothing else enters; and when it accepts,
the next state's validator sets are the current `NextValidators` (now `Validators`), the
current `Validators` (now `LastValidators`), and a `NextValidators` that C08's
`updateWithChangeSet` + one `IncrementProposerPriority` computed: well-formed (unique addresses,
positive powers, canonical order, total within `MaxTotalVotingPower`) with priorities within
`3·MaxTotalVotingPower`, i.e. computed without any int64 clamp or wrap. So two nodes applying the
same block with the same responses to the same state hold identical validator sets, priorities
included. -/
theorem applyBlockV_reach (env : Env) (addrOf : Bytes → Bytes) (st st' : State) (b : Block)
    (bid : BlockID) (upd : List ValUpdate) (pu : Option ParamUpdate) (rs : List TxResult) (a : Bytes)
    (hr : VReach st) (ha : applyBlockV env addrOf st b bid upd pu rs a = .ok st') :
    VReach st' ∧ st'.vals = st.nextVals ∧ st'.lastVals = st.vals ∧
      st'.lastBlockHeight = b.header.height ∧ st'.lastBlockID = bid := by
  unfold applyBlockV at ha
  split at ha
  · cases ha
  · split at ha
    · cases ha
    · rename_i s1 hu
      obtain rfl := Except.ok.inj ha
      obtain ⟨nv, hnv, hu'⟩ := updateStateV_ok _ _ _ _ _ _ _ _ _ _ hu
      obtain ⟨_, _, _, _, _, _, rfl⟩ := updateState_eq _ _ _ _ _ _ _ _ _ _ _ hu'
      unfold nextVals at hnv
      simp only [Option.map_eq_some_iff] at hnv
      obtain ⟨l, hl, rfl⟩ := hnv
      refine ⟨⟨hr.2, ?_⟩, rfl, rfl, rfl, rfl⟩
      show Reach ((l.map (back _)).map toVal)
      rw [map_toVal_back]
      exact nextVSet_reach _ _ _ hr.2 hl


/-! ### the evidence clause with C11's pool inside -/

/-- `ValidateBlock` = `validateBlock`, then (only if that passed) the pool's `CheckEvidence`:
the verdict of `validateWithPool` is the verdict of `validateBlock` in the full environment -/
theorem validateWithPool_verdict (H : Bytes → Bytes)
    (sigOK : Nat → CommitVerify.SignBytes → Bytes → Bool) (pe : PoolEnv) (st : State) (b : Block) :
    (validateWithPool H sigOK pe st b).1 = validateBlock (fullEnv H sigOK pe) st b := by
  rw [validateBlock_pool_last, validateWithPool]
  cases validateBlock { fullEnv H sigOK pe with evAdmissible := fun _ _ => true } st b with
  | error e => rfl
  | ok u => rfl

/-- **Accepted ⇒ the evidence is admissible, item by item.** With the evidence pool being C11's
model (`fullEnv`), on a pool state reachable in C11's sense, a block accepted by `ValidateBlock`
carries evidence that passes `ValidateBasic`, fits `Evidence.MaxBytes`, and of which every item is
not committed and — unless another item has the same (height, hash) key, a hash collision — is
proven against the header time and validator set of its height and has not expired (C11
`check_admits_only`). -/
theorem accepted_evidence_admissible (H : Bytes → Bytes)
    (sigOK : Nat → CommitVerify.SignBytes → Bytes → Bool) (pe : PoolEnv) (st : State) (b : Block)
    (hm : Evidence.MonoTime pe.ctx) (hr : Evidence.Reach pe.ctx pe.sys) (hd : pe.sys.dead = false)
    (hsmall : pe.sys.pool.pending.length < 4294967296)
    (hv : validateBlock (fullEnv H sigOK pe) st b = .ok ()) :
    (∀ e ∈ b.evidence, e.basic = true) ∧ evByteSize b.evidence ≤ st.params.evMaxBytes ∧
    ∀ e ∈ b.evidence.map pe.decode,
      Evidence.isCommitted pe.ctx pe.sys.pool e = false ∧
      ((Evidence.Proves pe.ctx pe.sys.storeH e ∧
          Evidence.expired pe.sys.pool.state e.height e.time = false) ∨
        ∃ x, x ≠ e ∧ Evidence.key pe.ctx x = Evidence.key pe.ctx e) := by
  rw [validate_iff_spec] at hv
  obtain ⟨_, _, _, _, _, hb, _, _, _, _, hs, ha⟩ := hv
  refine ⟨hb, hs, ?_⟩
  have hok : (Evidence.step pe.ctx pe.sys (.check (b.evidence.map pe.decode))).2 = .ok := by
    have : poolAdmits pe b.evidence = true := ha
    unfold poolAdmits at this
    exact eq_of_beq this
  exact Tmv.Props.C11.check_admits_only pe.ctx hm hr hd hsmall _ hok


/-! ### vote timestamps (consensus `voteTime`) and the next block's time -/

theorem lt_voteTime (x now iota : Int) (hi : 0 < iota) :
    x < if now > x + iota then now else x + iota := by
  split <;> omega

/-- **A correct validator stamps its vote later than the block it is locked on** (with
`TimeIota > 0`), whatever the round's proposal and however far its clock is behind -/
theorem voteTime_after_locked (now l : Time) (p : Option Time) (iota : Int) (hi : 0 < iota) :
    l < voteTime now (some l) p iota :=
  lt_voteTime l now iota hi

/-- without a lock the vote is later than the proposal it can be for -/
theorem voteTime_after_proposal (now pt : Time) (iota : Int) (hi : 0 < iota) :
    pt < voteTime now none (some pt) iota :=
  lt_voteTime pt now iota hi

/-- the vote is never earlier than the local clock -/
theorem voteTime_ge_now (now : Time) (l p : Option Time) (iota : Int) : now ≤ voteTime now l p iota := by
  have key : ∀ m : Int, now ≤ if now > m then now else m := by
    intro m
    by_cases h : now > m
    · rw [if_pos h]; exact Int.le_refl _
    · rw [if_neg h]; exact Int.not_lt.mp h
  exact key _

/-- every counted vote stamped after the previous block ⇒ the median is after it -/
theorem medianTime_after_of_votes_after (c : Commit) (vs : ValSet) (L : Time)
    (hp : ∀ v ∈ vs, 0 < v.power) (hne : weightedTimes c.sigs vs ≠ [])
    (hall : ∀ y ∈ weightedTimes c.sigs vs, L < y.1) : L < medianTime c vs := by
  unfold medianTime
  exact (weightedMedian_gt_iff L _ (weightedTimes_pos c.sigs vs hp)).mpr
    (Or.inr (Or.inl ⟨lowWeight_zero_of_all_gt L _ hall, hne⟩))

/-- **BFT time, end to end.** The commit of block X (time `st.lastBlockTime`) is made of
precommits FOR X; a correct validator precommits X only while locked on X, so its timestamp is
`voteTime now (some X.time) proposal iota` for its clock `now` and whatever proposal it holds. If
every counted signature of the last commit is stamped that way (`TimeIota > 0`), the weighted
median is later than X's time and the block the next correct proposer builds passes validation —
in particular the "time later than the previous block" check. The rule that the LOCKED block
comes first in `voteTime` is what this rests on. -/
theorem next_block_valid_of_correct_votes (env : Env) (st : State) (h : Int) (txs : List Bytes)
    (c : Commit) (evs : List Ev) (prop : Bytes) (hin : ProposerInput env st h txs c evs prop)
    (hp : ∀ v ∈ st.lastVals, 0 < v.power) (iota : Int) (hi : 0 < iota)
    (hne : st.initialHeight < h → weightedTimes c.sigs st.lastVals ≠ [])
    (hvotes : ∀ y ∈ weightedTimes c.sigs st.lastVals,
      ∃ (now : Time) (proposal : Option Time), y.1 = voteTime now (some st.lastBlockTime) proposal iota) :
    validateBlock env st (makeBlock env st h txs c evs prop) = .ok () := by
  rw [makeBlock_valid_iff env st h txs c evs prop hin hp]
  intro hlt
  right; left
  refine ⟨lowWeight_zero_of_all_gt _ _ ?_, hne hlt⟩
  intro y hy
  obtain ⟨now, p, hy1⟩ := hvotes y hy
  rw [hy1]
  exact voteTime_after_locked now st.lastBlockTime p iota hi

/-- what goes wrong if the proposal were consulted first: locked on X (time 100), proposal Y
earlier (time 10), clock behind (now 0): the vote would be stamped 11 ≤ 100 -/
example : ¬ (100 : Int) < voteTime 0 none (some 10) 1 := by decide
example : (100 : Int) < voteTime 0 (some 100) (some 10) 1 := by decide


/-! ### the hypotheses are satisfiable (non-vacuity) -/

example : HashLen wEnv := by
  have h : badHash wHash = false := by decide
  exact ⟨fun _ => h, fun _ => h, fun _ => h, fun _ => h, fun _ => h, fun _ => h⟩

example : Reachable wEnv id (genesisState [99] 1 1000 wVals wVals wParams []) :=
  Reachable.genesis _ _ _ _ _ _ _ (by decide) (by decide)



/-- all three included votes stamped after the last block time -/
def gCommit : Commit :=
  { wCommit with sigs := [⟨2, wAddr 1, 1005, [1]⟩, ⟨2, wAddr 2, 1010, [1]⟩, ⟨2, wAddr 3, 1011, [1]⟩,
      ⟨1, [], zeroTime, []⟩] }

example : ProposerInput wEnv wState 2 [] gCommit [] (wAddr 2) := wInput_of gCommit (by decide)

example : (∀ y ∈ weightedTimes gCommit.sigs wState.lastVals, 0 ≤ y.2) ∧
    2 * lowWeight wState.lastBlockTime (weightedTimes gCommit.sigs wState.lastVals) + 2
      ≤ totalWeight (weightedTimes gCommit.sigs wState.lastVals) :=
  ⟨fun y hy => Int.le_of_lt (weightedTimes_pos _ _ (by decide) y hy), by decide⟩

theorem gBlock_valid :
    validateBlock wEnv wState (makeBlock wEnv wState 2 [] gCommit [] (wAddr 2)) = .ok () := by rfl

/-- an accepted block, and a header perturbation of it with the same contents and proposer -/
example : validateBlock wEnv wState (makeBlock wEnv wState 2 [] gCommit [] (wAddr 2)) = .ok () :=
  gBlock_valid

example : let b := makeBlock wEnv wState 2 [] gCommit [] (wAddr 2)
    let b' := { b with header := { b.header with time := b.header.time + 1 } }
    b'.header ≠ b.header ∧ b'.txs = b.txs ∧ b'.header.proposer = b.header.proposer := by
  refine ⟨by decide, rfl, rfl⟩

/-- the hypotheses of `size_fits` hold for the example state with the default 21 MB limit -/
example : proposalDataBudget wState (evByteSize []) = some 22018921 ∧
    (∀ s ∈ gCommit.sigs, badCommitSig s = false) ∧ gCommit.sigs.length ≤ wState.lastVals.length ∧
    CommitRanges gCommit ∧ wState.params.blockMaxBytes ≤ maxBlockSizeBytes := by
  refine ⟨by decide, by decide, by decide, by unfold CommitRanges; decide, by decide⟩

example : HeaderBounds (makeHeader wEnv wState 2 [] gCommit [] (wAddr 2)) := by
  constructor <;> decide

/-- `single_content_rejected`: an accepted block and a different block with the same header -/
example : let b := makeBlock wEnv wState 2 [] gCommit [] (wAddr 2)
    let b' := { b with txs := [[1]] }
    validateBlock wEnv wState b = .ok () ∧ b'.header = b.header ∧ b' ≠ b :=
  ⟨gBlock_valid, rfl, by decide⟩

/-- `content_bound_by_header`: two accepted blocks under the code's hash functions (over a
constant `H`, which has fixed output length 32) -/
example : let env := concreteEnv (fun _ => wHash) (fun _ _ _ _ _ => none) (fun _ _ => true)
    let b := makeBlock env wState 2 [] gCommit [] (wAddr 2)
    (∀ x : Bytes, ((fun (_ : Bytes) => wHash) x).length = 32) ∧ validateBlock env wState b = .ok () := by
  refine ⟨fun _ => rfl, by rfl⟩

example : ∀ v ∈ wState.lastVals, 0 < v.power := by decide

/-- `accepted_commit_two_thirds`: a block accepted under C07's `VerifyCommit` model (every
signature verifies, constant `H`) above the initial height -/
example : validateBlock (cvEnv (fun _ => wHash) (fun _ _ _ => true) (fun _ _ => true)) wState
      (makeBlock (cvEnv (fun _ => wHash) (fun _ _ _ => true) (fun _ _ => true)) wState 2 [] gCommit [] (wAddr 2))
      = .ok () ∧ (2 : Int) ≠ wState.initialHeight := by
  refine ⟨by rfl, by decide⟩

/-- the example state's validator sets are reachable in C08's sense -/
example : VReach wState := by
  have h : ValSet.Reach (wVals.map toVal) := by
    refine ⟨⟨by decide, by decide, by decide, by decide, by decide, by decide⟩, ?_⟩
    intro v hv
    simp [wVals, toVal] at hv
    rcases hv with rfl | rfl | rfl | rfl <;> decide
  exact ⟨h, h⟩

def pCtx : Evidence.Ctx :=
  { blocks := [], maxAgeBlocks := 100000, maxAgeDur := 172800000000000, H := fun _ => 0, S := fun _ => 0,
    sigOK := fun _ _ => false }
def pPool : PoolEnv :=
  { ctx := pCtx, sys := Evidence.initSys pCtx 0,
    decode := fun _ => .dv ⟨⟨0, 0, 0, "", 0, 0, 0, ""⟩, ⟨0, 0, 0, "", 0, 0, 0, ""⟩, 0, 0, 0⟩ }

/-- `accepted_evidence_admissible`: a fresh pool (reachable, alive, empty) and a block accepted in
the full environment -/
example : Evidence.MonoTime pPool.ctx ∧ Evidence.Reach pPool.ctx pPool.sys ∧ pPool.sys.dead = false ∧
    pPool.sys.pool.pending.length < 4294967296 ∧
    validateBlock (fullEnv (fun _ => wHash) (fun _ _ _ => true) pPool) wState
      (makeBlock (fullEnv (fun _ => wHash) (fun _ _ _ => true) pPool) wState 2 [] gCommit [] (wAddr 2)) = .ok () := by
  refine ⟨?_, Evidence.Reach.init 0, rfl, by decide, by rfl⟩
  intro h1 h2 b1 b2 _ hb1
  simp [Evidence.blockAt, pPool, pCtx] at hb1

end Tmv.Props.C06
