import Tmv.Lemmas.LightRestart
import Tmv.Lemmas.LightOrder
import Tmv.Lemmas.LightProv
/-! C09 — the light client only trusts headers reachable by valid verification steps; the cross-check
succeeds only if some witness of the checking client would answer some request with a header of the
same hash (`detector_confirms_only_identical`; `Replied` does not say the request was made); a backed
conflicting header yields the attack error with evidence. Theorems about the model
`Tmv/Model/Light.lean` (statement-by-statement model of light/verifier.go, client.go, detector.go,
store/db), quantified over all providers (arbitrary functions of the number of earlier calls and the height), all
schedulers (arrival orders of witness replies), all client call sequences and all fuel values. -/
namespace Tmv.Props.C09
open Tmv.Light

/-! ## trust level -/

/-- `ValidateTrustLevel` accepts only fractions in [1/3, 1] — despite the wrapping uint64
multiplication `Numerator*3`. -/
theorem trust_level_sound (l : Fraction) (hn : l.num < 2 ^ 64) (hd : l.den < 2 ^ 64)
    (h : validateTrustLevel l = true) : 0 < l.den ∧ l.num ≤ l.den ∧ l.den ≤ 3 * l.num := by
  simp [validateTrustLevel] at h
  obtain ⟨⟨h1, h2⟩, h3⟩ := h
  refine ⟨by omega, h2, ?_⟩
  by_cases hw : l.num * 3 < 2 ^ 64
  · rw [Nat.mod_eq_of_lt hw] at h1; omega
  · omega  -- the product wrapped: `den < 2^64 ≤ 3·num`

example : validateTrustLevel ⟨1, 3⟩ = true ∧ validateTrustLevel ⟨2 ^ 63, 2 ^ 63 + 1⟩ = false := by decide

/-! ## verification steps -/

/-- whatever `Verify` accepts is a valid step of the statement -/
theorem verified_step_valid {cfg : Config} {t u : LightBlock} {now : Int}
    (h : verify cfg t u now = .ok ()) : ValidStep cfg now t u := verify_sound h

/-- whatever `VerifyBackwards` accepts is a hash-link step -/
theorem verified_backstep_valid {u t : LightBlock} (h : verifyBackwards u t = true) : BackStep t u :=
  verifyBackwards_sound h

/-! ## trusting period -/

/-- the statement's "within the trusting period" is the code's notion: the TRUSTED header of the step
is not expired at the local time `now` (`HeaderExpired`: expiration time `time + period` not after
`now`), with the boundary on the expired side -/
theorem valid_step_within_trusting_period {cfg : Config} {now : Int} {a b : LightBlock}
    (h : ValidStep cfg now a b) : headerExpired a cfg.period now = false := by
  have := h.fresh
  simp [headerExpired]; omega

theorem header_expired_iff (t : LightBlock) (p now : Int) :
    headerExpired t p now = true ↔ t.time + p ≤ now := headerExpired_iff t p now

/-- from an expired trusted header no forward step is accepted at all — adjacent or skipping, for any
new header, however well signed -/
theorem expired_header_never_steps {cfg : Config} {t u : LightBlock} {now : Int}
    (h : headerExpired t cfg.period now = true) : verify cfg t u now = .error .expired :=
  verify_expired ((headerExpired_iff _ _ _).mp h)

/-- so with an expired latest trusted block `verifyLightBlock` (and with it `Update` and
`VerifyLightBlockAtHeight` at or above the latest height) stores nothing new, in both modes, whatever
the providers serve (long gaps cannot be bridged once the period is over) -/
theorem forward_from_expired_rejected {c : Client} {latest new : LightBlock} {now : Int}
    (hl : c.latest = some latest) (hge : new.height ≥ latest.height)
    (h : headerExpired latest c.cfg.period now = true) :
    (verifyLightBlock c new now).2 ≠ .ok () := by
  intro e
  obtain ⟨c1, _, ⟨_, hr⟩ | ⟨_, _, ha⟩⟩ := verifyLightBlock_spec (c := c) (new := new) (now := now)
    (c' := (verifyLightBlock c new now).1) (r := .ok ()) (Prod.ext rfl e)
  · exact hr rfl
  · have := ha.fresh latest hl hge
    have := (headerExpired_iff _ _ _).mp h
    omega

/-! ## the trusted store -/

/-- a client call of the public API, with the arrival-order scheduler in force during the call -/
inductive Op
  | verify (height now : Int) (sched : List Prov → List Nat)
  | update (now : Int) (sched : List Prov → List Nat)

def runOp (c : Client) : Op → Client
  | .verify h now s => (verifyLightBlockAtHeight { c with sched := s } h now).1
  | .update now s => (update { c with sched := s } now).1

def runOps (c : Client) (ops : List Op) : Client := ops.foldl runOp c

theorem runOp_evolves (c : Client) (op : Op) : Evolves c (runOp c op) := by
  cases op with
  | verify ht now s => exact (verifyLightBlockAtHeight_evolves (Prod.ext rfl rfl)).1.of_keeps (Keeps.sched c s)
  | update now s => exact (update_evolves (Prod.ext rfl rfl)).of_keeps (Keeps.sched c s)

/-- **stored_reachable.** After `NewClient` with trust hash `root` and ANY sequence of
`VerifyLightBlockAtHeight` / `Update` calls — for every behaviour of the primary and the witnesses,
every arrival order of witness replies, every `now`, every primary replacement — every light block
in the trusted store (and the cached latest block) is reachable from the trust root by steps that
`Verify` / `VerifyBackwards` accepted, i.e. by valid steps of the statement. -/
theorem stored_reachable {cfg : Config} {primary : Prov} {witnesses : List Prov}
    {sched : List Prov → List Nat} {period height : Int} {root : Hash} {c0 : Client}
    (hnew : newClient cfg primary witnesses sched period height root = .ok c0) (ops : List Op) :
    (∀ b ∈ (runOps c0 ops).store.blocks, Reach cfg (· = root) b) ∧
    (∀ l, (runOps c0 ops).latest = some l → Reach cfg (· = root) l) :=
  (List.foldlRecOn (motive := Inv cfg (· = root)) ops runOp (newClient_inv hnew)
    fun c h op _ => h.evolves (runOp_evolves c op)).2

/-- right after `NewClient` every stored block is reachable from the trust root -/
theorem new_client_stores_root {cfg : Config} {primary : Prov} {witnesses : List Prov}
    {sched : List Prov → List Nat} {period height : Int} {root : Hash} {c0 : Client}
    (hnew : newClient cfg primary witnesses sched period height root = .ok c0) :
    ∀ b ∈ c0.store.blocks, Reach cfg (· = root) b := (newClient_inv hnew).2.1

/-- **stored_valsets_committed.** If the providers obey their contract (every light block they hand
over carries the validator set its header commits to — what `LightBlock.ValidateBasic` in both
providers of /repo enforces), then after `NewClient` and any sequence of calls every trusted block
(store and cached latest) carries the validator set its header commits to — also the blocks stored
by backwards verification and after primary replacement, where the client itself does not check it.
Hence the "previous trusted set" of every later `ValidStep` from a stored block is the set named by
that trusted header. -/
theorem stored_valsets_committed {cfg : Config} {primary : Prov} {witnesses : List Prov}
    {sched : List Prov → List Nat} {period height : Int} {root : Hash} {c0 : Client}
    (hp : ProvOK primary) (hw : ∀ w ∈ witnesses, ProvOK w)
    (hnew : newClient cfg primary witnesses sched period height root = .ok c0) (ops : List Op) :
    (∀ b ∈ (runOps c0 ops).store.blocks, Committed b) ∧
    (∀ l, (runOps c0 ops).latest = some l → Committed l) :=
  have h := (List.foldlRecOn (motive := CInv) ops runOp (newClient_cinv hp hw hnew)
    fun c h op _ => h.evolves (runOp_evolves c op)).2
  ⟨fun b hb => h b (Or.inl hb), fun l hl => h l (Or.inr hl)⟩

/-! ### the whole life of a trusted store: restarts, rollback, cleanup, `VerifyHeader`, pruning -/

/-- everything that can happen to a trusted store between its creation and now -/
inductive SOp
  | call (op : Op)
  /-- `VerifyHeader` for a header given by hash and height -/
  | verifyHeader (hash : Hash) (height now : Int) (sched : List Prov → List Nat)
  | cleanup
  /-- `NewClientFromTrustedStore` over the existing store (possibly other providers) -/
  | restart (primary : Prov) (witnesses : List Prov) (sched : List Prov → List Nat)
  /-- `NewClient` with trust options over the existing store: `checkTrustedHeaderUsingOptions`
  (comparison with the primary, rollback by `cleanupAfter`, `Cleanup` on mismatch) and, if needed,
  `initializeWithTrustOptions` -/
  | restartWithOptions (primary : Prov) (witnesses : List Prov) (sched : List Prov → List Nat)
      (period height : Int) (hash : Hash)

/-- a failing constructor leaves the store as the constructor left it; the session goes on with it -/
def runSOp (cfg : Config) (c : Client) : SOp → Client
  | .call op => runOp c op
  | .verifyHeader hash height now s => (verifyHeader { c with sched := s } hash height now).1
  | .cleanup => cleanup c
  | .restart p ws s => (newClientOn c cfg p ws s false 0 0 0).1
  | .restartWithOptions p ws s period height hash => (newClientOn c cfg p ws s true period height hash).1

def runSOps (cfg : Config) (c : Client) (ops : List SOp) : Client := ops.foldl (runSOp cfg) c

/-- the trust hashes the user supplied during the session -/
def suppliedRoots (root0 : Hash) (ops : List SOp) (h : Hash) : Prop :=
  h = root0 ∨ ∃ p ws s period height, SOp.restartWithOptions p ws s period height h ∈ ops

/-- **stored_reachable over the whole life of the store.** Start with `NewClient` (trust hash
`root0`) and apply ANY sequence of public operations — verification calls, `VerifyHeader`, `Cleanup`,
restarts from the existing store with or without new trust options (including rollback to an older
height and the wipe on a hash mismatch), with the store pruned to its maximum size after every
insertion (`cfg.pruning`): at every moment every block left in the store, and the cached latest
block, is reachable by valid steps from a header whose hash the user supplied as a trust option at
some (re)start. Pruning and rollback only remove blocks; what stays keeps its chain (the chain may
run through blocks that have been pruned since). The configuration (`cfg`: trusting period, trust
level, drift, mode) is the same at every restart. -/
theorem stored_reachable_session {cfg : Config} {primary : Prov} {witnesses : List Prov}
    {sched : List Prov → List Nat} {period height : Int} {root0 : Hash} {c0 : Client}
    (hnew : newClient cfg primary witnesses sched period height root0 = .ok c0) (ops : List SOp) :
    (∀ b ∈ (runSOps cfg c0 ops).store.blocks, Reach cfg (suppliedRoots root0 ops) b) ∧
    (∀ l, (runSOps cfg c0 ops).latest = some l → Reach cfg (suppliedRoots root0 ops) l) := by
  have h0 := newClient_inv hnew
  refine (List.foldlRecOn (motive := Inv cfg (suppliedRoots root0 ops)) ops (runSOp cfg)
    (Inv.of_trusted h0.cfg_eq fun b hb => (h0.trusted hb).mono fun h e => Or.inl e) ?_).2
  intro c hi op hop
  cases op with
  | call op => exact hi.evolves (runOp_evolves c op)
  | verifyHeader hash height now s => exact hi.evolves (verifyHeader_evolves.of_keeps (Keeps.sched c s))
  | cleanup => exact cleanup_inv hi
  | restart p ws s => exact newClientOn_inv hi (fun h => by cases h)
  | restartWithOptions p ws s period height hash =>
    exact newClientOn_inv hi (fun _ => Or.inr ⟨p, ws, s, period, height, hop⟩)

/-- pruning in isolation: `Prune` only removes blocks (`DeleteLightBlock`: `mem_delete`) -/
theorem prune_only_removes (s : Store) (n : Nat) : ∀ b ∈ (s.prune n).blocks, b ∈ s.blocks :=
  fun _ hb => mem_prune hb

/-- one link of a trust chain: a valid forward step at some local time, a backward hash link, or
re-labelling by header hash -/
inductive Link (cfg : Config) : LightBlock → LightBlock → Prop
  | fwd (a b : LightBlock) (now : Int) : ValidStep cfg now a b → Link cfg a b
  | back (a b : LightBlock) : BackStep a b → Link cfg a b
  | same (a b : LightBlock) : b.hash = a.hash → Link cfg a b

/-- reachability read literally: there is a chain of links from a block carrying the trust-root
hash to the block -/
theorem reach_chain {cfg : Config} {root : Hash → Prop} {b : LightBlock} (h : Reach cfg root b) :
    ∃ l : List LightBlock, (∃ b0, l.head? = some b0 ∧ root b0.hash) ∧ l.getLast? = some b ∧
      Chain (Link cfg) l := by
  -- each constructor of `Reach` appends one link to the chain of its premise
  have ext : ∀ a b : LightBlock, Link cfg a b →
      (∃ l : List LightBlock, (∃ b0, l.head? = some b0 ∧ root b0.hash) ∧ l.getLast? = some a ∧ Chain (Link cfg) l) →
      ∃ l : List LightBlock, (∃ b0, l.head? = some b0 ∧ root b0.hash) ∧ l.getLast? = some b ∧ Chain (Link cfg) l := by
    rintro a b hl ⟨l, ⟨b0, h0, hr⟩, hla, hc⟩
    exact ⟨l ++ [b], ⟨b0, by rw [head?_append_of_getLast? hla]; exact h0, hr⟩, by simp,
      chain_append l a b hc hla hl⟩
  induction h with
  | root b hb => exact ⟨[b], ⟨b, rfl, hb⟩, rfl, trivial⟩
  | fwd a b now _ hs ih => exact ext a b (Link.fwd a b now hs) ih
  | back a b _ hs ih => exact ext a b (Link.back a b hs) ih
  | same a b _ hs ih => exact ext a b (Link.same a b hs) ih

/-! ## the detector -/

/-- **detector_confirms_only_identical.** If the cross-check succeeds then some current witness
answers some request (`Replied`: for some call count and height) with a light block whose header
hash is the hash of the verified header — for every witness behaviour and every arrival order. -/
theorem detector_confirms_only_identical {c : Client} {trace : List LightBlock} {now : Int}
    {c' : Client} (e : detectDivergence c trace now = (c', .ok ())) :
    ∃ h, trace.getLast? = some h ∧
      ∃ (i : Nat) (w : Prov), c.witnesses[i]? = some w ∧ Replied w h.hash :=
  ((detectDivergence_spec e).2 rfl).2

/-- **unresponsive_never_confirms.** Witnesses that never return the identical header (silent,
missing, erroring, or lying with other headers) never make the cross-check succeed. -/
theorem unresponsive_never_confirms {c : Client} {trace : List LightBlock} {now : Int} {h : LightBlock}
    (hl : trace.getLast? = some h)
    (hw : ∀ w ∈ c.witnesses, ¬ Replied w h.hash) :
    (detectDivergence c trace now).2 ≠ .ok () := by
  intro e
  obtain ⟨h', hl', i, w, hi, hr⟩ := detector_confirms_only_identical (Prod.ext rfl e)
  rw [hl] at hl'
  injection hl' with hl'
  subst hl'
  exact hw w (List.mem_of_getElem? hi) hr

/-- a witness that only ever errors is a special case -/
theorem erroring_witnesses_never_confirm {c : Client} {trace : List LightBlock} {now : Int}
    (hw : ∀ w ∈ c.witnesses, ∀ n ht, ∃ e, w.script n ht = .err e) :
    (detectDivergence c trace now).2 ≠ .ok () := by
  intro e
  obtain ⟨h', _, i, w, hi, n, ht, lb, hs, _⟩ := detector_confirms_only_identical (Prod.ext rfl e)
  obtain ⟨er, he⟩ := hw w (List.mem_of_getElem? hi) n ht
  rw [he] at hs
  cases hs

/-- `verifySequential` stores a header only after a successful cross-check of a trace ending in it -/
theorem sequential_accepts_only_confirmed {c : Client} {trusted new : LightBlock} {now : Int}
    {c' : Client} (e : verifySequential c trusted new now = (c', .ok ())) :
    ∃ c1 trace h, detectDivergence c1 trace now = (c', .ok ()) ∧ trace.getLast? = some h ∧
      ∃ (i : Nat) (w : Prov), c1.witnesses[i]? = some w ∧ Replied w h.hash := by
  unfold verifySequential at e
  split at e
  · cases e
  · rename_i c1 trace _
    obtain ⟨h, hl, hw⟩ := detector_confirms_only_identical e
    exact ⟨c1, trace, h, e, hl, hw⟩

/-- **accepted_needs_identical_witness.** `verifyLightBlock` stores a new block through the forward
or in-between path (sequential or skipping, with or without primary replacement) only if
`SomeWitnessReplied new.hash`: a provider in the witness list of some client answers some request
with a light block of that hash. `Accepted.confirmed` (`Lemmas/LightInv.lean`) has the sharper
`Confirmed c new.hash`, naming a provider of the calling client `c`; this statement does not say which client.
(Only backwards verification — below the first trusted height — stores without witnesses;
it follows hash links from a trusted header.) -/
theorem accepted_needs_identical_witness {c : Client} {new : LightBlock} {now : Int} {c' : Client}
    (e : verifyLightBlock c new now = (c', .ok ())) :
    (∃ latest, c.latest = some latest ∧ new.height < latest.height ∧ new.height < c.store.firstHeight) ∨
    SomeWitnessReplied new.hash := by
  obtain ⟨c1, _, ⟨_, hr⟩ | ⟨_, _, ha⟩⟩ := verifyLightBlock_spec e
  · exact absurd rfl hr
  · exact ha.confirmed.imp id Confirmed.some

/-! ## skipping verification -/

/-- **skipping_trace_valid.** The trace `verifySkipping` returns (bisection with the pivot cache, any
source behaviour, any fuel) starts at the trusted block, ends at the new block and every
consecutive pair is a valid step. -/
theorem skipping_trace_valid {cfg : Config} {k : Calls} {src : Prov} {trusted new : LightBlock}
    {now : Int} {k' : Calls} {tr : List LightBlock}
    (e : verifySkipping cfg k src trusted new now = (k', .ok tr)) :
    Chain (ValidStep cfg now) tr ∧ tr.head? = some trusted ∧ tr.getLast? = some new := by
  unfold verifySkipping at e
  have := skipLoop_trace cfg now src new _ _ _ _ _ _ _ _ (by exact trivial) (by simp) e
  exact ⟨this.1, by simpa using this.2.2, this.2.1⟩

/-! ## conflicting headers -/

/-- **conflict_reported** (handler level). If the witness backs its conflicting header along the
primary's trace (`examineConflictingHeaderAgainstTrace` succeeds with a non-empty witness trace),
`handleConflictingHeaders` returns `ErrLightClientAttack`, evidence against the primary's block has
been sent to the witness, and — when the primary in turn backs its block along the witness trace —
evidence against the witness's block has been sent to the primary. (`hpne` excludes the code's
index-out-of-range corner: an empty primary trace, which needs two different headers of equal hash.) -/
theorem conflict_reported {c : Client} {trace : List LightBlock} {b : LightBlock} {idx : Nat} {now : Int}
    {sup : Prov} {k1 : Calls} {wtrace : List LightBlock} {pb : LightBlock}
    (hw : c.witnesses[idx]? = some sup)
    (hex : examine c.cfg now trace b c.calls sup = (k1, some (wtrace, pb)))
    (hne : wtrace ≠ [])
    (hpne : ∀ k2 wb, examine c.cfg now wtrace pb k1 c.primary ≠ (k2, some ([], wb))) :
    ∃ c', handleConflictingHeaders c trace b idx now = (c', some .attack) ∧
      (∃ ev, (sup.id, ev) ∈ c'.evidence ∧ ev.conflicting = pb.hash) ∧
      (∀ k2 ptrace wb, examine c.cfg now wtrace pb k1 c.primary = (k2, some (ptrace, wb)) →
        ptrace ≠ [] → ∃ ev, (c.primary.id, ev) ∈ c'.evidence ∧ ev.conflicting = wb.hash) := by
  unfold handleConflictingHeaders
  rw [hw]
  simp only [hex, List.head?_eq_some_head hne, List.getLast?_eq_some_getLast hne]
  generalize hq : examine c.cfg now wtrace pb k1 c.primary = q
  obtain ⟨k2, _ | ⟨ptrace, wb⟩⟩ := q
  · exact ⟨_, rfl, ⟨mkEvidence pb (wtrace.getLast hne) (wtrace.head hne), by simp, rfl⟩,
      fun _ _ _ h => by cases h⟩
  · have hp : ptrace ≠ [] := fun h => hpne k2 wb (h ▸ hq)
    simp only [List.head?_eq_some_head hp, List.getLast?_eq_some_getLast hp]
    refine ⟨_, rfl, ⟨mkEvidence pb (wtrace.getLast hne) (wtrace.head hne), by simp, rfl⟩,
      fun _ _ _ h _ => ?_⟩
    cases h
    exact ⟨mkEvidence wb (ptrace.getLast hp) (ptrace.head hp), by simp, rfl⟩

/-- **evidence_fields.** What `newLightClientAttackEvidence` puts into the evidence (the fields a full
node compares with its own chain in `evidence.VerifyLightClientAttack` / `ValidateABCI`):
for a lunatic attack height, time and total voting power of the COMMON block; for equivocation and
amnesia (conflicting header with the trusted header's validator / next-validator / consensus / app /
results hashes) those of the TRUSTED block at the attack height. -/
theorem evidence_fields (conflicted trusted common : LightBlock) :
    (conflictingHeaderIsInvalid trusted.hdr conflicted.hdr = true →
      (mkEvidence conflicted trusted common).commonHeight = common.height ∧
      (mkEvidence conflicted trusted common).totalPower = common.vals.totalPower ∧
      (mkEvidence conflicted trusted common).timestamp = common.time) ∧
    (conflictingHeaderIsInvalid trusted.hdr conflicted.hdr = false →
      (mkEvidence conflicted trusted common).commonHeight = trusted.height ∧
      (mkEvidence conflicted trusted common).totalPower = trusted.vals.totalPower ∧
      (mkEvidence conflicted trusted common).timestamp = trusted.time) := by
  constructor <;> intro h <;> simp [mkEvidence, h]

/-- **conflict_halts_detector** (`conflict_reported` at detector level). When the next reply to arrive is a conflicting header and
the handler reports an error for it, the cross-check stops with that error: no later reply —
matching or not — can turn it into a confirmation. -/
theorem conflict_halts_detector {c : Client} {trace : List LightBlock} {h : LightBlock} {now : Int}
    {i : Nat} {rest : List Nat} {w : Prov} {k : Calls} {b : LightBlock} {idx : Nat} {c2 : Client}
    {e : Err} {m : Bool} {rm : List Nat}
    (hw : c.witnesses[i]? = some w)
    (hc : compareNewHeaderWithWitness c.calls h w i = (k, .conflict b idx))
    (hh : handleConflictingHeaders { c with calls := k } trace b idx now = (c2, some e)) :
    detectLoop trace h now (i :: rest) c m rm = (c2, .error e) := by
  simp only [detectLoop, hw, hc, hh]

/-- **conflict_reported_any_order** (detector level, every arrival order, every position). Let
witness `i` be one whose reply — whenever its turn comes, i.e. in every client state with the same
configuration and the same providers in the same roles — is a conflicting header that
`handleConflictingHeaders` answers with the attack error (it backs its header along the trace). If `i`
occurs anywhere in the arrival order chosen by the scheduler, `detectDivergence` returns
`ErrLightClientAttack` — whatever the other witnesses reply before it (matching, erroring, silent,
lying, other conflicts: no earlier reply can pre-empt or mask it; an earlier conflict can only
produce the same error earlier). The evidence log has grown by an entry addressed to a current
witness followed by at most one entry addressed to the primary (for when the primary's entry
exists see `conflict_reported`). No arrival
order loses the report in the model; what the model does not contain is cancellation of the caller's
context (the code returns the context error first). `hnp` is meant to exclude the code's
index-out-of-range corner (an empty examined trace needs two different headers with one hash); as
written it asks that `handleConflictingHeaders` never panics for ANY block and witness index. -/
theorem conflict_reported_any_order {c : Client} {trace : List LightBlock} {h : LightBlock} {now : Int}
    {i : Nat} {w : Prov}
    (hlen : 2 ≤ trace.length) (hlast : trace.getLast? = some h)
    (hw : c.witnesses[i]? = some w) (hi : i ∈ c.sched c.witnesses)
    (hconf : ∀ c1, Sim c c1 →
      ∃ b idx, (compareNewHeaderWithWitness c1.calls h w i).2 = .conflict b idx ∧
        (handleConflictingHeaders { c1 with calls := (compareNewHeaderWithWitness c1.calls h w i).1 }
          trace b idx now).2 = some .attack)
    (hnp : ∀ c1, Sim c c1 → ∀ b idx, (handleConflictingHeaders c1 trace b idx now).2 ≠ some .panic) :
    ∃ c', detectDivergence c trace now = (c', .error .attack) ∧
      ∃ sup ev1 rest, sup ∈ c.witnesses ∧ c'.evidence = c.evidence ++ (sup.id, ev1) :: rest ∧
        (rest = [] ∨ ∃ ev2, rest = [(c.primary.id, ev2)]) := by
  unfold detectDivergence
  rw [if_neg (by omega)]
  simp only [hlast]
  have hne : c.witnesses.isEmpty = false := by
    cases hc : c.witnesses with
    | nil => rw [hc] at hw; simp at hw
    | cons x r => rfl
  simp only [hne]
  exact detectLoop_conflict_any_order trace h now c i w hw hconf hnp _ c false [] ⟨rfl, rfl, rfl⟩ hi

/-- a witness that answers the target height with a block of another hash is reported as
conflicting (never as matching) -/
theorem different_header_is_conflict {k : Calls} {h : LightBlock} {w : Prov} {idx : Nat} {lb : LightBlock}
    (hs : w.script (k w.id) h.height = .ok lb) (hne : lb.hash ≠ h.hash) :
    (compareNewHeaderWithWitness k h w idx).2 = .conflict lb idx := by
  unfold compareNewHeaderWithWitness
  simp only [ask, hs, hashCompare]
  rw [if_pos (fun e => hne e.symm)]

/-! ## non-vacuity: a concrete chain, an honest and a lying provider -/
namespace Ex

def V : ValSet := { vals := [(0, 1), (1, 1), (2, 1)], hash := 1 }
def hdr (h t : Int) (app hash last : Nat) : Header := {
  chain := 0, height := h, time := t, valsHash := 1, nextValsHash := 1
  lastBlockHash := last, appHash := app, consHash := 0, resHash := 0, basicOK := true, hash := hash }
/-- signature tokens: 1 = valid for the slot's validator over this commit, anything else invalid -/
def sigOK : SigOK := fun _ _ s => s == 1
def bid (hash : Nat) : CommitVerify.BlockID :=
  { hash := List.replicate 32 (UInt8.ofNat hash), total := 1, psHash := List.replicate 32 1 }
/-- a commit in which exactly the validators `signers` (ids 0..2, in set order) signed for the block -/
def mkCommit (h : Int) (hash : Nat) (signers : List Nat) : CommitVerify.Commit Nat :=
  { height := h, round := 0, blockID := bid hash,
    sigs := [0, 1, 2].map fun id =>
      if signers.contains id then { flag := 2, addr := [UInt8.ofNat id], ts := 7, sig := 1 }
      else { flag := 1, addr := [], ts := 0, sig := 0 } }
def blk (h t : Int) (app hash last : Nat) (signers : List Nat) : LightBlock :=
  { hdr := hdr h t app hash last, commitOK := true, commit := mkCommit h hash signers, vals := V }
def b1 := blk 1 10 0 1 0 [0, 1, 2]
def b2 := blk 2 20 0 2 1 [0, 1, 2]
def b3 := blk 3 30 0 3 2 [0, 1, 2]
def b4 := blk 4 40 0 4 3 [0, 1]        -- signed by 2/3 only: not enough
def f3 := blk 3 30 1 5 2 [0, 1, 2]     -- equivocation at height 3
def table (l : List LightBlock) : Nat → Int → Resp := fun _ h =>
  match l.find? (fun b => b.height == (if h = 0 then 3 else h)) with
  | some b => .ok b
  | none => .err .notFound
def honest (id : Nat) : Prov := { id := id, chain := 0, script := table [b1, b2, b3] }
def liar (id : Nat) : Prov := { id := id, chain := 0, script := table [b1, b2, f3] }
def silent (id : Nat) : Prov := { id := id, chain := 0, script := fun _ _ => .err .noResponse }
def cfg : Config := {
  chain := 0, period := 1000, sequential := false, level := ⟨1, 3⟩, drift := 1
  pruning := 0, fuel := 30, sigOK := sigOK }
def fifo : List Prov → List Nat := fun ws => List.range ws.length

instance : Inhabited Client := ⟨{
  cfg := cfg, primary := default, witnesses := [], calls := (fun _ => 0)
  store := default, latest := none, evidence := [], sched := fifo }⟩

def start (primary : Prov) (ws : List Prov) : Client :=
  match newClient cfg primary ws fifo 1000 1 1 with
  | .ok c => c
  | .error _ => default

def errOf {α : Type} : Except Err α → Option Err
  | .error e => some e
  | .ok _ => none

end Ex

open Ex



/-- the provider contract of `stored_valsets_committed` is satisfiable -/
example : ProvOK (honest 1) := by
  intro n ht lb h
  simp only [honest, table] at h
  split at h
  · rename_i b hb
    injection h with h
    subst h
    have := List.mem_of_find?_eq_some hb
    simp at this
    rcases this with rfl | rfl | rfl <;> rfl
  · cases h

/-- `ValidStep` is satisfiable: an adjacent and a skipping step (both accepted by `verify`) -/
example : ValidStep cfg 25 b1 b2 ∧ ValidStep cfg 35 b1 b3 :=
  ⟨verify_sound (by rfl), verify_sound (by rfl)⟩

/-- and not trivially true: b4 is signed by exactly two thirds of its set -/
example : errOf (verify cfg b3 b4 45) = some .invalidHeader := by decide

/-- the hypothesis of `stored_reachable` holds for a concrete client … -/
example : (newClient cfg (honest 1) [honest 2] fifo 1000 1 1).toOption.isSome = true := by decide
/-- … and a later call stores another block (so the theorem speaks about non-trivial stores) -/
example : ((runOps (start (honest 1) [honest 2]) [.verify 3 35 fifo]).store.blocks.map (·.hash)) = [1, 3] := by
  decide

/-- the detector confirms with an honest witness (hypothesis of `detector_confirms_only_identical`) -/
example : ((verifyLightBlockAtHeight (start (honest 1) [honest 2]) 3 35).2.toOption.map (·.hash)) = some 3 := by
  decide
/-- refuses with a silent one (`unresponsive_never_confirms`) -/
example : errOf (verifyLightBlockAtHeight (start (honest 1) [silent 2]) 3 35).2 = some .crossRef := by decide
/-- and reports the attack, with evidence to the witness (2) and to the primary (1), when a lying
witness backs its header (`conflict_reported`); nothing new is stored even if an honest witness would
have confirmed afterwards -/
example : errOf (verifyLightBlockAtHeight (start (honest 1) [liar 2]) 3 35).2 = some .attack := by decide
example : ((verifyLightBlockAtHeight (start (honest 1) [liar 2]) 3 35).1.evidence.map
    fun e => (e.1, e.2.conflicting)) = [(2, 3), (1, 5)] := by decide
example : ((verifyLightBlockAtHeight (start (honest 1) [liar 2, honest 3]) 3 35).1.store.blocks.map (·.hash)) = [1] := by
  decide
theorem exA (k : Calls) : (examine cfg 35 [b1, b3] f3 k (liar 2)).2 = some ([b1, f3], b3) := by with_unfolding_all rfl
theorem exB (k : Calls) : (examine cfg 35 [b1, f3] b3 k (honest 1)).2 = some ([b1, b3], f3) := by with_unfolding_all rfl
theorem exC (k : Calls) : (compareNewHeaderWithWitness k b3 (liar 2) 1).2 = .conflict f3 1 := by with_unfolding_all rfl
theorem exW : (start (honest 1) [silent 3, liar 2]).witnesses = [silent 3, liar 2] := by with_unfolding_all rfl
theorem exP : (start (honest 1) [silent 3, liar 2]).primary = honest 1 := by with_unfolding_all rfl
theorem exCfg : (start (honest 1) [silent 3, liar 2]).cfg = cfg := by with_unfolding_all rfl

/-- the hypothesis `hconf` of `conflict_reported_any_order` is satisfiable: the lying witness backs its
header in every state with these providers (its script does not depend on the call history) -/
example : ∀ c1, Sim (start (honest 1) [silent 3, liar 2]) c1 →
    ∃ b idx, (compareNewHeaderWithWitness c1.calls b3 (liar 2) 1).2 = .conflict b idx ∧
      (handleConflictingHeaders { c1 with calls := (compareNewHeaderWithWitness c1.calls b3 (liar 2) 1).1 }
        [b1, b3] b idx 35).2 = some .attack := by
  intro c1 hs
  obtain ⟨cfg1, p1, ws1, k1, st1, l1, ev1, sc1⟩ := c1
  obtain ⟨h1, h2, h3⟩ := hs
  simp only [exW, exP, exCfg] at h1 h2 h3
  subst h1 h2 h3
  refine ⟨f3, 1, exC _, ?_⟩
  generalize (compareNewHeaderWithWitness k1 b3 (liar 2) 1).1 = k2
  have hw : ([silent 3, liar 2] : List Prov)[1]? = some (liar 2) := rfl
  have hex : examine cfg 35 [b1, b3] f3 k2 (liar 2) = (_, some ([b1, f3], b3)) := Prod.ext rfl (exA k2)
  obtain ⟨c', hc, _⟩ := conflict_reported (c := ⟨cfg, honest 1, [silent 3, liar 2], k2, st1, l1, ev1, sc1⟩) hw hex
    (List.cons_ne_nil _ _) (fun k3 wb h => by cases (exB _).symm.trans (congrArg Prod.snd h))
  exact congrArg Prod.snd hc

/-- expiry corner: with period 1000 the block of time 10 is usable at now = 1009 and expired at 1010 -/
example : headerExpired b1 1000 1009 = false ∧ headerExpired b1 1000 1010 = true := by decide
example : errOf (verifyLightBlockAtHeight (start (honest 1) [honest 2]) 3 1010).2 =
    some (.vfail 1 3 .expired) := by decide
/-- backwards verification is the model's (and the code's) extension of the statement and does NOT
look at the trusting period: hash links from a stored header are followed even when it is expired -/
example : ((verifyLightBlockAtHeight
      (match newClient cfg (honest 1) [honest 2] fifo 1000 3 3 with | .ok c => c | .error _ => default)
      1 5000).2.toOption.map (·.hash)) = some 1 := by decide

/-- a skipping trace (hypothesis of `skipping_trace_valid`) -/
example : ((verifySkipping cfg (fun _ => 0) (honest 1) b1 b3 35).2.toOption.map fun tr => tr.map (·.hash)) =
    some [1, 3] := by decide

end Tmv.Props.C09
