import Tmv.Lemmas.EvidenceInv
import Tmv.Lemmas.EvidenceLCA
/-! C11 — Evidence is admitted exactly when valid, fresh and new, and is used once.

Theorems about the model `Tmv/Model/Evidence.lean` (= /repo evidence/pool.go, evidence/verify.go after
the `fix:` commits listed in known-findings.json), for every context `c` (chain, evidence
parameters, hash / size / signature functions) and every state `Reach`able from a new pool by ANY
sequence of grow / saveBlock / saveState / replay / add / check / update / report / restart
operations (in which consensus reports only genuine vote pairs, `GoodOp`). `MonoTime` = block
times do not decrease with the height. `Reach`, `GoodOp` and `MonoTime` are defined in
`Lemmas/EvidenceInv`, beside the invariant of the reachable states (`reach_inv`), not in the model
file: `GoodOp` speaks of `DVProves`, the predicate of `Lemmas/Evidence`. -/
namespace Tmv.Props.C11
open Tmv.Evidence

variable (c : Ctx)

/-! ## admit_iff -/

/-- `verify` succeeds exactly when the evidence proves the misbehaviour it claims against the
validator set and the block time of its height (`Proves`; for duplicate votes: `DVProves`, clause by
clause) and has not expired by BOTH age limits. -/
theorem verify_iff (storeH : Int) (st : State) (e : Ev) :
    verify c storeH st e = .ok () ↔ (Proves c storeH e ∧ expired st e.height e.time = false) :=
  verify_ok_iff c storeH st e

theorem expired_iff (st : State) (h t : Int) :
    expired st h t = true ↔ (st.height - h > st.maxAgeBlocks ∧ st.time - t > st.maxAgeDur) := by
  simp [expired]

/-! ### light-client-attack evidence: `VerifyLightClientAttack`, `validateABCIEvidence`,
`GetByzantineValidators`, `ConflictingHeaderIsInvalid` (commit checks = C07's model) -/

/-- `VerifyLightClientAttack(ev, common header, trusted header at th, common validators)` accepts
exactly when the evidence shows an attack against the node's own chain (`LCAAttack`): for a lunatic
jump, one light-client step from the common validators (C07 `verifyCommitLightTrusting` at 1/3), for
the same height a correctly derived header; +2/3 of the conflicting set signed (C07
`verifyCommitLight`, so C07's `light_sound` / `trusting_sound` apply to these conjuncts); the total
power is the common set's; the block conflicts (other hash, not just a later block); and the listed
byzantine validators are, in order, those `GetByzantineValidators` derives. -/
theorem lca_admitted_iff (l : LCA) (th : Int) :
    lcaOK c l th = true ↔
      ∃ cb tb, blockAt c l.common = some cb ∧ blockAt c th = some tb ∧ LCAAttack c l cb.vals th tb :=
  lcaOK_iff c l th

/-- ... and with the stores' availability conditions: what `Proves` (hence `add_admits_iff`,
`pending_sound`, `check_admits_only`, `check_passes_if`) means for light-client-attack evidence. -/
theorem proves_lca_iff (storeH : Int) (l : LCA) :
    Proves c storeH (.lca l) ↔
      (metaTime c storeH l.common = some l.time ∧
       (signedHeader c storeH l.common).isSome ∧ (loadVals c storeH l.common).isSome ∧
       ((l.common ≠ l.cfh ∧ (signedHeader c storeH l.cfh).isSome) ∨ l.common = l.cfh) ∧
       ∃ cb tb, blockAt c l.common = some cb ∧ blockAt c l.cfh = some tb ∧ LCAAttack c l cb.vals l.cfh tb) := by
  unfold Proves LCAProves
  simp only [Ev.height, Ev.time]
  rw [lcaOK_iff]

/-- lunatic attack (the conflicting header is not derived from the trusted state): the byzantine
validators are exactly the members of the COMMON validator set with a for-block slot in the
conflicting commit, ordered by power -/
theorem lca_byzantine_lunatic (l : LCA) (cv : List Validator) (t : Block) (vs : List Validator)
    (h : getByz l cv t = some vs) (hi : headerInvalid l t = true) (v : Validator) :
    v ∈ vs ↔ ∃ s ∈ l.sigs, s.flag = CommitVerify.flagCommit ∧ findVal cv s.addr = some v := by
  rw [(getByz_classification l cv t vs h).1 hi, mem_sortByPower, mem_lunaticSigners]

/-- equivocation (derived header, same round): every byzantine validator is a member of the
conflicting set named by a slot present in the conflicting commit whose position is also present in
the trusted commit -/
theorem lca_byzantine_equivocation (l : LCA) (cv : List Validator) (t : Block) (vs : List Validator)
    (h : getByz l cv t = some vs) (hi : headerInvalid l t = false) (hr : t.round = l.round)
    (v : Validator) (hv : v ∈ vs) :
    ∃ (i : Nat) (s : CSig), l.sigs[i]? = some s ∧ s.flag ≠ CommitVerify.flagAbsent ∧
      (∃ f : Nat, t.flags[i]? = some f ∧ f ≠ CommitVerify.flagAbsent) ∧ findVal l.cvals s.addr = some v := by
  obtain ⟨r, h1, h2⟩ := (getByz_classification l cv t vs h).2.1 hi hr
  rw [h2, mem_sortByPower, equivocators_eq l l.sigs t.flags r h1, List.mem_filterMap] at hv
  obtain ⟨⟨s, f⟩, hm, hv⟩ := hv
  split at hv
  · rename_i hc
    obtain ⟨i, hi⟩ := List.getElem?_of_mem hm
    obtain ⟨h1, h2⟩ := List.getElem?_zip_eq_some.1 hi
    exact ⟨i, s, h1, hc.1, ⟨f, h2, hc.2⟩, hv⟩
  · cases hv

/-- amnesia (derived header, another round): nobody is named -/
theorem lca_byzantine_amnesia (l : LCA) (cv : List Validator) (t : Block) (vs : List Validator)
    (h : getByz l cv t = some vs) (hi : headerInvalid l t = false) (hr : t.round ≠ l.round) : vs = [] :=
  (getByz_classification l cv t vs h).2.2 hi hr

/-- KNOWN FINDING `pool.AddEvidence.rejects-valid.lca-forward-lunatic` (genuine evidence is rejected;
the only-if statements above are not affected): light-client-attack evidence whose
conflicting block is at or above the node's latest block — the "forward lunatic" case `verify` has
a branch for — can never verify: that branch asks the block store for the commit of its LATEST
height, which exists only once the next block is saved (`signedHeader_latest`). -/
theorem forward_lunatic_unverifiable (storeH : Int) (l : LCA) (h1 : l.common ≠ l.cfh)
    (h2 : storeH ≤ l.cfh) : verifyLCA c storeH l ≠ .ok () := by
  intro h
  obtain ⟨_, _, h3, _⟩ := (verifyLCA_ok_iff c storeH l).1 h
  rcases h3 with ⟨_, h4⟩ | h4
  · unfold signedHeader at h4
    rw [if_neg (by omega)] at h4
    simp at h4
  · exact h1 h4

/-- AddEvidence: an item that is not pending becomes pending exactly when it is not committed,
proves its claim and has not expired. -/
theorem add_admits_iff (s : Sys) (e : Ev) (hd : s.dead = false) (hp : isPending c s.pool e = false) :
    isPending c (step c s (.add e)).1.pool e = true ↔
      (isCommitted c s.pool e = false ∧ Proves c s.storeH e ∧
        expired s.pool.state e.height e.time = false) := by
  rw [step_live c hd]
  simp only [stepLive, addEvidence, hp, Bool.false_eq_true, ↓reduceIte]
  cases hc : isCommitted c s.pool e
  · simp only [Bool.false_eq_true, ↓reduceIte, true_and]
    rw [← verify_ok_iff]
    cases hv : verify c s.storeH s.pool.state e with
    | error x => simp [hp]
    | ok u => simp [isPending_addPending_self]
  · simp [hp]

/-- AddEvidence adds no pending item other than the one it is given. -/
theorem add_only_adds (s : Sys) (e : Ev) (x : Ev) (hx : x ∈ (step c s (.add e)).1.pool.pending) :
    x = e ∨ x ∈ s.pool.pending := by
  rcases step_cases c s (.add e) with h | ⟨_, h⟩
  · rw [h] at hx
    have hx : x ∈ (addEvidence c s.storeH s.pool e).1.pending := hx
    rcases addEvidence_cases c s.storeH s.pool e with h | ⟨_, _, _, h⟩
    · rw [h] at hx; exact Or.inr hx
    · rw [h] at hx; exact mem_of_mem_setPending c hx
  · rw [h] at hx; exact Or.inr hx

/-- At every reachable state of a live pool, EVERY pending item proves its claim against the
validator set and block time of its height, has not expired by both limits (under the pool's
current state), and is not committed — however it got there (AddEvidence, CheckEvidence of a
block, the consensus buffer, a restart). -/
theorem pending_sound (hm : MonoTime c) {s : Sys} (hr : Reach c s) (hd : s.dead = false)
    (hsmall : s.pool.pending.length < 4294967296) :
    ∀ e ∈ s.pool.pending, Proves c s.storeH e ∧ expired s.pool.state e.height e.time = false ∧
      isCommitted c s.pool e = false := by
  intro e he
  have hi := reach_inv c hm hr
  exact ⟨hi.pool.proven e he, hi.fresh hd hsmall e he,
    (isCommitted_false_iff c s.pool e).2 (hi.pool.disj e he)⟩

/-- CheckEvidence (a block's evidence list) passes only if every item is not committed and —
unless some other evidence has the same key (a hash collision) — proves its claim and has not
expired. -/
theorem check_admits_only (hm : MonoTime c) {s : Sys} (hr : Reach c s) (hd : s.dead = false)
    (hsmall : s.pool.pending.length < 4294967296) (l : List Ev)
    (hok : (step c s (.check l)).2 = .ok) :
    ∀ e ∈ l, isCommitted c s.pool e = false ∧
      ((Proves c s.storeH e ∧ expired s.pool.state e.height e.time = false) ∨
        ∃ x, x ≠ e ∧ key c x = key c e) := by
  have hi := reach_inv c hm hr
  rw [step_live c hd] at hok
  intro e he
  obtain ⟨h1, h2⟩ := checkLoop_sound c l s.pool [] hi.pool hok e he
  refine ⟨(isCommitted_false_iff c s.pool e).2 h1, ?_⟩
  · rcases h2 with ⟨h3, h4⟩ | h3
    · exact Or.inl ⟨h3, h4 (hi.fresh hd hsmall)⟩
    · exact Or.inr h3

/-- ... and it DOES pass when the list has no repeated hash and every item is either an already
pending (hence already verified) duplicate-vote evidence, or uncommitted, proven and unexpired
(the converse direction is `check_admits_only` and `check_no_duplicates`; it is not an iff: see the
collision escape there). -/
theorem check_passes_if (hm : MonoTime c) {s : Sys} (hr : Reach c s) (hd : s.dead = false) (l : List Ev)
    (hall : ∀ e ∈ l, (e.isLCA = false ∧ isPending c s.pool e = true) ∨
      (isCommitted c s.pool e = false ∧ Proves c s.storeH e ∧
        expired s.pool.state e.height e.time = false))
    (hnd : (l.map c.H).Nodup) : (step c s (.check l)).2 = .ok := by
  have hi := reach_inv c hm hr
  rw [step_live c hd]
  refine checkLoop_complete c l s.pool [] hi.pool ?_ hnd (by simp)
  intro e he
  rcases hall e he with h | ⟨h1, h2, h3⟩
  · exact Or.inl h
  · exact Or.inr ⟨h1, (verify_ok_iff c _ _ _).2 ⟨h2, h3⟩⟩

/-! ## never_twice -/

theorem check_no_duplicates (s : Sys) (l : List Ev) (hok : (step c s (.check l)).2 = .ok) :
    (l.map c.H).Nodup := by
  rcases step_cases c s (.check l) with h | ⟨_, h⟩
  · rw [h] at hok; exact (checkLoop_nodup c l s.pool [] hok).1
  · rw [h] at hok; cases hok

/-- a committed item never passes a check again -/
theorem committed_fails_check (hm : MonoTime c) {s : Sys} (hr : Reach c s) (l : List Ev) (e : Ev)
    (he : e ∈ l) (hc : isCommitted c s.pool e = true) : (step c s (.check l)).2 ≠ .ok := by
  intro hok
  have hi := reach_inv c hm hr
  rcases step_cases c s (.check l) with h | ⟨_, h⟩
  · rw [h] at hok
    exact (checkLoop_sound c l s.pool [] hi.pool hok e he).1 ((isCommitted_iff c s.pool e).1 hc)
  · rw [h] at hok; cases hok

/-- a committed item is never admitted again by AddEvidence, and is never pending -/
theorem committed_not_pending (hm : MonoTime c) {s : Sys} (hr : Reach c s) (e : Ev)
    (hc : isCommitted c s.pool e = true) :
    isPending c s.pool e = false ∧ isPending c (step c s (.add e)).1.pool e = false := by
  refine ⟨(reach_inv c hm hr).pool.not_pending hc, ?_⟩
  apply (reach_inv c hm (Reach.step (.add e) hr trivial)).pool.not_pending
  -- AddEvidence does not change the committed set
  rcases step_cases c s (.add e) with h | ⟨_, h⟩
  · rw [h]
    exact (isCommitted_congr c (addEvidence_keeps c e (reach_inv c hm hr).pool).committed e).trans hc
  · rw [h]; exact hc

theorem listLoop_sub (m : Int) (l : List Ev) :
    ∀ acc total, ∀ x ∈ (listLoop c m l acc total).1, x ∈ acc ∨ x ∈ l := by
  induction l with
  | nil => intro acc total x hx; simp [listLoop] at hx; exact Or.inl hx
  | cons e rest ih =>
    intro acc total x hx
    unfold listLoop at hx
    simp only at hx
    split at hx
    · simp at hx; exact Or.inl hx
    · rcases ih _ _ x hx with h | h
      · simp at h
        rcases h with h | h
        · exact Or.inr (by simp [h])
        · exact Or.inl h
      · exact Or.inr (by simp [h])

/-- PendingEvidence (what a proposer puts in a block) returns pending items only, never a committed
one -/
theorem proposed_not_committed (hm : MonoTime c) {s : Sys} (hr : Reach c s) (m : Int) :
    ∀ e ∈ (pendingEvidence c s.pool m).1, e ∈ s.pool.pending ∧ isCommitted c s.pool e = false := by
  intro e he
  have hi := reach_inv c hm hr
  have hmem : e ∈ s.pool.pending := by
    unfold pendingEvidence at he
    split at he
    · simp at he
    · rcases listLoop_sub c m _ _ _ e he with h | h
      · simp at h
      · exact h
  exact ⟨hmem, (isCommitted_false_iff c s.pool e).2 (hi.pool.disj e hmem)⟩

/-- committed markers are never removed, by any operation (restarts included) -/
theorem committed_forever (hm : MonoTime c) {s : Sys} (hr : Reach c s) (o : Op) (k : Key)
    (hk : k ∈ s.pool.committed) : k ∈ (step c s o).1.pool.committed :=
  (step_spec c hm o (reach_inv c hm hr)).2.comm k hk

/-- the evidence of a committed block is marked committed -/
theorem update_marks_committed (hm : MonoTime c) {s : Sys} (hr : Reach c s) (hd : s.dead = false)
    (h : Int) (evs : List Ev) (hok : (step c s (.update h evs)).2 = .ok) (hh : h ≤ s.storeH) :
    ∀ e ∈ evs, isCommitted c (step c s (.update h evs)).1.pool e = true ∧
      isPending c (step c s (.update h evs)).1.pool e = false := by
  have hi := reach_inv c hm hr
  have hr' : Reach c (step c s (.update h evs)).1 := Reach.step _ hr trivial
  have hi' := reach_inv c hm hr'
  intro e he
  have hcm : isCommitted c (step c s (.update h evs)).1.pool e = true :=
    (isCommitted_iff c _ e).2 ((step_update_ok c hm hi hd evs hh hok).marked e he)
  exact ⟨hcm, hi'.pool.not_pending hcm⟩

/-- USED ONCE: once evidence is in a committed block, then after ANY further operations it is
still marked committed, so (by `committed_fails_check`, `committed_not_pending`,
`proposed_not_committed`) no later block containing it passes the check and it is never pending
or proposed again. -/
theorem used_once (hm : MonoTime c) {s : Sys} (hr : Reach c s) (e : Ev)
    (hc : isCommitted c s.pool e = true) (ops : List Op) (hg : ∀ o ∈ ops, GoodOp c o) :
    Reach c (run c s ops) ∧ isCommitted c (run c s ops).pool e = true ∧
      isPending c (run c s ops).pool e = false ∧
      (∀ l, e ∈ l → (step c (run c s ops) (.check l)).2 ≠ .ok) ∧
      (∀ m, e ∉ (pendingEvidence c (run c s ops).pool m).1) := by
  induction ops generalizing s with
  | nil =>
    simp only [run]
    refine ⟨hr, hc, (committed_not_pending c hm hr e hc).1, fun l he => committed_fails_check c hm hr l e he hc, ?_⟩
    intro m hmem
    have := (proposed_not_committed c hm hr m e hmem).2
    rw [hc] at this; cases this
  | cons o rest ih =>
    simp only [run]
    apply ih (Reach.step o hr (hg o (by simp)))
    · exact (isCommitted_iff c _ e).2 (committed_forever c hm hr o _ ((isCommitted_iff c _ e).1 hc))
    · intro o' ho'; exact hg o' (by simp [ho'])

/-! ## buffer_to_pending -/

theorem report_buffers (s : Sys) (v1 v2 : Vote) (hd : s.dead = false) :
    (v1, v2) ∈ (step c s (.report v1 v2)).1.pool.buffer ∧
    (step c s (.report v1 v2)).1.pool.pending = s.pool.pending := by
  simp [step, hd, stepLive, report]

/-- Conflicting votes seen by consensus become pending evidence at the next successful Update whose
height has reached the votes' height: the evidence formed with THAT height's block time and
validator set (`newDVE v1 v2 b.time b.vals`) is pending afterwards — unless the same evidence is
already committed, or it has already expired under the new state. -/
theorem buffer_to_pending (hm : MonoTime c) {s : Sys} (hr : Reach c s) (hd : s.dead = false)
    (h : Int) (evs : List Ev) (hh : h ≤ s.storeH) (hok : (step c s (.update h evs)).2 = .ok)
    (v1 v2 : Vote) (hb : (v1, v2) ∈ s.pool.buffer) (b : Block) (hblk : blockAt c v1.height = some b)
    (hle : v1.height ≤ h) (d : DV) (hform : newDVE v1 v2 b.time b.vals = some d) :
    d.time = b.time ∧
    (isPending c (step c s (.update h evs)).1.pool (.dv d) = true ∨
      isCommitted c (step c s (.update h evs)).1.pool (.dv d) = true ∨
      expired (stateAt c h) (Ev.dv d).height (Ev.dv d).time = true) ∧
    (step c s (.update h evs)).1.pool.buffer = [] := by
  have h5 := step_update_ok c hm (reach_inv c hm hr) hd evs hh hok
  refine ⟨(newDVE_some hform).1, ?_, h5.buffer⟩
  have hf : formEvidence c s.storeH (stateAt c h) v1 v2 = some (some d) := by
    rw [formEvidence_of_block c hh hblk hle, hform]
  rcases h5.flushed (v1, v2) hb d hf with h6 | h6 | h6
  · exact Or.inl h6
  · exact Or.inr (Or.inl ((isCommitted_iff c _ _).2 h6))
  · exact Or.inr (Or.inr h6)

/-! ## pending_survives (restarts included) -/

/-- Whatever the operation (a restart = new pool on the same DB included), a pending item is still
pending afterwards unless it is now committed or has expired under the pool's new state. -/
theorem pending_survives (hm : MonoTime c) {s : Sys} (hr : Reach c s) (o : Op) :
    ∀ x ∈ s.pool.pending, x ∈ (step c s o).1.pool.pending ∨
      isCommitted c (step c s o).1.pool x = true ∨
      expired (step c s o).1.pool.state x.height x.time = true := fun x hx =>
  ((step_spec c hm o (reach_inv c hm hr)).2.keep x hx).imp_right (.imp_left (isCommitted_iff c _ x).2)

/-- A restart (NewPool from the same evidence DB, state from the state store) keeps the committed
markers, keeps every pending item that has not expired under the loaded state, invents nothing,
and reports the number of items it loaded. -/
theorem pending_survives_restart (hm : MonoTime c) {s : Sys} (hr : Reach c s) :
    let s' := (step c s .restart).1
    s'.pool.committed = s.pool.committed ∧
    (∀ x ∈ s'.pool.pending, x ∈ s.pool.pending) ∧
    (∀ x ∈ s.pool.pending, x ∈ s'.pool.pending ∨
        expired (stateAt c s.stateH) x.height x.time = true) ∧
    s'.pool.size = s'.pool.pending.length % 4294967296 ∧ s'.dead = false := by
  have hi := reach_inv c hm hr
  obtain ⟨h1, _, _, h4, _, h6, h7⟩ := newPool_spec c hm (stateAt c s.stateH) hi.pool
  have : (step c s .restart).1 = (stepLive c s .restart).1 := by
    unfold step; cases s.dead <;> rfl
  simp only [this, stepLive]
  exact ⟨h4, h6, h7, h1.size, trivial⟩

/-! ## size_eq_pending -/

/-- `Size()` equals the number of pending items (the counter is a uint32) -/
theorem size_eq_pending (hm : MonoTime c) {s : Sys} (hr : Reach c s) :
    s.pool.size = s.pool.pending.length % 4294967296 ∧
    (s.pool.pending.length < 4294967296 → s.pool.size = s.pool.pending.length) := by
  have hi := reach_inv c hm hr
  refine ⟨hi.pool.size, fun h => ?_⟩
  rw [hi.pool.size]; exact u32_small h

/-- pending keys are unique and in key order (what `listEvidence` iterates) -/
theorem pending_keys_sorted (hm : MonoTime c) {s : Sys} (hr : Reach c s) :
    List.Pairwise (fun a b => keyLt (key c a) (key c b) = true) s.pool.pending :=
  (reach_inv c hm hr).pool.sorted

/-! ## the reactor: evidence from peers enters only through AddEvidence -/

def _root_.Tmv.Evidence.Res.isInvalid : Res → Bool
  | .invalid _ => true
  | _ => false

theorem receive_cons (s : Sys) (e : Ev) (rest : List Ev) :
    receive c s (e :: rest) =
      if (step c s (.add e)).2.isInvalid then ((step c s (.add e)).1, true)
      else receive c (step c s (.add e)).1 rest := by
  simp only [receive]
  generalize step c s (.add e) = p
  obtain ⟨s', r⟩ := p
  cases r <;> simp [Res.isInvalid]

theorem receive_append (s : Sys) (pre l : List Ev) :
    receive c s (pre ++ l) =
      if (receive c s pre).2 then receive c s pre else receive c (receive c s pre).1 l := by
  induction pre generalizing s with
  | nil => rfl
  | cons e pre ih =>
    rw [List.cons_append, receive_cons, receive_cons, ih]
    by_cases hi : (step c s (.add e)).2.isInvalid = true
    · rw [if_pos hi, if_pos hi]; rfl
    · rw [if_neg hi, if_neg hi]

/-- a peer message is a sequence of AddEvidence calls: the state it leaves is reachable, so
`pending_sound` (every pending item proven, unexpired, uncommitted) holds after it -/
theorem receive_reach {s : Sys} (hr : Reach c s) (l : List Ev) : Reach c (receive c s l).1 := by
  induction l generalizing s with
  | nil => exact hr
  | cons e rest ih =>
    rw [receive_cons]
    have hr' : Reach c (step c s (.add e)).1 := Reach.step (.add e) hr trivial
    split
    · exact hr'
    · exact ih hr'

/-- whatever a peer sends, afterwards every pending item proves its claim, is unexpired and
uncommitted -/
theorem receive_admits_only (hm : MonoTime c) {s : Sys} (hr : Reach c s) (l : List Ev)
    (hd : (receive c s l).1.dead = false)
    (hsmall : (receive c s l).1.pool.pending.length < 4294967296) :
    ∀ e ∈ (receive c s l).1.pool.pending,
      Proves c (receive c s l).1.storeH e ∧
      expired (receive c s l).1.pool.state e.height e.time = false ∧
      isCommitted c (receive c s l).1.pool e = false :=
  pending_sound c hm (receive_reach c hr l) hd hsmall

/-- the peer is stopped exactly when one of its items (none before it rejected as invalid) is
rejected by AddEvidence as invalid -/
theorem receive_stops_iff (s : Sys) (l : List Ev) :
    (receive c s l).2 = true ↔
      ∃ pre e post, l = pre ++ e :: post ∧ (receive c s pre).2 = false ∧
        (step c (receive c s pre).1 (.add e)).2.isInvalid = true := by
  constructor
  · induction l generalizing s with
    | nil => intro h; cases h
    | cons e rest ih =>
      rw [receive_cons]
      by_cases hi : (step c s (.add e)).2.isInvalid = true
      · exact fun _ => ⟨[], e, rest, rfl, rfl, hi⟩
      · rw [if_neg hi]
        intro h
        obtain ⟨pre, e', post, rfl, h2, h3⟩ := ih _ h
        refine ⟨e :: pre, e', post, rfl, ?_⟩
        rw [receive_cons, if_neg hi]
        exact ⟨h2, h3⟩
  · rintro ⟨pre, e, post, rfl, h2, h3⟩
    rw [receive_append, h2, if_neg Bool.false_ne_true, receive_cons, if_pos h3]

/-- gossip: evidence goes to a peer exactly when the peer is above the evidence's height and the
evidence is not older than `MaxAgeNumBlocks` for that peer -/
theorem prepare_iff (st : State) (e : Ev) (ph : Int) :
    prepare st e ph = true ↔ (e.height < ph ∧ ph - e.height ≤ st.maxAgeBlocks) := by
  unfold prepare
  split
  · simp; omega
  · split
    · simp; omega
    · simp; omega

/-! ## non-vacuity: a concrete chain, genuine evidence, a reachable state with it pending -/

def exVal : Validator := { addr := "k0", power := 10, pkAddr := "k0" }
def exVal2 : Validator := { addr := "k1", power := 5, pkAddr := "k1" }

def exCtx : Ctx :=
  { blocks := [{ time := 100, vals := [exVal, exVal2] }, { time := 200, vals := [exVal, exVal2] }, { time := 300, vals := [exVal] }, { time := 400, vals := [exVal] }],
    maxAgeBlocks := 1, maxAgeDur := 50,
    H := fun e => match e with | .dv d => (d.a.bid + 7 * d.b.bid).toNat | .lca l => l.tag.length,
    S := fun _ => 300,
    sigOK := fun pk v => pk == v.sig }

def exVote (bid : Int) : Vote :=
  { height := 2, round := 0, typ := 1, addr := "k0", bid := bid, ts := 0, idx := 0, sig := "k0" }

def exDV : DV := { a := exVote 1, b := exVote 2, tvp := 15, vp := 10, time := 200 }

example : MonoTime exCtx := .of_pairwise (by decide)

theorem exGood : GoodPair exCtx (exVote 2) (exVote 1) := by
  intro b hb t d hd
  have : b = { time := 200, vals := [exVal, exVal2] } := by
    simp [blockAt, exVote, exCtx] at hb; exact hb.symm
  subst this
  simp [newDVE, exVote, exVal, exVal2, totalPower] at hd
  subst hd
  exact ⟨exVal, by simp [exVal, exVal2], by simp [exVal, exVal2, exCtx, totalPower]⟩

def exSys : Sys := run exCtx (initSys exCtx 2) [.add (.dv exDV), .grow 3, .report (exVote 2) (exVote 1)]

example : Reach exCtx exSys :=
  Reach.step _ (Reach.step _ (Reach.step _ (Reach.init 2) trivial) trivial) exGood

example : exSys.pool.pending = [.dv exDV] ∧ exSys.pool.size = 1 ∧ exSys.dead = false ∧
    exSys.pool.buffer = [(exVote 2, exVote 1)] := by decide

/-- the evidence is committed by a block, after which a check containing it fails and it is not
proposed -/
example : (step exCtx exSys (.check [.dv exDV])).2 = .ok ∧
    (step exCtx (step exCtx exSys (.update 3 [.dv exDV])).1 (.check [.dv exDV])).2 = .committed ∧
    (pendingEvidence exCtx (step exCtx exSys (.update 3 [.dv exDV])).1.pool (-1)).1 = [] := by decide

/-- at height 4 (age 2 > 1 blocks, 200 > 50 time units) the pending item has expired and is pruned -/
example : (run exCtx exSys [.grow 4, .update 4 []]).pool.pending = [] ∧
    (step exCtx (run exCtx exSys [.grow 4, .update 4 []]) (.add (.dv exDV))).2 = .invalid .expired := by decide

/-! ## non-vacuity: light-client-attack evidence -/

def lVal1 : Validator := { addr := "aa", power := 10, pkAddr := "aa", key := 1 }
def lVal2 : Validator := { addr := "bb", power := 5, pkAddr := "bb", key := 2 }
def lDer : Derived := ⟨"v", "n", "c", "a", "r"⟩

/-- a chain whose block 2 was committed in round 0 by both validators -/
def lCtx : Ctx :=
  { blocks := [{ time := 100, vals := [lVal1, lVal2], hash := "h1", derived := lDer, round := 0, flags := [2, 2] },
               { time := 200, vals := [lVal1, lVal2], hash := "h2", derived := lDer, round := 0, flags := [2, 2] },
               { time := 300, vals := [lVal1, lVal2], hash := "h3", derived := lDer, round := 0, flags := [2, 2] }],
    maxAgeBlocks := 5, maxAgeDur := 500, H := fun _ => 7, S := fun _ => 900, sigOK := fun _ _ => false,
    chainID := "x", csigOK := fun k _ s => s == toString k }

/-- equivocation at height 2: another block (hash "other"), same derived fields, same round, signed
by both validators -/
def lEquiv : LCA :=
  { common := 2, cfh := 2, cft := 200, tvp := 15, time := 200, chash := "other", cderived := lDer,
    commitHeight := 2, round := 0, sigs := [⟨2, "aa", "1"⟩, ⟨2, "bb", "2"⟩], cvals := [lVal1, lVal2],
    byz := [("aa", 10), ("bb", 5)], tag := "" }

example : lcaOK lCtx lEquiv 2 = true := by decide
/-- only validator "aa" signed: 10 of 15 is not more than 2/3 -/
example : lcaOK lCtx { lEquiv with sigs := [⟨2, "aa", "1"⟩, ⟨1, "bb", ""⟩], byz := [("aa", 10)] } 2 = false := by decide
/-- a wrong byzantine list is rejected -/
example : lcaOK lCtx { lEquiv with byz := [("aa", 10)] } 2 = false := by decide
/-- admitted by the pool once block 3 (carrying block 2's commit) is stored -/
example : (step lCtx (initSys lCtx 3) (.add (.lca lEquiv))).1.pool.pending = [.lca lEquiv] := by decide
/-- the same block in another round is an amnesia attack: nobody can be named -/
example : lcaOK lCtx { lEquiv with round := 1, byz := [] } 2 = true := by decide

/-! ## ApplyBlock: the pool is updated BEFORE the state is saved -/

theorem check_heights (s : Sys) (l : List Ev) :
    (step c s (.check l)).1.stateH = s.stateH ∧ (step c s (.check l)).1.storeH = s.storeH ∧
    (step c s (.check l)).1.dead = s.dead := by
  unfold step; cases hd : s.dead <;> simp [stepLive, hd]

theorem update_heights (s : Sys) (h : Int) (evs : List Ev) :
    (step c s (.update h evs)).1.stateH = s.stateH ∧ (step c s (.update h evs)).1.storeH = s.storeH := by
  unfold step; cases hd : s.dead <;> simp only [stepLive]
  · split <;> simp
  · simp

theorem check_ok_live (s : Sys) (l : List Ev) (h : (step c s (.check l)).2 = .ok) : s.dead = false := by
  cases hd : s.dead
  · rfl
  · unfold step at h; simp [hd] at h

theorem saveState_pool (s : Sys) (h : Int) : (step c s (.saveState h)).1.pool = s.pool := by
  unfold step; cases hd : s.dead <;> simp only [stepLive]
  · split <;> rfl

theorem saveState_dead (s : Sys) (h : Int) (hd : s.dead = true) : (step c s (.saveState h)).1 = s := by
  unfold step; simp [hd]

theorem update_ok_of_live (hm : MonoTime c) {s : Sys} (hr : Reach c s) (hd : s.dead = false) (h : Int)
    (evs : List Ev) (hh : h ≤ s.storeH) (hl : (step c s (.update h evs)).1.dead = false) :
    (step c s (.update h evs)).2 = .ok := by
  have hi := reach_inv c hm hr
  rw [step_live c hd] at hl ⊢
  simp only [stepLive, hh, ↓reduceIte] at hl ⊢
  rcases update_spec c hm hh evs hi.pool rfl with ⟨h, -⟩ | ⟨h, -⟩
  · rw [h] at hl; cases hl
  · exact h

/-- Crash safety of `ApplyBlock` with respect to "used once": whatever prefix of ApplyBlock ran
before the process died (`k` steps; `k ≥ 3` = it completed), IF the state of height `h` is what the
state store holds afterwards (so the node considers block `h` applied and will not apply it again),
THEN after the restart (handshake replay + new pool on the same DBs) every evidence of block `h` is
marked committed, is not pending and can never pass `CheckEvidence` again. This is exactly because
`evpool.Update` precedes `store.Save` (fact `applyblock_order`). -/
theorem applyblock_crash_safe (hm : MonoTime c) {s : Sys} (hr : Reach c s) (h : Int) (evs : List Ev)
    (k : Nat) (hh : h ≤ s.storeH) (hlt : s.stateH < h)
    (hsaved : (applyBlockSteps c s h evs k).stateH = h) :
    ∀ e ∈ evs,
      isCommitted c (run c (applyBlockSteps c s h evs k) [.replay, .restart]).pool e = true ∧
      isPending c (run c (applyBlockSteps c s h evs k) [.replay, .restart]).pool e = false ∧
      ∀ l, e ∈ l → (step c (run c (applyBlockSteps c s h evs k) [.replay, .restart]) (.check l)).2 ≠ .ok := by
  intro e he
  -- the state is saved only by the last step
  have key : Reach c (applyBlockSteps c s h evs k) ∧
      isCommitted c (applyBlockSteps c s h evs k).pool e = true := by
    unfold applyBlockSteps at hsaved ⊢
    have hc := check_heights c s evs
    have hu := update_heights c (step c s (.check evs)).1 h evs
    by_cases hk0 : k = 0
    · simp [hk0] at hsaved; omega
    · simp only [hk0, ↓reduceIte] at hsaved ⊢
      by_cases hok : (step c s (.check evs)).2 = .ok
      · simp only [hok, ne_eq, not_true_eq_false, ↓reduceIte] at hsaved ⊢
        by_cases hk1 : k = 1
        · simp only [hk1, ↓reduceIte] at hsaved; rw [hc.1] at hsaved; omega
        · simp only [hk1, ↓reduceIte] at hsaved ⊢
          by_cases hk2 : k = 2
          · simp only [hk2, ↓reduceIte] at hsaved; rw [hu.1, hc.1] at hsaved; omega
          · simp only [hk2, ↓reduceIte] at hsaved ⊢
            have hlive := check_ok_live c s evs hok
            have hr1 : Reach c (step c s (.check evs)).1 := Reach.step _ hr trivial
            have hd1 : (step c s (.check evs)).1.dead = false := by rw [hc.2.2]; exact hlive
            have hst1 : h ≤ (step c s (.check evs)).1.storeH := by rw [hc.2.1]; exact hh
            have hr2 := Reach.step (c := c) (.update h evs) hr1 trivial
            have hr3 := Reach.step (c := c) (.saveState h) hr2 trivial
            refine ⟨hr3, ?_⟩
            cases hdead : (step c (step c s (.check evs)).1 (.update h evs)).1.dead with
            | true =>
              rw [saveState_dead c _ h hdead, hu.1, hc.1] at hsaved; omega
            | false =>
              have hokU := update_ok_of_live c hm hr1 hd1 h evs hst1 hdead
              have hm2 := (update_marks_committed c hm hr1 hd1 h evs hokU hst1 e he).1
              rw [saveState_pool]; exact hm2
      · simp only [hok, ne_eq, not_false_eq_true, ↓reduceIte] at hsaved
        rw [hc.1] at hsaved; omega
  obtain ⟨hrX, hcX⟩ := key
  have := used_once c hm hrX e hcX [.replay, .restart] (by intro o _; cases o <;> trivial)
  exact ⟨this.2.1, this.2.2.1, this.2.2.2.1⟩


/-- KNOWN FINDING (crash window before `evpool.Update`): block `h` is in the block store, ApplyBlock
dies before the pool was updated (here: right after validation), the handshake replays block `h`
with `sm.EmptyEvidencePool{}` and saves its state — the pool never learns that the block's evidence
was committed: after the restart it is still pending, passes `CheckEvidence` and is proposed again.
So `applyblock_crash_safe` cannot be strengthened from "the state was saved by ApplyBlock" to "the
state of `h` is saved after the restart". -/
theorem replay_skips_pool_fails :
    let s := run exCtx (initSys exCtx 2) [.add (.dv exDV), .saveBlock 3]
    let s' := run exCtx (applyBlockSteps exCtx s 3 [.dv exDV] 1) [.replay, .restart]
    s.stateH = 2 ∧ s'.stateH = 3 ∧ s'.dead = false ∧
    isCommitted exCtx s'.pool (.dv exDV) = false ∧ isPending exCtx s'.pool (.dv exDV) = true ∧
    (step exCtx s' (.check [.dv exDV])).2 = .ok ∧
    (pendingEvidence exCtx s'.pool (-1)).1 = [.dv exDV] := by decide

/-- the same block applied without a crash: committed, not pending, a second block with it fails -/
example :
    let s := run exCtx (initSys exCtx 2) [.add (.dv exDV), .saveBlock 3]
    let s' := run exCtx (applyBlockSteps exCtx s 3 [.dv exDV] 3) [.replay, .restart]
    s'.stateH = 3 ∧ isCommitted exCtx s'.pool (.dv exDV) = true ∧
    (step exCtx s' (.check [.dv exDV])).2 = .committed := by decide

end Tmv.Props.C11
