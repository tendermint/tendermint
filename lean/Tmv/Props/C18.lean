import Tmv.Lemmas.StoreNode
/-! # C18 — stored chain data stays contiguous and consistent through pruning and crashes

Theorems about the model of `store/store.go` (Tmv/Model/BlockStore.lean) and of the record
bookkeeping of `state/store.go` (Tmv/Model/StateStoreRange.lean), and — from `Reach2` on — about
the two stores driven together as `finalizeCommit` does (Tmv/Model/StoreNode.lean).  `Good db` is the audit of the
property: every height in the persisted `[base,height]` has meta, all parts (reassembling to a
block that hashes to the meta's id), hash-index entry, and the commit for it (seen commit for the
tip), all agreeing.  Crash points: EVERY SINGLE WRITE (a batch is treated as its individual
deletes in order, which is stronger than "a batch is one crash unit"). -/
namespace Tmv.Props.C18
open Tmv Tmv.BlockStore

/-- **SaveBlock is crash consistent.**  From a database that passes the audit, for every valid
next block, the database after ANY prefix of SaveBlock's writes passes the audit, and after all
of them the range ends at the new block (base unchanged, or the block's height for an empty store). -/
theorem save_crash_consistent (db : DB) (b : Block) (sc : Commit) (s' : Store)
    (units : List (List Write)) (hG : Good db) (hv : ValidNext db b sc)
    (hs : saveBlock (openStore db) b true sc = .ok (s', units)) :
    AllPrefixGood db units.flatten ∧ (∀ k, Good (afterUnits db units k)) ∧
    loadRange (applyAll db units.flatten) =
      ((if (loadRange db).1 = 0 then b.height else (loadRange db).1), b.height) ∧
    s' = openStore (applyAll db units.flatten) := by
  obtain ⟨h1, h2, h3, h4, _⟩ := saveBlock_spec db b sc s' units hG hv hs
  have hall : AllPrefixGood db units.flatten :=
    allPrefixGood_iff.2 <| h1.imp fun d hd => hd.elim (fun s => s.good_of_good rfl hG) (fun e => e ▸ h2)
  exact ⟨hall, good_afterUnits db units hall, h3, h4⟩

/-- **PruneBlocks is crash consistent**, for prunes of any number of batches: from a database that
passes the audit, the database after ANY prefix of the writes of `PruneBlocks(retain)` (descriptor
writes and every individual delete of every batch) passes the audit.  With the pre-fix flush
argument (`h` instead of `h + 1`) the batch deletes the meta of the base just persisted; that such a
database fails the audit is `old_flush_base_breaks_audit` (the pre-fix loop itself is not modelled:
the failing run is a replay, DESIGN.md §6). -/
theorem prune_crash_consistent (db : DB) (retain : Int) (s' : Store) (n : Nat)
    (units : List (List Write)) (hG : Good db)
    (hp : pruneBlocks (openStore db) db retain = .ok (s', n, units)) :
    AllPrefixGood db units.flatten ∧ ∀ k, Good (afterUnits db units k) := by
  obtain ⟨B, H, p⟩ := pruneBlocks_spec db retain s' n units hG hp
  exact ⟨p.allGood, good_afterUnits db units p.allGood⟩

/-- **Pruning removes exactly the heights below the retain height and nothing still needed.**
After `PruneBlocks(retain)` on an audited store with range `[B,H]`: the range is `[retain,H]`
(volatile fields agree), the number reported is `retain - B`, every key the function owns for a
height in `[B,retain)` (meta, hash-index entry, commit, seen commit, parts) is gone, every other key
has the value it had, and every height in `[retain,H]` still passes the audit. -/
theorem prune_exact (db : DB) (retain : Int) (s' : Store) (n : Nat)
    (units : List (List Write)) (hG : Good db)
    (hp : pruneBlocks (openStore db) db retain = .ok (s', n, units)) :
    loadRange (applyAll db units.flatten) = (retain, (loadRange db).2) ∧
    s' = openStore (applyAll db units.flatten) ∧
    (n : Int) = retain - (loadRange db).1 ∧
    (∀ a k, (loadRange db).1 ≤ a → a < retain → OwnedBy db a k →
      get (applyAll db units.flatten) k = none) ∧
    (∀ k, k ≠ .bsState → (∀ a, (loadRange db).1 ≤ a → a < retain → ¬ OwnedBy db a k) →
      get (applyAll db units.flatten) k = get db k) ∧
    (∀ a, retain ≤ a → a ≤ (loadRange db).2 →
      checkAt (applyAll db units.flatten) (loadRange db).2 a = none) := by
  obtain ⟨B, H, p⟩ := pruneBlocks_spec db retain s' n units hG hp
  rw [p.range]
  refine ⟨p.after.range, ?_, p.count, p.get_gone, p.get_kept, p.after.goodFrom fun a ha => p.good a (Int.le_trans p.baseLe ha)⟩
  rw [p.store, openStore, p.after.range]

/-- `prune_exact` in terms of what loads: below the retain height nothing loads any more -/
theorem prune_removes_below (db : DB) (retain : Int) (s' : Store) (n : Nat)
    (units : List (List Write)) (hG : Good db)
    (hp : pruneBlocks (openStore db) db retain = .ok (s', n, units))
    (a : Int) (ha : (loadRange db).1 ≤ a) (har : a < retain) :
    loadMeta (applyAll db units.flatten) a = none ∧ loadBlock (applyAll db units.flatten) a = none ∧
    loadCommit (applyAll db units.flatten) a = none ∧ loadSeen (applyAll db units.flatten) a = none ∧
    (∀ m, loadMeta db a = some m → loadHeightByHash (applyAll db units.flatten) m.hash = none) := by
  obtain ⟨B, H, p⟩ := pruneBlocks_spec db retain s' n units hG hp
  rw [p.range] at ha
  obtain ⟨m, _, _, ok⟩ := (checkAt_none_iff db H a).1
    (p.good a ha (Int.le_trans (Int.le_of_lt har) p.leTip))
  have own : ∀ k, Write.del k ∈ deletesFor a m → get (applyAll db units.flatten) k = none :=
    fun k hk => p.get_gone a k ha har ⟨m, ok.hmeta, hk⟩
  have hmeta : loadMeta (applyAll db units.flatten) a = none := by
    simp only [loadMeta, own (.bmeta a) ((mem_deletesFor a m _).2 (Or.inl rfl))]
  refine ⟨hmeta, by simp only [loadBlock, hmeta], ?_, ?_, ?_⟩
  · simp only [loadCommit, own (.commit a) ((mem_deletesFor a m _).2 (Or.inr (Or.inr (Or.inl rfl))))]
  · simp only [loadSeen, own (.seen a) ((mem_deletesFor a m _).2 (Or.inr (Or.inr (Or.inr (Or.inl rfl)))))]
  · intro m' hm'
    rw [ok.hmeta] at hm'; cases hm'
    simp only [loadHeightByHash, own (.hashIdx m.hash) ((mem_deletesFor a m _).2 (Or.inr (Or.inl rfl)))]

/-- `prune_exact` in terms of keys: no key that the audit of a retained height reads is touched at
all -/
theorem prune_keeps_above (db : DB) (retain : Int) (s' : Store) (n : Nat)
    (units : List (List Write)) (hG : Good db)
    (hp : pruneBlocks (openStore db) db retain = .ok (s', n, units))
    (a : Int) (ha : retain ≤ a) (haH : a ≤ (loadRange db).2) (k : Key)
    (hk : usedAt db (loadRange db).2 a k) :
    get (applyAll db units.flatten) k = get db k := by
  obtain ⟨B, H, p⟩ := pruneBlocks_spec db retain s' n units hG hp
  rw [p.range] at haH hk
  exact p.after.same a ha haH k hk

/-- why the one-line repair matters: persisting base `h` and then deleting height `h` (what the
pre-fix intermediate flush did) leaves a store whose base does not load. -/
theorem old_flush_base_breaks_audit (db : DB) (h H : Int) (ws : List Write) (hh : 0 < h) (hH : h ≤ H)
    (hws : ∀ w ∈ ws, w.key ≠ .bsState)
    (hdel : get (applyAll (apply db (.set .bsState (.range h H))) ws) (.bmeta h) = none) :
    ¬ Good (applyAll (apply db (.set .bsState (.range h H))) ws) := by
  intro hG
  have hr : loadRange (applyAll (apply db (.set .bsState (.range h H))) ws) = (h, H) := by
    rw [loadRange_applyAll_of_not_mem _ _ hws, loadRange_set _ _ _ (by omega)]
  have := (hG.goodFrom hr (by omega)).2.2 h (Int.le_refl _) hH
  simp only [checkAt, loadMeta, hdel] at this
  cases this

/-! ### the executable audit (what the correspondence runs compare) decides `Good` -/

/-- the audit the harness and the driver run returns "ok" exactly on the databases the theorems
call `Good` -/
theorem audit_none_iff_good (db : DB) : audit db = none ↔ Good db := by
  unfold audit
  rw [good_iff]
  rcases hr : loadRange db with ⟨B, H⟩
  simp only
  rw [auditHead_none_iff, auditFrom_none_iff]
  refine or_congr_right (and_congr_right fun _ => and_congr_right fun hBH => ?_)
  constructor <;> intro hall a ha haH <;> exact hall a ha (by omega)

/-! ### all histories with crashes -/

theorem good_empty : Good ({} : DB) := by
  rw [good_iff, loadRange_empty]
  exact Or.inl ⟨rfl, rfl⟩

/-- the databases reachable from an empty store by any sequence of valid `SaveBlock`s and any
`PruneBlocks`, each of which may be cut by a crash after ANY of its individual writes (after which
the store is reopened on what is on disk and the history continues) -/
inductive Reach : DB → Prop
  | empty : Reach {}
  | save (db : DB) (b : Block) (sc : Commit) (s' : Store) (units : List (List Write)) (j : Nat) :
      Reach db → ValidNext db b sc → saveBlock (openStore db) b true sc = .ok (s', units) →
      Reach (applyAll db (units.flatten.take j))
  | prune (db : DB) (retain : Int) (s' : Store) (n : Nat) (units : List (List Write)) (j : Nat) :
      Reach db → pruneBlocks (openStore db) db retain = .ok (s', n, units) →
      Reach (applyAll db (units.flatten.take j))

/-- **C18 for the block store**: for all chains, all sequences of saves and prunes (of any number
of batches) and every database write as a crash point, what is on disk passes the full audit of
`[base,height]`. -/
theorem reachable_good (db : DB) (h : Reach db) : Good db := by
  induction h with
  | empty => exact good_empty
  | save db b sc s' units j _ hv hs ih => exact (save_crash_consistent db b sc s' units ih hv hs).1 j
  | prune db retain s' n units j _ hp ih => exact (prune_crash_consistent db retain s' n units ih hp).1 j

/-! ### the hypotheses are satisfiable (non-vacuity) -/

private def blk1 : Block :=
  { height := 1, hash := 7, total := 2, lastCommit := { height := 0, blockHash := 0 }, vu := false, pu := false, retain := 0 }

example : ValidNext ({} : DB) blk1 { height := 1, blockHash := 7 } :=
  { pos := by decide, parts := by decide, seen := rfl,
    last := by intro m _ hm; simp [loadMeta_empty] at hm,
    fresh := by intro h m _ _ hm; simp [loadMeta_empty] at hm }

example : ∃ s' units, saveBlock (openStore ({} : DB)) blk1 true { height := 1, blockHash := 7 } = .ok (s', units) := by
  simp [saveBlock, openStore, loadRange_empty]

/-- a non-empty audited store exists, and `PruneBlocks` accepts a retain height on it -/
example : ∃ db, Good db ∧ loadRange db = (1, 1) ∧
    ∃ s' n units, pruneBlocks (openStore db) db 1 = .ok (s', n, units) := by
  have hr0 : loadRange ({} : DB) = (0, 0) := loadRange_empty
  have hv : ValidNext ({} : DB) blk1 { height := 1, blockHash := 7 } :=
    { pos := by decide, parts := by decide, seen := rfl,
      last := by intro m _ hm; simp [loadMeta_empty] at hm,
      fresh := by intro h m _ _ hm; simp [loadMeta_empty] at hm }
  obtain ⟨s', units, hs⟩ : ∃ s' units, saveBlock (openStore ({} : DB)) blk1 true { height := 1, blockHash := 7 } = .ok (s', units) := by
    simp [saveBlock, openStore, hr0]
  obtain ⟨h1, _, h3, _⟩ := save_crash_consistent {} blk1 _ s' units good_empty hv hs
  refine ⟨applyAll {} units.flatten, allPrefixGood_last _ _ h1, ?_, ?_⟩
  · rw [h3, hr0]; rfl
  · simp [pruneBlocks, openStore, h3, hr0, blk1]

/-! ### the state store serves the range

The validator-set model itself (contents, proposer priorities) is property C08's; here a record is
(LastHeightChanged, carries a full value?) and "can produce" means `LoadValidators` /
`LoadConsensusParams` find a full value the way the code looks for it.  Proved per operation, for
every write prefix; the pointer invariant `StateStore.PtrInv` that `PruneStates` relies on is a
hypothesis of the first theorem.  Over whole histories `state_store_serves_range` below needs no
such hypothesis: it rests on the invariant `StateStore.SInv` of reachable states instead. -/

/-- **PruneStates keeps the last-changed and checkpoint records**: for every `from`, `to`, after ANY
prefix of the writes of `PruneStates(from, to)` (all batches, every individual write), every height
`h ≥ to` whose validator set / consensus params could be loaded before can still be loaded. -/
theorem state_store_serves_range_prune (db : StateStore.DB) (frm to : Int)
    (inv : StateStore.PtrInv db to) (j : Nat) (h : Int) (hh : to ≤ h) :
    (StateStore.valsLoadable db h = true →
      StateStore.valsLoadable
        (StateStore.applyAll db ((StateStore.pruneStates db frm to).1.flatten.take j)) h = true) ∧
    (StateStore.paramsLoadable db h = true →
      StateStore.paramsLoadable
        (StateStore.applyAll db ((StateStore.pruneStates db frm to).1.flatten.take j)) h = true) := by
  rcases StateStore.pruneStates_prefix_rel db frm to j with e | ⟨vc, vfull, pc, pfull, hv, hp, hr⟩
  · rw [e]; exact ⟨id, id⟩
  · generalize StateStore.applyAll db _ = db' at hr ⊢
    simp only [StateStore.valsLoadable_eq, StateStore.paramsLoadable_eq]
    exact ⟨StateStore.loadable_pruned StateStore.ptrVals (info0 := fun a => StateStore.loadInfo db (.vals a))
        hv hr.vals (fun hf c hc => hr.keptV _ (by simp [hf]) c hc) inv.valsFull h hh
        (fun c => inv.valsAgree h c hh),
      StateStore.loadable_pruned StateStore.ptrParams (info0 := fun a => StateStore.loadInfo db (.params a))
        hp hr.params (fun hf c hc => hr.keptP _ (by simp [hf]) c hc) inv.paramsFull h hh
        (fun c => inv.paramsAgree h c hh)⟩

/-- **`Save` never disturbs the range**: after ANY prefix of the writes of `Save(state)`, every
height below the one being prepared (`saveNext`, i.e. every height of the block store's range)
whose validator set / params could be loaded can still be loaded (its own record and the record it
points to are not among the keys `Save` writes). -/
theorem state_store_serves_range_save (db : StateStore.DB) (s : StateStore.St) (j : Nat) (h : Int)
    (hh : h < StateStore.saveNext s)
    (wfV : ∀ c f, StateStore.loadInfo db (.vals h) = some (c, f) → c ≤ h)
    (wfP : ∀ c f, StateStore.loadInfo db (.params h) = some (c, f) → c ≤ h) :
    StateStore.valsLoadable (StateStore.applyAll db ((StateStore.save s).1.flatten.take j)) h
      = StateStore.valsLoadable db h ∧
    StateStore.paramsLoadable (StateStore.applyAll db ((StateStore.save s).1.flatten.take j)) h
      = StateStore.paramsLoadable db h := by
  have hfr := fun a (ha : a ≤ h) => StateStore.save_frame s db j a (Int.lt_of_le_of_lt ha hh)
  exact ⟨StateStore.valsLoadable_congr (hfr h (Int.le_refl _)).1
      (fun c e => (hfr _ (StateStore.lastStored_le h c (wfV c false e))).1),
    StateStore.paramsLoadable_congr (hfr h (Int.le_refl _)).2 (fun c e => (hfr _ (wfP c false e)).2)⟩

/-- the pointer invariant is satisfiable: the state store right after the genesis `Save`
(initial height 5), pruning target 5 -/
example : StateStore.PtrInv
    (StateStore.applyAll {} (StateStore.save
      { lastBlockHeight := 0, lastBlockHash := 0, initialHeight := 5, lhcVals := 5, lhcParams := 5 }).1.flatten) 5 := by
  have hw : (StateStore.save
      { lastBlockHeight := 0, lastBlockHash := 0, initialHeight := 5, lhcVals := 5, lhcParams := 5 }).1.flatten =
      [.set (.vals 5) (.info 5 true), .set (.vals 6) (.info 5 false), .set (.params 5) (.info 5 true),
       .set .state (.state { lastBlockHeight := 0, lastBlockHash := 0, initialHeight := 5, lhcVals := 5, lhcParams := 5 })] := by
    simp [StateStore.save, StateStore.saveValsInfo, StateStore.saveParamsInfo, StateStore.interval,
      Facts.c18_valSetCheckpointInterval]
  rw [hw]
  -- the records on disk, latest write first
  have hget : ∀ k, StateStore.loadInfo (StateStore.applyAll {} [.set (.vals 5) (.info 5 true),
      .set (.vals 6) (.info 5 false), .set (.params 5) (.info 5 true),
      .set .state (.state { lastBlockHeight := 0, lastBlockHash := 0, initialHeight := 5, lhcVals := 5, lhcParams := 5 })]) k =
      if .state = k then none else if .params 5 = k then some (5, true)
      else if .vals 6 = k then some (5, false) else if .vals 5 = k then some (5, true) else none := by
    intro k
    simp only [StateStore.applyAll_cons, StateStore.applyAll_nil, StateStore.loadInfo_set,
      StateStore.loadInfo_empty]
  refine ⟨?_, ?_, ?_, ?_⟩
  · intro h c hh hl hc
    simp only [hget, reduceCtorEq, if_false, StateStore.Key.vals.injEq] at hl
    split at hl
    · cases hl; omega
    · split at hl <;> cases hl
  · intro c hl
    simp [hget] at hl
    exact Or.inl hl.symm
  · intro h c hh hl hc
    simp only [hget, reduceCtorEq, if_false, StateStore.Key.params.injEq] at hl
    split at hl <;> cases hl
  · intro c hl
    simp [hget] at hl
    exact hl.symm

/-! ### the two stores together, over whole histories

`StoreNode.step` is one height of `consensus/state.go finalizeCommit`: `SaveBlock` (unless the
height is already stored — then the stored block is applied, which is what the handshake does after
a crash), `ApplyBlock` (`SaveABCIResponses`, `updateState`, `Save`), and, when the application
returned a retain height, the pruning glue (`PruneBlocks`, then `PruneStates(old base, retain)`).
A history is any sequence of such steps from the genesis `Save`, each cut after ANY single write to
either database and continued on the REOPENED stores.  `StoreNode.NInv` is the on-disk invariant:
`Good` for the block store, `StateStore.SInv` (records present, pointing downwards, full only at
change / checkpoint heights, LastHeightChanged monotone, loadable, newest records carrying the
persisted state's change heights) from the block store's base upwards, and the persisted state
level with the block store's tip or exactly one block behind it. -/

open Tmv.StoreNode in
/-- the databases reachable by finalizeCommit-style histories with crashes at any single write -/
inductive Reach2 : StoreNode.D → Prop
  | genesis (ih : Int) : 1 ≤ ih → Reach2 ((newNode ih).bdb, (newNode ih).sdb)
  | step (d : StoreNode.D) (fb : StateStore.St) (i : StepIn) (j : Nat) :
      Reach2 d → Honest d i →
      Reach2 (applyWs d ((flat (step (reopen d fb) i).units).take j))

/-- the genesis `Save` establishes the combined invariant -/
theorem genesis_inv (ih : Int) (hih : 1 ≤ ih) :
    StoreNode.NInv ((StoreNode.newNode ih).bdb, (StoreNode.newNode ih).sdb) := by
  refine ⟨StateStore.genesisSt ih, ?_, good_empty, Or.inl ⟨by simp [StoreNode.newNode, loadRange_empty], rfl⟩,
    fun m hp _ _ => by simp [StoreNode.newNode, loadRange_empty] at hp⟩
  have : StoreNode.lowOf ({} : DB) (StateStore.genesisSt ih) = ih := by
    simp [StoreNode.lowOf, loadRange_empty, StateStore.genesisSt]
  simp only [StoreNode.newNode, StoreNode.genesis_eq]
  rw [this]
  exact StateStore.SInv.genesis ih hih

/-- **C18 for both stores over whole histories**: whatever is on disk after any finalizeCommit-style
history with crashes at arbitrary single writes satisfies the combined invariant. -/
theorem two_store_reachable_inv (d : StoreNode.D) (h : Reach2 d) : StoreNode.NInv d := by
  induction h with
  | genesis ih hih => exact genesis_inv ih hih
  | step d fb i j _ hon ih => exact (StoreNode.step_spec d fb i ih hon).1 j

/-- what the combined invariant says height by height -/
theorem ninv_serves (d : StoreNode.D) (hn : StoreNode.NInv d) (h : Int)
    (h1 : (loadRange d.1).1 ≤ h) (h2 : h ≤ (loadRange d.1).2) (hne : 0 < (loadRange d.1).2) :
    checkAt d.1 (loadRange d.1).2 h = none ∧ StateStore.valsLoadable d.2 h = true ∧
    StateStore.paramsLoadable d.2 h = true := by
  obtain ⟨st, hS, hG, hR, _⟩ := hn
  obtain ⟨_, _, hGF⟩ := hG.goodFrom (B := (loadRange d.1).1) (H := (loadRange d.1).2) rfl hne
  rw [StoreNode.lowOf_eq_base st hne] at hS
  have hle := hR.tip_le (StateStore.saveNext_pos st hS.lNonneg hS.ihPos)
  exact ⟨hGF h h1 h2, hS.vLoad h h1 (by omega), hS.pLoad h h1 (by omega)⟩

/-- After any such history, the combined audit the correspondence
runs execute — every height in the block store's `[base,height]` has block, parts, meta, hash
index and commit agreeing AND the state store produces its validator set and consensus params —
returns "ok" on what is on disk. -/
theorem two_store_reachable_good (d : StoreNode.D) (h : Reach2 d) : StoreNode.audit d.1 d.2 = none := by
  have hn := two_store_reachable_inv d h
  have hG : Good d.1 := by obtain ⟨_, _, hG, _, _⟩ := hn; exact hG
  unfold StoreNode.audit
  rcases hr : loadRange d.1 with ⟨B, H⟩
  simp only
  rw [auditHead_none_iff]
  rw [good_iff, hr] at hG
  refine hG.imp id fun ⟨hB, hBH, _⟩ => ⟨hB, hBH, StoreNode.node_auditFrom_none _ _ _ _ _ fun a ha hb => ?_⟩
  simp only at hB hBH
  have := ninv_serves d hn a (by rw [hr]; exact ha) (by rw [hr]; simp only; omega) (by rw [hr]; simp only; omega)
  rw [hr] at this
  exact this

/-- **the crash window between the block-store write and the state-store write, exactly**: on disk
after any history, the persisted state is either level with the block store's tip, or exactly one
block behind it (`saveNext st` = the stored tip: `SaveBlock` completed, `Save` has not — what the
handshake repairs by re-applying the stored block).  In BOTH cases the full audit of `[base,height]`
holds (`two_store_reachable_good`): the validator record of the tip and of the height after it and
the params record of the tip were written by the previous `Save`. -/
theorem crash_window_exact (d : StoreNode.D) (h : Reach2 d) :
    ∃ st, StateStore.loadState d.2 = some st ∧
      (((loadRange d.1).2 = 0 ∧ st.lastBlockHeight = 0) ∨
       (0 < (loadRange d.1).2 ∧ st.lastBlockHeight = (loadRange d.1).2) ∨
       (0 < (loadRange d.1).2 ∧ (loadRange d.1).2 = StateStore.saveNext st ∧
         StateStore.valsLoadable d.2 ((loadRange d.1).2 + 1) = true)) := by
  obtain ⟨st, hS, hG, hR, _⟩ := two_store_reachable_inv d h
  refine ⟨st, hS.state, ?_⟩
  rcases hR with ⟨h0, hL⟩ | ⟨hp, hL | hW⟩
  · exact Or.inl ⟨h0, hL⟩
  · exact Or.inr (Or.inl ⟨hp, hL⟩)
  · rw [StoreNode.lowOf_eq_base st hp] at hS
    obtain ⟨_, hBH, _⟩ := hG.goodFrom (B := (loadRange d.1).1) (H := (loadRange d.1).2) rfl hp
    exact Or.inr (Or.inr ⟨hp, hW, hS.vLoad _ (by omega) (by omega)⟩)

/-- **The state store serves the range, over whole histories**: on every reachable disk state, every
write prefix of `PruneStates(from, to)` for a `to` inside the served range keeps every height from
`to` up to the newest record loadable (validators) / up to the state's next height (params). -/
theorem state_store_serves_range (d : StoreNode.D) (hr : Reach2 d) (frm to : Int) (j : Nat) (h : Int) :
    ∃ st, StateStore.loadState d.2 = some st ∧
      (StoreNode.lowOf d.1 st ≤ to → to ≤ StateStore.saveNext st → to ≤ h →
        (h ≤ StateStore.saveNext st + 1 → StateStore.valsLoadable
          (StateStore.applyAll d.2 ((StateStore.pruneStates d.2 frm to).1.flatten.take j)) h = true) ∧
        (h ≤ StateStore.saveNext st → StateStore.paramsLoadable
          (StateStore.applyAll d.2 ((StateStore.pruneStates d.2 frm to).1.flatten.take j)) h = true)) := by
  obtain ⟨st, hS, _, _, _⟩ := two_store_reachable_inv d hr
  refine ⟨st, hS.state, fun h1 h2 h3 => ?_⟩
  have := hS.prune_prefix frm to h1 h2 j
  exact ⟨fun h4 => this.vLoad h h3 h4, fun h4 => this.pLoad h h3 h4⟩

/-- continuing WITHOUT a crash is covered by `Reach2.step` too: after a complete step the volatile
`BlockStore{base,height}` and in-memory `State` of the node are exactly what reopening the two
databases gives, so the next step of an uncrashed node is the next step of the reopened one. -/
theorem uncrashed_continuation_is_reopen (d : StoreNode.D) (h : Reach2 d) (fb fb' : StateStore.St)
    (i : StoreNode.StepIn) (hon : StoreNode.Honest d i) :
    (StoreNode.step (StoreNode.reopen d fb) i).node =
      StoreNode.reopen (StoreNode.applyWs d (StoreNode.flat (StoreNode.step (StoreNode.reopen d fb) i).units)) fb' :=
  (StoreNode.step_spec d fb i (two_store_reachable_inv d h) hon).2 fb'

/-- non-vacuity: a history exists (genesis at initial height 1) -/
example : Reach2 ((StoreNode.newNode 1).bdb, (StoreNode.newNode 1).sdb) := Reach2.genesis 1 (by decide)

/-- … and the states after any write prefix of an honest first step are reachable -/
example (j : Nat) : Reach2 (StoreNode.applyWs ((StoreNode.newNode 1).bdb, (StoreNode.newNode 1).sdb)
    ((StoreNode.flat (StoreNode.step (StoreNode.reopen ((StoreNode.newNode 1).bdb, (StoreNode.newNode 1).sdb)
      (StoreNode.genesis 1)) { id := 7, parts := 2, vu := true, pu := false, retain := 0 }).units).take j)) :=
  Reach2.step _ _ _ j (Reach2.genesis 1 (by decide))
    { sc := rfl, parts := by decide,
      fresh := by intro h m _ _ hm; simp [StoreNode.newNode, loadMeta_empty] at hm }

example : StoreNode.Honest ((StoreNode.newNode 1).bdb, (StoreNode.newNode 1).sdb)
    { id := 7, parts := 2, vu := true, pu := false, retain := 0 } :=
  { sc := rfl, parts := by decide,
    fresh := by intro h m _ _ hm; simp [StoreNode.newNode, loadMeta_empty] at hm }

end Tmv.Props.C18
