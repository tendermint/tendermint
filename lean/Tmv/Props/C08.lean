import Tmv.Lemmas.ValBootstrap
import Tmv.Lemmas.ValIncrK
import Tmv.Lemmas.ValMap
import Tmv.Lemmas.ValUpdBound
import Tmv.Lemmas.ValPrune
import Tmv.Lemmas.ValRollback
import Tmv.Lemmas.ValTurns
/-! C08 — validator-set updates, proposer rotation and historical lookup are exact.
Theorems about the model of `types/validator_set.go`, `state/store.go`, `state/execution.go`
(`Tmv.Model.ValSet`, `Tmv.Model.ValStore`); the model is tied to the Go code by the differential
stream `harness/cmd/c08` and the facts in `Tmv.Expect.C08`.
The historical-lookup theorems quantify over the system `Sys` (database, state, the ghost `truth`,
`base`), its events `Ev` and `Sys.step` / `Sys.run` from the starts `Sys.init`, `Sys.initHandshake`,
`Sys.ofBootstrap`: these are defined in `Lemmas/ValChain` (`ofBootstrap`: `Lemmas/ValBootstrap`), the
invariant `Inv` there too. -/
namespace Tmv.Props.C08
open Tmv.ValSet Tmv.ValStore

/-! ## historical lookup -/

/-- side conditions under which a step keeps `LoadValidators` exact: none for blocks; a prune
must not target a stale record above the tip (impossible before the first rollback); a rollback
must be `RollbackSafe` (no validator change by the rolled-back block or its predecessor) -/
def SafeEv (s : Sys) : Ev → Prop
  | .block _ => True
  | .prune _ b => s.clean = true ∨ b ≤ tip s.st ∨ s.db.vals.get b = none
  | .rollback => RollbackSafe s

def SafeRun : Sys → List Ev → Prop
  | _, [] => True
  | s, e :: r => SafeEv s e ∧ SafeRun (s.step e) r

theorem inv_run (s : Sys) (hi : Inv s) (evs : List Ev) (hs : SafeRun s evs) : Inv (s.run evs) := by
  unfold Sys.run
  induction evs generalizing s with
  | nil => exact hi
  | cons e r ih =>
    simp only [List.foldl]
    obtain ⟨h1, h2⟩ := hs
    apply ih _ _ h2
    cases e with
    | block ch => exact inv_block s hi ch
    | prune a b => exact inv_prune s hi a b h1
    | rollback => exact inv_rollback s hi h1

/-- histories of blocks and prunes only -/
def NoRollback (evs : List Ev) : Prop := ∀ e ∈ evs, e ≠ Ev.rollback

theorem step_clean (s : Sys) (e : Ev) (he : e ≠ Ev.rollback) : (s.step e).clean = s.clean := by
  cases e with
  | block ch =>
    rcases s.step_block_cases ch with e | ⟨_, _, _, _, e⟩
    · rw [e]
    · rw [e]
  | prune a b => rfl
  | rollback => exact absurd rfl he

theorem safe_of_noRollback (s : Sys) (hc : s.clean = true) (evs : List Ev) (h : NoRollback evs) :
    SafeRun s evs := by
  induction evs generalizing s with
  | nil => trivial
  | cons e r ih =>
    have he : e ≠ Ev.rollback := h e List.mem_cons_self
    refine ⟨?_, ih _ (by rw [step_clean s e he]; exact hc) (fun x hx => h x (List.mem_cons_of_mem _ hx))⟩
    cases e with
    | block ch => trivial
    | prune a b => exact Or.inl hc
    | rollback => exact absurd rfl he

theorem ofInitial_clean (ih : Int) (st : State) (s0 : Sys) (h : Sys.ofInitial ih st = some s0) :
    s0.clean = true := by
  obtain ⟨_, _, _, rfl⟩ := Sys.ofInitial_some h
  rfl

theorem init_clean (ih : Int) (valz : List Val) (s0 : Sys) (h : Sys.init ih valz = some s0) :
    s0.clean = true :=
  let ⟨_, _, h0⟩ := Sys.init_some h
  ofInitial_clean _ _ _ h0

theorem initHandshake_clean (ih : Int) (valz iv : List Val) (s0 : Sys)
    (h : Sys.initHandshake ih valz iv = some s0) : s0.clean = true :=
  let ⟨_, _, _, _, h0⟩ := Sys.initHandshake_some h
  ofInitial_clean _ _ _ h0

/-- **load_exact.** For every genesis (initial height ≥ 1, at least one validator), every history
of blocks carrying arbitrary update batches (failing batches leave the state unchanged, as in
`ApplyBlock`) interleaved with arbitrary `PruneStates(from,to)` calls (valid or not, successful or
failing half-way; no `state.Rollback`, see `rollback_breaks_load`), and every height between the lowest retained height and the tip:
`LoadValidators h` returns exactly the set, proposer and priorities included, that the chain had
in force at `h`. -/
theorem load_exact (ih : Int) (hih : 1 ≤ ih) (valz : List Val) (s0 : Sys)
    (h0 : Sys.init ih valz = some s0) (evs : List Ev) (hnr : NoRollback evs) (h : Int)
    (hb : (s0.run evs).base ≤ h) (ht : h ≤ tip (s0.run evs).st) :
    ∃ v, (s0.run evs).truth h = some v ∧ loadValidators (s0.run evs).db.vals h = .ok v :=
  load_of_inv _ (inv_run s0 (inv_init ih hih valz s0 h0) evs
    (safe_of_noRollback s0 (init_clean ih valz s0 h0) evs hnr)) h hb ht

/-- **load_exact_rollback_partial.** Histories that also contain `state.Rollback` steps: exactness
holds provided every rollback is `RollbackSafe` — the set of height `LastBlockHeight+1` last
changed at or below `LastBlockHeight` (neither the rolled-back block nor its predecessor carried
validator updates) and that height is retained — and no prune targets a stale record above the
tip. Without the first condition the statement is false: `rollback_breaks_load`. -/
theorem load_exact_rollback_partial (ih : Int) (hih : 1 ≤ ih) (valz : List Val) (s0 : Sys)
    (h0 : Sys.init ih valz = some s0) (evs : List Ev) (hs : SafeRun s0 evs) (h : Int)
    (hb : (s0.run evs).base ≤ h) (ht : h ≤ tip (s0.run evs).st) :
    ∃ v, (s0.run evs).truth h = some v ∧ loadValidators (s0.run evs).db.vals h = .ok v :=
  load_of_inv _ (inv_run s0 (inv_init ih hih valz s0 h0) evs hs) h hb ht

/-- **load_exact (handshake genesis).** The same for a chain started by the node's handshake with
an application whose InitChain returns its own validator list (`Handshaker.ReplayBlocks`):
exactness rests on `NextValidators` being exactly ONE rotation ahead of `Validators` in the first
saved state (`Initial.hnext`). -/
theorem load_exact_handshake (ih : Int) (hih : 1 ≤ ih) (valz iv : List Val) (s0 : Sys)
    (h0 : Sys.initHandshake ih valz iv = some s0) (evs : List Ev) (hnr : NoRollback evs) (h : Int)
    (hb : (s0.run evs).base ≤ h) (ht : h ≤ tip (s0.run evs).st) :
    ∃ v, (s0.run evs).truth h = some v ∧ loadValidators (s0.run evs).db.vals h = .ok v :=
  load_of_inv _ (inv_run s0 (inv_initHandshake ih hih valz iv s0 h0) evs
    (safe_of_noRollback s0 (initHandshake_clean ih valz iv s0 h0) evs hnr)) h hb ht

/-- **load_exact (state-sync bootstrap).** A node that starts from `store.Bootstrap(state)` at an
arbitrary height (`Bootable`: the three sets of heights `LastBlockHeight..+2` with proposers,
`LastHeightValidatorsChanged = LastBlockHeight + 2` as the state provider sets it) and then applies
blocks and prunes: `LoadValidators` is exact from `LastBlockHeight` up to the tip. -/
theorem load_exact_bootstrap (st : State) (hb : Bootable st) (s0 : Sys)
    (h0 : Sys.ofBootstrap st = some s0) (evs : List Ev) (hnr : NoRollback evs) (h : Int)
    (hbase : (s0.run evs).base ≤ h) (ht : h ≤ tip (s0.run evs).st) :
    ∃ v, (s0.run evs).truth h = some v ∧ loadValidators (s0.run evs).db.vals h = .ok v :=
  load_of_inv _ (inv_run s0 (inv_ofBootstrap st hb s0 h0) evs
    (safe_of_noRollback s0 (ofBootstrap_clean st s0 h0) evs hnr)) h hbase ht

/-- non-vacuity: `Sys.ofBootstrap` accepts a state at height 1000 (checked by evaluation) -/
example : (Sys.ofBootstrap ⟨1, 1000, ⟨[⟨1, 5, 0⟩], some ⟨1, 5, 0⟩⟩, ⟨[⟨1, 5, 0⟩], some ⟨1, 5, 0⟩⟩,
    ⟨[⟨1, 5, 0⟩], some ⟨1, 5, 0⟩⟩, 1002, 1⟩).isSome = true := by
  decide

/-- non-vacuity: empty genesis list, validators from InitChain -/
example : (Sys.initHandshake 5 [] [⟨1, 10, 0⟩, ⟨2, 1, 0⟩]).isSome = true := by decide

/-- the recorded set at the tip is the state's `NextValidators`, and the retained range is
never empty -/
theorem truth_tip (ih : Int) (hih : 1 ≤ ih) (valz : List Val) (s0 : Sys)
    (h0 : Sys.init ih valz = some s0) (evs : List Ev) (hs : SafeRun s0 evs) :
    (s0.run evs).truth (tip (s0.run evs).st) = some (s0.run evs).st.nextValidators ∧
    (s0.run evs).base ≤ tip (s0.run evs).st :=
  let hi := inv_run s0 (inv_init ih hih valz s0 h0) evs hs
  ⟨hi.rec_tip, hi.base_le⟩

/-- **rpc_validators_exact.** What the `/validators` RPC reports under height `h` (latest or
explicit, node caught up or block-syncing) is exactly the set in force at `h`, for every retained
`h`: the reported height never exceeds the tip and the set is `LoadValidators h`. -/
theorem rpc_validators_exact (s : Sys) (hi : Inv s) (syncing : Bool) (h : Option Int) (x : Int)
    (r : LoadRes) (hr : rpcValidators s.db s.st syncing h = some (x, r)) (hb : s.base ≤ x) :
    ∃ v, s.truth x = some v ∧ r = .ok v := by
  unfold rpcValidators at hr
  cases hh : rpcHeight s.st syncing h with
  | none => rw [hh] at hr; cases hr
  | some y =>
    rw [hh] at hr
    simp only [Option.map_some, Option.some.injEq, Prod.mk.injEq] at hr
    obtain ⟨e1, e2⟩ := hr
    subst e1
    have hle : y ≤ tip s.st := by
      have h0 := hi.lbh_nonneg
      have h1 := hi.ih_pos
      have hlat : (if syncing = true then s.st.lastBlockHeight else s.st.lastBlockHeight + 1)
          ≤ s.st.lastBlockHeight + 1 := by split <;> omega
      have hy : y ≤ s.st.lastBlockHeight + 1 := by
        unfold rpcHeight at hh
        simp only at hh
        cases h with
        | none => simp only [Option.some.injEq] at hh; omega
        | some z =>
          simp only at hh
          by_cases hc : z ≤ 0 ∨ z > (if syncing = true then s.st.lastBlockHeight else s.st.lastBlockHeight + 1) ∨
              z < s.st.initialHeight
          · simp only [hc, if_true] at hh; cases hh
          · simp only [hc, if_false, Option.some.injEq] at hh
            omega
      unfold tip blockHeight
      split <;> omega
    obtain ⟨v, hv1, hv2⟩ := load_of_inv s hi y hb hle
    exact ⟨v, hv1, by rw [← e2, hv2]⟩

/-- the history of the replayed scenario: two validators, a third joins in block 5, block 6 is
rolled back -/
def rollbackWitness : Option Sys :=
  (Sys.init 1 [⟨1, 10, 0⟩, ⟨2, 7, 0⟩]).map fun s =>
    s.run [.block [], .block [], .block [], .block [], .block [⟨3, 5, 0⟩], .block [], .rollback]

theorem rollbackWitness_eval :
    rollbackWitness.map (fun s => (decide (s.base ≤ 7 ∧ 7 ≤ tip s.st), loadValidators s.db.vals 7)) =
      some (true, .notFound) := by decide +kernel

/-- **rollback_breaks_load.** `load_exact` is FALSE of histories with arbitrary `state.Rollback`
steps (known finding `state.Rollback.last-change-height-clamped-one-too-low`): after rolling
back the block that follows a validator change, height 7 is retained but `LoadValidators 7`
fails ("couldn't find validators at height 6"). -/
theorem rollback_breaks_load :
    ¬ (∀ (ih : Int) (valz : List Val) (s0 : Sys) (evs : List Ev) (h : Int), 1 ≤ ih →
        Sys.init ih valz = some s0 → (s0.run evs).base ≤ h → h ≤ tip (s0.run evs).st →
        ∃ v, (s0.run evs).truth h = some v ∧ loadValidators (s0.run evs).db.vals h = .ok v) := by
  intro hall
  have hw := rollbackWitness_eval
  unfold rollbackWitness at hw
  cases hinit : Sys.init 1 [⟨1, 10, 0⟩, ⟨2, 7, 0⟩] with
  | none => rw [hinit] at hw; simp at hw
  | some s0 =>
    rw [hinit] at hw
    simp only [Option.map_some, Option.some.injEq, Prod.mk.injEq, decide_eq_true_eq] at hw
    obtain ⟨⟨hb, ht⟩, hl⟩ := hw
    obtain ⟨v, _, hv⟩ := hall 1 _ s0 _ 7 (by omega) hinit hb ht
    rw [hl] at hv
    cases hv

/-- non-vacuity: a genesis just below the checkpoint boundary exists -/
example : (Sys.init 99999 [⟨1, 10, 0⟩, ⟨2, 1, 0⟩]).isSome = true := by decide

/-! ## updates are atomic -/

/-- **update_atomic.** If `updateWithChangeSet` returns an error the receiver is unchanged
(`panicTotal` is the `updateTotalVotingPower` panic after the mutation, when the receiver has
already been replaced; that it cannot occur after `verifyUpdates` passed is not proved here). -/
theorem update_atomic (s : VSet) (changes : List Val) (allow : Bool) (e : UpdErr)
    (h : (updateWithChangeSet s changes allow).2 = some e) (hne : e ≠ .panicTotal) :
    (updateWithChangeSet s changes allow).1 = s := by
  generalize hr : updateWithChangeSet s changes allow = r at h ⊢
  -- every early return hands back the receiver `s` itself
  unfold updateWithChangeSet at hr
  split at hr
  · subst hr; rfl
  split at hr
  · subst hr; rfl
  unfold updateCore at hr
  split at hr
  · subst hr; rfl
  split at hr
  · subst hr; rfl
  split at hr
  · subst hr; rfl
  split at hr
  · subst hr; rfl
  -- past the mutation: the only error left is `panicTotal`, the other branch is success
  simp only at hr
  split at hr
  · subst hr; cases h; exact absurd rfl hne
  · subst hr; cases h

/-! ## updates do not depend on the order of the batch -/

theorem perm_nil_iff {α : Type} {c1 c2 : List α} (hp : c1.Perm c2) : c1 = [] ↔ c2 = [] := by
  constructor <;> rintro rfl
  · exact hp.nil_eq.symm
  · exact hp.eq_nil

/-- a batch without repeated addresses: every order gives the very same result (set and error) -/
theorem update_perm_eq (s : VSet) (c1 c2 : List Val) (allow : Bool) (hp : c1.Perm c2)
    (hnd : (c1.map (·.addr)).Nodup) :
    updateWithChangeSet s c1 allow = updateWithChangeSet s c2 allow := by
  have hs : sortBy leAddr c1 = sortBy leAddr c2 := sortBy_leAddr_perm_eq _ _ hp hnd
  unfold updateWithChangeSet processChanges
  rw [hs]
  by_cases h1 : c1 = []
  · have h2 := (perm_nil_iff hp).mp h1
    simp [h1, h2]
  · have h2 : ¬ c2 = [] := fun e => h1 ((perm_nil_iff hp).mpr e)
    simp [h1, h2]

/-- a batch with a repeated address is rejected in every order, leaving the set untouched -/
theorem update_dup_rejected (s : VSet) (c : List Val) (allow : Bool)
    (hd : ¬ (c.map (·.addr)).Nodup) :
    (updateWithChangeSet s c allow).1 = s ∧ (updateWithChangeSet s c allow).2 ≠ none := by
  have hne : c ≠ [] := by intro e; subst e; simp at hd
  have hd' : ¬ ((sortBy leAddr c).map (·.addr)).Nodup := by
    intro h; apply hd
    exact (List.Perm.map _ (sortBy_perm leAddr c)).nodup_iff.mp h
  obtain ⟨e, he⟩ := scanChanges_dup (sortBy leAddr c) none
    (sortBy_pairwise leAddr leAddr_total leAddr_trans c) hd'
  unfold updateWithChangeSet processChanges
  simp [hne, he]

/-- **update_perm_invariant.** Applying a batch in any order either fails (leaving the set
untouched) in every order or succeeds in every order with the same resulting set. -/
theorem update_perm_invariant (s : VSet) (c1 c2 : List Val) (allow : Bool) (hp : c1.Perm c2) :
    (updateWithChangeSet s c1 allow).1 = (updateWithChangeSet s c2 allow).1 ∧
    ((updateWithChangeSet s c1 allow).2 = none ↔ (updateWithChangeSet s c2 allow).2 = none) := by
  by_cases hnd : (c1.map (·.addr)).Nodup
  · rw [update_perm_eq s c1 c2 allow hp hnd]; exact ⟨rfl, Iff.rfl⟩
  · have hnd2 : ¬ (c2.map (·.addr)).Nodup := by
      intro h; apply hnd
      exact (List.Perm.map _ hp).nodup_iff.mpr h
    obtain ⟨a1, a2⟩ := update_dup_rejected s c1 allow hnd
    obtain ⟨b1, b2⟩ := update_dup_rejected s c2 allow hnd2
    rw [a1, b1]
    exact ⟨rfl, ⟨fun h => absurd h a2, fun h => absurd h b2⟩⟩

/-- non-vacuity: a two-entry batch (one add, one power change) succeeds, in both orders -/
example : (updateWithChangeSet ⟨[⟨1, 10, 0⟩], none⟩ [⟨2, 5, 0⟩, ⟨1, 7, 0⟩] true).2 = none ∧
    (updateWithChangeSet ⟨[⟨1, 10, 0⟩], none⟩ [⟨1, 7, 0⟩, ⟨2, 5, 0⟩] true).1.vals =
      [⟨1, 7, 7⟩, ⟨2, 5, -6⟩] := by decide

/-! ## a successful update yields a well-formed set -/

/-- **update_wellformed.** From any receiver with unique addresses and positive powers (the empty
receiver of `NewValidatorSet` included), a non-empty batch that is accepted yields a set with
unique addresses, no zero-power member, canonical order (power descending, address ascending),
`0 < total ≤ MaxTotalVotingPower`, and at least one member. -/
theorem update_wellformed (s s' : VSet) (c : List Val) (allow : Bool) (hpre : PreWF s.vals)
    (hc : c ≠ []) (h : updateWithChangeSet s c allow = (s', none)) : WF s'.vals := by
  obtain ⟨u, d, hu, hd, hl, h, hup, hdisj⟩ := updateWithChangeSet_split s s' c allow hc h
  exact updateCore_wf s s' u d allow hpre (hu ▸ hl.filter _) (hd ▸ hl.filter _) hup hdisj h

/-- non-vacuity: the receiver and batch of the earlier example satisfy the hypotheses -/
example : PreWF [(⟨1, 10, 0⟩ : Val)] := ⟨by decide, by decide⟩

/-! ## rotation: exact weighted round-robin, no overflow, centred -/

/-- **priorities_no_clip (rotation).** On every well-formed set whose priorities are within
`3·MaxTotalVotingPower` (`Reach`; all sets of a chain are, see `chain_reach`),
`IncrementProposerPriority(1)` takes no clamp branch of `safeAddClip/safeSubClip` and no int64
wrap: the cached total is the plain sum, centring subtracts the exact floor-average, the rotation
is exactly "everybody gains its power, the validator with the most priority (ties: lowest
address) pays the total and becomes proposer" (`IncrOut.exact`), members/powers/order are
unchanged, the new priorities lie within `3·total` (so within int64 by a factor > 2), and their
sum stays in `[0, n)` (**sum/centre invariant**). -/
theorem priorities_no_clip (s : VSet) (hr : Reach s.vals) :
    ∃ s', increment s 1 = some s' ∧ Reach s'.vals ∧ SameAP s'.vals s.vals ∧
      PBound (3 * sumPower s.vals) s'.vals ∧
      0 ≤ prioSum s'.vals ∧ prioSum s'.vals < (s'.vals.length : Int) ∧
      (∃ p, s'.proposer = some p ∧ p ∈ s'.vals) ∧
      totalPower s.vals = sumPower s.vals ∧
      shiftByAvg (rescale s.vals (2 * sumPower s.vals)) =
        (rescale s.vals (2 * sumPower s.vals)).map
          (fun v => setPrio v (v.prio - avgPrio (rescale s.vals (2 * sumPower s.vals)))) ∧
      IncrOut (normalize s.vals) (sumPower s.vals) (incrOnce (normalize s.vals) (sumPower s.vals)) := by
  obtain ⟨s', m, hinc, h⟩ := hr.step
  refine ⟨s', hinc, h.reach, ?_, h.bound, h.centred.1, h.centred.2, ⟨_, h.proposer, ?_⟩,
    hr.wf.total_eq, hr.normalized.centre, h.incrOut hr⟩
  · rw [h.vals]; exact (rotate_sameAP _ _ _).trans (normalize_sameAP _)
  · rw [h.vals]; exact mem_rotate_self _ h.mem

/-- **update_reach.** The update half of `priorities_no_clip`: a successful update of a reachable (or
empty) receiver yields a reachable set whose priorities are within the window `2·total'` and
centred (sum in `[0, n)`): the penalty `-(tvp + tvp>>3)` of new validators (`0 ≤ tvp ≤ 2·Max`) and the
rescale/centre arithmetic stay far inside int64. -/
theorem update_reach (s s' : VSet) (c : List Val) (allow : Bool)
    (hr : Reach s.vals ∨ s.vals = []) (hc : c ≠ [])
    (h : updateWithChangeSet s c allow = (s', none)) :
    Reach s'.vals ∧ PBound (2 * sumPower s'.vals) s'.vals ∧
    0 ≤ prioSum s'.vals ∧ prioSum s'.vals < (s'.vals.length : Int) := by
  obtain ⟨hpre, htot, hle, hb⟩ : PreWF s.vals ∧ totalPower s.vals = sumPower s.vals ∧
      sumPower s.vals ≤ maxTotal ∧ PBound prioCap s.vals := by
    rcases hr with h1 | h1
    · exact ⟨h1.wf.pre, h1.wf.total_eq, h1.wf.total_le, h1.bound⟩
    · rw [h1]; exact ⟨⟨by simp, by simp⟩, rfl, by decide, fun v hv => nomatch hv⟩
  have hwf := update_wellformed s s' c allow hpre hc h
  obtain ⟨u, d, hu, hd, hl, h, hup, hdisj⟩ := updateWithChangeSet_split s s' c allow hc h
  obtain ⟨r1, r2, r3, r4⟩ := updateCore_reach s s' u d allow hpre htot hle hb (hu ▸ hl.filter _)
    (hd ▸ hl.filter _) hup hdisj h
  exact ⟨⟨hwf, r2⟩, r1, r3, r4⟩

theorem reach_increment {s s' : VSet} (hr : Reach s.vals) (h : increment s 1 = some s') :
    Reach s'.vals := by
  obtain ⟨s1, hs1, hr1, _⟩ := priorities_no_clip s hr
  rw [hs1] at h
  exact Option.some.inj h ▸ hr1

/-- what `updateState` does to `NextValidators` — the update batch, if any, then one rotation —
keeps a reachable set reachable -/
theorem reach_batch_rotate {s s' : VSet} (hr : Reach s.vals) (ch : List Val)
    (hu : (if ch ≠ [] then updateWithChangeSet s ch true else (s, none)).2 = none)
    (hi : increment (if ch ≠ [] then updateWithChangeSet s ch true else (s, none)).1 1 = some s') :
    Reach s'.vals := by
  by_cases hc : ch = []
  · rw [if_neg (not_not_intro hc)] at hi
    exact reach_increment hr hi
  · rw [if_pos hc] at hu hi
    exact reach_increment (update_reach s _ ch true (Or.inl hr) hc (Prod.ext rfl hu)).1 hi

theorem newValidatorSet_ne_nil {l : List Val} {vs : VSet} (h : newValidatorSet l = .ok vs)
    (hne : vs.vals ≠ []) : l ≠ [] := by
  intro e; subst e
  have : vs = VSet.empty := by
    simp [newValidatorSet, updateWithChangeSet] at h; exact h.symm
  rw [this] at hne; exact hne rfl

/-- `NewValidatorSet` of a non-empty list yields a reachable set (or panics) -/
theorem newValidatorSet_reach (valz : List Val) (vs : VSet) (hne : valz ≠ [])
    (h : newValidatorSet valz = .ok vs) : Reach vs.vals := by
  unfold newValidatorSet at h
  split at h
  · cases h
  · rename_i s0 hu
    simp only [hne, if_false] at h
    obtain ⟨hr, _⟩ := update_reach VSet.empty s0 valz false (Or.inr rfl) hne hu
    obtain ⟨s1, hs1, hr1, _⟩ := priorities_no_clip s0 hr
    rw [hs1] at h
    cases h
    exact hr1

/-- the validator part of a chain state is reachable -/
structure StateReach (st : State) : Prop where
  cur : Reach st.validators.vals
  next : Reach st.nextValidators.vals

theorem genesis_reach (ih : Int) (valz : List Val) (st : State) (hne : st.validators.vals ≠ [])
    (h : genesisState ih valz = .ok st) : StateReach st := by
  obtain ⟨vs, hvs, hst⟩ := genesisState_ok ih valz st h
  have hv : st.validators = vs := by rw [hst]
  have hr := newValidatorSet_reach valz vs (newValidatorSet_ne_nil hvs (hv ▸ hne)) hvs
  obtain ⟨s1, hs1, hr1, _⟩ := priorities_no_clip vs hr
  constructor
  · rw [hv]; exact hr
  · rw [hst]; simp only [hs1]; exact hr1

theorem updateState_reach (st st' : State) (H : Int) (ch : List Val) (hr : StateReach st)
    (h : updateState st H ch = .ok st') : StateReach st' := by
  unfold updateState at h
  simp only at h
  split at h
  · cases h
  · rename_i hu
    split at h
    · cases h
    · rename_i nv' hinc
      simp only [StepRes.ok.injEq] at h
      subst h
      exact ⟨hr.next, reach_batch_rotate hr.next ch hu hinc⟩

theorem ofInitial_st (ih : Int) (st : State) (s0 : Sys) (h : Sys.ofInitial ih st = some s0) :
    s0.st = st ∧ st.validators.vals ≠ [] := by
  obtain ⟨hne, _, _, rfl⟩ := Sys.ofInitial_some h
  exact ⟨rfl, hne⟩

theorem run_reach (s0 : Sys) (hinit : StateReach s0.st) (evs : List Ev) (hnr : NoRollback evs) :
    StateReach (s0.run evs).st := by
  unfold Sys.run
  induction evs generalizing s0 with
  | nil => exact hinit
  | cons e r ihh =>
    simp only [List.foldl]
    have he : e ≠ Ev.rollback := hnr e List.mem_cons_self
    apply ihh _ _ (fun x hx => hnr x (List.mem_cons_of_mem _ hx))
    cases e with
    | rollback => exact absurd rfl he
    | block ch =>
      rcases s0.step_block_cases ch with e | ⟨st', _, hu, _, e⟩
      · rw [e]; exact hinit
      · rw [e]; exact updateState_reach _ _ _ _ hinit hu
    | prune a b => exact hinit

/-- **chain_reach.** Along every history (genesis, blocks with arbitrary update batches, prunes)
the current and next validator sets are well-formed (unique addresses, positive powers, canonical
order, `0 < total ≤ MaxTotalVotingPower`, non-empty) with priorities within
`3·MaxTotalVotingPower` — so `priorities_no_clip` applies at every height. -/
theorem chain_reach (ih : Int) (valz : List Val) (s0 : Sys) (h0 : Sys.init ih valz = some s0)
    (evs : List Ev) (hnr : NoRollback evs) : StateReach (s0.run evs).st := by
  apply run_reach _ _ _ hnr
  obtain ⟨st, hst, h0⟩ := Sys.init_some h0
  obtain ⟨e, hne⟩ := ofInitial_st ih st s0 h0
  rw [e]; exact genesis_reach ih valz st hne hst

/-- `chain_reach` for a chain whose first sets come from the application's InitChain response -/
theorem chain_reach_handshake (ih : Int) (valz iv : List Val) (s0 : Sys)
    (h0 : Sys.initHandshake ih valz iv = some s0) (evs : List Ev) (hnr : NoRollback evs) :
    StateReach (s0.run evs).st := by
  apply run_reach _ _ _ hnr
  obtain ⟨st, st', hst, hhs, h0⟩ := Sys.initHandshake_some h0
  obtain ⟨e, hne⟩ := ofInitial_st ih st' s0 h0
  rw [e]
  rcases handshakeInit_ok _ _ _ _ hhs with ⟨_, e2⟩ | ⟨vs, nx, hvs, hnx, e2⟩
  · subst e2; exact genesis_reach ih valz st' hne hst
  · subst e2
    have hr := newValidatorSet_reach iv vs (newValidatorSet_ne_nil hvs hne) hvs
    exact ⟨hr, reach_increment hr hnx⟩

/-! ## what the set is after a batch -/

/-- **update_refines_map.** After a successful non-empty batch the set, read as a map
address → power, is the old map updated by the batch (`applyBatchMap`): an entry with positive
power sets the power of its address, an entry with power 0 deletes it, every other address keeps
its power. Together with `update_wellformed` (unique addresses, canonical order) this determines
the validator list up to priorities; with `update_perm_invariant` it is independent of order. -/
theorem update_refines_map (s s' : VSet) (c : List Val) (allow : Bool) (hpre : PreWF s.vals)
    (hc : c ≠ []) (h : updateWithChangeSet s c allow = (s', none)) (a : Nat) :
    powerMap s'.vals a = applyBatchMap (powerMap s.vals) c a :=
  Tmv.ValSet.update_refines_map s s' c allow hpre hc h a

/-- non-vacuity / sanity: add 2, change 1 -/
example : (fun a => powerMap (updateWithChangeSet ⟨[⟨1, 10, 0⟩], none⟩ [⟨2, 5, 0⟩, ⟨1, 7, 0⟩] true).1.vals a) 2
    = some 5 := by decide

/-! ## arbitrary round counts -/

/-- **rounds_no_overflow.** Any number `k` of consecutive single rotations (what consensus does
for `k` rounds and the chain for `k` heights since d716447/781020d) from a reachable set: all `k`
succeed, the set stays reachable, and from the first rotation on every priority is within
`3·total` — a bound independent of `k`, a factor > 2 inside int64. -/
theorem rounds_no_overflow (k : Nat) (s : VSet) (hr : Reach s.vals) :
    ∃ sk, rotations k s = some sk ∧ Reach sk.vals ∧ sumPower sk.vals = sumPower s.vals ∧
      (1 ≤ k → PBound (3 * sumPower s.vals) sk.vals) :=
  hr.steps k

/-- **increment_k_partial.** One call `IncrementProposerPriority(k)` with arbitrary `k ≥ 1`
(exported; no production caller passes `k > 1` any more): no clamp at any inner rotation, sum of
priorities in `[0, n)`, every priority within `[−2·total, 2·total·n + n]` for all `k` — under
`n·(2·total + 1) ≤ 3·MaxTotalVotingPower`. MISSING for full strength: an upper bound independent of
the number `n` of validators (measured: `|priority| ≤ 1.08·total`), which would remove the
hypothesis. -/
theorem increment_k_partial (s : VSet) (hr : Reach s.vals) (k : Int) (hk : 1 ≤ k)
    (hB : 2 * (sumPower s.vals * (s.vals.length : Int)) + (s.vals.length : Int) ≤ prioCap) :
    ∃ s', increment s k = some s' ∧ SameAP s'.vals s.vals ∧
      0 ≤ prioSum s'.vals ∧ prioSum s'.vals < (s.vals.length : Int) ∧
      (∃ q, s'.proposer = some q ∧ q ∈ s'.vals) ∧
      ∀ v ∈ s'.vals, -(2 * sumPower s.vals) ≤ v.prio ∧
        v.prio ≤ 2 * (sumPower s.vals * (s.vals.length : Int)) + (s.vals.length : Int) := by
  have hwf := hr.wf
  obtain ⟨_, _, sb, s3, s4⟩ := hr.normalized
  have hnap := normalize_sameAP s.vals
  have hlen : (normalize s.vals).length = s.vals.length := hnap.length
  obtain ⟨li, lp⟩ := incrLoop_inv k.toNat (normalize s.vals) (normalize s.vals) (sumPower s.vals) none
    (.of_sameAP hnap hwf) hnap.sumPower s3 s4 (by rw [hlen]; exact hB) ⟨rfl, rfl, fun v hv => (sb v hv).1⟩
  refine ⟨⟨_, _⟩, ?_, li.ap.trans hnap, ?_, ?_, lp (by omega), fun v hv => ⟨li.low v hv, ?_⟩⟩
  · unfold increment
    have a1 : ¬ k ≤ 0 := by omega
    simp only [hwf.ne, if_false, a1, hwf.total_eq]
  · rw [li.sum]; exact s3
  · rw [li.sum, ← hlen]; exact s4
  · have hup := li.upper v hv
    rw [hlen] at hup s4
    have := hwf.total_pos
    omega

/-- non-vacuity: 150 validators with total 10^15 satisfy the hypothesis -/
example : 2 * ((1000000000000000 : Int) * 150) + 150 ≤ prioCap := by decide

/-! ## turns are proportional to voting power -/

/-- in a window without set changes only a RESCALE can be an event: on a reachable, centred set
(every set after a rotation or update is centred) the centring alone never changes a priority -/
theorem event_is_rescale (s : VSet) (hr : Reach s.vals) (hc : Centred s.vals)
    (he : normalize s.vals ≠ s.vals) : ¬ NoRescale s.vals := by
  intro hn
  exact he (normalize_calm s.vals hr hc hn)


/-- **turns_proportional (no rescale in the window).** `k` consecutive single rotations without
set changes from a reachable, centred set, no rescale triggering: for every validator
`|k·power − turns·total| ≤ 5·total`; the rotation itself is the closed form `rotate`
(`increment_calm`) and `priority_k = priority_0 + k·power − turns·total` (`turns_identity`). -/
theorem turns_proportional_no_rescale (k : Nat) (s : VSet) (hr : Reach s.vals) (hc : Centred s.vals)
    (hcalm : CalmRun k s) (v : Val) (hv : v ∈ s.vals) :
    -(5 * sumPower s.vals) ≤ (k : Int) * v.power - turns v.addr k s * sumPower s.vals ∧
    (k : Int) * v.power - turns v.addr k s * sumPower s.vals ≤ 5 * sumPower s.vals := by
  have hT := hr.wf.total_pos
  cases k with
  | zero => simp only [turns, Int.natCast_zero, Int.zero_mul, Int.sub_zero]; omega
  | succ j =>
    obtain ⟨sk, _, hrk, _, hbk, hid⟩ := turns_identity (j + 1) s hr hc hcalm
    have h0 := calm_bound s.vals hr hc hcalm.1 v hv
    have hk := prioOf_bound sk.vals (3 * sumPower s.vals) (by omega) (hbk (by omega)) v.addr
    have := hid v hv
    omega

/-- **turns_proportional_events.** Any window of `k` consecutive single rotations without set
changes, from any reachable set with priorities within `3·total` (every set produced by a rotation):
`|k·power − turns·total| ≤ (6 + 5·E)·total`, `E` = number of rotations in the window at which the
normalisation (rescale / centring) changed a priority. -/
theorem turns_proportional_events (k : Nat) (s : VSet) (hr : Reach s.vals)
    (hb : PBound (3 * sumPower s.vals) s.vals) (v : Val) (hv : v ∈ s.vals) :
    -(6 * sumPower s.vals + 5 * sumPower s.vals * events k s) ≤
      (k : Int) * v.power - turns v.addr k s * sumPower s.vals ∧
    (k : Int) * v.power - turns v.addr k s * sumPower s.vals ≤
      6 * sumPower s.vals + 5 * sumPower s.vals * events k s := by
  obtain ⟨sk, _, _, _, hbk, _, hid⟩ := turns_proportional k s hr hb
  have h0 := hb v hv
  have h1 := hid v hv
  have hT := hr.wf.total_pos
  have hk := prioOf_bound sk.vals (3 * sumPower s.vals) (by omega) hbk v.addr
  omega

/-- non-vacuity of `turns_proportional_no_rescale` -/
example : CalmRun 1 ⟨[⟨1, 3, 1⟩, ⟨2, 1, -1⟩], none⟩ ∧ Centred [(⟨1, 3, 1⟩ : Val), ⟨2, 1, -1⟩] :=
  ⟨⟨by unfold NoRescale; decide, fun _ _ => trivial⟩, by unfold Centred; decide⟩

/-- a reachable set taken from a replayed run of the real state store (height 200007,
addresses renumbered in order) -/
def witnessSet : VSet :=
  ⟨[⟨5, 39596, 26749⟩, ⟨4, 27319, 67608⟩, ⟨1, 75, -62823⟩, ⟨6, 62, -24823⟩, ⟨3, 38, -14583⟩,
    ⟨2, 2, 7877⟩], some ⟨5, 39596, 26749⟩⟩

/-- **one_shot_increment_differs** (why `LoadValidators` must replay single increments — the
defect fixed in /repo): on a reachable set ONE `IncrementProposerPriority(4)` is not four
`IncrementProposerPriority(1)` (different priorities), and from 5 steps on even the proposer
differs; `load_exact` is false of a store that uses the former. The same
holds for any caller that jumps several rotations at once. -/
theorem one_shot_increment_differs :
    Reach witnessSet.vals ∧ increment witnessSet 4 ≠ incrTimes 4 witnessSet ∧
    (increment witnessSet 5).map (·.proposer.map (·.addr)) ≠
      (incrTimes 5 witnessSet).map (·.proposer.map (·.addr)) := by
  refine ⟨⟨⟨by decide, by decide, by decide, by decide, by decide, by decide⟩,
    by unfold PBound prioCap; decide⟩, by decide +kernel, by decide +kernel⟩

end Tmv.Props.C08
